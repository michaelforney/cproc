import CprocVerif.Model.Types

/-!
# What C11 says about the type of an expression, for the three LP64 targets

Written from the text of ISO C11 (clause numbers in the comments) and the psABIs, not from
cproc's algorithm: "can represent" is a statement about value *ranges* (not sizes), literal typing
is "the first type of the list in which the value fits", compatibility is an inductive relation.
Only the data types (`Basic`, `ATy`, `Ty`, `Qual`, `Operand`) are shared with `Model/Types.lean`.

Documented deviations that are **part of this spec** (flagged `DEVIATION` below):
* D1  a bit-field whose declared type is wider than `int` (implementation-defined bit-field type,
      6.7.2.1p5) promotes *by width* (to `int`/`unsigned int` when they can represent its values),
      as GCC and clang do; C11 itself only speaks about `_Bool`/`int`/`signed`/`unsigned` bit-fields.
* D2  `composite t1 t2 = t1` (cproc does not build composite types, 6.2.7p3): observable for
      array-size completion only.
* D3  C23 behaviours cproc implements on purpose: `()` declares a function with no parameters
      (so there is no "function without prototype" in the type language), `u8` character/string
      element type is `unsigned char`, `enum E : T`.
* D5  an enumerated type wider than `int` (not strict C11) takes part in the usual arithmetic
      conversions as its compatible integer type (see `commonReal`).
* D4  a non-lvalue expression whose value comes from a bit-field (`(s.f = 1)`, `(0, s.f)`, `s.f++`)
      is not itself "a bit-field" for 6.3.1.1p2 (literal reading; GCC and clang propagate the width).
-/

namespace CprocVerif.Spec
open CprocVerif.Types

/-! ## Targets (psABI facts) -/

structure TargetSpec where
  name : String
  /-- is plain `char` signed? -/
  charSigned : Bool
  /-- `wchar_t` -/
  wchar : Basic
  deriving Repr, DecidableEq

/-- System V AMD64 psABI (fig. 3.1: `char` signed, `wchar_t` = `int`); AAPCS64 (§10.1.2 / Arm C
language extensions: plain `char` unsigned, `wchar_t` = `unsigned int`); RISC-V psABI ("C/C++
type details": `char` unsigned, `wchar_t` = `int`). -/
def targetSpecs : List TargetSpec :=
  [⟨"x86_64-sysv", true, .int⟩, ⟨"aarch64", false, .uint⟩, ⟨"riscv64", false, .int⟩]

/-- LP64 on all three: `size_t` = `unsigned long`, `ptrdiff_t` = `long`;
`char16_t` = `uint_least16_t` = `unsigned short`, `char32_t` = `uint_least32_t` = `unsigned int`. -/
def sizeT : Basic := .ulong
def ptrdiffT : Basic := .long
def char16T : Basic := .ushort
def char32T : Basic := .uint

/-! ## Integer types: width, signedness, range (5.2.4.2.1, 6.2.5, 6.2.6.2; LP64) -/

/-- width in bits (value + sign bits); `_Bool` has one value bit -/
def bits : Basic → Nat
  | .bool => 1
  | .char | .schar | .uchar => 8
  | .short | .ushort => 16
  | .int | .uint => 32
  | .long | .ulong | .llong | .ullong => 64
  | .float => 32 | .double => 64 | .ldouble => 128

/-- signed integer type? (`cs` = plain `char` is signed on the target) -/
def isSigned (cs : Bool) : Basic → Bool
  | .char => cs
  | .schar | .short | .int | .long | .llong => true
  | _ => false

def isInteger : Basic → Bool
  | .float | .double | .ldouble => false
  | _ => true

/-- [lo, hi] of an integer type with `n` value+sign bits -/
def rangeBits (signed : Bool) (n : Nat) : Int × Int :=
  if signed then (-(2 : Int) ^ (n - 1), (2 : Int) ^ (n - 1) - 1) else (0, (2 : Int) ^ n - 1)

/-- range of values of a basic integer type -/
def rangeB (cs : Bool) (b : Basic) : Int × Int := rangeBits (isSigned cs b) (bits b)

/-- the integer type an arithmetic type is (compatible with): an enumerated type has the
representation of its compatible integer type (6.7.2.2p4) -/
def intTypeOf : ATy → Basic
  | .basic b => b
  | .enum _ b => b

def range (cs : Bool) (t : ATy) : Int × Int := rangeB cs (intTypeOf t)

/-- range "as restricted by the width, for a bit-field" (6.3.1.1p2, 6.7.2.1p10: a bit-field is an
integer type of the specified number of bits; `_Bool` bit-fields hold 0 and 1) -/
def rangeW (cs : Bool) (t : ATy) : Option Nat → Int × Int
  | none => range cs t
  | some w => if intTypeOf t = .bool then (0, 1) else rangeBits (isSigned cs (intTypeOf t)) w

/-- every value of `[r.1, r.2]` is a value of `b` -/
def canRepresentAll (cs : Bool) (b : Basic) (r : Int × Int) : Bool :=
  decide ((rangeB cs b).1 ≤ r.1) && decide (r.2 ≤ (rangeB cs b).2)

def inRange (r : Int × Int) (v : Int) : Prop := r.1 ≤ v ∧ v ≤ r.2

instance (r : Int × Int) (v : Int) : Decidable (inRange r v) := by unfold inRange; infer_instance

/-- integer conversion rank (6.3.1.1p1): `_Bool` < `char` < `short` < `int` < `long` < `long long`;
signed/unsigned have the same rank; an enumerated type has the rank of its compatible type -/
def rankB : Basic → Nat
  | .bool => 0
  | .char | .schar | .uchar => 1
  | .short | .ushort => 2
  | .int | .uint => 3
  | .long | .ulong => 4
  | .llong | .ullong => 5
  | _ => 0

def rank (t : ATy) : Nat := rankB (intTypeOf t)

def isIntegerTy (t : ATy) : Bool := isInteger (intTypeOf t)

/-- a bit-field width the declaration may specify (6.7.2.1p4; cproc lets `_Bool` bit-fields be up
to 8 wide, the promotion rule does not care) -/
def validWidth (t : ATy) : Option Nat → Prop
  | none => True
  | some w => 1 ≤ w ∧ w ≤ 8 * t.size ∧ isIntegerTy t

instance (t : ATy) (w : Option Nat) : Decidable (validWidth t w) := by
  cases w <;> unfold validWidth <;> infer_instance

/-! ## 6.3.1.1p2 integer promotions; 6.5.2.2p6 default argument promotions -/

/-- If an `int` can represent all values of the original type (as restricted by the width, for a
bit-field), the value is converted to an `int`; otherwise, it is converted to an `unsigned int`.
All other types are unchanged.  Applies to types of rank ≤ `int` and to bit-fields.
DEVIATION D1: for a bit-field of a type of greater rank the same by-width rule is used when
`int`/`unsigned int` can represent it; otherwise the type is unchanged. -/
def intPromote (cs : Bool) (t : ATy) (w : Option Nat) : ATy :=
  match w with
  | none =>
    if rank t ≤ rankB .int then
      if canRepresentAll cs .int (range cs t) then .basic .int else .basic .uint
    else t
  | some _ =>
    if canRepresentAll cs .int (rangeW cs t w) then .basic .int
    else if canRepresentAll cs .uint (rangeW cs t w) then .basic .uint
    else t

/-- integer promotions on integer types, `float` → `double`, everything else unchanged -/
def promote (cs : Bool) (t : ATy) (w : Option Nat) : ATy :=
  if t = .basic .float then .basic .double
  else if isIntegerTy t then intPromote cs t w
  else t

/-! ## 6.3.1.8 usual arithmetic conversions -/

/-- "the unsigned integer type corresponding to the type of the operand with signed integer type" -/
def unsignedOf : Basic → Basic
  | .schar => .uchar | .char => .uchar | .short => .ushort | .int => .uint | .long => .ulong
  | .llong => .ullong
  | b => b

/-- 6.3.1.8 on two *different* promoted standard integer types -/
def commonRealB (cs : Bool) (b1 b2 : Basic) : Basic :=
  if b1 = b2 then b1
  else if isSigned cs b1 = isSigned cs b2 then
    -- both signed or both unsigned: the type of greater rank
    if rankB b1 > rankB b2 then b1 else b2
  else
    let u := if isSigned cs b1 then b2 else b1
    let s := if isSigned cs b1 then b1 else b2
    -- the unsigned operand has rank ≥ the other: the unsigned type
    if rankB u ≥ rankB s then u
    -- the signed type can represent all values of the unsigned type: the signed type
    else if canRepresentAll cs s (rangeB cs u) then s
    -- otherwise the unsigned type corresponding to the signed type
    else unsignedOf s

/-- the common real type of operands of types `t1`, `t2` (bit-field widths `w1`, `w2`).
DEVIATION D5 (outside strict C11, where every enumeration fits `int` and is promoted away): an
enumerated type of rank > `int` (GCC extension / C23 fixed underlying type) that is not the type
of both operands is converted like its compatible integer type, as GCC, clang and cproc do. -/
def commonReal (cs : Bool) (t1 : ATy) (w1 : Option Nat) (t2 : ATy) (w2 : Option Nat) : ATy :=
  -- "First, if the corresponding real type of either operand is long double, …"
  if t1 = .basic .ldouble ∨ t2 = .basic .ldouble then .basic .ldouble
  else if t1 = .basic .double ∨ t2 = .basic .double then .basic .double
  else if t1 = .basic .float ∨ t2 = .basic .float then .basic .float
  else
    -- "Otherwise, the integer promotions are performed on both operands."
    let p1 := intPromote cs t1 w1
    let p2 := intPromote cs t2 w2
    -- "If both operands have the same type, then no further conversion is needed."
    if p1 = p2 then p1 else .basic (commonRealB cs (intTypeOf p1) (intTypeOf p2))

/-- `r` is the type 6.3.1.8 gives -/
def usualArith (cs : Bool) (t1 : ATy) (w1 : Option Nat) (t2 : ATy) (w2 : Option Nat) (r : ATy) : Bool :=
  r == commonReal cs t1 w1 t2 w2

/-! ## 6.4.4.1p5 integer constants, 6.4.4.2p4 floating constants, 6.4.4.4 character constants -/

inductive LongSfx | none | l | ll
  deriving DecidableEq, Repr

structure Suffix where
  u : Bool
  len : LongSfx
  deriving DecidableEq, Repr

/-- the integer-suffix grammar of 6.4.4.1p1, spelled out -/
def suffixGrammar : List (String × Suffix) :=
  [("", ⟨false, .none⟩),
   ("u", ⟨true, .none⟩), ("U", ⟨true, .none⟩),
   ("l", ⟨false, .l⟩), ("L", ⟨false, .l⟩),
   ("ll", ⟨false, .ll⟩), ("LL", ⟨false, .ll⟩),
   ("ul", ⟨true, .l⟩), ("uL", ⟨true, .l⟩), ("Ul", ⟨true, .l⟩), ("UL", ⟨true, .l⟩),
   ("lu", ⟨true, .l⟩), ("lU", ⟨true, .l⟩), ("Lu", ⟨true, .l⟩), ("LU", ⟨true, .l⟩),
   ("ull", ⟨true, .ll⟩), ("uLL", ⟨true, .ll⟩), ("Ull", ⟨true, .ll⟩), ("ULL", ⟨true, .ll⟩),
   ("llu", ⟨true, .ll⟩), ("llU", ⟨true, .ll⟩), ("LLu", ⟨true, .ll⟩), ("LLU", ⟨true, .ll⟩)]

def parseSuffix (s : String) : Option Suffix := suffixGrammar.lookup s

/-- the table of 6.4.4.1p5 -/
def literalList (decimal : Bool) : Suffix → List Basic
  | ⟨false, .none⟩ => if decimal then [.int, .long, .llong] else [.int, .uint, .long, .ulong, .llong, .ullong]
  | ⟨true, .none⟩ => [.uint, .ulong, .ullong]
  | ⟨false, .l⟩ => if decimal then [.long, .llong] else [.long, .ulong, .llong, .ullong]
  | ⟨true, .l⟩ => [.ulong, .ullong]
  | ⟨false, .ll⟩ => if decimal then [.llong] else [.llong, .ullong]
  | ⟨true, .ll⟩ => [.ullong]

/-- "The type of an integer constant is the first of the corresponding list in which its value can
be represented" — `none` if there is none (the constant then violates 6.4.4p2) -/
def literalType (cs : Bool) (v : Nat) (decimal : Bool) (sfx : Suffix) : Option Basic :=
  (literalList decimal sfx).find? (fun b => decide (inRange (rangeB cs b) (v : Int)))

/-- 6.4.4.2p4: unsuffixed `double`, `f`/`F` `float`, `l`/`L` `long double` -/
def floatLiteralType : String → Option Basic
  | "" => some .double
  | "f" | "F" => some .float
  | "l" | "L" => some .ldouble
  | _ => none

/-- 6.4.4.4p10-11: an integer character constant has type `int`; `L` `wchar_t`; `u` `char16_t`;
`U` `char32_t`.  DEVIATION D3 (C23): `u8` → `unsigned char`. -/
def charConstType (ts : TargetSpec) : CharPrefix → Basic
  | .none => .int
  | .L => ts.wchar
  | .u => char16T
  | .U => char32T
  | .u8 => .uchar

/-! ## 6.2.7 compatible types -/

/-- array size rule of 6.7.6.2p6: "if both size specifiers are present, and are integer constant
expressions, then both size specifiers shall have the same constant value" -/
def sizesAgree : ArrLen → ArrLen → Prop
  | .const a, .const b => a = b
  | _, _ => True

mutual
/-- `Compat a b`: the two types are compatible (6.2.7p1), on the type language of the model.
In a derived type the qualifier set stored in the node belongs to the referenced / element /
return type. -/
inductive Compat : Ty → Ty → Prop
  /-- same type -/
  | void : Compat .void .void
  | nullptr : Compat .nullptr .nullptr
  | arith (a : ATy) : Compat (.arith a) (.arith a)
  /-- within a translation unit a struct/union/enum declaration introduces one type; two
  declarations give two incompatible types (6.7.2.3p5) -/
  | struct (i : Nat) : Compat (.struct i) (.struct i)
  | union (i : Nat) : Compat (.union i) (.union i)
  /-- 6.7.2.2p4: an enumerated type is compatible with its (implementation-defined) integer type -/
  | enumL (i : Nat) (b : Basic) : Compat (.arith (.enum i b)) (.arith (.basic b))
  | enumR (i : Nat) (b : Basic) : Compat (.arith (.basic b)) (.arith (.enum i b))
  /-- 6.7.6.1p2 + 6.7.3p10: pointers to identically qualified compatible types -/
  | ptr (q : Qual) {a b : Ty} : Compat a b → Compat (.ptr q a) (.ptr q b)
  /-- 6.7.6.2p6 -/
  | arr (q : Qual) {la lb : ArrLen} (pa pb : Qual) {a b : Ty} :
      sizesAgree la lb → Compat a b → Compat (.arr q la pa a) (.arr q lb pb b)
  /-- 6.7.6.3p15: compatible return types, same number of parameters, same use of the ellipsis,
  corresponding parameters compatible (parameter types are already adjusted and unqualified) -/
  | func (q : Qual) {ra rb : Ty} {pa pb : List Ty} (v : Bool) :
      Compat ra rb → CompatL pa pb → Compat (.func q ra pa v) (.func q rb pb v)
inductive CompatL : List Ty → List Ty → Prop
  | nil : CompatL [] []
  | cons {a b : Ty} {as bs : List Ty} : Compat a b → CompatL as bs → CompatL (a :: as) (b :: bs)
end

/-- DEVIATION D2: the composite type (6.2.7p3) is not built -/
def composite (t1 _t2 : Ty) : Ty := t1

/-- 6.7.6.3p7-8 adjustment of a parameter declared as array or function; the qualifiers written
inside `[` `]` qualify the resulting pointer -/
def adjustParam (t : Ty) (tq : Qual) : Ty × Qual :=
  match t with
  | .arr q _ pq base => (.ptr (tq.union q) base, pq)
  | .func .. => (.ptr Qual.none t, tq)
  | _ => (t, tq)

/-- executable decision procedure for `Compat` (`Lemmas/TypesCompat.lean: compatible_iff`) -/
def lenAgree : ArrLen → ArrLen → Bool
  | .const a, .const b => a == b
  | _, _ => true

mutual
def compatible : Ty → Ty → Bool
  | .void, .void => true
  | .nullptr, .nullptr => true
  | .arith a, .arith b =>
    decide (a = b) ||
    (match a, b with
     | .enum _ x, .basic y => decide (x = y)
     | .basic x, .enum _ y => decide (x = y)
     | _, _ => false)
  | .struct i, .struct j => decide (i = j)
  | .union i, .union j => decide (i = j)
  | .ptr q a, .ptr q' b => decide (q = q') && compatible a b
  | .arr q la _ a, .arr q' lb _ b => decide (q = q') && lenAgree la lb && compatible a b
  | .func q ra pa v, .func q' rb pb v' => decide (q = q') && decide (v = v') && compatible ra rb && compatibleL pa pb
  | _, _ => false
def compatibleL : List Ty → List Ty → Bool
  | [], [] => true
  | a :: as, b :: bs => compatible a b && compatibleL as bs
  | _, _ => false
end

/-! ## 6.5 result types of operators

Each `…Ok cs … t` says: "the expression is valid and `t` is the type C11 gives it". -/

def isIntegerT (t : Ty) : Bool :=
  match t with
  | .arith a => isIntegerTy a
  | _ => false

/-- pointer to a complete object type (6.5.6p2-3) -/
def ptrToCompleteObject (t : Ty) : Bool :=
  match t with
  | .ptr _ b => !b.incomplete && !b.isFunc
  | _ => false

/-- both operands arithmetic and `t` is their common real type -/
def arithOk (cs : Bool) (l r : Operand) (t : Ty) : Bool :=
  match l.ty, r.ty, t with
  | .arith a, .arith b, .arith c => usualArith cs a l.width b r.width c
  | _, _, _ => false

def bothInteger (l r : Operand) : Bool := isIntegerT l.ty && isIntegerT r.ty

def binopOk (cs : Bool) (op : BinOp) (l r : Operand) (t : Ty) : Bool :=
  match op with
  -- 6.5.13, 6.5.14: scalar operands, result `int`
  | .lor | .land => l.ty.isScalar && r.ty.isScalar && t == Ty.int
  -- 6.5.9: both arithmetic; pointers to (qualified or unqualified versions of) compatible types;
  -- pointer to object type and pointer to void; pointer and null pointer constant
  | .eql | .neq =>
    t == Ty.int &&
    ((l.ty.isArith && r.ty.isArith) ||
     (match l.ty, r.ty with
      | .ptr _ lb, .ptr _ rb =>
        compatible lb rb || (rb == .void && !lb.isFunc) || (lb == .void && !rb.isFunc)
      | _, _ => false) ||
     (l.ty.isPtr && r.nullconst) || (r.ty.isPtr && l.nullconst))
  -- 6.5.8: real operands, or pointers to compatible object types
  | .less | .greater | .leq | .geq =>
    t == Ty.int &&
    ((l.ty.isArith && r.ty.isArith) ||
     (match l.ty, r.ty with
      | .ptr _ lb, .ptr _ rb => compatible lb rb && !lb.isFunc
      | _, _ => false))
  -- 6.5.10-12, 6.5.5 (%): integer operands, usual arithmetic conversions
  | .bor | .xor | .band | .mod => bothInteger l r && arithOk cs l r t
  -- 6.5.5
  | .mul | .div => arithOk cs l r t
  -- 6.5.6
  | .add =>
    arithOk cs l r t ||
    (ptrToCompleteObject l.ty && isIntegerT r.ty && t == l.ty) ||
    (ptrToCompleteObject r.ty && isIntegerT l.ty && t == r.ty)
  | .sub =>
    arithOk cs l r t ||
    (ptrToCompleteObject l.ty && isIntegerT r.ty && t == l.ty) ||
    (match l.ty, r.ty with
     | .ptr _ lb, .ptr _ rb =>
       -- 6.5.6p3: both point to (qualified or unqualified versions of) compatible complete object types
       ptrToCompleteObject l.ty && ptrToCompleteObject r.ty && compatible lb rb && t == .arith (.basic ptrdiffT)
     | _, _ => false)
  -- 6.5.7: integer operands; "the type of the result is that of the promoted left operand"
  | .shl | .shr =>
    bothInteger l r &&
    (match l.ty with
     | .arith a => t == .arith (intPromote cs a l.width)
     | _ => false)

/-- 6.5.15: `t` is the type of `c ? l : r` -/
def condOk (cs : Bool) (l r : Operand) (t : Ty) : Bool :=
  -- p5: both arithmetic: the usual arithmetic conversions
  arithOk cs l r t ||
  -- p3, p5: the same structure or union type; both void
  (l.ty.isStructUnion && l.ty == r.ty && t == l.ty) ||
  (l.ty == .void && r.ty == .void && t == .void) ||
  -- p6: a pointer and a null pointer constant (of integer type): the type of the other operand
  (l.ty.isPtr && !r.ty.isPtr && r.nullconst && t == l.ty) ||
  (r.ty.isPtr && !l.ty.isPtr && l.nullconst && t == r.ty) ||
  (match l.ty, r.ty with
   | .ptr ql lb, .ptr qr rb =>
     -- one is a null pointer constant (`(void *)0`): the type of the other
     (r.nullconst && !l.nullconst && t == l.ty) || (l.nullconst && !r.nullconst && t == r.ty) ||
     (l.nullconst && r.nullconst && (t == l.ty || t == r.ty)) ||
     (!l.nullconst && !r.nullconst &&
      -- pointers to compatible types: pointer to the composite type, with all qualifiers of both
      ((lb != .void && rb != .void && compatible lb rb && t == .ptr (ql.union qr) (composite lb rb)) ||
      -- pointer to object type and pointer to void: pointer to (qualified) void
       ((lb == .void || rb == .void) && !lb.isFunc && !rb.isFunc && t == .ptr (ql.union qr) .void)))
   | _, _ => false)

/-- is the cast `(t) e` a null pointer constant, given that `e` is an integer constant expression
with value 0 or a null pointer constant (6.3.2.3p3: "…or such an expression cast to type `void *`")?
Only the *unqualified* `void *` qualifies. -/
def castNullconst (t : Ty) (e : Operand) : Bool :=
  e.nullconst && (isIntegerT t || t == .ptr Qual.none .void)

/-- 6.5.3.4p5: `sizeof`/`_Alignof` have type `size_t` -/
def sizeofType : Ty := .arith (.basic sizeT)

/-- 6.5.2.3p3-4: `E.m` / `E->m` has the type of the member, "so-qualified" by the qualifiers of
the structure object; an lvalue if `->` or if `E` is one -/
def memberQual (objq mq : Qual) : Qual := objq.union mq

/-- 6.3.2.1p3-4: array → pointer to element (element qualifiers kept), function → pointer to it -/
def decayTy (t : Ty) (q : Qual) : Ty :=
  match t with
  | .arr aq _ _ base => .ptr (aq.union q) base
  | .func .. => .ptr q t
  | _ => t

/-! ## 6.7.2.2 enumerations -/

/-- the underlying type is implementation-defined but "shall be capable of representing the values
of all the members"; GCC/clang (and cproc) take `unsigned int` if no enumerator is negative, else
`int`, then the `long` types -/
def enumBaseOk (cs : Bool) (b : Basic) (lo hi : Int) : Prop :=
  inRange (rangeB cs b) lo ∧ inRange (rangeB cs b) hi

end CprocVerif.Spec

namespace CprocVerif.Spec
open CprocVerif.Types

/-- how cproc hands an integer to `typehasint`: the 64-bit two's complement pattern `i` of the value
and whether it is to be read as signed (`e->type->u.basic.issigned`) -/
def decode (i : Nat) (sign : Bool) : Int :=
  if sign ∧ i ≥ 2 ^ 63 then (i : Int) - 2 ^ 64 else (i : Int)

end CprocVerif.Spec

namespace CprocVerif.Spec
open CprocVerif.Types

/-! ## Unary operators, casts, assignment, comma, calls, member access (6.5.2–6.5.4, 6.5.16–17)

`…Ok … res` = "the expression is valid and `res` describes it" (type, and where C11 says so:
lvalue-ness, qualifiers, bit-field width, null-pointer-constant-ness). -/

/-- the operand designated by an lvalue/function designator before array/function decay -/
def undecayed (e : Operand) : Ty × Qual :=
  match e.decayedFrom with
  | some p => p
  | none => (e.ty, e.qual)

def isBitfield (e : Operand) : Bool := e.decayedFrom.isNone && e.width.isSome

def unaryOk (cs : Bool) (op : UnOp) (e : Operand) (res : Operand) : Bool :=
  match op with
  -- 6.5.3.3: arithmetic operand (integer for `~`); the result has the promoted type
  | .plus | .minus =>
    (match e.ty with
     | .arith a => if isIntegerTy a then res.ty == .arith (intPromote cs a e.width) else res.ty == e.ty
     | _ => false)
  | .bnot =>
    (match e.ty with
     | .arith a => isIntegerTy a && res.ty == .arith (intPromote cs a e.width)
     | _ => false)
  | .lnot => e.ty.isScalar && res.ty == Ty.int
  -- 6.5.3.4: not a function type, incomplete type or bit-field; result `size_t`
  | .sizeofE | .alignofE =>
    !isBitfield e && !(undecayed e).1.incomplete && !(undecayed e).1.isFunc && res.ty == sizeofType
  -- 6.5.3.2p1,3: function designator or lvalue that is not a bit-field; "pointer to type"
  | .addr =>
    ((e.decayedFrom.isSome || e.lvalue || (undecayed e).1.isFunc)) && !isBitfield e &&
      res.ty == .ptr (undecayed e).2 (undecayed e).1
  -- 6.5.3.2p2,4: pointer operand; the result designates the object/function (then 6.3.2.1 decay)
  | .deref =>
    (match e.ty with
     | .ptr q b => res.ty == decayTy b q &&
        (b.isFunc || (match b with | .arr .. => true | _ => false) || (res.qual == q && res.lvalue))
     | _ => false)
  -- 6.5.2.4, 6.5.3.1: modifiable lvalue of real or pointer type; the type of the operand
  | .preinc | .predec | .postinc | .postdec =>
    e.lvalue && !e.qual.c && (e.ty.isArith || e.ty.isPtr) && res.ty == e.ty

/-- 6.5.4: cast to void or between scalar types; the result has the named type (unqualified) -/
def isFloatingT (t : Ty) : Bool :=
  match t with
  | .arith a => !isIntegerTy a
  | _ => false

def castOk (t : Ty) (e : Operand) (res : Operand) : Bool :=
  (t == .void ||
    (t.isScalar && e.ty.isScalar &&
      -- 6.5.4p4: no conversion between pointer and floating types
      !(t.isPtr && isFloatingT e.ty) && !(isFloatingT t && e.ty.isPtr))) &&
  res.ty == t && (t == .void || res.nullconst == castNullconst t e)

/-- 6.5.16p3: "the type of an assignment expression is the type the left operand would have after
lvalue conversion"; not an lvalue -/
def assignOk (l : Operand) (res : Operand) : Bool :=
  l.lvalue && !l.qual.c && res.ty == l.ty && !res.lvalue

/-- 6.5.17: the comma operator has the type of its right operand; not an lvalue -/
def commaOk (r : Operand) (res : Operand) : Bool := res.ty == r.ty && !res.lvalue

/-- 6.5.2.2: called expression of type pointer to function returning `T`; the result has type `T`;
argument count agrees with the prototype (DEVIATION D3: there is always a prototype) -/
def callOk (f : Operand) (nargs : Nat) (res : Operand) : Bool :=
  match f.ty with
  | .ptr _ (.func _ ret params vararg) =>
    (if vararg then decide (params.length ≤ nargs) else decide (params.length = nargs)) && res.ty == ret
  | _ => false

/-- 6.5.2.3 -/
def memberOk (arrow : Bool) (e : Operand) (mty : Ty) (mq : Qual) (res : Operand) : Bool :=
  let objq : Option Qual :=
    if arrow then (match e.ty with | .ptr q (.struct _) => some q | .ptr q (.union _) => some q | _ => none)
    else if e.ty.isStructUnion then some e.qual else none
  match objq with
  | some q => res.ty == decayTy mty (memberQual q mq) &&
      (mty.isFunc || (match mty with | .arr .. => true | _ => false) ||
        (res.qual == memberQual q mq && res.lvalue == (arrow || e.lvalue)))
  | none => false

end CprocVerif.Spec

namespace CprocVerif.Spec
open CprocVerif.Types

/-! ## 6.7.3p9: qualified array types

"If the specification of an array type includes any type qualifiers, the element type is
so-qualified, not the array type."  In the type AST the qualifiers of a referenced/element type are
stored in the parent node, so `ptr q (arr aq … T)` and `ptr {} (arr (aq ∪ q) … T)` are two spellings
of the same C type ("pointer to array of q-qualified T").  `normalize` pushes such qualifiers
down to the innermost element type; C11 compatibility is `Compat` on normal forms. -/

/-- add `q` to the (innermost) element type of an array type -/
def addElemQual (q : Qual) : Ty → Ty
  | .arr aq len pq e =>
    match e with
    | .arr .. => .arr Qual.none len pq (addElemQual (aq.union q) e)
    | _ => .arr (aq.union q) len pq e
  | t => t

mutual
def normalize : Ty → Ty
  | .ptr q b =>
    match normalize b with
    | .arr aq len pq e => .ptr Qual.none (addElemQual q (.arr aq len pq e))
    | b' => .ptr q b'
  | .arr aq len pq e =>
    match normalize e with
    | .arr aq' len' pq' e' => .arr Qual.none len pq (addElemQual aq (.arr aq' len' pq' e'))
    | e' => .arr aq len pq e'
  | .func q r ps v => .func q (normalize r) (normalizeL ps) v
  | t => t
def normalizeL : List Ty → List Ty
  | [] => []
  | t :: ts => normalize t :: normalizeL ts
end

/-- compatibility of the C types the two ASTs denote -/
def compatibleN (a b : Ty) : Bool := compatible (normalize a) (normalize b)

end CprocVerif.Spec
