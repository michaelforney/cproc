/-
  Well-formedness validator for QBE IL modules.

  `wf : Module → Except String Unit` checks (per function) single definitions, dominance of uses,
  operand/result classes of every opcode, jump and phi labels, phi sources = predecessors,
  terminated last block, earlier definition of aggregate types, call/ret agreement with
  signatures; (per module) duplicate symbols, type and data definitions.

  The dominance part is organised as *certificate checking*: `computeCert` (unverified) computes
  the reachable set, dominator sets (as `Nat` bit sets) and a definition map; `flowOk` (verified in
  `Lemmas/QbeFlow.lean`) only checks that these are consistent with the function.
-/
import CprocVerif.Spec.Qbe
import CprocVerif.Spec.QbeParse

namespace CprocVerif.Qbe

/-! ## Bit sets -/

def bit (i : Nat) : Nat := 1 <<< i

/-- `a ⊆ b` -/
def bsSubset (a b : Nat) : Bool := a &&& b == a

/-! ## Definitions of temporaries -/

inductive DefLoc where
  | param
  | phi (b : Nat)
  | ins (b i : Nat)
  deriving Repr, Inhabited, DecidableEq

/-- Untrusted per-function analysis results. -/
structure FnCert where
  reach : Nat
  dom : Array Nat
  defs : Std.HashMap String DefLoc

def Block.defsList (b : Block) : List (String × Cls) :=
  b.phis.map (fun p => (p.res, p.k)) ++
  b.ins.toList.filterMap (fun i => match i with
    | .op res _ _ => res
    | .call res _ _ _ => res.map fun r => (r.1, r.2.cls))

/-- All definitions of temporaries in a function, with their classes: parameters, then per block
    phi results and instruction results. -/
def Func.allDefs (f : Func) : List (String × Cls) :=
  f.params.map (fun p => (p.2, p.1.cls)) ++ f.blocks.toList.flatMap Block.defsList

def noDupCheck : List String → Std.HashSet String → Option String
  | [], _ => none
  | x :: xs, s => if s.contains x then some x else noDupCheck xs (s.insert x)

/-! ## Control flow -/

/-- Successor block indices of block number `bi`; `none` if a label is unknown. -/
def succIdx (fi : FuncInfo) (bi : Nat) (b : Block) : Option (List Nat) :=
  match b.term with
  | none => some [bi + 1]
  | some (.jmp l) => match fi.labelIdx[l]? with
    | some j => some [j]
    | none => none
  | some (.jnz _ a z) =>
    match fi.labelIdx[a]?, fi.labelIdx[z]? with
    | some j, some k => some [j, k]
    | _, _ => none
  | some (.ret _) => some []
  | some .hlt => some []

def Val.tmpName : Val → Option String
  | .tmp n => some n
  | _ => none

/-- Is `t` defined on every path to the point just before instruction `ii` of block `bi`
    (according to the certificate)?  Every map lookup is re-validated against the function. -/
def defBefore (f : Func) (c : FnCert) (bi ii : Nat) (t : String) : Bool :=
  match c.defs[t]? with
  | none => false
  | some .param => f.params.any (fun p => p.2 == t)
  | some (.phi d) =>
    (match f.blocks[d]? with
     | some b => b.phis.any (fun p => p.res == t)
     | none => false) &&
    (d == bi || (c.dom.getD bi 0).testBit d)
  | some (.ins d j) =>
    (match f.blocks[d]? with
     | some b => (match b.ins[j]? with
        | some i => i.defn == some t
        | none => false)
     | none => false) &&
    ((d == bi && j < ii) || (d != bi && (c.dom.getD bi 0).testBit d))

def valDefBefore (f : Func) (c : FnCert) (bi ii : Nat) (v : Val) : Bool :=
  match v with
  | .tmp t => defBefore f c bi ii t
  | _ => true

/-- All instruction operands of block `bi` are defined before their use. -/
def insUsesOk (f : Func) (c : FnCert) (bi : Nat) (b : Block) : Bool :=
  (List.range b.ins.size).all fun ii =>
    match b.ins[ii]? with
    | some i => i.operands.all (valDefBefore f c bi ii)
    | none => true

def termUsesOk (f : Func) (c : FnCert) (bi : Nat) (b : Block) : Bool :=
  match b.term with
  | some j => j.operands.all (valDefBefore f c bi b.ins.size)
  | none => true

/-- Edge `bi → s`: `s` exists and is reachable, its dominators other than itself dominate `bi` (or
    are `bi`), and every phi of `s` has a source for `bi` that is defined at the end of `bi`. -/
def edgeOk (f : Func) (c : FnCert) (bi : Nat) (b : Block) (s : Nat) : Bool :=
  match f.blocks[s]? with
  | none => false
  | some sb =>
    c.reach.testBit s &&
    bsSubset (c.dom.getD s 0) (c.dom.getD bi 0 ||| bit bi ||| bit s) &&
    sb.phis.all fun ph =>
      match ph.srcs.find? (fun src => src.1 == b.label) with
      | none => false
      | some src => valDefBefore f c bi b.ins.size src.2

def blockFlowOk (f : Func) (c : FnCert) (bi : Nat) (b : Block) : Bool :=
  !c.reach.testBit bi ||
  (insUsesOk f c bi b && termUsesOk f c bi b &&
   match succIdx (FuncInfo.of f) bi b with
   | none => false
   | some ss => ss.all (edgeOk f c bi b))

/-- The verified core of the flow checks. -/
def flowOk (f : Func) (c : FnCert) : Bool :=
  c.reach.testBit 0 &&
  (c.dom.getD 0 0 == 0 || c.dom.getD 0 0 == 1) &&
  (match f.blocks[0]? with
   | some b => b.phis.isEmpty
   | none => false) &&
  (List.range f.blocks.size).all fun bi =>
    match f.blocks[bi]? with
    | some b => blockFlowOk f c bi b
    | none => true

/-! ### Computing the certificate (unverified) -/

def succArray (f : Func) (fi : FuncInfo) : Array (List Nat) :=
  (List.range f.blocks.size).foldl (fun acc bi =>
    match f.blocks[bi]? with
    | some b => acc.push (((succIdx fi bi b).getD []).filter (· < f.blocks.size))
    | none => acc.push []) (Array.mkEmpty f.blocks.size)

def predArray (n : Nat) (succs : Array (List Nat)) : Array (List Nat) :=
  (List.range n).foldl (fun acc b =>
    (succs.getD b []).foldl (fun acc s =>
      if (acc.getD s []).contains b then acc else acc.modify s (b :: ·)) acc)
    (Array.replicate n [])

def reachLoop (succs : Array (List Nat)) : (fuel : Nat) → List Nat → Nat → Nat
  | 0, _, seen => seen
  | _+1, [], seen => seen
  | f+1, b :: st, seen =>
    let (st, seen) := (succs.getD b []).foldl (fun (acc : List Nat × Nat) s =>
      if acc.2.testBit s then acc else (s :: acc.1, acc.2 ||| bit s)) (st, seen)
    reachLoop succs f st seen

def domPass (preds : Array (List Nat)) (reach full n : Nat) (dom : Array Nat) : Array Nat × Bool :=
  (List.range n).foldl (fun (acc : Array Nat × Bool) b =>
    if b == 0 || !reach.testBit b then acc else
    let inter := (preds.getD b []).foldl (fun s p =>
      if reach.testBit p then s &&& acc.1.getD p 0 else s) full
    let nd := inter ||| bit b
    if nd == acc.1.getD b 0 then acc else (acc.1.set! b nd, true)) (dom, false)

def domLoop (preds : Array (List Nat)) (reach full n : Nat) : (fuel : Nat) → Array Nat → Array Nat
  | 0, dom => dom
  | f+1, dom =>
    let (dom', changed) := domPass preds reach full n dom
    if changed then domLoop preds reach full n f dom' else dom'

def mkDefMap (f : Func) : Std.HashMap String DefLoc :=
  let m : Std.HashMap String DefLoc :=
    f.params.foldl (fun m p => m.insertIfNew p.2 .param) {}
  (List.range f.blocks.size).foldl (fun m bi =>
    match f.blocks[bi]? with
    | none => m
    | some b =>
      let m := b.phis.foldl (fun m ph => m.insertIfNew ph.res (.phi bi)) m
      (List.range b.ins.size).foldl (fun m ii =>
        match b.ins[ii]? with
        | some i => match i.defn with
          | some x => m.insertIfNew x (.ins bi ii)
          | none => m
        | none => m) m) m

def computeCert (f : Func) : FnCert :=
  let fi := FuncInfo.of f
  let n := f.blocks.size
  let succs := succArray f fi
  let preds := predArray n succs
  let reach := reachLoop succs (2 * n + 2 + succs.foldl (fun a l => a + l.length) 0) [0] (bit 0)
  let full := bit n - 1
  let dom0 := (Array.replicate n full).set! 0 (bit 0)
  let dom := domLoop preds reach full n (n + 2) dom0
  ⟨reach, dom, mkDefMap f⟩

/-! ## Classes -/

abbrev ClsMap := Std.HashMap String Cls

/-- May value `v` be used where class `k` is expected?  An `l` temporary may be used as `w`. -/
def argOk (tc : ClsMap) (k : Cls) (v : Val) : Bool :=
  match v with
  | .tmp t =>
    match tc[t]? with
    | some c => c == k || (k == .w && c == .l)
    | none => false
  | .glob _ _ => k == .l
  | .int _ => k == .w || k == .l
  | .fs _ => k == .s
  | .fd _ => k == .d

def isInt (k : Cls) : Bool := k == .w || k == .l
def isFlt (k : Cls) : Bool := k == .s || k == .d

def StoreTy.cls : StoreTy → Cls
  | .d => .d | .s => .s | .l => .l | _ => .w

/-- Operand classes of opcode `o` when its result class is `k` (`none`: no result); `none` if the
    opcode does not exist with that result class.  This is the table of QBE's `ops.h`. -/
def Op.sig (o : Op) (k : Option Cls) : Option (List Cls) :=
  match o, k with
  | .add, some k | .sub, some k | .mul, some k | .div, some k => some [k, k]
  | .neg, some k => some [k]
  | .udiv, some k | .rem, some k | .urem, some k | .or, some k | .xor, some k | .and, some k =>
    if isInt k then some [k, k] else none
  | .sar, some k | .shr, some k | .shl, some k => if isInt k then some [k, .w] else none
  | .store t, none => some [t.cls, .l]
  | .load .d, some .d => some [.l]
  | .load .s, some .s => some [.l]
  | .load .l, some .l => some [.l]
  | .load .d, _ | .load .s, _ | .load .l, _ => none
  | .load _, some k => if isInt k then some [.l] else none
  | .alloc _, some .l => some [.l]
  | .cmpw _, some k => if isInt k then some [.w, .w] else none
  | .cmpl _, some k => if isInt k then some [.l, .l] else none
  | .cmps _, some k => if isInt k then some [.s, .s] else none
  | .cmpd _, some k => if isInt k then some [.d, .d] else none
  | .extsw, some .l | .extuw, some .l => some [.w]
  | .extsh, some k | .extuh, some k | .extsb, some k | .extub, some k =>
    if isInt k then some [.w] else none
  | .exts, some .d => some [.s]
  | .truncd, some .s => some [.d]
  | .stosi, some k | .stoui, some k => if isInt k then some [.s] else none
  | .dtosi, some k | .dtoui, some k => if isInt k then some [.d] else none
  | .swtof, some k | .uwtof, some k => if isFlt k then some [.w] else none
  | .sltof, some k | .ultof, some k => if isFlt k then some [.l] else none
  | .cast, some .w => some [.s]
  | .cast, some .l => some [.d]
  | .cast, some .s => some [.w]
  | .cast, some .d => some [.l]
  | .copy, some k => some [k]
  | .vastart, none => some [.l]
  | .vaarg, some _ => some [.l]
  | _, _ => none

/-- A temporary among `vs` that has no definition at all in the function. -/
def undefinedTmp (tc : ClsMap) (vs : List Val) : Option String :=
  vs.findSome? fun v => match v with
    | .tmp t => if tc.contains t then none else some t
    | _ => none

def argsOk (tc : ClsMap) : List Cls → List Val → Bool
  | [], [] => true
  | k :: ks, v :: vs => argOk tc k v && argsOk tc ks vs
  | _, _ => false

/-! ## Signatures -/

structure Sig where
  ret : Option Ty
  params : List Ty
  variadic : Bool

abbrev SigMap := Std.HashMap String Sig

/-- Do an argument/result type at a call and the callee's declared type agree? -/
def tyAgree (a p : Ty) : Bool :=
  match a, p with
  | .agg x, .agg y => x == y
  | .agg _, _ | _, .agg _ => false
  | a, p => a.cls == p.cls

def tysAgree : List Ty → List Ty → Bool
  | _, [] => true
  | a :: as, p :: ps => tyAgree a p && tysAgree as ps
  | [], _ :: _ => false

def tyDefined (types : Std.HashSet String) : Ty → Bool
  | .agg n => types.contains n
  | _ => true

def errIf (c : Bool) (msg : String) : Except String Unit :=
  if c then .error msg else .ok ()

def checkCall (sigs : SigMap) (types : Std.HashSet String) (tc : ClsMap)
    (res : Option (String × Ty)) (callee : Val) (args : List (Ty × Val)) (varAt : Option Nat) :
    Except String Unit := do
  errIf (!argOk tc .l callee) "callee is not of class l"
  for (t, v) in args do
    errIf (!tyDefined types t) s!"aggregate type {t.name} is used before its definition"
    errIf (!argOk tc t.cls v) s!"call argument of type {t.name} has the wrong class"
  match res with
  | some (_, t) =>
    errIf (!tyDefined types t) s!"aggregate type {t.name} is used before its definition"
  | none => pure ()
  match varAt with
  | some i => errIf (i > args.length) "misplaced '...'"
  | none => pure ()
  match callee with
  | .glob name _ =>
    match sigs[name]? with
    | none => pure ()
    | some sg =>
      let np := sg.params.length
      errIf (args.length < np) s!"call to ${name} with too few arguments"
      errIf (!sg.variadic && args.length > np) s!"call to ${name} with too many arguments"
      errIf (!tysAgree (args.map (·.1)) sg.params)
        s!"call to ${name}: argument types differ from the parameter types"
      match varAt with
      | some i =>
        errIf (!sg.variadic) s!"call to ${name}: '...' in a call to a non-variadic function"
        errIf (i != np) s!"call to ${name}: '...' is not at the position of the callee's '...'"
      | none =>
        -- cproc omits the marker when a variadic function gets no variadic argument
        errIf (sg.variadic && args.length > np)
          s!"call to ${name}: variadic arguments without '...'"
      match res, sg.ret with
      | some (_, t), some rt =>
        errIf (!tyAgree t rt) s!"call to ${name}: result type {t.name} but the callee returns {rt.name}"
      | some _, none => .error s!"call to ${name}: result taken from a function without return type"
      | none, _ => pure ()
  | _ => pure ()

/-! ## Per-function checks -/

def checkIns (sigs : SigMap) (types : Std.HashSet String) (tc : ClsMap) (i : Ins) :
    Except String Unit :=
  match undefinedTmp tc i.operands with
  | some t => .error s!"temporary %{t} is used but never defined"
  | none =>
  match i with
  | .op res o args =>
    match o.sig (res.map (·.2)) with
    | none =>
      .error s!"{o.name}: invalid result class {(res.map (·.2.name)).getD "(none)"}"
    | some ks =>
      if argsOk tc ks args then .ok ()
      else .error s!"{o.name}: operand count or class mismatch (result {(res.map (·.1)).getD "-"})"
  | .call res callee args varAt => checkCall sigs types tc res callee args varAt

def checkJump (f : Func) (fi : FuncInfo) (tc : ClsMap) (j : Jump) : Except String Unit := do
  for l in j.targets do
    errIf (!fi.labelIdx.contains l) s!"jump to unknown label @{l}"
  match undefinedTmp tc j.operands with
  | some t => throw s!"temporary %{t} is used but never defined"
  | none => pure ()
  match j with
  | .jnz v _ _ => errIf (!argOk tc .w v) "jnz argument is not of class w"
  | .ret (some v) =>
    match f.ret with
    | none => .error "ret with a value in a function without return type"
    | some t => errIf (!argOk tc t.cls v) s!"ret value does not have class {t.cls.name}"
  | _ => pure ()

/-- The checks that are not used by the soundness theorem (classes, signatures, phi sources =
    predecessors, …). -/
def wfFuncPre (sigs : SigMap) (types : Std.HashSet String) (f : Func) : Except String Unit := do
  let fi := FuncInfo.of f
  let n := f.blocks.size
  errIf (n == 0) "function without blocks"
  -- labels
  match noDupCheck (f.blocks.toList.map (·.label)) {} with
  | some l => throw s!"label @{l} defined twice"
  | none => pure ()
  -- signature
  match f.ret with
  | some t => errIf (!tyDefined types t) s!"aggregate type {t.name} is used before its definition"
  | none => pure ()
  for (t, _) in f.params do
    errIf (!tyDefined types t) s!"aggregate type {t.name} is used before its definition"
  let defs := f.allDefs
  let tc : ClsMap := defs.foldl (fun m d => m.insert d.1 d.2) {}
  -- structure
  match f.blocks[0]? with
  | some b => errIf (!b.phis.isEmpty) "phi in the first block"
  | none => pure ()
  match f.blocks[n - 1]? with
  | some b => errIf b.term.isNone s!"last block @{b.label} does not end with a jump"
  | none => pure ()
  -- instructions, jumps
  let succs := succArray f fi
  let preds := predArray n succs
  for bi in [0:n] do
    match f.blocks[bi]? with
    | none => pure ()
    | some b =>
      for i in b.ins do
        match checkIns sigs types tc i with
        | .error e => throw s!"@{b.label}: {e}"
        | .ok () => pure ()
      match b.term with
      | some j =>
        match checkJump f fi tc j with
        | .error e => throw s!"@{b.label}: {e}"
        | .ok () => pure ()
      | none => pure ()
      -- phis: sources are exactly the predecessors
      let predLabels := (preds.getD bi []).filterMap fun p => (f.blocks[p]?).map (·.label)
      for ph in b.phis do
        match noDupCheck (ph.srcs.map (·.1)) {} with
        | some l => throw s!"@{b.label}: phi %{ph.res} has several sources for @{l}"
        | none => pure ()
        for (l, v) in ph.srcs do
          errIf (!fi.labelIdx.contains l) s!"@{b.label}: phi %{ph.res} names unknown label @{l}"
          errIf (!predLabels.contains l)
            s!"@{b.label}: phi %{ph.res} has a source for @{l}, which is not a predecessor"
          match undefinedTmp tc [v] with
          | some t => throw s!"@{b.label}: temporary %{t} is used but never defined"
          | none => pure ()
          errIf (!argOk tc ph.k v) s!"@{b.label}: phi %{ph.res} source has the wrong class"
        for l in predLabels do
          errIf (!(ph.srcs.any (·.1 == l)))
            s!"@{b.label}: phi %{ph.res} has no source for predecessor @{l}"

/-- Human-readable reason why `flowOk` rejected the function (unverified). -/
def explainFlow (f : Func) (c : FnCert) : String :=
  let fi := FuncInfo.of f
  let n := f.blocks.size
  let r : Except String Unit := do
    for bi in [0:n] do
      match f.blocks[bi]? with
      | none => pure ()
      | some b =>
        if c.reach.testBit bi then
          for ii in [0:b.ins.size] do
            match b.ins[ii]? with
            | some i =>
              for v in i.operands do
                match v with
                | .tmp t =>
                  errIf (!defBefore f c bi ii t) s!"@{b.label}: use of %{t} is not dominated by its definition"
                | _ => pure ()
            | none => pure ()
          match b.term with
          | some j =>
            for v in j.operands do
              match v with
              | .tmp t =>
                errIf (!defBefore f c bi b.ins.size t) s!"@{b.label}: use of %{t} in the jump is not dominated by its definition"
              | _ => pure ()
          | none => pure ()
          match succIdx fi bi b with
          | none => throw s!"@{b.label}: jump to unknown label"
          | some ss =>
            for s in ss do
              match f.blocks[s]? with
              | none => throw s!"@{b.label}: control falls off the end of the function"
              | some sb =>
                for ph in sb.phis do
                  match ph.srcs.find? (fun src => src.1 == b.label) with
                  | none => throw s!"@{sb.label}: phi %{ph.res} has no source for @{b.label}"
                  | some (_, .tmp t) =>
                    errIf (!defBefore f c bi b.ins.size t) s!"@{sb.label}: phi source %{t} is not defined at the end of @{b.label}"
                  | some _ => pure ()
  match r with
  | .error e => e
  | .ok () => "internal: dominator certificate rejected"

/-- All jump targets name a block of the function (also in unreachable blocks). -/
def labelsOk (f : Func) : Bool :=
  f.blocks.toList.all fun b =>
    match b.term with
    | some j => j.targets.all fun l => (FuncInfo.of f).labelIdx.contains l
    | none => true

def wfFunc (sigs : SigMap) (types : Std.HashSet String) (f : Func) : Except String Unit :=
  match noDupCheck (f.allDefs.map (·.1)) {} with
  | some t => .error s!"temporary %{t} defined more than once"
  | none =>
    if !labelsOk f then .error "jump to an unknown label" else
    match wfFuncPre sigs types f with
    | .error e => .error e
    | .ok () =>
      let c := computeCert f
      if flowOk f c then .ok () else .error (explainFlow f c)

/-! ## Module checks -/

def isPow2 (n : Nat) : Bool := n > 0 && n &&& (n - 1) == 0

def wfType (types : Std.HashSet String) (t : TypeDef) : Except String Unit := do
  errIf (types.contains t.name) s!"type :{t.name} defined twice"
  match t.align with
  | some a => errIf (!isPow2 a) s!"type :{t.name}: alignment {a} is not a power of two"
  | none => pure ()
  let chk (fs : List (FieldTy × Nat)) : Except String Unit :=
    for (ft, _) in fs do
      match ft with
      | .agg n =>
        errIf (!types.contains n) s!"type :{t.name}: member type :{n} is not defined earlier"
      | _ => pure ()
  match t.body with
  | .struct fs => chk fs
  | .union alts => for fs in alts do chk fs
  | .opaque _ => errIf t.align.isNone s!"opaque type :{t.name} without alignment"

def wfData (d : DataDef) : Except String Unit := do
  match d.align with
  | some a => errIf (!isPow2 a) s!"data ${d.name}: alignment {a} is not a power of two"
  | none => pure ()
  for it in d.items do
    match it with
    | .zero _ => pure ()
    | .vals t vs =>
      for v in vs do
        match v, t with
        | .str _, .b => pure ()
        | .str _, _ => throw s!"data ${d.name}: string in a non-byte item"
        | .fs _, .s => pure ()
        | .fs _, _ => throw s!"data ${d.name}: s_ literal in a non-s item"
        | .fd _, .d => pure ()
        | .fd _, _ => throw s!"data ${d.name}: d_ literal in a non-d item"
        | .sym _ _, .l => pure ()
        | .sym _ _, _ => throw s!"data ${d.name}: symbol in a non-l item"
        | .int _, _ => pure ()

def Func.sig (f : Func) : Sig := ⟨f.ret, f.params.map (·.1), f.variadic⟩

def wfDefs (sigs : SigMap) : List Def → Std.HashSet String → Std.HashSet String →
    Except String Unit
  | [], _, _ => .ok ()
  | .type t :: rest, types, syms =>
    match wfType types t with
    | .error e => .error e
    | .ok () => wfDefs sigs rest (types.insert t.name) syms
  | .data d :: rest, types, syms =>
    if syms.contains d.name then .error s!"symbol ${d.name} defined twice" else
    match wfData d with
    | .error e => .error e
    | .ok () => wfDefs sigs rest types (syms.insert d.name)
  | .func f :: rest, types, syms =>
    if syms.contains f.name then .error s!"symbol ${f.name} defined twice" else
    match wfFunc sigs types f with
    | .error e => .error s!"function ${f.name}: {e}"
    | .ok () => wfDefs sigs rest types (syms.insert f.name)

def wf (m : Module) : Except String Unit :=
  let sigs : SigMap := m.funcs.foldl (fun h f => h.insertIfNew f.name f.sig) {}
  wfDefs sigs m.defs.toList {} {}

end CprocVerif.Qbe
