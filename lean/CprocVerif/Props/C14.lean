import CprocVerif.Lemmas.CharLitScan
import CprocVerif.Gen.Targets

/-!
# C14 — character constants and string literals denote the standard-mandated values

Theorems relating the model of `/repo/utf.c`, `/repo/expr.c` (`decodechar`, `encodechar*`,
`stringconcat`, `primaryexpr` case `TCHARCONST`), the literal part of `/repo/scan.c` and the
`alltargs` table of `/repo/targ.c` (`Model/CharLit.lean`) to `Spec/Unicode.lean` (RFC 3629, UTF-16,
C11 6.4.4.4 / 6.4.5 + the documented C23 `u8` rule).  No theorem bounds the length of a literal,
the number of adjacent tokens, the number of hexadecimal digits or the byte values that follow.

One clause of the property is false for the code as it is (known finding `escape-out-of-range`):
octal/hexadecimal escapes whose value does not fit the element type (and hexadecimal escapes
≥ 2^32, which wrap in `decodechar`) are accepted and truncated instead of being rejected.  The
full-strength statements are kept as `…_full`, refuted by `…_counterexample`, and proved with the
excluding hypothesis as `…_partial`.
-/

namespace CprocVerif.CharLit
open CprocVerif.Unicode

/-- Name of the `struct type` object a model type stands for. -/
def ctypeName : CType → String
  | .char => "typechar" | .uchar => "typeuchar" | .ushort => "typeushort" | .int => "typeint" | .uint => "typeuint"

def x86 : Target := ⟨"x86_64-sysv", true, .int⟩
def a64 : Target := ⟨"aarch64", false, .uint⟩
def rv64 : Target := ⟨"riscv64", false, .int⟩

/-- `"a\x41€" u"\101😀\n"` (two tokens, second with prefix `u`): source characters of 1, 3 and 4
UTF-8 bytes, a hexadecimal, an octal and a simple escape. -/
def exParts : List Part :=
  [(.none, [.chr 0x61, .hex [0x34, 0x31], .chr 0x20AC]), (.u, [.oct [0x31, 0x30, 0x31], .chr 0x1F600, .simple 0x6E])]

end CprocVerif.CharLit

namespace CprocVerif.C14
open CprocVerif.CharLit CprocVerif.Unicode

/-- `utf8enc` is the RFC 3629 encoding on scalar values and asserts on everything else. -/
theorem utf8enc_spec (c : Nat) (hc : c < 2 ^ 32) :
    utf8enc c = if isScalar c then some (utf8Encode c) else none := utf8enc_eq c hc

/-- `decodechar` passes `n = 4`. -/
theorem utf8_roundtrip {c : Nat} (hc : isScalar c) (rest : List Nat) (n : Nat)
    (hn : (utf8Encode c).length ≤ n) :
    utf8dec (utf8Encode c ++ rest) n = some (c, (utf8Encode c).length) := by
  unfold utf8dec; rw [utf8decR_encode hc rest hn]

theorem utf8_roundtrip_model {c : Nat} {bs : List Nat} (hc : c < 2 ^ 32) (h : utf8enc c = some bs)
    (rest : List Nat) : utf8dec (bs ++ rest) 4 = some (c, bs.length) := by
  rw [utf8enc_eq c hc] at h
  by_cases hs : isScalar c
  · rw [if_pos hs] at h; cases h
    exact utf8_roundtrip hs rest 4 (utf8Encode_length_le c).2
  · rw [if_neg hs] at h; cases h

/-- Whatever `utf8dec` accepts is in canonical (shortest) form: no overlong forms, no surrogates, nothing above
U+10FFFF. -/
theorem utf8dec_canonical {bs : List Nat} {n c l : Nat} (hne : bs ≠ []) (hb : ∀ b ∈ bs, b < 256)
    (h : utf8dec bs n = some (c, l)) :
    isScalar c ∧ bs.take l = utf8Encode c ∧ utf8enc c = some (bs.take l) := by
  obtain ⟨hc, _, ht⟩ := utf8dec_eq_utf8Encode hne hb h
  exact ⟨hc, ht, by rw [utf8enc_eq c (isScalar_lt32 hc), if_pos hc, ht]⟩

/-- `utf8dec` reads `s[0] .. s[r-1]` only, `r = (utf8decR bs n).2`.  The fourth conjunct (all bytes before the last one
read are non-zero) says that no byte after a NUL terminator is read. -/
theorem utf8dec_total_safe (bs : List Nat) (n : Nat) :
    1 ≤ (utf8decR bs n).2 ∧ (utf8decR bs n).2 ≤ 4 ∧ ((utf8decR bs n).2 ≤ n ∨ (utf8decR bs n).2 = 1) ∧
    (∀ i, i + 1 < (utf8decR bs n).2 → rd bs i ≠ 0) ∧
    (∀ bs', bs'.take (utf8decR bs n).2 = bs.take (utf8decR bs n).2 → utf8decR bs' n = utf8decR bs n) ∧
    (∀ c l, utf8dec bs n = some (c, l) → l = (utf8decR bs n).2) := by
  unfold utf8dec
  rcases utf8decR_cases bs n with h1 | ⟨x, l, hl, hn⟩
  · rw [utf8decR_one h1]
    refine ⟨Nat.le_refl 1, by omega, Or.inr rfl, fun i hi => absurd hi (by omega), fun bs' ht => ?_,
      fun c l h => ?_⟩
    · have e : rd bs' 0 = rd bs 0 := rd_eq_of_take ht (Nat.lt_succ_self 0)
      rw [utf8decR_one (e ▸ h1), e]
    · dsimp only at h; split at h <;> cases h; rfl
  · have hl4 : 2 ≤ l ∧ l ≤ 4 ∧ 0xC0 ≤ rd bs 0 := by have := (lead_iff (rd_lt bs 0)).1 hl; omega
    obtain ⟨a, b, c, d, e⟩ := contLoop_reads (l - 1) bs.tail x 1
    rw [utf8decR_multi hl hn, accept_snd]
    refine ⟨a, by omega, by omega, fun i hi => ?_, fun bs' ht => ?_, fun c' l' h => ?_⟩
    · cases i with
      | zero => omega
      | succ i => rw [← rd_tail]; have := (c i (by omega)).1; omega
    · have e0 : rd bs' 0 = rd bs 0 := rd_eq_of_take ht (by omega)
      rw [utf8decR_multi (e0 ▸ hl) hn,
        e bs'.tail fun i hi => by rw [rd_tail, rd_tail]; exact rd_eq_of_take ht (by omega)]
    · obtain ⟨hloop, rfl, -⟩ := accept_some.1 (eq_mk_snd h)
      have := d c' (congrArg Prod.fst hloop); omega

/-- The spec's two descriptions of UTF-8 agree: the ABNF of RFC 3629 section 4 accepts exactly
the encodings (section 3) of the scalar values. -/
theorem wellFormed8_iff_encode (w : List Nat) : WellFormed8 w ↔ ∃ c, isScalar c ∧ w = utf8Encode c :=
  ⟨wellFormed_decode, fun ⟨_, hc, e⟩ => e ▸ wellFormed_encode hc⟩

theorem utf8dec_wellformed {bs : List Nat} {n c l : Nat} (hne : bs ≠ []) (hb : ∀ b ∈ bs, b < 256)
    (h : utf8dec bs n = some (c, l)) : WellFormed8 (bs.take l) := by
  obtain ⟨hc, _, ht⟩ := utf8dec_eq_utf8Encode hne hb h
  exact ht ▸ wellFormed_encode hc

/-- Every byte string none of whose prefixes is a well-formed UTF-8 character — a stray
continuation byte, `C0`/`C1`/`F5`..`FF`, a truncated sequence, an overlong form, an encoded
surrogate, a value above U+10FFFF — is rejected. -/
theorem utf8dec_rejects_invalid {bs : List Nat} {n : Nat} (hne : bs ≠ []) (hb : ∀ b ∈ bs, b < 256)
    (hbad : ∀ l, l ≤ 4 → ¬ WellFormed8 (bs.take l)) : utf8dec bs n = none := by
  cases h : utf8dec bs n with
  | none => rfl
  | some cn =>
    obtain ⟨c, l⟩ := cn
    obtain ⟨_, hl, _⟩ := utf8dec_eq_utf8Encode hne hb h
    exact absurd (utf8dec_wellformed hne hb h) (hbad l (hl ▸ (utf8Encode_length_le c).2))

theorem utf8dec_accepts_wellformed {bs : List Nat} {n l : Nat} (hl : l ≤ bs.length) (hn : l ≤ n)
    (hw : WellFormed8 (bs.take l)) : ∃ c, isScalar c ∧ utf8dec bs n = some (c, l) := by
  obtain ⟨c, hc, e⟩ := wellFormed_decode hw
  have hlen : l = (utf8Encode c).length := by rw [← e, List.length_take]; omega
  refine ⟨c, hc, ?_⟩
  have := utf8_roundtrip hc (bs.drop l) n (by omega)
  rw [← e, List.take_append_drop] at this
  rw [this, e, ← hlen]

/-- A character position holding ill-formed UTF-8 makes `decodechar` end the compilation with the diagnostic
"… contains invalid UTF-8". -/
theorem decodechar_rejects_invalid {bs : List Nat} (hne : bs ≠ []) (hb : ∀ b ∈ bs, b < 256)
    (h5c : bs.headD 0 ≠ 0x5c) (hbad : ∀ l, l ≤ 4 → ¬ WellFormed8 (bs.take l)) :
    decodechar bs = .error .invalidUtf8 := by
  unfold decodechar
  rw [if_neg h5c, utf8dec_rejects_invalid hne hb hbad]

theorem utf16enc_spec (c : Nat) (hc : c < 2 ^ 32) :
    utf16enc c = if isScalar c then some (utf16Encode c) else none := utf16enc_eq c hc

theorem utf16_roundtrip {c : Nat} (hc : isScalar c) (rest : List Nat) :
    ∃ us, utf16enc c = some us ∧ (us.length = 1 ∨ us.length = 2) ∧ (∀ u ∈ us, u < 2 ^ 16) ∧
      utf16Decode (us ++ rest) = some (c, us.length) := by
  refine ⟨utf16Encode c, by rw [utf16enc_eq c (isScalar_lt32 hc), if_pos hc], ?_⟩
  unfold isScalar at hc
  unfold utf16Encode
  by_cases h : c < 0x10000
  · rw [if_pos h]
    refine ⟨Or.inl rfl, fun u hu => by simp at hu; omega, ?_⟩
    simp only [List.cons_append, utf16Decode, List.length_cons, List.length_nil]
    rw [if_pos (by omega)]
  · rw [if_neg h]
    refine ⟨Or.inr rfl, fun u hu => by simp at hu; omega, ?_⟩
    simp only [List.cons_append, utf16Decode, List.length_cons, List.length_nil]
    rw [if_neg (by omega), if_pos (by omega), if_pos (by omega)]
    simp only [Option.some.injEq, Prod.mk.injEq, and_true]; omega

/-- `decodechar`'s table of simple escapes is the table of 6.4.4.4. -/
theorem simple_escape_table (ch : Nat) : simpleEsc ch = simpleEscape ch := simpleEsc_eq ch

theorem simple_escape_correct {ch v : Nat} (rest : List Nat) (h : simpleEscape ch = some v) :
    decodechar (0x5c :: ch :: rest) = .ok (v, false, 2) := by
  have := decodechar_item (q := 0) (it := .simple ch) (Option.isSome_iff_exists.2 ⟨v, h⟩) rest trivial
  rwa [itemChr, h] at this

/-- `hrest`: the escape is maximal (3 digits, or followed by a non-octal character such as `8`). -/
theorem octal_escape_correct {ds : List Nat} (rest : List Nat) (h1 : 1 ≤ ds.length) (h3 : ds.length ≤ 3)
    (hds : ∀ d ∈ ds, isOctDigit d) (hrest : ds.length = 3 ∨ ¬ isOctDigit (rest.headD 0)) :
    decodechar (0x5c :: ds ++ rest) = .ok (digitsValue 8 ds, true, 1 + ds.length) :=
  Nat.add_comm ds.length 1 ▸ decodechar_item (q := 0) (it := .oct ds) ⟨h1, h3, hds⟩ rest hrest

/-- The value is taken **modulo 2^32**: the accumulator of `decodechar` is a `uint_least32_t`. -/
theorem hex_escape_correct {ds : List Nat} (rest : List Nat) (h1 : 1 ≤ ds.length)
    (hds : ∀ d ∈ ds, isHexDigit d) (hrest : ¬ isHexDigit (rest.headD 0)) :
    decodechar (0x5c :: 0x78 :: ds ++ rest) = .ok (digitsValue 16 ds % 2 ^ 32, true, 2 + ds.length) :=
  Nat.add_comm ds.length 2 ▸ decodechar_item (q := 0) (it := .hex ds) ⟨h1, hds⟩ rest hrest

def hex_escape_full : Prop :=
  ∀ (ds rest : List Nat), 1 ≤ ds.length → (∀ d ∈ ds, isHexDigit d) → ¬ isHexDigit (rest.headD 0) →
    decodechar (0x5c :: 0x78 :: ds ++ rest) = .ok (digitsValue 16 ds, true, 2 + ds.length) ∨
    ∃ e, decodechar (0x5c :: 0x78 :: ds ++ rest) = .error e

/-- `"\x100000041"` is decoded as `0x41`. -/
theorem hex_escape_counterexample : ¬ hex_escape_full := fun h => by
  rcases h [0x31, 0x30, 0x30, 0x30, 0x30, 0x30, 0x30, 0x34, 0x31] [0x22] (by decide) (by decide) (by decide)
    with h1 | ⟨_, h1⟩
  · exact absurd (congrArg (fun r => r.toOption.map (·.1)) h1) (by decide)
  · cases h1

theorem hex_escape_partial {ds : List Nat} (rest : List Nat) (h1 : 1 ≤ ds.length)
    (hds : ∀ d ∈ ds, isHexDigit d) (hrest : ¬ isHexDigit (rest.headD 0)) (hv : digitsValue 16 ds < 2 ^ 32) :
    decodechar (0x5c :: 0x78 :: ds ++ rest) = .ok (digitsValue 16 ds, true, 2 + ds.length) := by
  rw [hex_escape_correct rest h1 hds hrest, Nat.mod_eq_of_lt hv]

/-- The model's target table is the one generated from `/repo/targ.c` on this run
(`Gen/Targets.lean`: name, `.typewchar`, `.signedchar` of every `alltargs[]` entry). -/
theorem targets_match_source :
    alltargs.map (fun t => (t.name, ctypeName t.wchar, t.charSigned)) =
      Gen.Targets.table.map (fun r => (r.name, r.wchar, r.signedchar)) := by decide

/-- `alltargs[]` of targ.c states the psABI facts (char signedness, `wchar_t`) of the spec. -/
theorem targets_match_abi : alltargs = abiTargets := rfl

/-- The element type chosen by `stringconcat` is the one of 6.4.5p6 (with the C23 rule for `u8`). -/
theorem string_elemtype_correct (t : Target) (p : Prefix) :
    kindType t (code p) = .ok (elemType t p) ∧ tsize (elemType t p) = (elemType t p).size := by
  exact ⟨kindType_code t p, tsize_eq _⟩

theorem elemType_c11 (t : Target) (p : Prefix) (h : p ≠ .u8) : elemType t p = elemTypeC11 t p := by
  cases p <;> first | rfl | exact absurd rfl h

/-- First loop of `stringconcat` against 6.4.5p5: both the constraint violation (`u8` with a wide prefix) and the
implementation-defined mixtures of different wide prefixes are rejected, with the same diagnostic. -/
theorem concat_prefix_correct (parts : List Part) :
    collect (parts.map Part.spell) 0 =
      match concatPrefix (parts.map (·.1)) with
      | .ok p => .ok (code p, bodies parts, lens parts)
      | _ => .error .prefixMismatch := by
  rw [collect_spelled_none]
  cases concatPrefix (parts.map (·.1)) <;> rfl

/-- **What cproc computes** for adjacent string literal tokens, scanner included (every token one `TSTRINGLIT`).
Numeric escapes enter with their *truncated* value (`modelUnits`); the third field is the allocation: one element per
source byte of the items, plus one. -/
theorem string_model (t : Target) (parts : List Part) (hne : parts ≠ [])
    (hwf : ∀ p ∈ parts, ItemsWf 0x22 p.2) :
    stringLiteral t (parts.map Part.spell) =
      match concatPrefix (parts.map (·.1)) with
      | .ok p => .ok ⟨elemType t p,
          modelUnits (elemType t p).size (parts.map (·.2)).flatten ++ [0],
          (spellAll (parts.map (·.2)).flatten).length + 1⟩
      | _ => .error .prefixMismatch := by
  unfold stringLiteral
  rw [mapM_scanWhole parts hwf]
  have h1 : ((parts.map fun p => (true, p.spell)).all (·.1) &&
      (parts.map fun p => (true, p.spell)) ≠ []) = true := by
    cases parts with
    | nil => exact absurd rfl hne
    | cons p ps => simp
  simp only [h1, if_true, List.map_map]
  exact stringconcat_spelled t parts hwf

/-- The elements written never exceed the allocation (`len` counts source bytes, and no item
produces more units than it has source bytes). -/
theorem string_buffer_safe (t : Target) (parts : List Part) (hne : parts ≠ [])
    (hwf : ∀ p ∈ parts, ItemsWf 0x22 p.2) {r : StrLit}
    (h : stringLiteral t (parts.map Part.spell) = .ok r) : r.units.length ≤ r.alloc := by
  rw [string_model t parts hne hwf] at h
  cases hc : concatPrefix (parts.map (·.1)) with
  | ok p =>
    rw [hc] at h
    cases h
    have := modelUnits_length_le (elemType t p).size (parts.map (·.2)).flatten
    simp only [List.length_append, List.length_cons, List.length_nil]
    omega
  | constraint => rw [hc] at h; cases h
  | implDefined => rw [hc] at h; cases h

def string_values_full : Prop :=
  ∀ (t : Target) (parts : List Part), parts ≠ [] → (∀ p ∈ parts, ItemsWf 0x22 p.2) →
    match stringLit t parts with
    | .ok ty us => ∃ alloc, stringLiteral t (parts.map Part.spell) = .ok ⟨ty, us, alloc⟩
    | .constraint => ∃ e, stringLiteral t (parts.map Part.spell) = .error e ∧ e.isDiagnostic = true
    | .implDefined => True

/-- `char s[] = "\x141";` violates 6.4.4.4p9 but is accepted as `{0x41, 0}`. -/
theorem string_values_counterexample : ¬ string_values_full := fun h => by
  obtain ⟨_, he, _⟩ := h x86 [(.none, [.hex [0x31, 0x34, 0x31]])] (by decide) (by decide)
  cases he

/-- `hr`: the numeric escapes fit the element type (6.4.4.4p9), which excludes the finding `escape-out-of-range`. -/
theorem string_values_partial (t : Target) (parts : List Part) (hne : parts ≠ [])
    (hwf : ∀ p ∈ parts, ItemsWf 0x22 p.2)
    (hr : ∀ p, concatPrefix (parts.map (·.1)) = .ok p →
      ∀ it ∈ (parts.map (·.2)).flatten, InRange (elemType t p).size it) :
    match stringLit t parts with
    | .ok ty us => ∃ alloc, stringLiteral t (parts.map Part.spell) = .ok ⟨ty, us, alloc⟩ ∧ us.length ≤ alloc
    | .constraint => ∃ e, stringLiteral t (parts.map Part.spell) = .error e ∧ e.isDiagnostic = true
    | .implDefined => ∃ e, stringLiteral t (parts.map Part.spell) = .error e ∧ e.isDiagnostic = true := by
  have hm := string_model t parts hne hwf
  have hsafe := fun r => string_buffer_safe t parts hne hwf (r := r)
  unfold stringLit
  cases hc : concatPrefix (parts.map (·.1)) with
  | ok p =>
    rw [hc] at hm
    simp only [itemsUnits_eq (size_cases _) (flatten_wf hwf) (hr p hc)]
    exact ⟨_, hm, hsafe _ hm⟩
  | constraint => rw [hc] at hm; exact ⟨_, hm, rfl⟩
  | implDefined => rw [hc] at hm; exact ⟨_, hm, rfl⟩

theorem string_values_correct (t : Target) (parts : List Part) (hne : parts ≠ [])
    (hwf : ∀ p ∈ parts, ItemsWf 0x22 p.2) {p : Prefix} {us : List Nat}
    (hp : concatPrefix (parts.map (·.1)) = .ok p)
    (hu : itemsUnits (elemType t p).size (parts.map (·.2)).flatten = some us) :
    ∃ alloc, stringLiteral t (parts.map Part.spell) = .ok ⟨elemType t p, us ++ [0], alloc⟩ ∧
      (us ++ [0]).length ≤ alloc := by
  have hr := inRange_of_itemsUnits hu
  have := string_values_partial t parts hne hwf (fun p' hp' => by rw [hp] at hp'; cases hp'; exact hr)
  unfold stringLit at this
  rw [hp] at this
  simp only [hu] at this
  exact this

theorem string_rejects_bad_prefix (t : Target) (parts : List Part) (hne : parts ≠ [])
    (hwf : ∀ p ∈ parts, ItemsWf 0x22 p.2) (h : ∀ p, concatPrefix (parts.map (·.1)) ≠ .ok p) :
    stringLiteral t (parts.map Part.spell) = .error .prefixMismatch := by
  rw [string_model t parts hne hwf]
  cases hc : concatPrefix (parts.map (·.1)) with
  | ok p => exact absurd hc (h p)
  | constraint => rfl
  | implDefined => rfl

/-- **What cproc computes**, scanner included (one `TCHARCONST`): the decoded value, sign-extended when the character
type (`char` for a plain constant) is signed on the target. -/
theorem charconst_model (t : Target) (p : Prefix) {it : Item} (hwf : it.wf 0x27) :
    charLiteral t (spellChar p it) =
      .ok (charConstType t p, charValue t (charConstObjType t p) (itemChr it)) := by
  unfold charLiteral
  rw [scanWhole_char p hwf]
  exact charconst_spelled t p hwf

/-- Type and value of 6.4.4.4p10/p11: a plain constant has type `int` and the value of a `char`. -/
def charconst_type_value_full : Prop :=
  ∀ (t : Target) (p : Prefix) (it : Item), it.wf 0x27 →
    match charConst t p it with
    | .ok ty v => charLiteral t (spellChar p it) = .ok (ty, repr64 v)
    | .constraint => ∃ e, charLiteral t (spellChar p it) = .error e ∧ e.isDiagnostic = true
    | .implDefined => True

/-- `int c = '\x100';` violates 6.4.4.4p9 but is accepted with value 256. -/
theorem charconst_type_value_counterexample : ¬ charconst_type_value_full := fun h => by
  obtain ⟨_, he, _⟩ := h x86 .none (.hex [0x31, 0x30, 0x30]) (by decide)
  cases he

/-- `h`: the standard defines the value (character or escape in range of the type). -/
theorem charconst_type_value_partial (t : Target) (p : Prefix) {it : Item} (hwf : it.wf 0x27)
    {ty : CType} {v : Int} (h : charConst t p it = .ok ty v) :
    charLiteral t (spellChar p it) = .ok (ty, repr64 v) := by
  rw [charconst_model t p hwf]
  have hmax : 0x7F ≤ maxUnit (charConstObjType t p).size ∧ maxUnit (charConstObjType t p).size < 2 ^ 32 := by
    unfold maxUnit
    rcases size_cases (charConstObjType t p) with e | e | e <;> rw [e] <;> decide
  have fin : ∀ x, x ≤ maxUnit (charConstObjType t p).size → itemChr it = x →
      (Except.ok (charConstType t p, charValue t (charConstObjType t p) (itemChr it)) : Except Err (CType × Nat)) =
        .ok (charConstType t p, repr64 ((charConstObjType t p).wrap t x)) :=
    fun x hx hi => by rw [hi, charValue_eq t _ x hx]
  have small : ∀ x, x < 0x80 → x ≤ maxUnit (charConstObjType t p).size := fun x hx => by omega
  unfold charConst at h
  cases it with
  | chr c =>
    cases p <;> simp only at h <;> split at h <;> cases h <;> rename_i hr
    · exact fin c (small c hr) rfl
    · exact fin c (small c hr) rfl
    · exact fin c hr rfl
    · exact fin c hr rfl
    · exact fin c hr rfl
  | simple ch =>
    obtain ⟨x, hx⟩ := Option.isSome_iff_exists.1 hwf
    simp only [hx] at h
    cases h
    exact fin x (small x (simpleEscape_lt hx).1) (by rw [itemChr, hx]; rfl)
  | oct ds =>
    simp only at h
    split at h <;> cases h
    exact fin _ ‹_› rfl
  | hex ds =>
    simp only at h
    split at h <;> cases h
    exact fin _ ‹_› (Nat.mod_eq_of_lt (Nat.lt_of_le_of_lt ‹_› hmax.2))

/-- The type is the one of 6.4.4.4 (C23 `unsigned char` for `u8`) also where the value is not: escape out of range. -/
theorem charconst_type_correct (t : Target) (p : Prefix) {it : Item} (hwf : it.wf 0x27) :
    ∃ u, charLiteral t (spellChar p it) = .ok (charConstType t p, u) :=
  ⟨_, charconst_model t p hwf⟩

/-- `'ab'`: a second item before the closing quote is diagnosed (cproc does not implement
multi-character constants, whose value would be implementation-defined). -/
theorem charconst_multi_rejected (t : Target) (p : Prefix) {a b : Item} (hwf : ItemsWf 0x27 [a, b])
    (more : List Nat) :
    charconst t (p.spell ++ 0x27 :: (a.spell ++ (b.spell ++ more))) = .error .multiChar := by
  obtain ⟨ha, hm, hb⟩ := hwf
  have hb : b.wf 0x27 := hb
  obtain ⟨b0, s, hs, hbq, _⟩ := spell_head (Or.inr rfl) hb
  rw [charconst_prefix t p _ (decodechar_item ha _ (noExtend_of_munch (Or.inr rfl) hb hm more))]
  simp only [List.drop_left, hs, List.cons_append, List.headD_cons, ne_eq, hbq, not_false_eq_true, if_true]

/-- `scankind`: escaped quotes and backslashes inside do not end the token; `ItemsWf` has the maximal munch of numeric
escapes of 6.4.4.4p7. -/
theorem scan_accepts_wellformed (pre : Prefix) (q : Nat) (hq : q = 0x22 ∨ q = 0x27) (items : List Item)
    (hwf : ItemsWf q items) (rest : List Nat) :
    scanLiteral (pre.spell ++ q :: (spellAll items ++ q :: rest)) =
      .ok (q == 0x22, pre.spell ++ q :: (spellAll items ++ [q]), rest) :=
  scanLiteral_quote hq pre items hwf rest

example : alltargs = [x86, a64, rv64] := rfl

-- utf8_roundtrip / utf16_roundtrip: every UTF-8 length, both UTF-16 lengths
example : isScalar 0x41 ∧ isScalar 0xE9 ∧ isScalar 0x20AC ∧ isScalar 0x1F600 ∧ isScalar 0x10FFFF ∧
    ¬ isScalar 0xD800 ∧ ¬ isScalar 0xDFFF ∧ ¬ isScalar 0x110000 := by decide
example : utf8enc 0x1F600 = some [0xF0, 0x9F, 0x98, 0x80] ∧ utf8enc 0x20AC = some [0xE2, 0x82, 0xAC] ∧
    utf8enc 0xD800 = none ∧ utf8enc 0x110000 = none := by decide
example : utf16enc 0x1F600 = some [0xD83D, 0xDE00] ∧ utf16enc 0xFFFF = some [0xFFFF] ∧
    utf16enc 0xDC00 = none := by decide
example : utf8dec [0xF0, 0x9F, 0x98, 0x80, 0x41] 4 = some (0x1F600, 4) := by decide
-- utf8dec_canonical: a 5-byte text starting with a 4-byte character
example : ([0xF0, 0x9F, 0x98, 0x80, 0x41] : List Nat) ≠ [] ∧ (∀ b ∈ [0xF0, 0x9F, 0x98, 0x80, 0x41], b < 256) := by
  decide
-- utf8dec_rejects_invalid: one witness per class of ill-formed input
example : ∀ bs ∈ ([[0x80], [0xBF, 0x41], [0xC0, 0x80], [0xC1, 0xBF], [0xE0, 0x80, 0x80], [0xE0, 0x9F, 0xBF],
    [0xED, 0xA0, 0x80], [0xED, 0xBF, 0xBF], [0xF0, 0x80, 0x80, 0x80], [0xF0, 0x8F, 0xBF, 0xBF],
    [0xF4, 0x90, 0x80, 0x80], [0xF5, 0x80, 0x80, 0x80], [0xF8, 0x88, 0x80, 0x80, 0x80], [0xFF],
    [0xC3], [0xE2, 0x82], [0xF0, 0x9F, 0x98], [0xC3, 0x41], [0xE2, 0x82, 0x22], [0xF0, 0x9F, 0x98, 0x22]] :
      List (List Nat)),
    bs ≠ [] ∧ (∀ b ∈ bs, b < 256) ∧ (∀ l, l ≤ 4 → ¬ WellFormed8 (bs.take l)) ∧ utf8dec bs 4 = none := by
  decide +kernel
-- utf8dec_accepts_wellformed
example : WellFormed8 (([0xED, 0x9F, 0xBF, 0x41] : List Nat).take 3) := by decide
-- utf8dec_total_safe: a truncated 3-byte sequence before the terminator reads 3 bytes (the third is
-- the NUL), a lead byte with limit 1 reads 1
example : (utf8decR [0xE2, 0x82] 4).2 = 3 ∧ (utf8decR [0xE2, 0x82, 0xAC] 1).2 = 1 ∧
    (utf8decR [0xE2, 0x41, 0xAC] 4).2 = 2 ∧ (utf8decR [0xF0, 0x9F, 0x98, 0x80] 4).2 = 4 := by decide

-- octal_escape_correct: "\18" is the escape \1 followed by the character 8; "\1234" is \123 then 4
example : decodechar [0x5c, 0x31, 0x38, 0x22] = .ok (1, true, 2) := rfl
example : decodechar [0x5c, 0x31, 0x32, 0x33, 0x34] = .ok (83, true, 4) := rfl
example : (1 ≤ [0x31].length ∧ [0x31].length ≤ 3 ∧ ∀ d ∈ [0x31], isOctDigit d) ∧
    ¬ isOctDigit (([0x38, 0x22] : List Nat).headD 0) := by decide
-- hex_escape_correct / hex_escape_partial: "\x41G", eight digits
example : decodechar [0x5c, 0x78, 0x34, 0x31, 0x47] = .ok (0x41, true, 4) := rfl
example : (∀ d ∈ [0x66, 0x46, 0x66, 0x46, 0x66, 0x46, 0x66, 0x45], isHexDigit d) ∧
    digitsValue 16 [0x66, 0x46, 0x66, 0x46, 0x66, 0x46, 0x66, 0x45] = 0xFFFFFFFE ∧
    ¬ isHexDigit (([0x47] : List Nat).headD 0) := by decide
-- simple_escape_correct
example : simpleEscape 0x6E = some 10 ∧ simpleEscape 0x71 = none := by decide

-- string_model / string_values_partial / string_values_correct / string_buffer_safe
example : exParts ≠ [] ∧ (∀ p ∈ exParts, ItemsWf 0x22 p.2) ∧ concatPrefix (exParts.map (·.1)) = .ok .u ∧
    (∀ it ∈ (exParts.map (·.2)).flatten, InRange (elemType a64 .u).size it) := by decide
example : stringLit a64 exParts = .ok .ushort [0x61, 0x41, 0x20AC, 0x41, 0xD83D, 0xDE00, 10, 0] := by decide
example : stringLiteral a64 (exParts.map Part.spell) =
    .ok ⟨.ushort, [0x61, 0x41, 0x20AC, 0x41, 0xD83D, 0xDE00, 10, 0], 19⟩ := by rfl
example : (exParts.map Part.spell) =
    [[0x22, 0x61, 0x5c, 0x78, 0x34, 0x31, 0xE2, 0x82, 0xAC, 0x22],
     [0x75, 0x22, 0x5c, 0x31, 0x30, 0x31, 0xF0, 0x9F, 0x98, 0x80, 0x5c, 0x6E, 0x22]] := by decide
example : elemType x86 .L = .int ∧ elemType a64 .L = .uint ∧ elemType rv64 .L = .int := by decide
-- string_rejects_bad_prefix / concat_prefix_correct: u"a" U"b" (implementation-defined), u8"a" L"b" (constraint)
example : concatPrefix [.u, .U] = .implDefined ∧ concatPrefix [.u8, .none, .L] = .constraint ∧
    concatPrefix [.none, .u, .none, .u] = .ok .u ∧ concatPrefix [.none, .none] = .ok .none := by decide
example : stringLiteral x86 ([(.u, [.chr 0x61]), (.U, [.chr 0x62])].map Part.spell) = .error .prefixMismatch := by
  rfl
-- the munch condition matters: "\x4" "1" is two characters, "\x41" one
example : ItemsWf 0x22 [.hex [0x34], .chr 0x67] ∧ ¬ ItemsWf 0x22 [.hex [0x34], .chr 0x31] ∧
    ¬ ItemsWf 0x22 [.oct [0x31], .chr 0x37] ∧ ItemsWf 0x22 [.oct [0x31], .chr 0x38] ∧
    ItemsWf 0x22 [.oct [0x31, 0x32, 0x33], .chr 0x34] := by decide

-- charconst_type_value_partial (DESIGN's `plain_charconst_is_char`): '\xff', '\377', L'\xffffffff', u'€', U'😀'
example : charConst x86 .none (.hex [0x66, 0x66]) = .ok .int (-1) ∧
    charConst a64 .none (.hex [0x66, 0x66]) = .ok .int 255 ∧
    charConst rv64 .none (.oct [0x33, 0x37, 0x37]) = .ok .int 255 ∧
    charConst x86 .none (.oct [0x33, 0x37, 0x37]) = .ok .int (-1) ∧
    charConst x86 .L (.hex [0x66, 0x66, 0x66, 0x66, 0x66, 0x66, 0x66, 0x66]) = .ok .int (-1) ∧
    charConst a64 .L (.hex [0x66, 0x66, 0x66, 0x66, 0x66, 0x66, 0x66, 0x66]) = .ok .uint 4294967295 ∧
    charConst x86 .u (.chr 0x20AC) = .ok .ushort 0x20AC ∧ charConst x86 .U (.chr 0x1F600) = .ok .uint 0x1F600 ∧
    charConst x86 .none (.chr 0xE9) = .implDefined ∧ charConst x86 .u (.chr 0x1F600) = .implDefined ∧
    charConst x86 .u8 (.chr 0xE9) = .constraint ∧ charConst x86 .u (.hex [0x31, 0x32, 0x33, 0x34, 0x35]) = .constraint := by
  decide
example : charLiteral x86 (spellChar .none (.hex [0x66, 0x66])) = .ok (.int, 2 ^ 64 - 1) ∧
    charLiteral a64 (spellChar .none (.hex [0x66, 0x66])) = .ok (.int, 255) ∧
    charLiteral rv64 (spellChar .L (.hex [0x66, 0x66, 0x66, 0x66, 0x66, 0x66, 0x66, 0x66])) = .ok (.int, 2 ^ 64 - 1) ∧
    charLiteral x86 (spellChar .none (.simple 0x27)) = .ok (.int, 0x27) := by
  refine ⟨rfl, rfl, rfl, rfl⟩
example : (Item.hex [0x66, 0x66]).wf 0x27 ∧ (Item.chr 0x22).wf 0x27 ∧ ¬ (Item.chr 0x27).wf 0x27 ∧
    ItemsWf 0x27 [.chr 0x61, .chr 0x62] := by decide
example : repr64 (-1) = 2 ^ 64 - 1 ∧ repr64 255 = 255 := by decide

end CprocVerif.C14
