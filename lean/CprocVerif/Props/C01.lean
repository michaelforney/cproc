/-
  Property C01: semantic preservation of cproc's lowering to QBE IL.  First for fragment 𝔽₁ (pure scalar
  integer expressions over parameters, including casts, `?:`, `&&`, `||`), as a corollary of the theorem
  for 𝔽₂ (function bodies with statements, then programs with calls and arrays: the headings below).

  * source semantics: `CSem.evalC` (C11 on mathematical integers, `none` = undefined behaviour),
  * lowering: `Lower.emitFunc` (transliteration of `qbe.c`; tied to the real compiler by text
    comparison of `drv_c01 emit` with `cproc-qbe`),
  * target semantics: `Qbe.runFunc` (`Spec/Qbe.lean`).

  Theorem `lower_correct` for 𝔽₁: a well-typed function whose body has a defined value `v` on the
  arguments `ρ` is lowered to IL which, run on (representations of) `ρ`, returns a representation
  of `v` for every sufficiently large fuel — in particular it never gets stuck, traps, or touches
  memory outside its own parameter slots, and it produces no output.
-/
import CprocVerif.Lemmas.LowerFromStmt
import CprocVerif.Lemmas.Lower2Main
import CprocVerif.Model.CSem3
import CprocVerif.Spec.QbeWf

namespace CprocVerif.C01
open CprocVerif.Qbe CprocVerif.Lower CprocVerif.CSem CprocVerif.CInt CprocVerif.LowerArith
open CprocVerif.LowerMach

def prog (f : Qbe.Func) : Prog := Prog.ofModule (moduleOf f)

theorem prog_funcs (F : Qbe.Func) : (prog F).funcs[F.name]? = some (FuncInfo.of F) := by
  rw [show (prog F).funcs = _ from LowerMach2.ofModule_funcs [F]]
  show (({} : Std.HashMap String FuncInfo).insertIfNew F.name (FuncInfo.of F))[F.name]? = _
  rw [Std.HashMap.getElem?_insertIfNew, if_pos ⟨beq_self_eq_true _, Std.HashMap.not_mem_empty⟩]

theorem prog_initMem (F : Qbe.Func) : (prog F).initMem = ⟨#[], #[], stackTop⟩ :=
  LowerMach2.ofModule_initMem [F]

/-- The value-representation invariant for the returned value (`Lemmas/LowerFunc.lean`, over `Rep` of
    `Lemmas/LowerRep.lean`):
    the result has the kind of the return class (`l` for 8-byte types, `w` otherwise, upper half
    zero); for an 8-byte type its 64 bits are `v mod 2^64`, for a type of `s ≤ 4` bytes its low
    `8s` bits are `v mod 2^(8s)`. -/
abbrev RetRep := LowerMach.RetRep

theorem envOK_of_b (cs : Bool) : ∀ (ts : List CSem.Ty) (ρ : List Int), envOKb cs ts ρ = true → EnvOK cs ts ρ
  | [], [], _ => ⟨rfl, fun i t v h => by cases h⟩
  | t :: ts, v :: ρ, h => by
    simp only [envOKb, Bool.and_eq_true, decide_eq_true_eq] at h
    obtain ⟨hl, hr⟩ := envOK_of_b cs ts ρ h.2
    refine ⟨congrArg (· + 1) hl, fun i t' v' ht hv => ?_⟩
    cases i with
    | zero => cases ht; cases hv; exact h.1
    | succ i => exact hr i t' v' ht hv
  | [], _ :: _, h => by cases h
  | _ :: _, [], h => by cases h

/-- **Semantic preservation for 𝔽₁** (in any program that contains the emitted function and starts
    with an empty stack). -/
theorem lower_correct_in (cs : Bool) (startid : Nat) (f : CSem.Func) (ρ : List Int) (v : Int)
    (hwt : WT f) (henv : EnvOK cs f.params ρ) (hsmall : f.params.length ≤ 1000000)
    (hev : evalC cs ρ f.body = some v) (p : Prog) (ext : Ext)
    (hfun : p.funcs[f.name]? = some (FuncInfo.of (emitFunc cs startid f)))
    (hstack : p.initMem.stack = #[]) (hsp : p.initMem.sp = stackTop) :
    ∃ fuel₀ r, RetRep f.ret v r ∧ ∀ fuel, fuel₀ ≤ fuel →
      runFunc p ext f.name (argsOf f.params ρ) fuel = ⟨#[], .ret (.scalar r)⟩ :=
  lower_correct_prog cs startid f ρ v hwt henv hsmall hev p ext hfun hstack hsp

/-- **Semantic preservation for 𝔽₁.**  `cs`: signedness of plain `char` on the target; `startid`:
    value of `mkblock`'s counter before the function. -/
theorem lower_correct (cs : Bool) (startid : Nat) (f : CSem.Func) (ρ : List Int) (v : Int)
    (ext : Ext) (hwt : WT f) (henv : EnvOK cs f.params ρ) (hsmall : f.params.length ≤ 1000000)
    (hev : evalC cs ρ f.body = some v) :
    ∃ fuel₀ r, RetRep f.ret v r ∧ ∀ fuel, fuel₀ ≤ fuel →
      runFunc (prog (emitFunc cs startid f)) ext f.name (argsOf f.params ρ) fuel =
        ⟨#[], .ret (.scalar r)⟩ := by
  refine lower_correct_prog cs startid f ρ v hwt henv hsmall hev _ ext
    (prog_funcs (emitFunc cs startid f)) ?_ ?_
  · rw [prog_initMem]
  · rw [prog_initMem]

theorem rval_eq {r : RVal} {k : Kind} {n : Nat} (hk : r.kind = k) (hb : r.bits.toNat = n) :
    r = ⟨k, UInt64.ofNat n⟩ := by
  cases r
  subst hk hb
  simp

/-- `(argOf t v).2`: `v mod 2^32` at class `w`, `v mod 2^64` at class `l`. -/
theorem retRep_exact {t : CSem.Ty} (ht : 4 ≤ t.size) {v : Int} {r : RVal} (h : RetRep t v r) :
    r = (argOf t v).2 := by
  obtain ⟨hrep, hk, hlt⟩ := h
  obtain ⟨kind, bits⟩ := r
  unfold argOf
  by_cases hs : t.size = 8
  · rw [if_pos hs]
    obtain ⟨x, hx, hxv⟩ := (rep_l hs).1 hrep
    rw [cls_l hs] at hk
    cases hk
    cases hx
    exact rval_eq rfl (by rw [← hxv]; rfl)
  · rw [if_neg hs]
    have hs4 : t.size = 4 := by rcases size_cases t with h | h | h | h <;> omega
    obtain ⟨x, hx, hxv⟩ := (rep_w hs4).1 hrep
    rw [cls_w hs4] at hk
    have hb : bits.toNat < 2 ^ 32 := hlt (cls_w hs4)
    cases hk
    cases hx
    rw [toNat_and_mask32, Nat.mod_eq_of_lt hb,
      Int.emod_eq_of_lt (Int.natCast_nonneg _) (by exact_mod_cast hb)] at hxv
    exact rval_eq rfl (by rw [← hxv]; rfl)

theorem exact_of_retRep {t : CSem.Ty} (ht : 4 ≤ t.size) {v : Int} {run : Nat → Qbe.Outcome}
    (h : ∃ fuel₀ r, RetRep t v r ∧ ∀ fuel, fuel₀ ≤ fuel → run fuel = ⟨#[], .ret (.scalar r)⟩) :
    ∃ fuel₀, ∀ fuel, fuel₀ ≤ fuel → run fuel = ⟨#[], .ret (.scalar (argOf t v).2)⟩ := by
  obtain ⟨n, r, hr, h⟩ := h
  exact ⟨n, fun fuel hf => by rw [h fuel hf, retRep_exact ht hr]⟩

/-- `lower_correct` for functions returning `int`, `unsigned`, `long`, …: the outcome is an equation. -/
theorem lower_correct_exact (cs : Bool) (startid : Nat) (f : CSem.Func) (ρ : List Int) (v : Int)
    (ext : Ext) (hwt : WT f) (henv : EnvOK cs f.params ρ) (hsmall : f.params.length ≤ 1000000)
    (hret : 4 ≤ f.ret.size) (hev : evalC cs ρ f.body = some v) :
    ∃ fuel₀, ∀ fuel, fuel₀ ≤ fuel →
      runFunc (prog (emitFunc cs startid f)) ext f.name (argsOf f.params ρ) fuel =
        ⟨#[], .ret (.scalar (argOf f.ret v).2)⟩ :=
  exact_of_retRep hret (lower_correct cs startid f ρ v ext hwt henv hsmall hev)

/-- Stated, not proved: the emitted module passes the IL validator of C03 (`wf_sound` would then
    give the absence of "undefined temporary / unknown label / class mismatch" for ALL inputs,
    including those on which the C program is undefined).  Checked per function by `drv_c01 eval`
    (field `wf=`). -/
def emit_wf_full : Prop :=
  ∀ (cs : Bool) (startid : Nat) (f : CSem.Func), WT f →
    wf (moduleOf (emitFunc cs startid f)) = .ok ()

/-! ## Non-vacuity -/

/-- `int f(int a, unsigned char b, long c) { return (a + b) * c >> 3 < 5 ? a : ~b; }` as cproc
    types it (the condition folded by `eval`: `5` is a `long` constant). -/
def ex1 : CSem.Func :=
  { name := "f", ret := .int, params := [.int, .uchar, .long],
    body := .cond .int
      (.bin .lt .int
        (.bin .shr .long
          (.bin .mul .long (.cast .long (.bin .add .int (.param .int 0) (.cast .int (.param .uchar 1))))
            (.param .long 2))
          (.const .int 3))
        (.const .long 5))
      (.param .int 0)
      (.bin .bxor .int (.cast .int (.param .uchar 1)) (.const .int 18446744073709551615)) }

theorem ex1_wt : WT ex1 := by decide +kernel
example : WT ex1 := ex1_wt
example : EnvOK true ex1.params [3, 4, 5] := envOK_of_b _ _ _ (by decide)
example : evalC true [3, 4, 5] ex1.body = some 3 := by decide +kernel
theorem ex1_val : evalC true [100, 200, 1000000] ex1.body = some (-201) := by decide +kernel
example : evalC true [100, 200, 1000000] ex1.body = some (-201) := ex1_val
/-- signed overflow in `a + b` is undefined -/
example : evalC true [2147483647, 1, 1] ex1.body = none := by decide +kernel

/-- `unsigned long g(signed char a, unsigned b, long long c) { return a && b / c || -a > b; }` -/
def ex2 : CSem.Func :=
  { name := "g", ret := .ulong, params := [.schar, .uint, .llong],
    body := .cast .ulong
      (.bin .lor .int
        (.bin .land .int (.param .schar 0)
          (.bin .div .llong (.cast .llong (.param .uint 1)) (.param .llong 2)))
        (.bin .gt .int (.cast .uint (.neg .int (.cast .int (.param .schar 0)))) (.param .uint 1))) }

example : WT ex2 := by decide +kernel
example : evalC true [-3, 7, 2] ex2.body = some 1 := by decide +kernel
/-- `&&` does not evaluate the division when `a == 0`; `-0 > 7u` is false -/
example : evalC true [0, 7, 0] ex2.body = some 0 := by decide +kernel
/-- division by zero is undefined -/
example : evalC true [1, 7, 0] ex2.body = none := by decide +kernel

/-- `char h(short a, unsigned long b) { return (_Bool)(a % 7) + (b << (a & 63)); }` -/
def ex3 : CSem.Func :=
  { name := "h", ret := .char, params := [.short, .ulong],
    body := .cast .char
      (.bin .add .ulong
        (.cast .ulong (.cast .bool (.bin .mod .int (.cast .int (.param .short 0)) (.const .int 7))))
        (.bin .shl .ulong (.param .ulong 1)
          (.bin .band .int (.cast .int (.param .short 0)) (.const .int 63)))) }

example : WT ex3 := by decide +kernel
example : evalC true [-9, 3] ex3.body = some 1 := by decide +kernel
example : evalC false [10, 3] ex3.body = some 1 := by decide +kernel

example : ∃ fuel₀, ∀ fuel, fuel₀ ≤ fuel →
    runFunc (prog (emitFunc true 0 ex1)) noExt "f" (argsOf ex1.params [100, 200, 1000000]) fuel =
      ⟨#[], .ret (.scalar ⟨.w, 4294967095⟩)⟩ := by
  have hval : (argOf ex1.ret (-201)).2 = ⟨.w, 4294967095⟩ := by decide
  rw [← hval]
  exact lower_correct_exact true 0 ex1 [100, 200, 1000000] (-201) noExt ex1_wt
    (envOK_of_b _ _ _ (by decide)) (by decide) (by decide) ex1_val

/-! # Fragment 𝔽₂ — function bodies with statements

  * source semantics: `CSem2.exec` / `CSem2.runC` (fuel-indexed big-step execution over a store of the
    parameters and the block-scope integer objects; `none` = undefined behaviour — of an expression, or
    the read of an object whose value is indeterminate — or fuel exhausted),
  * lowering: `Lower2.emitFunc` (transliteration of `stmt.c`, `decl.c`'s `funcinit` path and `qbe.c`'s
    `funcalloc`/`funcstore`/`funcload`/`funclabel`/`funcjmp`/`funcjnz`/`funcret`; tied to the real
    compiler by text comparison of `drv_c01 emit` with `cproc-qbe`),
  * target semantics: `Qbe.runFunc`.

  𝔽₂ = functions over integer parameters whose body is built from: `;`, declarations of integer
  block-scope objects with and without initialiser, assignment and compound assignment to variables,
  `++`/`--` on variables, expression statements, compound statements, `if`, `if`-`else`, `while`, `do`,
  `for` (any clause may be missing, the first may be a declaration), `switch` with `case`/`default` labels
  (fall-through, any order, the comparison ladder over the AVL tree of `tree.c` as `casesearch` emits it —
  connected to `C15.switch_w_correct`/`switch_l_correct`), `break`, `continue`, `return`; the
  expressions are those of 𝔽₁ over parameters and locals.  `CSem2.WT` (decidable) is what the parser
  guarantees (typing, declaration before use, `case` constants distinct after conversion, labels only
  directly in the body of their `switch`) plus one restriction of the MODEL: no statement other than a
  `case`/`default` label follows a `return`/`break`/`continue` in the same block, and a `switch` body
  begins with a label (there cproc opens a block `dead.N` lazily, which `Lower2` places differently). -/

/-- **Semantic preservation for 𝔽₂** (in any program that contains the emitted function and starts with
    an empty stack): if the C execution of the body on the arguments `ρ` reaches `return` with value `v`
    within some fuel, without undefined behaviour, then the emitted IL, run on representations of `ρ`,
    returns a representation of `v` for every sufficiently large fuel — it does not get stuck, trap,
    touch memory outside its own slots, or produce output.  `hpw`: the function called with a list of
    integers has no array parameter — see "Read-only array parameters" below. -/
theorem lower2_correct_in (cs : Bool) (startid : Nat) (f : CSem2.Func) (ρ : List Int) (v : Int)
    (hwt : CSem2.WT f) (hpw : f.pwin = []) (henv : EnvOK cs f.params ρ)
    (hsmall : f.params.length + f.locals.length ≤ 1000000)
    (cfuel : Nat) (hev : CSem2.runC cs cfuel f ρ = some v) (p : Prog) (ext : Ext)
    (hfun : p.funcs[f.name]? = some (FuncInfo.of (Lower2.emitFunc cs startid f)))
    (hstack : p.initMem.stack = #[]) (hsp : p.initMem.sp = stackTop) :
    ∃ fuel₀ r, RetRep f.ret v r ∧ ∀ fuel, fuel₀ ≤ fuel →
      runFunc p ext f.name (argsOf f.params ρ) fuel = ⟨#[], .ret (.scalar r)⟩ :=
  LowerMach2.lower2_correct_prog cs startid f ρ v hwt hpw henv hsmall cfuel (CSem2.runC_some.1 hev) p ext hfun hstack hsp

/-- **Semantic preservation for 𝔽₂.**  `cs`: signedness of plain `char` on the target; `startid`:
    value of `mkblock`'s counter before the function; `cfuel`: fuel of the C execution. -/
theorem lower2_correct (cs : Bool) (startid : Nat) (f : CSem2.Func) (ρ : List Int) (v : Int)
    (ext : Ext) (hwt : CSem2.WT f) (hpw : f.pwin = []) (henv : EnvOK cs f.params ρ)
    (hsmall : f.params.length + f.locals.length ≤ 1000000)
    (cfuel : Nat) (hev : CSem2.runC cs cfuel f ρ = some v) :
    ∃ fuel₀ r, RetRep f.ret v r ∧ ∀ fuel, fuel₀ ≤ fuel →
      runFunc (prog (Lower2.emitFunc cs startid f)) ext f.name (argsOf f.params ρ) fuel =
        ⟨#[], .ret (.scalar r)⟩ := by
  refine lower2_correct_in cs startid f ρ v hwt hpw henv hsmall cfuel hev _ ext
    (prog_funcs (Lower2.emitFunc cs startid f)) ?_ ?_
  · rw [prog_initMem]
  · rw [prog_initMem]

theorem lower2_correct_exact (cs : Bool) (startid : Nat) (f : CSem2.Func) (ρ : List Int) (v : Int)
    (ext : Ext) (hwt : CSem2.WT f) (hpw : f.pwin = []) (henv : EnvOK cs f.params ρ)
    (hsmall : f.params.length + f.locals.length ≤ 1000000) (hret : 4 ≤ f.ret.size)
    (cfuel : Nat) (hev : CSem2.runC cs cfuel f ρ = some v) :
    ∃ fuel₀, ∀ fuel, fuel₀ ≤ fuel →
      runFunc (prog (Lower2.emitFunc cs startid f)) ext f.name (argsOf f.params ρ) fuel =
        ⟨#[], .ret (.scalar (argOf f.ret v).2)⟩ :=
  exact_of_retRep hret (lower2_correct cs startid f ρ v ext hwt hpw henv hsmall cfuel hev)

/-- `lower2_correct_exact` for a concrete function: all side conditions are evaluations, `r` is the computed result. -/
theorem lower2_run {cs : Bool} {f : CSem2.Func} {ρ : List Int} {v : Int} {cfuel : Nat} {r : RVal} (startid : Nat)
    (ext : Ext) (hwt : CSem2.WT f) (hev : CSem2.runC cs cfuel f ρ = some v)
    (hside : f.pwin = [] ∧ envOKb cs f.params ρ = true ∧ f.params.length + f.locals.length ≤ 1000000 ∧
      4 ≤ f.ret.size ∧ (argOf f.ret v).2 = r) :
    ∃ fuel₀, ∀ fuel, fuel₀ ≤ fuel →
      runFunc (prog (Lower2.emitFunc cs startid f)) ext f.name (argsOf f.params ρ) fuel = ⟨#[], .ret (.scalar r)⟩ :=
  hside.2.2.2.2 ▸ lower2_correct_exact cs startid f ρ v ext hwt hside.1 (envOK_of_b _ _ _ hside.2.1) hside.2.2.1
    hside.2.2.2.1 cfuel hev

/-- Stated, not proved (and not claimed): the emitted module passes the IL validator of C03 for every
    well-formed function of 𝔽₂, whatever the arguments.  Checked per generated function by
    `drv_c01 eval` (field `wf=`). -/
def emit2_wf_full : Prop :=
  ∀ (cs : Bool) (startid : Nat) (f : CSem2.Func), CSem2.WT f →
    wf (moduleOf (Lower2.emitFunc cs startid f)) = .ok ()

/-! ## Programs with calls

  `CSem2.Stmt.call` (`[x =] f(args);`) is lowered by `Lower2.funcstmt` as qbe.c's `EXPRCALL` does (arguments in
  order, `call $f(w %a, l %b)` with the classes of the converted arguments and of the return type, cast
  and store of the result) and `CSem2.exec` with the list of the program's functions (`CSem3.runP`) gives
  programs their C meaning: direct calls, recursion.  For a single function (`CSem2.runC`: the empty
  program) a call has no meaning, so `lower2_correct` says nothing about executions that reach one. -/

/-- the functions of a program, emitted one after the other (`mkblock`'s counter runs on) -/
abbrev emitProg (cs : Bool) : Nat → List CSem2.Func → List Qbe.Func := Lower2.emitProg cs

/-- **Semantic preservation for programs of 𝔽₂ functions** (in any IL program that has the emitted functions
    and starts with an empty stack): as `lower2_correct_in`, and the stack does not overflow.  `P`: the C program,
    well-formed (`wtP`: every function is, every call names a function of `P` with arguments of the parameter
    types and the declared return type); `K`: bound on the number of variables of a function plus the number of
    further array elements (`Func.extra`); `cfuel`: fuel of the C execution, which also bounds the depth of the
    calls — the IL stack (64 MiB, 64 bytes per activation and at most 32 per variable) must have room for
    `cfuel + 1` activations (`hroom`).  `hpw`: the ENTRY function has no array parameter; the other functions of
    `P` may have, and receive local arrays of their callers. -/
theorem lower3_correct_in (cs : Bool) (P : CSem3.Prog) (entry : String) (f : CSem2.Func) (ρ : List Int)
    (v : Int) (hwt : CSem3.wtP P = true) (hlk : CSem3.lookup P entry = some f)
    (hpw : f.pwin = []) (henv : EnvOK cs f.params ρ) (K : Nat) (hK : ∀ g ∈ P, g.params.length + g.locals.length + g.extra ≤ K)
    (cfuel : Nat) (hroom : (cfuel + 1) * (64 + 32 * K) + 64 ≤ 67108864)
    (hev : CSem3.runP cs cfuel P entry ρ = some v) (p : Prog) (ext : Ext)
    (hfuncs : ∀ fn g, CSem3.lookup P fn = some g →
      ∃ sid, p.funcs[fn]? = some (FuncInfo.of (Lower2.emitFunc cs sid g)))
    (hstack : p.initMem.stack = #[]) (hsp : p.initMem.sp = stackTop) :
    ∃ fuel₀ r, RetRep f.ret v r ∧ ∀ fuel, fuel₀ ≤ fuel →
      runFunc p ext entry (argsOf f.params ρ) fuel = ⟨#[], .ret (.scalar r)⟩ :=
  LowerMach2.lower3_correct_prog cs P entry f ρ v hwt hlk hpw henv K hK cfuel hroom ((CSem3.runP_some hlk).1 hev) p ext
    hfuncs hstack hsp

/-- **Semantic preservation for programs**: the IL module consisting of all emitted functions of `P`. -/
theorem lower3_correct (cs : Bool) (startid : Nat) (P : CSem3.Prog) (entry : String) (f : CSem2.Func)
    (ρ : List Int) (v : Int) (ext : Ext) (hwt : CSem3.wtP P = true) (hlk : CSem3.lookup P entry = some f)
    (hpw : f.pwin = []) (henv : EnvOK cs f.params ρ) (K : Nat) (hK : ∀ g ∈ P, g.params.length + g.locals.length + g.extra ≤ K)
    (cfuel : Nat) (hroom : (cfuel + 1) * (64 + 32 * K) + 64 ≤ 67108864)
    (hev : CSem3.runP cs cfuel P entry ρ = some v) :
    ∃ fuel₀ r, RetRep f.ret v r ∧ ∀ fuel, fuel₀ ≤ fuel →
      runFunc (Prog.ofModule ⟨((emitProg cs startid P).map Def.func).toArray⟩) ext entry
        (argsOf f.params ρ) fuel = ⟨#[], .ret (.scalar r)⟩ := by
  refine lower3_correct_in cs P entry f ρ v hwt hlk hpw henv K hK cfuel hroom hev _ ext
    (fun fn g hl => LowerMach2.ofModule_lookup cs startid P fn g hl) ?_ ?_
  · rw [LowerMach2.ofModule_initMem]
  · rw [LowerMach2.ofModule_initMem]

theorem lower3_correct_exact (cs : Bool) (startid : Nat) (P : CSem3.Prog) (entry : String) (f : CSem2.Func)
    (ρ : List Int) (v : Int) (ext : Ext) (hwt : CSem3.wtP P = true) (hlk : CSem3.lookup P entry = some f)
    (hpw : f.pwin = []) (henv : EnvOK cs f.params ρ) (K : Nat) (hK : ∀ g ∈ P, g.params.length + g.locals.length + g.extra ≤ K)
    (hret : 4 ≤ f.ret.size)
    (cfuel : Nat) (hroom : (cfuel + 1) * (64 + 32 * K) + 64 ≤ 67108864)
    (hev : CSem3.runP cs cfuel P entry ρ = some v) :
    ∃ fuel₀, ∀ fuel, fuel₀ ≤ fuel →
      runFunc (Prog.ofModule ⟨((emitProg cs startid P).map Def.func).toArray⟩) ext entry
        (argsOf f.params ρ) fuel = ⟨#[], .ret (.scalar (argOf f.ret v).2)⟩ :=
  exact_of_retRep hret (lower3_correct cs startid P entry f ρ v ext hwt hlk hpw henv K hK cfuel hroom hev)

theorem lower3_run {cs : Bool} {P : CSem3.Prog} {entry : String} {ρ : List Int} {v : Int} {cfuel : Nat} {r : RVal}
    (startid : Nat) (ext : Ext) (f : CSem2.Func) (K : Nat) (hwt : CSem3.wtP P = true)
    (hlk : CSem3.lookup P entry = some f) (hev : CSem3.runP cs cfuel P entry ρ = some v)
    (hside : f.pwin = [] ∧ envOKb cs f.params ρ = true ∧ (∀ g ∈ P, g.params.length + g.locals.length + g.extra ≤ K) ∧
      4 ≤ f.ret.size ∧ (cfuel + 1) * (64 + 32 * K) + 64 ≤ 67108864 ∧ (argOf f.ret v).2 = r) :
    ∃ fuel₀, ∀ fuel, fuel₀ ≤ fuel →
      runFunc (Prog.ofModule ⟨((emitProg cs startid P).map Def.func).toArray⟩) ext entry
        (argsOf f.params ρ) fuel = ⟨#[], .ret (.scalar r)⟩ :=
  hside.2.2.2.2.2 ▸ lower3_correct_exact cs startid P entry f ρ v ext hwt hlk hside.1 (envOK_of_b _ _ _ hside.2.1) K
    hside.2.2.1 hside.2.2.2.1 cfuel hside.2.2.2.2.1 hev

/-- `short g(int a) { return a + 1; }` -/
def exG : CSem2.Func :=
  { name := "g", ret := .short, params := [.int], locals := [],
    body := .ret (.cast .short (.bin .add .int (.param .int 0) (.const .int 1))) }
/-- `int h(int n) { int t; if (n <= 0) return 1; t = h(n - 1); t = g(t); return t * 2; }` -/
def exH : CSem2.Func :=
  { name := "h", ret := .int, params := [.int], locals := [.int],
    body := .seq (.decl 1 .int none)
      (.seq (.ite (.bin .le .int (.param .int 0) (.const .int 0)) (.ret (.const .int 1)))
      (.seq (.call (some (1, .int)) .int "h" [.bin .sub .int (.param .int 0) (.const .int 1)])
      (.seq (.call (some (1, .int)) .short "g" [.param .int 1])
            (.ret (.bin .mul .int (.param .int 1) (.const .int 2)))))) }
def exProg : CSem3.Prog := [exG, exH]
theorem exProg_wt : CSem3.wtP exProg = true := by decide +kernel
example : CSem3.wtP exProg = true := exProg_wt
/-- h(0) = 1, h(n) = 2·(h(n-1) + 1): h(3) = 22 -/
theorem exProg_run : CSem3.runP true 40 exProg "h" [3] = some 22 := by decide +kernel
example : CSem3.runP true 40 exProg "h" [3] = some 22 := exProg_run
example : CSem3.runP true 40 exProg "g" [32767] = some (-32768) := by decide +kernel

example : ∃ fuel₀, ∀ fuel, fuel₀ ≤ fuel →
    runFunc (Prog.ofModule ⟨((emitProg true 0 exProg).map Def.func).toArray⟩) noExt "h"
      (argsOf exH.params [3]) fuel = ⟨#[], .ret (.scalar ⟨.w, 22⟩)⟩ :=
  lower3_run 0 noExt exH 2 exProg_wt rfl exProg_run (by decide)

/-! ## Non-vacuity (𝔽₂) -/

/-- `int f(int a, unsigned char b) { long x = a + b; short y; y = x * 2; x = y; { int z = 3; x = x + z; } return x; }` -/
def ex4 : CSem2.Func :=
  { name := "f", ret := .int, params := [.int, .uchar], locals := [.long, .short, .int],
    body :=
      .seq (.decl 2 .long (some (.cast .long (.bin .add .int (.param .int 0) (.cast .int (.param .uchar 1))))))
      (.seq (.decl 3 .short none)
      (.seq (.assign 3 .short (.cast .short (.bin .mul .long (.param .long 2) (.cast .long (.const .int 2)))))
      (.seq (.assign 2 .long (.cast .long (.param .short 3)))
      (.seq (.seq (.decl 4 .int (some (.const .int 3)))
                  (.assign 2 .long (.bin .add .long (.param .long 2) (.cast .long (.param .int 4)))))
            (.ret (.cast .int (.param .long 2))))))) }

theorem ex4_wt : CSem2.WT ex4 := by decide +kernel
example : CSem2.WT ex4 := ex4_wt
theorem ex4_run : CSem2.runC true 20 ex4 [100, 200] = some 603 := by decide +kernel
example : CSem2.runC true 20 ex4 [100, 200] = some 603 := ex4_run
/-- declaration without initialiser, then read = undefined -/
example : CSem2.runC true 20
    { name := "g", ret := .int, params := [], locals := [.int],
      body := .seq (.decl 0 .int none) (.ret (.param .int 0)) } [] = none := by decide +kernel
/-- expression statement, `;`, compound assignment `x += 5` as cproc rewrites it -/
def ex5 : CSem2.Func :=
  { name := "h", ret := .uint, params := [.short], locals := [],
    body := .seq (.expr (.bin .add .int (.cast .int (.param .short 0)) (.const .int 1)))
      (.seq .skip
      (.seq (.assign 0 .short (.cast .short (.bin .add .int (.cast .int (.param .short 0)) (.const .int 5))))
      (.ret (.cast .uint (.param .short 0))))) }
example : CSem2.WT ex5 := by decide +kernel
example : CSem2.runC true 20 ex5 [32767] = some 4294934532 := by decide   -- (short)32772 = -32764
/-- signed overflow in the initialiser is undefined -/
example : CSem2.runC true 20 ex4 [2147483647, 1] = none := by decide +kernel

/-- `if` / `if`-`else` / `++`, `return` inside a branch:
    `int g(int a) { int r; if (a > 3) { r = 1; } else r = 2; if (a) return r; a++; return a + r; }` -/
def ex6 : CSem2.Func :=
  { name := "g", ret := .int, params := [.int], locals := [.int],
    body :=
      .seq (.decl 1 .int none)
      (.seq (.itee (.bin .gt .int (.param .int 0) (.const .int 3)) (.assign 1 .int (.const .int 1))
              (.assign 1 .int (.const .int 2)))
      (.seq (.ite (.param .int 0) (.ret (.param .int 1)))
      (.seq (.incdec 0 .int true)
            (.ret (.bin .add .int (.param .int 0) (.param .int 1)))))) }
theorem ex6_wt : CSem2.WT ex6 := by decide +kernel
example : CSem2.WT ex6 := ex6_wt
example : CSem2.runC true 20 ex6 [7] = some 1 := by decide +kernel
theorem ex6_run : CSem2.runC true 20 ex6 [0] = some 3 := by decide +kernel
example : CSem2.runC true 20 ex6 [0] = some 3 := ex6_run
/-- `x--` on `short` wraps through `int`; on `int` at `INT_MIN` it is undefined -/
example : CSem2.runC true 20
    { name := "d", ret := .int, params := [.short], locals := [],
      body := .seq (.incdec 0 .short false) (.ret (.cast .int (.param .short 0))) } [-32768] = some 32767 := by
  decide
example : CSem2.runC true 20
    { name := "d", ret := .int, params := [.int], locals := [],
      body := .seq (.incdec 0 .int false) (.ret (.param .int 0)) } [-2147483648] = none := by decide +kernel

/-- `++`/`--` on `_Bool` (`loadub`, `add`/`sub`, `cnew`, `storeb`): `b--` turns 0 into 1 -/
def ex8 : CSem2.Func :=
  { name := "b", ret := .int, params := [.bool], locals := [],
    body := .seq (.incdec 0 .bool false) (.seq (.incdec 0 .bool true) (.seq (.incdec 0 .bool false)
      (.ret (.cast .int (.param .bool 0))))) }
example : CSem2.WT ex8 := by decide +kernel
example : CSem2.runC true 20 ex8 [0] = some 0 := by decide   -- 0 → 1 → 1 → 0
example : CSem2.runC true 20 ex8 [1] = some 0 := by decide   -- 1 → 0 → 1 → 0

/-- `switch`: `int w(int a, long b) { int r = 0; switch (a) { case 1: r = 10; break; case -2: r = 20;
    case 300: r = r + 1; break; default: r = 7; } switch (b) { case 5: return 1; case 7: r = r + 2; } return r; }` -/
def ex9 : CSem2.Func :=
  { name := "w", ret := .int, params := [.int, .long], locals := [.int],
    body :=
      .seq (.decl 2 .int (some (.const .int 0)))
      (.seq (.switch_ (.param .int 0)
        (.seq (.case_ 1) (.seq (.assign 2 .int (.const .int 10)) (.seq .break_
        (.seq (.case_ 18446744073709551614) (.seq (.assign 2 .int (.const .int 20))
        (.seq (.case_ 300) (.seq (.assign 2 .int (.bin .add .int (.param .int 2) (.const .int 1))) (.seq .break_
        (.seq .default_ (.assign 2 .int (.const .int 7))))))))))))
      (.seq (.switch_ (.param .long 1)
        (.seq (.case_ 5) (.seq (.ret (.const .int 1))
        (.seq (.case_ 7) (.assign 2 .int (.bin .add .int (.param .int 2) (.const .int 2)))))))
      (.ret (.param .int 2)))) }
theorem ex9_wt : CSem2.WT ex9 := by decide +kernel
example : CSem2.WT ex9 := ex9_wt
example : CSem2.runC true 30 ex9 [1, 0] = some 10 := by decide +kernel
/-- `case -2` falls through into `case 300`; the second switch selects `case 7` -/
theorem ex9_run : CSem2.runC true 30 ex9 [-2, 7] = some 23 := by decide +kernel
example : CSem2.runC true 30 ex9 [-2, 7] = some 23 := ex9_run
example : CSem2.runC true 30 ex9 [300, 5] = some 1 := by decide +kernel
/-- no case matches: `default`; then no case and no default: the body is skipped -/
example : CSem2.runC true 30 ex9 [4, 6] = some 7 := by decide +kernel

example : ∃ fuel₀, ∀ fuel, fuel₀ ≤ fuel →
    runFunc (prog (Lower2.emitFunc true 0 ex9)) noExt "w" (argsOf ex9.params [-2, 7]) fuel =
      ⟨#[], .ret (.scalar ⟨.w, 23⟩)⟩ :=
  lower2_run 0 noExt ex9_wt ex9_run (by decide)

/-- loops: `int k(int n) { int s = 0; int i; for (i = 0; i < n; i = i + 1) { if (i == 3) continue;
    if (i > 7) break; s = s + i; } while (n) { n = n - 1; } do { s = s + 1; } while (s < 3); return s; }` -/
def ex7 : CSem2.Func :=
  { name := "k", ret := .int, params := [.int], locals := [.int, .int],
    body :=
      .seq (.decl 1 .int (some (.const .int 0)))
      (.seq (.decl 2 .int none)
      (.seq (.seq (.assign 2 .int (.const .int 0))
        (.for_ (some (.bin .lt .int (.param .int 2) (.param .int 0)))
          (.assign 2 .int (.bin .add .int (.param .int 2) (.const .int 1)))
          (.seq (.ite (.bin .eq .int (.param .int 2) (.const .int 3)) .continue_)
          (.seq (.ite (.bin .gt .int (.param .int 2) (.const .int 7)) .break_)
                (.assign 1 .int (.bin .add .int (.param .int 1) (.param .int 2)))))))
      (.seq (.while_ (.param .int 0) (.assign 0 .int (.bin .sub .int (.param .int 0) (.const .int 1))))
      (.seq (.dowhile (.assign 1 .int (.bin .add .int (.param .int 1) (.const .int 1)))
              (.bin .lt .int (.param .int 1) (.const .int 3)))
            (.ret (.param .int 1)))))) }
theorem ex7_wt : CSem2.WT ex7 := by decide +kernel
example : CSem2.WT ex7 := ex7_wt
/-- 0+1+2+4+5+6+7 = 25, `break` at i = 8, then `+1` by the `do` -/
theorem ex7_run : CSem2.runC true 100 ex7 [20] = some 26 := by decide +kernel
example : CSem2.runC true 100 ex7 [20] = some 26 := ex7_run
example : CSem2.runC true 100 ex7 [0] = some 3 := by decide +kernel
/-- not enough fuel for the C execution: no claim -/
example : CSem2.runC true 5 ex7 [20] = none := by decide +kernel
/-- `for (;;)` without condition, left by `return` -/
example : CSem2.runC true 100
    { name := "w", ret := .int, params := [.int], locals := [],
      body := .for_ none .skip (.seq (.incdec 0 .int true)
        (.ite (.bin .gt .int (.param .int 0) (.const .int 9)) (.ret (.param .int 0)))) } [3] = some 10 := by
  decide

example : ∃ fuel₀, ∀ fuel, fuel₀ ≤ fuel →
    runFunc (prog (Lower2.emitFunc true 0 ex7)) noExt "k" (argsOf ex7.params [20]) fuel =
      ⟨#[], .ret (.scalar ⟨.w, 26⟩)⟩ :=
  lower2_run 0 noExt ex7_wt ex7_run (by decide)

example : ∃ fuel₀, ∀ fuel, fuel₀ ≤ fuel →
    runFunc (prog (Lower2.emitFunc true 0 ex6)) noExt "g" (argsOf ex6.params [0]) fuel =
      ⟨#[], .ret (.scalar ⟨.w, 3⟩)⟩ :=
  lower2_run 0 noExt ex6_wt ex6_run (by decide)

example : ∃ fuel₀, ∀ fuel, fuel₀ ≤ fuel →
    runFunc (prog (Lower2.emitFunc true 0 ex4)) noExt "f" (argsOf ex4.params [100, 200]) fuel =
      ⟨#[], .ret (.scalar ⟨.w, 603⟩)⟩ :=
  lower2_run 0 noExt ex4_wt ex4_run (by decide)

/-! ## Local arrays

  `T a[n];`, `x = a[i];`, `a[i] = e;` (`CSem2.Stmt.adecl/aload/astore`): an array is a variable with `n`
  elements (`Func.lcnts`), its element 0 is the variable's own cell, the others are further cells of the
  store; an access outside `0 ≤ i < n` or a read of an element without value is undefined.  The lowering
  computes `(unsigned long)i * sizeof *a` and adds it to the address of the one allocation of `a`.  The
  theorems `lower2_correct*` and `lower3_correct*` cover functions with such arrays (`WT` bounds the
  number of further elements of a function by 10⁶). -/

/-- `int f(int n) { int a[4]; int i; int s; a[0] = n; a[1] = n + 1; a[2] = n * 2; a[3] = 7; s = 0;
      for (i = 0; i < 4; i++) { int x; x = a[i]; s = s + x; } return s; }` -/
def ex10 : CSem2.Func :=
  { name := "q", ret := .int, params := [.int], locals := [.int, .int, .int, .int], lcnts := [4, 1, 1, 1],
    body :=
      .seq (.adecl 1 .int 4 5)
      (.seq (.decl 2 .int none)
      (.seq (.decl 3 .int none)
      (.seq (.astore 1 .int 4 5 (.const .int 0) (.param .int 0))
      (.seq (.astore 1 .int 4 5 (.const .int 1) (.bin .add .int (.param .int 0) (.const .int 1)))
      (.seq (.astore 1 .int 4 5 (.const .int 2) (.bin .mul .int (.param .int 0) (.const .int 2)))
      (.seq (.astore 1 .int 4 5 (.const .int 3) (.const .int 7))
      (.seq (.assign 3 .int (.const .int 0))
      (.seq (.seq (.assign 2 .int (.const .int 0))
        (.for_ (some (.bin .lt .int (.param .int 2) (.const .int 4))) (.incdec 2 .int true)
          (.seq (.decl 4 .int none)
          (.seq (.aload 4 .int 1 .int 4 5 (.param .int 2))
                (.assign 3 .int (.bin .add .int (.param .int 3) (.param .int 4)))))))
        (.ret (.param .int 3)))))))))) }
theorem ex10_wt : CSem2.WT ex10 := by decide +kernel
example : CSem2.WT ex10 := ex10_wt
/-- 5 + 6 + 10 + 7 -/
theorem ex10_run : CSem2.runC true 60 ex10 [5] = some 28 := by decide +kernel
example : CSem2.runC true 60 ex10 [5] = some 28 := ex10_run
/-- `a[4]` does not exist -/
example : CSem2.runC true 60
    { ex10 with body := .seq (.adecl 1 .int 4 5) (.seq (.decl 2 .int none) (.seq (.decl 3 .int none)
      (.seq (.decl 4 .int none) (.seq (.aload 4 .int 1 .int 4 5 (.const .int 4)) (.ret (.param .int 4)))))) }
    [5] = none := by decide +kernel

example : ∃ fuel₀, ∀ fuel, fuel₀ ≤ fuel →
    runFunc (prog (Lower2.emitFunc true 0 ex10)) noExt "q" (argsOf ex10.params [5]) fuel =
      ⟨#[], .ret (.scalar ⟨.w, 28⟩)⟩ :=
  lower2_run 0 noExt ex10_wt ex10_run (by decide)

/-! ## Array reads and calls inside expressions

  The expressions of assignments, initialisers, expression statements and `return` may read array elements and
  call functions (`CSem2.Expr3`: `a[i]` and `f(args)` with pure index / arguments, nested freely under casts,
  unary minus, binary operators, `&&`, `||`, `?:`, the comma operator — except an array read inside the first operand of `?:`,
  which `condexpr` would constant-fold).  A callee cannot touch the objects of its caller, so evaluation
  stays free of side effects (`CSem2.evalE3` with the function `callOf` for the calls). -/

/-- `int fact(int n) { if (n <= 0) return 1; return n * fact(n - 1); }` -/
def exFact : CSem2.Func :=
  { name := "fact", ret := .int, params := [.int], locals := [],
    body := .seq (.ite (.bin .le .int (.param .int 0) (.const .int 0)) (.ret (.const .int 1)))
      (.ret (.bin .mul .int (.param .int 0)
        (.call .int "fact" [.bin .sub .int (.param .int 0) (.const .int 1)]))) }
theorem exFact_wt : CSem3.wtP [exFact] = true := by decide +kernel
example : CSem3.wtP [exFact] = true := exFact_wt
theorem exFact_run : CSem3.runP true 40 [exFact] "fact" [5] = some 120 := by decide +kernel
example : CSem3.runP true 40 [exFact] "fact" [5] = some 120 := exFact_run
/-- 13! does not fit `int`: undefined -/
example : CSem3.runP true 60 [exFact] "fact" [13] = none := by decide +kernel

example : ∃ fuel₀, ∀ fuel, fuel₀ ≤ fuel →
    runFunc (Prog.ofModule ⟨((emitProg true 0 [exFact]).map Def.func).toArray⟩) noExt "fact"
      (argsOf exFact.params [5]) fuel = ⟨#[], .ret (.scalar ⟨.w, 120⟩)⟩ :=
  lower3_run 0 noExt exFact 1 exFact_wt rfl exFact_run (by decide)

/-- `int sum(int n) { int a[3]; int s; a[0] = n; a[1] = 2; a[2] = 3; s = a[0] * a[1] + a[n & 1]; return s; }` -/
def ex11 : CSem2.Func :=
  { name := "sum", ret := .int, params := [.int], locals := [.int, .int], lcnts := [3, 1],
    body :=
      .seq (.adecl 1 .int 3 3)
      (.seq (.decl 2 .int none)
      (.seq (.astore 1 .int 3 3 (.const .int 0) (.param .int 0))
      (.seq (.astore 1 .int 3 3 (.const .int 1) (.const .int 2))
      (.seq (.astore 1 .int 3 3 (.const .int 2) (.const .int 3))
      (.seq (.assign 2 .int (.bin .add .int
          (.bin .mul .int (.idx .int 1 3 3 (.const .int 0)) (.idx .int 1 3 3 (.const .int 1)))
          (.idx .int 1 3 3 (.bin .band .int (.param .int 0) (.const .int 1)))))
        (.ret (.param .int 2))))))) }
example : CSem2.WT ex11 := by decide +kernel
/-- 7·2 + a[1] -/
example : CSem2.runC true 30 ex11 [7] = some 16 := by decide +kernel
example : CSem2.runC true 30 ex11 [4] = some 12 := by decide +kernel

/-! ## Array initialisers

  `T a[n] = {e₀, e₁, [5] = e₅, …};` is `adecl` followed by one `CSem2.Stmt.ainit` per element in increasing
  order: an element without initialiser gets the constant `0` (6.7.9p21), the initialisers are expressions
  of `Expr3` converted to the element type.  The lowering is `funcinit`'s: for every element the address
  (`add %slot, offset`; the slot itself for offset 0), then the value, then the store — for the zeros that
  is what `zero()` emits for an array of integers (one store of the element's size per element). -/

/-- `long f(int x) { long a[4] = {[1] = x, 7}; return a[0] + a[1] + a[2] + a[3]; }` -/
def ex12 : CSem2.Func :=
  { name := "ini", ret := .long, params := [.int], locals := [.long], lcnts := [4],
    body :=
      .seq (.adecl 1 .long 4 2)
      (.seq (.ainit 1 .long 4 2 0 (.const .long 0))
      (.seq (.ainit 1 .long 4 2 1 (.cast .long (.param .int 0)))
      (.seq (.ainit 1 .long 4 2 2 (.cast .long (.const .int 7)))
      (.seq (.ainit 1 .long 4 2 3 (.const .long 0))
        (.ret (.bin .add .long (.bin .add .long (.bin .add .long
          (.idx .long 1 4 2 (.const .int 0)) (.idx .long 1 4 2 (.const .int 1)))
          (.idx .long 1 4 2 (.const .int 2))) (.idx .long 1 4 2 (.const .int 3)))))))) }
theorem ex12_wt : CSem2.WT ex12 := by decide +kernel
example : CSem2.WT ex12 := ex12_wt
theorem ex12_run : CSem2.runC true 30 ex12 [-5] = some 2 := by decide +kernel
example : CSem2.runC true 30 ex12 [-5] = some 2 := ex12_run

example : ∃ fuel₀, ∀ fuel, fuel₀ ≤ fuel →
    runFunc (prog (Lower2.emitFunc true 0 ex12)) noExt "ini" (argsOf ex12.params [-5]) fuel =
      ⟨#[], .ret (.scalar ⟨.l, 2⟩)⟩ :=
  lower2_run 0 noExt ex12_wt ex12_run (by decide)

/-! ## The comma operator and `sizeof`

  `(a, b)` (`CSem2.Expr3.comma`, 6.5.17): `a` is evaluated and discarded — so it must be defined —, the result
  is `b`; `funcexpr` lowers the operands in order and returns the last value.  `sizeof` of an object or a type
  is a constant of type `unsigned long` after parsing (its operand is not evaluated): it needs no constructor,
  the generator writes `sizeof x` in the C text and the constant in the tree. -/

/-- `int f(int x) { return (7 / x, x + 1); }` -/
def ex13 : CSem2.Func :=
  { name := "cm", ret := .int, params := [.int], locals := [],
    body := .ret (.comma .int (.bin .div .int (.const .int 7) (.param .int 0))
      (.bin .add .int (.param .int 0) (.const .int 1))) }
theorem ex13_wt : CSem2.WT ex13 := by decide +kernel
example : CSem2.WT ex13 := ex13_wt
theorem ex13_run : CSem2.runC true 10 ex13 [2] = some 3 := by decide +kernel
example : CSem2.runC true 10 ex13 [2] = some 3 := ex13_run
/-- the discarded operand divides by zero -/
example : CSem2.runC true 10 ex13 [0] = none := by decide +kernel

example : ∃ fuel₀, ∀ fuel, fuel₀ ≤ fuel →
    runFunc (prog (Lower2.emitFunc true 0 ex13)) noExt "cm" (argsOf ex13.params [2]) fuel =
      ⟨#[], .ret (.scalar ⟨.w, 3⟩)⟩ :=
  lower2_run 0 noExt ex13_wt ex13_run (by decide)

/-! ## Read-only array parameters

  `T f(const int p[3], …)`: a parameter declared as an array is a pointer (6.7.6.3p7); the fragment has
  such parameters as the FIRST parameters of a function (`Func.pwin`), read with `x = p[i];`
  (`CSem2.Stmt.pload`) and never written, and calls that pass LOCAL ARRAYS of the caller to them
  (`CSem2.Stmt.callp`).  The C semantics gives the callee a copy of the elements in further cells of its store
  (`CSem2.windows`: exact, since the callee only reads and the caller is suspended meanwhile; an index outside
  the declared length, or an element without value, is undefined); the lowering passes the address in the
  array's slot as an `l` argument, spills it like every parameter, and `p[i]` loads the pointer, adds
  `(unsigned long)i * sizeof *p` and loads from the CALLER's allocation.  `lower3_correct*` cover programs
  with such functions; the entry function itself has no array parameter (`hpw`: a list of integers cannot
  supply one). -/

/-- `int at(const int p[3], int i) { int x; x = p[i]; return x; }` -/
def exAt : CSem2.Func :=
  { name := "at", ret := .int, params := [.ulong, .int], locals := [.int], pwin := [(.int, 3)],
    body := .seq (.decl 2 .int none) (.seq (.pload 2 .int 0 .int 3 3 (.param .int 1)) (.ret (.param .int 2))) }
/-- `int use(int k) { int a[3]; int r; int t; a[0] = 10; a[1] = 20; a[2] = k; r = at(a, 2); t = at(a, 0);
      return r + t; }` -/
def exUse : CSem2.Func :=
  { name := "use", ret := .int, params := [.int], locals := [.int, .int, .int], lcnts := [3, 1, 1],
    body :=
      .seq (.adecl 1 .int 3 4)
      (.seq (.decl 2 .int none)
      (.seq (.decl 3 .int none)
      (.seq (.astore 1 .int 3 4 (.const .int 0) (.const .int 10))
      (.seq (.astore 1 .int 3 4 (.const .int 1) (.const .int 20))
      (.seq (.astore 1 .int 3 4 (.const .int 2) (.param .int 0))
      (.seq (.callp (some (2, .int)) .int "at" [(1, .int, 3, 4)] [.const .int 2])
      (.seq (.callp (some (3, .int)) .int "at" [(1, .int, 3, 4)] [.const .int 0])
            (.ret (.bin .add .int (.param .int 2) (.param .int 3)))))))))) }
def exArrProg : CSem3.Prog := [exAt, exUse]
theorem exArrProg_wt : CSem3.wtP exArrProg = true := by decide +kernel
example : CSem3.wtP exArrProg = true := exArrProg_wt
/-- a[2] + a[0] -/
theorem exArrProg_run : CSem3.runP true 40 exArrProg "use" [7] = some 17 := by decide +kernel
example : CSem3.runP true 40 exArrProg "use" [7] = some 17 := exArrProg_run
/-- `p[3]` is outside the declared length of the parameter -/
example : CSem3.runP true 40
    [exAt, { exUse with body := .seq (.adecl 1 .int 3 4) (.seq (.decl 2 .int none)
      (.seq (.astore 1 .int 3 4 (.const .int 0) (.const .int 10))
      (.seq (.callp (some (2, .int)) .int "at" [(1, .int, 3, 4)] [.const .int 3]) (.ret (.param .int 2))))) }]
    "use" [7] = none := by decide +kernel
/-- `a[1]` has no value when `at` reads it -/
example : CSem3.runP true 40
    [exAt, { exUse with body := .seq (.adecl 1 .int 3 4) (.seq (.decl 2 .int none)
      (.seq (.astore 1 .int 3 4 (.const .int 0) (.const .int 10))
      (.seq (.callp (some (2, .int)) .int "at" [(1, .int, 3, 4)] [.const .int 1]) (.ret (.param .int 2))))) }]
    "use" [7] = none := by decide +kernel

example : ∃ fuel₀, ∀ fuel, fuel₀ ≤ fuel →
    runFunc (Prog.ofModule ⟨((emitProg true 0 exArrProg).map Def.func).toArray⟩) noExt "use"
      (argsOf exUse.params [7]) fuel = ⟨#[], .ret (.scalar ⟨.w, 17⟩)⟩ :=
  lower3_run 0 noExt exUse 6 exArrProg_wt rfl exArrProg_run (by decide)

end CprocVerif.C01
