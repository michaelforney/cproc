import CprocVerif.Model.Util
import CprocVerif.Props.C15
import CprocVerif.Props.C16

/-!
# C19 — the compiler proper is memory-safe, terminating and exits only 0, 1 or 2

What a model can carry of this property (DESIGN §4 C19): the bounds and termination arguments
of the data structures every compilation goes through.  Absence of invalid accesses in the C text
itself is *observed* (sanitised builds + mutation stream in `checks/c19.py`), not proved.

* growable buffers: the bytes `arrayadd` hands out and the byte `bufadd` writes lie inside the
  allocation, and every sequence of `arrayadd` calls from the empty array keeps `len ≤ cap`;
* the hash table's probe loop terminates (`keyindex_terminates`, from C16) for every table reachable
  through the interface and every hash function;
* `treeinsert`'s path array `a[96]` cannot overflow for any tree of fewer than 2^64 nodes
  (`path_fits`, from C15);
* exit statuses: the model of `main`/`error`/`fatal`/`usage` returns only 0, 1, 2 and returns 0 only
  when the output was flushed without error.
-/
namespace CprocVerif.C19
open CprocVerif.Util

theorem growCap_spec (cap len n : Nat) : n ≤ growCap cap len n - len := by
  fun_induction growCap cap len n with
  | case1 cap c hlt ih => exact ih
  | case2 cap c hge => omega

/-- The second component is the offset `arrayadd` hands out: the caller's `memcpy`/store into `[off, off+n)` cannot
overflow. -/
theorem arrayadd_fits (a : Arr) (n : Nat) (h : a.Inv) :
    (arrayadd a n).1.Inv ∧ (arrayadd a n).2 + n ≤ (arrayadd a n).1.cap ∧ (arrayadd a n).2 = a.len := by
  unfold Arr.Inv at *
  simp only [arrayadd]
  split
  · have := growCap_spec a.cap a.len n
    refine ⟨?_, ?_, trivial⟩ <;> omega
  · refine ⟨?_, ?_, trivial⟩ <;> omega

theorem arrayadd_reachable (ns : List Nat) :
    (ns.foldl (fun a n => (arrayadd a n).1) { len := 0, cap := 0 }).Inv := by
  suffices h : ∀ a : Arr, a.Inv → (ns.foldl (fun a n => (arrayadd a n).1) a).Inv from
    h _ (by simp [Arr.Inv])
  induction ns with
  | nil => intro a h; simpa
  | cons n ns ih => intro a h; exact ih _ (arrayadd_fits a n h).1

theorem bufadd_fits (b : Arr) (h : b.Inv) :
    (bufadd b).1.Inv ∧ (bufadd b).2 < (bufadd b).1.cap := by
  have : b.len < (bufadd b).1.cap := by
    unfold Arr.Inv at h
    simp only [bufadd]
    split
    · split <;> omega
    · omega
  exact ⟨this, this⟩

/-- Non-vacuity: a first allocation, and a growth that needs more than one doubling. -/
example : (arrayadd ⟨0, 0⟩ 3).1.Inv ∧ (arrayadd ⟨250, 256⟩ 300).1.Inv := by
  exact ⟨(arrayadd_fits _ _ (by simp [Arr.Inv])).1, (arrayadd_fits _ _ (by simp [Arr.Inv])).1⟩

theorem probe_terminates {m : Map.Map} (hI : Map.Inv m) (k : Map.Key) : (Map.keyindex m k).isSome :=
  C16.keyindex_terminates hI k

open CprocVerif.Tree CprocVerif.Tree.T in
theorem tree_path_fits {t : T} (h : Avl t) (hs : size t < 2 ^ 64) : rh t + 1 < 96 :=
  C15.path_fits h hs

/-- How a run of `cproc-qbe` ends, as far as `main.c`, `error`, `fatal`, `usage` decide it.  The enumeration
is the whole model: no file under `Model/` describes `main.c`, and that the C text has no other way out
(a signal, `abort` from a failed `assert`) belongs to the observed part of the property. -/
inductive Ending where
  | usage            -- bad command line: `usage()` → exit(2)
  | diagnosed        -- `error(...)` → exit(1)
  | fatal            -- `fatal(...)` (I/O failure, internal error) → exit(1)
  | completed (writeOk : Bool)   -- reached the end of `main`; `ferror(stdout)` after `fflush`
deriving DecidableEq

def exitStatus : Ending → Nat
  | .usage => 2
  | .diagnosed => 1
  | .fatal => 1
  | .completed true => 0
  | .completed false => 1    -- `fatal("write failed")`

theorem exit_codes (e : Ending) : exitStatus e = 0 ∨ exitStatus e = 1 ∨ exitStatus e = 2 := by
  cases e with
  | completed b => cases b <;> simp [exitStatus]
  | _ => simp [exitStatus]

theorem zero_only_if_written (e : Ending) : exitStatus e = 0 ↔ e = .completed true := by
  cases e with
  | completed b => cases b <;> simp [exitStatus]
  | _ => simp [exitStatus]

end CprocVerif.C19
