import CprocVerif.Lemmas.DriverFailRun

/-!
# C18 — a failing stage makes the whole driver invocation fail cleanly

Model: `Model/DriverFail.lean`.  A `Script` fixes everything the driver cannot control: the
result of every `posix_spawn`, and for every pipeline the sequence of `(stage, status)` that
successive `wait()` calls return — ANY such sequence (any interleaving, any status, unknown pids,
repetitions) is allowed, so the theorems hold for every schedule of the environment.

* `Fair ps`    every started stage is eventually returned by `wait()` (children terminate);
* `failsB ps`  some tool of the pipeline cannot be started or is reaped with a non-zero status /
               a signal (`firstStatus`: the status of its first, i.e. only effective, reap).
-/

namespace CprocVerif.C18
open CprocVerif.DriverFail CprocVerif.DriverFailLemmas

def Prefix (sc : Script) (pre : List PipeScript) (ps : PipeScript) (post : List PipeScript) : Prop :=
  sc.pipes = pre ++ ps :: post ∧ (∀ x ∈ pre, OkPipe x)

/-- If a tool of pipeline number `pre.length` cannot be started, exits non-zero or is killed — at
any point and in any order relative to the other stages — the driver exits 1, never starts the
link step, has removed the output that pipeline was producing and every temporary object, and
has reaped every stage process. -/
theorem fail_safe (sc : Script) (pre post : List PipeScript) (ps : PipeScript)
    (h : Prefix sc pre ps post) (hfair : Fair ps) (hfail : failsB ps = true) :
    (run sc).exit = some 1 ∧ (run sc).linkSpawned = false ∧ (run sc).files.temps = [] ∧
      pre.length ∉ (run sc).files.outputs ∧ (run sc).live = [] := by
  obtain ⟨hl, hk⟩ := outAfter_empty h.2
  obtain ⟨hl', hk'⟩ := stepOut_fair hfair pre.length (outAfter 0 pre emptyOutcome)
  rw [run_prefix h.1 h.2, runFrom_cons _ _ _ _ _ hfair, hfail, if_pos rfl]
  exact ⟨rfl, hk'.trans hk, rfl, by simp [List.mem_filter], hl'.trans hl⟩

/-- Nothing of the command line after the failing pipeline is ever started: the outcome does not
depend on it. -/
theorem nothing_after_failure (sc : Script) (pre post post' : List PipeScript) (ps : PipeScript)
    (h : Prefix sc pre ps post) (hfair : Fair ps) (hfail : failsB ps = true) :
    run { sc with pipes := pre ++ ps :: post' } = run sc := by
  -- neither side looks past `ps`; `filesAfter` looks at `sc.link` only
  rw [run_prefix h.1 h.2, run_prefix (sc := { sc with pipes := pre ++ ps :: post' }) rfl h.2,
    runFrom_cons _ _ _ _ _ hfair, runFrom_cons _ _ _ _ _ hfair, hfail, filesAfter_eq, filesAfter_eq sc]
  rfl

/-- Kill discipline, for every prefix of every schedule: in every state the wait loop goes
through, once something has failed every child still outstanding has been sent SIGTERM (so it
terminates and `wait()` returns: the fairness assumption is only about children that are never
signalled). -/
theorem signalled_after_failure (ps : PipeScript) (k : Nat) :
    let s := (ps.reaps.take k).foldl (fun s r => stepReap r s) (spawnLoop ps ps.n 0 initP)
    (s.success = false → ∀ i ∈ s.live, i ∈ s.signalled) ∧ s.signalled.Nodup ∧
      (s.success = true → s.signalled = []) ∧ s.npids = s.live.length := by
  -- the fold is `reapAll`, whose value on the whole schedule is what `runPipe` returns (`runPipe_eq`)
  have h := (reapAll_spec (ps.reaps.take k) (spawned_spec ps).1).1
  exact ⟨h.sig, h.sigNodup, h.clean, h.count⟩

theorem success_clean (sc : Script) (hok : ∀ ps ∈ sc.pipes, OkPipe ps)
    (hlink : sc.link = true → sc.linkSpawnOk = true ∧ sc.linkStatus = .ok) :
    (run sc).exit = some 0 ∧ (run sc).linkSpawned = sc.link ∧ (run sc).files.temps = [] ∧ (run sc).live = [] ∧
      (run sc).files.outputs =
        (if sc.link then (if sc.linkCreated then [sc.pipes.length] else []) else createdIdx 0 sc.pipes) := by
  obtain ⟨a, b, c, d, e⟩ := run_all_ok sc hok
  cases hlk : sc.link with
  | false => rw [hlk] at a b e; exact ⟨a, b, c, d, e⟩
  | true =>
    obtain ⟨h1, h2⟩ := hlink hlk
    rw [hlk, h1, h2] at a; rw [hlk, h1] at b e
    exact ⟨a, b, c, d, e⟩

theorem link_fail_clean (sc : Script) (hok : ∀ ps ∈ sc.pipes, OkPipe ps) (hl : sc.link = true)
    (hfail : sc.linkSpawnOk = false ∨ sc.linkStatus = .fail) :
    (run sc).exit = some 1 ∧ (run sc).files.temps = [] ∧ (run sc).live = [] ∧
      (run sc).linkSpawned = sc.linkSpawnOk := by
  obtain ⟨a, b, c, d, _⟩ := run_all_ok sc hok
  refine ⟨?_, c, d, by rw [b, hl]; rfl⟩
  rw [a, hl]
  rcases hfail with h | h <;> simp [h]

theorem first_failure (l : List PipeScript) (hfair : ∀ ps ∈ l, Fair ps)
    (hfail : ∃ ps ∈ l, failsB ps = true) :
    ∃ pre ps post, l = pre ++ ps :: post ∧ (∀ x ∈ pre, OkPipe x) ∧ failsB ps = true := by
  obtain ⟨ps, hps⟩ := Option.isSome_iff_exists.1 (List.find?_isSome.2 hfail)
  obtain ⟨hf, pre, post, rfl, hpre⟩ := List.find?_eq_some_iff_append.1 hps
  exact ⟨pre, ps, post, rfl, fun x hx => ⟨hfair x (by simp [hx]), by simpa using hpre x hx⟩, hf⟩

/-- C18 without a side condition on where the failure is, and however many pipelines fail:
`fail_safe` applied at the first failing pipeline, which `first_failure` finds. -/
theorem any_failure_fails (sc : Script) (hfair : ∀ ps ∈ sc.pipes, Fair ps)
    (hfail : ∃ ps ∈ sc.pipes, failsB ps = true) :
    (run sc).exit = some 1 ∧ (run sc).linkSpawned = false ∧ (run sc).files.temps = [] ∧ (run sc).live = [] := by
  obtain ⟨pre, ps, post, e, hpre, hf⟩ := first_failure sc.pipes hfair hfail
  have hfp : Fair ps := hfair ps (by rw [e]; simp)
  obtain ⟨a, b, c, _, d⟩ := fail_safe sc pre post ps ⟨e, hpre⟩ hfp hf
  exact ⟨a, b, c, d⟩

/-- Under fair schedules the exit status says exactly whether everything succeeded; there is no
third status. -/
theorem exit_zero_iff (sc : Script) (hfair : ∀ ps ∈ sc.pipes, Fair ps) :
    ((run sc).exit = some 0 ↔
      (∀ ps ∈ sc.pipes, failsB ps = false) ∧ (sc.link = true → sc.linkSpawnOk = true ∧ sc.linkStatus = .ok)) ∧
    ((run sc).exit = some 0 ∨ (run sc).exit = some 1) := by
  by_cases hall : ∀ ps ∈ sc.pipes, failsB ps = false
  · rw [(run_all_ok sc fun ps h => ⟨hfair ps h, hall ps h⟩).1, and_iff_right hall]
    cases sc.link <;> cases sc.linkSpawnOk <;> cases sc.linkStatus <;> simp
  · have hex : ∃ ps ∈ sc.pipes, failsB ps = true := by simpa using hall
    have h1 := (any_failure_fails sc hfair hex).1
    exact ⟨⟨fun h => (by rw [h1] at h; cases h), fun h => absurd h.1 hall⟩, Or.inr h1⟩

/-- With fair schedules the driver never waits for ever. -/
theorem terminates (sc : Script) (hfair : ∀ ps ∈ sc.pipes, Fair ps) : (run sc).exit ≠ none := by
  rcases (exit_zero_iff sc hfair).2 with h | h <;> rw [h] <;> exact nofun

/-- After `m ≤ n` stages of an `n`-stage pipeline have been spawned, each stage holds exactly its
own two pipe ends (`childSpec`) and the driver at most the close-on-exec read end it is about to
hand to the next stage (`driverSpec`).
Hence the only holder of the write end of pipe `j` is stage `j` (when it terminates, stage `j+1`
sees end-of-file), and once stage `j+1` is started it is the only holder of the read end of pipe
`j` (when it goes away, stage `j` gets EPIPE/SIGPIPE instead of blocking for ever). -/
theorem eof_reaches_downstream (n m : Nat) (h : m ≤ n) :
    (fdsAfter true n m).children = (List.range m).map (childSpec n) ∧
    (fdsAfter true n m).driver = driverSpec n m ∧
    (∀ f ∈ (fdsAfter true n m).driver, f.side = .rd ∧ f.cloexec = true ∧ f.pipe + 1 = m) ∧
    (∀ i j, i < m → (j, End.wr) ∈ ((fdsAfter true n m).children.getD i []) → i = j) ∧
    (∀ i j, i < m → (j, End.rd) ∈ ((fdsAfter true n m).children.getD i []) → i = j + 1) := by
  have hinv := fdsAfter_inv n m h
  have hmem : ∀ i j e, i < m → (j, e) ∈ (fdsAfter true n m).children.getD i [] →
      i = match e with | .rd => j + 1 | .wr => j := by
    intro i j e hi hj
    rw [hinv.children, show ((List.range m).map (childSpec n)).getD i [] = childSpec n i by simp [List.getD, hi]] at hj
    simp only [childSpec, List.mem_append] at hj
    rcases hj with hj | hj <;> split at hj <;> simp at hj
    · rw [hj.2]; show i = j + 1; omega
    · rw [hj.2]; exact hj.1.symm
  refine ⟨hinv.children, hinv.driver, fun f hf => ?_, fun i j => hmem i j _, fun i j => hmem i j _⟩
  · rw [hinv.driver, driverSpec] at hf
    split at hf
    · cases hf
    · rw [List.mem_singleton.1 hf]
      exact ⟨rfl, rfl, by simp only; omega⟩

theorem driver_holds_nothing (n : Nat) : (fdsAfter true n n).driver = [] := by
  rw [(fdsAfter_inv n n (Nat.le_refl n)).driver]
  simp [driverSpec]

/-- Without the two `fcntl(F_SETFD, FD_CLOEXEC)` calls a tool inherits pipe ends that are not its
own (here: the second stage of three also holds both ends of its own output pipe as extra
descriptors and the first stage the read end of its output pipe). -/
theorem cloexec_needed : (fdsAfter false 3 3).children ≠ (List.range 3).map (childSpec 3) := by decide

def pipeGood : PipeScript := ⟨4, [], [⟨0, .ok⟩, ⟨1, .ok⟩, ⟨2, .ok⟩, ⟨3, .ok⟩], true⟩
/-- the code generator exits 1 first; the other three are then killed -/
def pipeBad : PipeScript := ⟨4, [], [⟨2, .fail⟩, ⟨0, .fail⟩, ⟨3, .fail⟩, ⟨1, .fail⟩], false⟩

/-- `cproc a.c b.c` where the second pipeline fails (former finding "temporaries of earlier
inputs left behind", fixed by the `atexit` handler) -/
def witnessLaterFailure : Script :=
  { link := true, pipes := [pipeGood, pipeBad], linkSpawnOk := true, linkStatus := .ok, linkCreated := true }

example : Prefix witnessLaterFailure [pipeGood] pipeBad [] ∧ Fair pipeBad ∧ failsB pipeBad = true := by
  exact ⟨⟨rfl, fun x hx => List.mem_singleton.1 hx ▸ ⟨by decide, by decide⟩⟩, by decide, by decide⟩

example : (run witnessLaterFailure).files.temps = [] ∧ (run witnessLaterFailure).exit = some 1 ∧
    (run witnessLaterFailure).signalled = [(1, 0), (1, 1), (1, 3)] := by decide

/-- two failing pipelines on one command line: `any_failure_fails` applies (no `Prefix` needed) -/
def witnessTwoFailures : Script :=
  { link := true, pipes := [pipeGood, pipeBad, pipeBad], linkSpawnOk := true, linkStatus := .ok, linkCreated := true }

example : (∀ ps ∈ witnessTwoFailures.pipes, Fair ps) ∧ (∃ ps ∈ witnessTwoFailures.pipes, failsB ps = true) ∧
    (run witnessTwoFailures).exit = some 1 := by
  refine ⟨by decide, ⟨pipeBad, by decide, by decide⟩, by decide⟩

/-- a linker that cannot be spawned (former finding, same fix) -/
def witnessLinkSpawn : Script :=
  { link := true, pipes := [pipeGood], linkSpawnOk := false, linkStatus := .ok, linkCreated := false }

example : (run witnessLinkSpawn).files.temps = [] ∧ (run witnessLinkSpawn).exit = some 1 := by decide

example : (∀ ps ∈ witnessLinkSpawn.pipes, OkPipe ps) := by
  exact fun x hx => List.mem_singleton.1 hx ▸ ⟨by decide, by decide⟩

/-- `cproc -c a.c` where the compiler proper exits 0 without reading its input (former finding
"driver hangs when a reader exits 0 early", fixed by closing the handed-over read end): the
preprocessor now dies of SIGPIPE, `wait()` hands it back, and the invocation fails cleanly. -/
def witnessEarlyReader : Script :=
  { link := false, pipes := [⟨4, [], [⟨1, .ok⟩, ⟨0, .fail⟩, ⟨2, .fail⟩, ⟨3, .fail⟩], true⟩],
    linkSpawnOk := true, linkStatus := .ok, linkCreated := true }

example : (run witnessEarlyReader).exit = some 1 ∧ (run witnessEarlyReader).files.outputs = [] ∧
    (run witnessEarlyReader).live = [] ∧ (run witnessEarlyReader).signalled = [(0, 2), (0, 3)] := by decide

/-- the model itself still waits for ever on a schedule in which an outstanding child is never
handed back (that such schedules do not arise is `terminates`' fairness hypothesis) -/
def pipeUnfair : PipeScript := ⟨2, [], [⟨1, .ok⟩], true⟩
def witnessUnfair : Script :=
  { link := false, pipes := [pipeUnfair], linkSpawnOk := true, linkStatus := .ok, linkCreated := true }

example : (run witnessUnfair).exit = none ∧ ¬ Fair pipeUnfair := by decide

end CprocVerif.C18
