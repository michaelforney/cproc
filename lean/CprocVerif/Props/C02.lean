import CprocVerif.Spec.Qbe
import CprocVerif.Spec.QbeWf
import CprocVerif.Spec.QbeLink
import CprocVerif.Spec.QbeLibc
import CprocVerif.Props.C03

/-!
  C02: stage 2 of cproc (the stage-1 IL of cproc's own sources) executed under the formal IL
  semantics.  No theorem here speaks of the C sources; what is proved is what makes the executed
  comparison of `drv_c02` meaningful: the runner computes `Qbe.runFunc`, a run is a function of its
  inputs, and a linked program that passes `wf` never ends in a well-formedness stuck state.
-/

namespace CprocVerif.C02
open CprocVerif.Qbe

theorem stage2_step_deterministic (p : Prog) (ext : Ext) (s : State) (r₁ r₂ : Step)
    (h₁ : step p ext s = r₁) (h₂ : step p ext s = r₂) : r₁ = r₂ :=
  step_deterministic p ext s r₁ r₂ h₁ h₂

/-- So one run of `drv_c02` per input decides that input. -/
theorem stage2_deterministic (p : Prog) (ext : Ext) (name : String) (args : List (Ty × RVal))
    (fuel : Nat) (o₁ o₂ : Outcome × Nat)
    (h₁ : Libc.runMain p ext name args fuel = o₁) (h₂ : Libc.runMain p ext name args fuel = o₂) :
    o₁ = o₂ := by
  rw [← h₁, ← h₂]

/-- The step-counting runner used by `drv_c02` computes exactly `Qbe.runFunc`. -/
theorem driver_runs_the_semantics (p : Prog) (ext : Ext) (name : String)
    (args : List (Ty × RVal)) (fuel : Nat) :
    (Libc.runMain p ext name args fuel).1 = runFunc p ext name args fuel :=
  Libc.runMain_eq_runFunc p ext name args fuel

/-- `wf_sound` of C03 for the program the driver really runs (linked modules, heap initialised; the
    check evaluates `wf` on it on every run).  `_hl` only records where `linked` comes from; nothing
    follows from it here. -/
theorem stage2_never_stuck (ms : List Module) (linked : Module) (_hl : linkModules ms = .ok linked)
    (hw : wf linked = .ok ()) (c : Libc.Ctx) (ext : Ext) (name : String)
    (args : List (Ty × RVal)) (fuel : Nat) :
    ¬ C03.BadStuck (Libc.runMain (Libc.withHeap (Prog.ofModule linked) c) ext name args fuel).1.end := by
  rw [Libc.runMain_eq_runFunc]
  -- `withHeap` changes the initial memory only, not the function table
  exact C03.runFunc_ok (p := Libc.withHeap (Prog.ofModule linked) c)
    (fun name fi hfi => C03.wf_progOk hw name fi hfi) name args fuel

theorem stage2_fuel_monotone (p : Prog) (ext : Ext) (n k : Nat) (s : State)
    (h : (run p ext n s).end ≠ .fuel) : run p ext (n + k) s = run p ext n s :=
  run_mono p ext n k s h

end CprocVerif.C02
