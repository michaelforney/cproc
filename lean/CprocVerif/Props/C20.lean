import CprocVerif.Props.C16
import CprocVerif.Gen.Purity

/-!
# C20 — output is a pure function of the input text and the target option

What a model can carry of this property:

* every table in the compiler (`scope.c` declarations/tags, macro table, string pool, goto labels) is
  used only through `mapput`/`mapget` (checked syntactically on every run, `Gen/Purity.lean`), and
  **any** client that uses the table only through that interface computes the same result whatever
  the hash function is — `client_refines`, `output_hash_independent` below, for every client program,
  every history, every pair of hash functions (no bound);
* identifiers of blocks/temporaries/globals come from counters, i.e. are a function of the order of
  creation only — `ids_pure`;
* the source contains no construct whose value depends on the environment, the address-space layout
  or the clock (`%p`, `getenv`, `setlocale`, `time`, `rand`, `clock`, `getpid`, …): the translator
  lists every occurrence in `Gen/Purity.lean` and `no_impure_calls` requires the list to be empty.

Reads of uninitialised memory and allocator-dependent branches cannot be expressed in the model;
they are sampled by the perturbation runs of `checks/c20.py` (DESIGN §4 C20).
-/

namespace CprocVerif.C20
open CprocVerif.Map

/-- A client of a table: a computation that interacts with it only through
`*mapput(h, k) = v` and `mapget(h, k)`, choosing every next step from what it has seen so far.
Keys are byte strings; the hash is whatever the table implementation computes from them. -/
inductive Prog (α : Type) where
  | ret : α → Prog α
  | put : List Nat → Nat → Prog α → Prog α
  | get : List Nat → (Nat → Prog α) → Prog α

def runMap {α : Type} (h : List Nat → Nat) : Prog α → Map → α
  | .ret a, _ => a
  | .put b v k, m => runMap h k (Map.put m ⟨h b, b⟩ v)
  | .get b k, m => runMap h (k (Map.get m ⟨h b, b⟩)) m

def runDict {α : Type} : Prog α → (List Nat → Nat) → α
  | .ret a, _ => a
  | .put b v k, d => runDict k (fun x => if x = b then v else d x)
  | .get b k, d => runDict (k (d b)) d

theorem client_refines {α : Type} (h : List Nat → Nat) (p : Prog α) :
    ∀ (m : Map) (d : List Nat → Nat), Inv m → (∀ b, Map.get m ⟨h b, b⟩ = d b) →
      runMap h p m = runDict p d := by
  induction p with
  | ret a => intro m d _ _; rfl
  | put b v k ih =>
    intro m d hI habs
    refine ih _ _ (C16.put_inv hI _ _) fun b' => ?_
    rw [get_put hI, habs]
    exact ite_congr (propext ⟨congrArg Key.bytes, fun e => e ▸ rfl⟩) (fun _ => rfl) fun _ => rfl
  | get b k ih =>
    intro m d hI habs
    simp only [runMap, runDict]
    rw [habs b]
    exact ih _ m d hI habs

theorem output_hash_independent {α : Type} (h₁ h₂ : List Nat → Nat) (p : Prog α)
    {cap₁ e₁ cap₂ e₂ : Nat} (hc₁ : cap₁ = 2 ^ e₁) (h4₁ : 4 ≤ cap₁) (hc₂ : cap₂ = 2 ^ e₂) (h4₂ : 4 ≤ cap₂) :
    runMap h₁ p (init cap₁) = runMap h₂ p (init cap₂) := by
  rw [client_refines h₁ p (init cap₁) (fun _ => 0) (init_inv hc₁ h4₁)
        (fun b => get_init hc₁ h4₁ _),
      client_refines h₂ p (init cap₂) (fun _ => 0) (init_inv hc₂ h4₂)
        (fun b => get_init hc₂ h4₂ _)]

/-- Non-vacuity: a client that branches on a lookup, under FNV-like vs constant (all-colliding) hashes. -/
example : runMap (fun b => b.foldl (fun a x => (a ^^^ x) * 16777619) 2166136261)
      (.put [97] 5 (.put [98] 6 (.get [97] fun v => if v = 5 then .get [99] (fun w => .ret (v, w)) else .ret (0, 0))))
      (init 8)
    = runMap (fun _ => 7)
      (.put [97] 5 (.put [98] 6 (.get [97] fun v => if v = 5 then .get [99] (fun w => .ret (v, w)) else .ret (0, 0))))
      (init 64) :=
  output_hash_independent _ _ _ (e₁ := 3) (e₂ := 6) (by decide) (by decide) (by decide) (by decide)

/-- `mkblock`/`functemp`/`mkglobal` number entities with a counter that is incremented on each
creation (model: the k-th created entity gets id `start + k`).  This is a picture of such a counter on its
own: the lowering model threads its counters itself (`Ctx.lastid`, `Ctx.blockid` in `Model/Lower2`) and nothing
below refers to them. -/
def assignIds (start : Nat) : List String → List (String × Nat)
  | [] => []
  | n :: ns => (n, start + 1) :: assignIds (start + 1) ns

theorem ids_pure (start : Nat) (names : List String) (i : Nat) (h : i < names.length) :
    (assignIds start names)[i]? = some (names[i], start + i + 1) := by
  induction names generalizing start i with
  | nil => simp at h
  | cons n ns ih =>
    cases i with
    | zero => simp [assignIds]
    | succ i =>
      have h' : i < ns.length := by simpa using h
      simp only [assignIds, List.getElem?_cons_succ, List.getElem_cons_succ]
      rw [ih (start + 1) i h']
      congr 2; omega

theorem ids_injective (start : Nat) (names : List String) :
    ((assignIds start names).map (·.2)).Nodup := by
  have : ∀ start, (assignIds start names).map (·.2) = List.range' (start + 1) names.length := by
    induction names with
    | nil => intro _; rfl
    | cons n ns ih => intro start; simp [assignIds, List.range'_succ, ih]
  rw [this]; exact List.nodup_range'

/-! ## syntactic purity of the sources (regenerated from /repo on every run) -/

/-- No file other than `map.c` reads or writes the table representation (`keys`, `vals`, `cap`
fields of `struct map`), so every client is a `Prog` in the sense above. -/
theorem map_clients_abstract : Gen.Purity.mapRepresentationUses = [] := by decide

/-- `mapfree` callbacks are only `NULL` or `free` (no client iterates over the table through it). -/
theorem mapfree_callbacks_pure : Gen.Purity.mapfreeCallbacks.all (fun c => c == "NULL" || c == "free") = true := by
  decide

theorem no_impure_calls : Gen.Purity.impureUses = [] := by decide

end CprocVerif.C20
