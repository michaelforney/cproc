import CprocVerif.Lemmas.ScanTokens
import CprocVerif.Lemmas.Keyword

/-!
# C13 — source text is split into tokens by C11 6.4 maximal munch

Property theorems about the model of `/repo/scan.c` and `pp.c:keyword` (`Model/Scan.lean`)
against the reference of 6.4 (`Spec/Lex.lean`).  No theorem bounds the length of the input.

Vocabulary: `first cs` is what `scan` delivers for a scanner standing at the start of the
phase-2 text `cs` (token without location, and the text that remains); `Ready s` = the scanner is
between two tokens; `IsLongest P cs w` = `w` is the longest prefix of `cs` with `P w` (6.4p4).
Statements about `scankind … s` hold for every scanner state `s`, wherever the backslash-newline
pairs were (`s.stream` is the text after phase 2).

The theorems speak of the declarative half of `Spec/Lex.lean` (`IsLongest`, `IsIdentifier`,
`PPNumber`, `IsQuoted`, `IsBlockComment`, `punctuators`, `keywords`).  Its executable lexer
(`Spec.Lex.lex`, `longestToken`, the `…B` recognisers) serves the differential driver `Drv/C13`; no
theorem relates it to those predicates or to the model.
-/

namespace CprocVerif.C13
open CprocVerif.Scan CprocVerif.Spec.Lex CprocVerif.Gen.TokenKinds

/-- The spec's punctuator list (6.4.6 without digraphs, plus `::`) is exactly the set of
`tokstr[]` spellings that do not start like an identifier. -/
theorem punct_table :
    (∀ p ∈ punctuators, ∃ e ∈ Gen.TokenKinds.tokstr, e.2 = p) ∧
    (∀ e ∈ Gen.TokenKinds.tokstr, (e.2.head?.map isNondigit = some false) → e.2 ∈ punctuators) := by
  constructor <;> decide +kernel

/-- `hnc` excludes the comment openers `//` and `/*`, `hnd` the pp-number `.` digit
(`ppnumber_longest_dot`). -/
theorem punct_longest (cs : List UInt8) (c : UInt8) (h0 : cs[0]? = some c)
    (hp : isPunctStart c = true)
    (hnc : ¬ (c = c! '/' ∧ (cs[1]? = some (c! '/') ∨ cs[1]? = some (c! '*'))))
    (hnd : ¬ (c = c! '.' ∧ onChr isdigit cs[1]? = true)) :
    ∃ k p, first cs = .ok (⟨k, none, false⟩, cs.drop p.length) ∧ tokstr k = some p ∧
      IsLongest (· ∈ punctuators) cs p := by
  have h := scankind_punct (s := ofStream cs) (cs.length + 1) c (by rwa [stream_ofStream]) hp
    (by rwa [stream_ofStream]) (by rwa [stream_ofStream])
  obtain ⟨k, p, s', h1, h2, h3, hb⟩ := h
  obtain ⟨h4, h5, h6, h7⟩ := hb.view
  rw [stream_ofStream] at h3 h4
  refine ⟨k, p, ?_, h2, h3⟩
  rw [first_of_scankind cs k _ _ s' h1, h6, h4, h5, h7 rfl]
  rfl

/-- the same for a scanner in any state between two tokens (any placement of line splices) -/
theorem punct_longest_any (f : Nat) (s : S) (hr : Ready s) (c : UInt8)
    (h0 : s.stream[0]? = some c) (hp : isPunctStart c = true)
    (hnc : ¬ (c = c! '/' ∧ (s.stream[1]? = some (c! '/') ∨ s.stream[1]? = some (c! '*'))))
    (hnd : ¬ (c = c! '.' ∧ onChr isdigit s.stream[1]? = true)) :
    ∃ k p s', scankind (f + 1) s = .ok (k, s.loc, s.pos, s') ∧ tokstr k = some p ∧
      IsLongest (· ∈ punctuators) s.stream p ∧ s'.stream = s.stream.drop p.length ∧ Ready s' ∧
      s'.sawspace = s.sawspace := by
  obtain ⟨k, p, s', h1, h2, h3, hb⟩ := scankind_punct f c h0 hp hnc hnd
  obtain ⟨h4, h5, h6, h7⟩ := hb.view
  exact ⟨k, p, s', h1, h2, h3, h4, ⟨(h7 hr.2).trans hr.1, h6.trans hr.2⟩, h5⟩

example : first b!"<<=1" = .ok (⟨.TSHLASSIGN, none, false⟩, b!"1") := by decide +kernel
example : first b!"+++b" = .ok (⟨.TINC, none, false⟩, b!"+b") := by decide +kernel
example : first b!"..x" = .ok (⟨.TPERIOD, none, false⟩, b!".x") := by decide +kernel
example : first b!"->*" = .ok (⟨.TARROW, none, false⟩, b!"*") := by decide +kernel

/-- `hp` excludes an encoding prefix glued to a quote (`prefix_binds_quote`). -/
theorem ident_longest (c : UInt8) (r : List UInt8) (hc : isNondigit c = true)
    (hp : prefixedQuote (c :: r) = false) :
    ∃ w, first (c :: r) = .ok (⟨.TIDENT, some w, false⟩, (c :: r).drop w.length) ∧
      IsLongest IsIdentifier (c :: r) w :=
  first_of_lexeme
    (scankind_ident _ _ c r (stream_ofStream _) (ready_ofStream _) hc hp)

theorem ident_longest_any (f : Nat) (s : S) (hr : Ready s) (c : UInt8) (r : List UInt8)
    (hs : s.stream = c :: r) (hc : isNondigit c = true) (hp : prefixedQuote (c :: r) = false) :
    ∃ w s', scankind (f + 1) s = .ok (.TIDENT, s.loc, s.pos, s') ∧ s'.buf = w ∧ s'.usebuf = true ∧
      IsLongest IsIdentifier s.stream w ∧ s'.stream = s.stream.drop w.length ∧
      s'.sawspace = s.sawspace :=
  scankind_ident f s c r hs hr hc hp

example : first b!"u8x+1" = .ok (⟨.TIDENT, some b!"u8x", false⟩, b!"+1") := by decide +kernel
example : prefixedQuote b!"u8x+1" = false := by decide

theorem ppnumber_longest_digit (d : UInt8) (r : List UInt8) (hd : isDigit d = true) :
    ∃ w, first (d :: r) = .ok (⟨.TNUMBER, some w, false⟩, (d :: r).drop w.length) ∧
      IsLongest PPNumber (d :: r) w :=
  first_of_lexeme
    (scankind_number _ _ d r (.inl (stream_ofStream _)) (ready_ofStream _) hd)

theorem ppnumber_longest_dot (d : UInt8) (r : List UInt8) (hd : isDigit d = true) :
    ∃ w, first (c! '.' :: d :: r) = .ok (⟨.TNUMBER, some w, false⟩, (c! '.' :: d :: r).drop w.length) ∧
      IsLongest PPNumber (c! '.' :: d :: r) w :=
  first_of_lexeme
    (scankind_number _ _ d r (.inr (stream_ofStream _)) (ready_ofStream _) hd)

theorem ppnumber_longest_any (f : Nat) (s : S) (hr : Ready s) (d : UInt8) (r : List UInt8)
    (hs : s.stream = d :: r ∨ s.stream = c! '.' :: d :: r) (hd : isDigit d = true) :
    ∃ w s', scankind (f + 1) s = .ok (.TNUMBER, s.loc, s.pos, s') ∧ s'.buf = w ∧ s'.usebuf = true ∧
      IsLongest PPNumber s.stream w ∧ s'.stream = s.stream.drop w.length ∧
      s'.sawspace = s.sawspace :=
  scankind_number f s d r hs hr hd

example : first b!"1e+5-1" = .ok (⟨.TNUMBER, some b!"1e+5", false⟩, b!"-1") := by decide +kernel
example : first b!"0xe+1;" = .ok (⟨.TNUMBER, some b!"0xe+1", false⟩, b!";") := by decide +kernel
example : first b!"1e+-3" = .ok (⟨.TNUMBER, some b!"1e+", false⟩, b!"-3") := by decide +kernel
example : first b!".5.e+.x y" = .ok (⟨.TNUMBER, some b!".5.e+.x", false⟩, b!" y") := by decide +kernel

/-- a diagnostic of scan.c, or a literal of 6.4.4.4 / 6.4.5 that begins with the prefix `p` and the quote -/
def LiteralResult (str : Bool) (p cs : List UInt8) (r : Except ErrKind (Tok × List UInt8)) : Prop :=
  (∃ e, r = .error e ∧ e ≠ .fuel) ∨
  (∃ w rest, r = .ok (⟨if str then .TSTRINGLIT else .TCHARCONST, some w, false⟩, rest) ∧
    IsQuoted (quoteOf str) w ∧ (p ++ [quoteOf str]) <+: w ∧ cs = w ++ rest)

theorem literalResult_of {str : Bool} {p t cs : List UInt8} {s2 : S} (hcs : cs = p ++ quoteOf str :: t)
    (hp : p ∈ prefixes)
    (h1 : scankind (cs.length + 2) (ofStream cs) = lift (ofStream cs) (quoted str s2))
    (hb : s2.buf = p) (hs2 : s2.stream = quoteOf str :: t) (hw : s2.sawspace = false) :
    LiteralResult str p cs (first cs) := by
  have h := quoted_reads str s2 (chr_of_stream hs2)
  generalize quoted str s2 = r at h h1
  cases r with
  | error e => exact .inl ⟨e.kind, first_of_scankind_error _ e h1, h.1⟩
  | ok r =>
    obtain ⟨k, s'⟩ := r
    obtain ⟨u, hr, v, rfl, hk, items, hi, rfl⟩ := h
    have m := hr.moved rfl
    have hbuf : s'.buf = p ++ _ := hb ▸ m.1
    have hs : s2.stream = _ ++ s'.stream := m.2.1
    refine .inr ⟨s'.buf, s'.stream, ?_, ?_, ?_, ?_⟩
    · rw [first_of_scankind _ k _ _ s' h1, m.2.2.1, m.2.2.2.trans hw, show k = litKind str from hk]; rfl
    · rw [hbuf]; exact ⟨p, items, hp, hi, by simp⟩
    · rw [hbuf]; simp
    · rw [hbuf, hcs, List.append_assoc, ← hs2, hs]

/-- An encoding prefix directly followed by a quote is never delivered as an identifier. -/
theorem prefix_binds_quote (p : List UInt8) (str : Bool) (t : List UInt8)
    (hp : p = b!"L" ∨ p = b!"u" ∨ p = b!"U" ∨ p = b!"u8") :
    LiteralResult str p (p ++ quoteOf str :: t) (first (p ++ quoteOf str :: t)) := by
  obtain ⟨s2, h1, h2, h3, h5⟩ := scankind_prefixquote ((p ++ quoteOf str :: t).length + 1)
    (ofStream (p ++ quoteOf str :: t)) p str t hp (stream_ofStream _) (ready_ofStream _)
  exact literalResult_of rfl (by rcases hp with h | h | h | h <;> subst h <;> simp [prefixes]) h1 h2 h3 h5

theorem quote_starts_literal (str : Bool) (t : List UInt8) :
    LiteralResult str [] (quoteOf str :: t) (first (quoteOf str :: t)) :=
  literalResult_of (p := []) rfl (by simp [prefixes])
    (scankind_quote _ _ str (chr_of_stream (stream_ofStream _))) rfl (stream_ofStream _) rfl

example : first b!"L'a'+" = .ok (⟨.TCHARCONST, some b!"L'a'", false⟩, b!"+") := by decide +kernel
example : first b!"u8\"x\\n\";" = .ok (⟨.TSTRINGLIT, some b!"u8\"x\\n\"", false⟩, b!";") := by
  decide +kernel
example : first b!"u8 \"x\"" = .ok (⟨.TIDENT, some b!"u8", false⟩, b!" \"x\"") := by decide +kernel
example : first b!"L'a" = .error .eofChar := by decide +kernel
example : first b!"\"\\q\"" = .error .escape := by decide +kernel

/-! White space and comments produce no token, set the space flag, join/split nothing.

The scanner state after a comment is *the state before it* with the comment's characters
removed from the text and the space flag set — nothing of the previous token can leak in (it was
delivered before), and the next token is scanned from a fresh start (`scankind f s'`). -/

theorem blank_is_space (f : Nat) (s : S) (c : UInt8) (r : List UInt8) (hs : s.stream = c :: r)
    (hb : isBlank c = true) (hu : s.usebuf = false) :
    ∃ s', scankind (f + 1) s = scankind f s' ∧ s'.view = ⟨r, s.buf, false, true⟩ := by
  refine ⟨_, scankind_blank f s c (chr_of_stream hs) hb, ?_⟩
  exact (view_nextchar_nouse ({ s with sawspace := true } : S) hu).trans
    (congrArg (fun cs => (⟨cs.tail, s.buf, false, true⟩ : View)) hs)

theorem comment_is_space (f : Nat) (s : S) (w rest : List UInt8) (hw : IsBlockComment w)
    (hs : s.stream = w ++ rest) (hu : s.usebuf = false) :
    ∃ s', scankind (f + 1) s = scankind f s' ∧ s'.view = ⟨rest, s.buf, false, true⟩ := by
  obtain ⟨body, rfl, hfirst⟩ := hw
  have hs' : s.stream = c! '/' :: c! '*' :: (body ++ b!"*/" ++ rest) := by
    rw [hs]; simp
  have := scankind_blockcomment f s _ hs' hu
  rw [findCommentEnd_first body rest hfirst] at this
  obtain ⟨s', h1, h2⟩ := this
  refine ⟨s', h1, ?_⟩
  rw [h2]
  congr 1
  rw [List.append_assoc, List.drop_append]
  simp

theorem comment_unterminated (f : Nat) (s : S) (t : List UInt8)
    (hs : s.stream = c! '/' :: c! '*' :: t) (hu : s.usebuf = false)
    (hno : findCommentEnd t = none) :
    ∃ e, scankind (f + 1) s = .error e ∧ e.kind = .eofComment := by
  have := scankind_blockcomment f s t hs hu
  rw [hno] at this
  exact this

theorem line_comment_is_space (f : Nat) (s : S) (w rest : List UInt8) (hw : IsLineComment w)
    (hrest : rest = [] ∨ rest.head? = some NL)
    (hs : s.stream = w ++ rest) (hu : s.usebuf = false) :
    ∃ s', scankind (f + 1) s = scankind f s' ∧ s'.view = ⟨rest, s.buf, false, true⟩ := by
  obtain ⟨body, rfl, hnl⟩ := hw
  have hs' : s.stream = c! '/' :: c! '/' :: (body ++ rest) := by rw [hs]; simp
  obtain ⟨s', h1, h2⟩ := scankind_linecomment f s _ hs' hu
  refine ⟨s', h1, ?_⟩
  rw [h2]
  congr 1
  exact dropWhile_ne_nl body rest hnl hrest

example : first b!"a/**/b" = .ok (⟨.TIDENT, some b!"a", false⟩, b!"/**/b") := by decide +kernel
example : first b!"/**/b" = .ok (⟨.TIDENT, some b!"b", true⟩, []) := by decide +kernel
example : first b!"+/*x*/+" = .ok (⟨.TADD, none, false⟩, b!"/*x*/+") := by decide +kernel
example : first b!"/*/ */+" = .ok (⟨.TADD, none, true⟩, []) := by decide +kernel
example : first b!"//x\ny" = .ok (⟨.TNEWLINE, none, true⟩, b!"y") := by decide +kernel
example : IsBlockComment b!"/*/ */" := ⟨b!"/ ", rfl, by decide⟩

theorem newline_token (t : List UInt8) :
    first (NL :: t) = .ok (⟨.TNEWLINE, none, false⟩, t) := by
  rw [first_of_scankind _ _ _ _ _ (scankind_newline _ _ (chr_of_stream (stream_ofStream _)))]
  obtain ⟨h1, h2, h3, h4⟩ := nextchar_nouse (ofStream (NL :: t)) NL t (stream_ofStream _) rfl
  rw [h1, h2, h3, h4]
  rfl

theorem eof_token : first [] = .ok (⟨.TEOF, none, false⟩, []) := by decide +kernel

theorem stray_char (c : UInt8) (t : List UInt8) (hc : isStray c = true) :
    first (c :: t) = .ok (⟨.TOTHER, some [c], false⟩, t) := by
  rw [first_of_scankind _ _ _ _ _ (scankind_other _ _ c (chr_of_stream (stream_ofStream _)) hc)]
  obtain ⟨h1, h2, h3, h4⟩ := nextchar_use ({ ofStream (c :: t) with usebuf := true } : S) c t
    (stream_ofStream _) rfl
  rw [h1, h2, h3, h4]
  rfl

example : isStray (c! '@') = true ∧ isStray (c! '\\') = true ∧ isStray 0x80 = true ∧ isStray 13 = true := by
  decide

/-- **Tokenisation is a function of the phase-2 text**: two source texts that agree after the
single left-to-right removal of backslash-newline pairs yield the same kinds, lexemes, space
flags and diagnostic kind (locations differ). -/
theorem splice_invariant (t1 t2 : List UInt8) (h : unsplice t1 = unsplice t2) :
    eraseRun (tokensP t1) = eraseRun (tokensP t2) := tokensP_rel t1 t2 h

/-- the literal reading "re-tokenising the spliced text gives the same tokens" -/
def splice_invariant_full : Prop :=
  ∀ text, eraseRun (tokensP text) = eraseRun (tokensP (unsplice text))

/-- It is false, and rightly so (5.1.1.2 phase 2 is ONE pass): in `\\` `\\` NL NL the second
backslash and the first new-line go; what remains is backslash, new-line — two tokens — which a
second pass would delete. -/
theorem splice_invariant_counterexample : ¬ splice_invariant_full := by
  intro h
  have := h b!"\\\\\n\n"
  revert this
  decide +kernel

/-- it holds whenever the spliced text contains no further backslash-newline pair -/
theorem splice_invariant_partial (text : List UInt8)
    (h : unsplice (unsplice text) = unsplice text) :
    eraseRun (tokensP text) = eraseRun (tokensP (unsplice text)) :=
  splice_invariant _ _ h.symm

example : unsplice (unsplice b!"a\\\nb+\\\n+") = unsplice b!"a\\\nb+\\\n+" := by decide
example : eraseRun (tokensP b!"a\\\nb+\\\n+") = eraseRun (tokensP b!"ab++") := by decide +kernel

theorem scan_progress (s : S) (t : Token) (s' : S) (h : scan s = .ok (t, s'))
    (hk : t.kind ≠ .TEOF) : s'.inp.length < s.inp.length := by
  rcases scan_cases s with ⟨e, he, _⟩ | ⟨t1, s1, h1, hp⟩ <;> rw [‹scan s = _›] at h <;> cases h
  exact hp.resolve_right fun hp => hk hp.1

/-- the fuel of the model's loops is never exhausted: a diagnostic is always one of scan.c's -/
theorem tokens_no_fuel (text : List UInt8) (e : Err) (h : tokens text = .error e) :
    e.kind ≠ .fuel := by
  rcases tokens_cases text with ⟨_, h1, h2⟩ | ⟨_, _, h1, _⟩ <;> rw [h1] at h <;> cases h
  exact h2

theorem tokens_end_with_eof (text : List UInt8) (ts : List Token) (h : tokens text = .ok ts) :
    ∃ ts' t, ts = ts' ++ [t] ∧ t.kind = .TEOF ∧ ∀ x ∈ ts', x.kind ≠ .TEOF := by
  rcases tokens_cases text with ⟨_, h1, _⟩ | ⟨ts', t, h1, h2⟩ <;> rw [h1] at h <;> cases h
  exact ⟨ts', t, rfl, h2⟩

/-- `keywords[]` is strictly ascending in `strcmp` order — what the bisection needs
(re-evaluated on the generated table at every build). -/
theorem keywords_sorted : Sorted Gen.Keywords.table := Scan.keywords_sorted

theorem bsearch_correct (lit : List UInt8) (k : Kind) :
    keyword lit = some k ↔ (lit, k) ∈ Gen.Keywords.table :=
  bsearch_mem Gen.Keywords.table Scan.keywords_sorted lit k

theorem bsearch_sound (lit : List UInt8) (k : Kind) (h : keyword lit = some k) :
    (lit, k) ∈ Gen.Keywords.table := (bsearch_correct lit k).mp h

theorem bsearch_complete (lit : List UInt8) (k : Kind) (h : (lit, k) ∈ Gen.Keywords.table) :
    keyword lit = some k := (bsearch_correct lit k).mpr h

/-- The table is exactly the keyword set of C11 6.4.1 + the C23 additions + the GNU alternate
spellings, each with its kind. -/
theorem keyword_set_correct :
    (∀ e ∈ Gen.Keywords.table, e ∈ keywords) ∧ (∀ e ∈ keywords, e ∈ Gen.Keywords.table) := by
  constructor <;> decide +kernel

theorem keyword_correct (w : List UInt8) : keyword w = keywordOf w := by
  unfold keywordOf
  cases hf : keywords.find? (·.1 = w) with
  | none =>
    cases h : keyword w with
    | none => rfl
    | some k =>
      have := List.find?_eq_none.mp hf _ (keyword_set_correct.1 _ (bsearch_sound w k h))
      simp at this
  | some e =>
    have he : e.1 = w := by simpa using List.find?_some hf
    exact bsearch_complete w e.2 (keyword_set_correct.2 _ (he ▸ List.mem_of_find?_eq_some hf))

example : keyword b!"__typeof__" = some .TTYPEOF ∧ keyword b!"_BitInt" = some .T_BITINT ∧
    keyword b!"typeof_" = none ∧ keyword b!"Int" = none ∧ keyword [] = none := by decide +kernel

/-- the token `next()` delivers for a lone spelling: `scan`, then `keyword` on identifiers -/
def ppFirst (cs : List UInt8) : Except ErrKind (Tok × List UInt8) :=
  match first cs with
  | .error e => .error e
  | .ok (t, r) =>
    if t.kind = .TIDENT then
      match t.lit.bind keyword with
      | some k => .ok (⟨k, none, t.space⟩, r)
      | none => .ok (t, r)
    else .ok (t, r)

theorem tokstr_roundtrip :
    ∀ e ∈ Gen.TokenKinds.tokstr, ppFirst e.2 = .ok (⟨e.1, none, false⟩, []) := by
  decide +kernel

theorem tokstr_functional : (Gen.TokenKinds.tokstr.map (·.1)).Nodup := by decide +kernel

/-! The reader: popping the pre-parsed input delivers the characters that the `for (;;)` loop of
`nextchar` delivers.  Only characters are compared: that `readHead` moves `loc` as `readRaw` does
is not stated here (C11 proves `readHead`'s locations right against `Spec/Presumed` directly). -/

theorem readRaw_group : ∀ (t : List UInt8) (loc : Loc),
    (readRaw t loc).1 = ((group t 0).1.head?).map (·.2) ∧
    (group (readRaw t loc).2.1 0).1 = (group t 0).1.tail := by
  intro t
  suffices h : ∀ (t : List UInt8) (k : Nat) (loc : Loc),
      (readRaw t loc).1 = ((group t k).1.head?).map (·.2) ∧
      (group (readRaw t loc).2.1 0).1 = (group t k).1.tail from fun loc => h t 0 loc
  intro t k
  fun_induction group t k with
  | case1 => intro loc; simp [readRaw, group]
  | case2 c k =>
    intro loc
    simp only [readRaw]
    split <;> simp [group]
  | case3 c d r k h ih =>
    intro loc
    obtain ⟨hc, hd⟩ := h
    subst hc hd
    simp only [readRaw]
    simp only [show ¬ ((92 : UInt8) = 10) by decide, if_false, and_self, if_true]
    exact ih _
  | case4 c d r k h ih1 =>
    intro loc
    simp only [readRaw]
    by_cases hnl : c = 10
    · simp [hnl]
    · have : ¬ (c = 92 ∧ d = 10) := h
      simp [hnl, this]

end CprocVerif.C13
