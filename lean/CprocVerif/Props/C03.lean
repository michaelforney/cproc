import CprocVerif.Lemmas.QbeFlow
import CprocVerif.Lemmas.QbeClsEx

/-!
  C03: soundness of the QBE well-formedness validator `wf` (Spec/QbeWf.lean).  Definedness: the
  invariant `StateOk` and its preservation are in `Lemmas/QbeFlow.lean`; here it is started from
  `initState` and from `wf`.  Classes: see `## Classes` below and `Lemmas/QbeCls*.lean`.
-/

namespace CprocVerif.C03
open CprocVerif.Qbe

theorem runFunc_ok {p : Prog} {ext : Ext} (hp : ProgOk p) (name : String)
    (args : List (Ty × RVal)) (fuel : Nat) : ¬ BadStuck (runFunc p ext name args fuel).end := by
  unfold runFunc initState
  cases hfi : p.funcs[name]? with
  | none => exact id
  | some fi =>
    obtain ⟨hfiEq, c, hc⟩ := hp name fi hfi
    dsimp only
    cases henter : enterFunc p fi args (if fi.f.variadic then some fi.f.params.length else none)
        p.initMem with
    | error e => exact opErr_not_bad e
    | ok r => exact run_ok hp fuel (List.forall_mem_singleton.2 (enterFunc_ok hfiEq hc henter))

structure FuncFacts (f : Func) : Prop where
  single : (f.allDefs.map (·.1)).Nodup
  labels : labelsOk f = true
  flow : flowOk f (computeCert f) = true

theorem wf_funcFacts {m : Module} (h : wf m = .ok ()) (f : Func) (hf : f ∈ m.funcs) :
    FuncFacts f :=
  have ⟨_, hw⟩ := Cls.wf_wfFunc h hf
  have ⟨hnd, hlab, _, hflow⟩ := Cls.wfFunc_ok hw
  ⟨hnd, hlab, hflow⟩

theorem wf_progOk {m : Module} (h : wf m = .ok ()) : ProgOk (Prog.ofModule m) := fun name fi hfi =>
  have ⟨hf, hfe, _⟩ := (Cls.sigs_funcs m.funcs name).2 fi hfi
  ⟨hfe, computeCert fi.f, (wf_funcFacts h fi.f hf).flow⟩

/-- **Soundness of `wf`.**  Running any function of a well-formed module — any arguments, any
    external functions, any fuel — never gets stuck on an undefined temporary, an unknown label, a
    phi without a source for the actual predecessor, or by falling off the end of a function. -/
theorem wf_sound (m : Module) (h : wf m = .ok ()) (ext : Ext) (name : String)
    (args : List (Ty × RVal)) (fuel : Nat) :
    ¬ BadStuck (runFunc (Prog.ofModule m) ext name args fuel).end :=
  runFunc_ok (wf_progOk h) name args fuel

theorem wf_no_undef_temp (m : Module) (h : wf m = .ok ()) (ext : Ext) (name : String)
    (args : List (Ty × RVal)) (fuel : Nat) (t : String) :
    (runFunc (Prog.ofModule m) ext name args fuel).end ≠ .stuck (.undefTemp t) :=
  fun he => wf_sound m h ext name args fuel (he ▸ trivial)

theorem wf_no_unknown_label (m : Module) (h : wf m = .ok ()) (ext : Ext) (name : String)
    (args : List (Ty × RVal)) (fuel : Nat) (l : String) :
    (runFunc (Prog.ofModule m) ext name args fuel).end ≠ .stuck (.unknownLabel l) :=
  fun he => wf_sound m h ext name args fuel (he ▸ trivial)

theorem wf_no_phi_without_pred (m : Module) (h : wf m = .ok ()) (ext : Ext) (name : String)
    (args : List (Ty × RVal)) (fuel : Nat) (b q : String) :
    (runFunc (Prog.ofModule m) ext name args fuel).end ≠ .stuck (.phiNoPred b q) :=
  fun he => wf_sound m h ext name args fuel (he ▸ trivial)

theorem wf_no_fall_off_end (m : Module) (h : wf m = .ok ()) (ext : Ext) (name : String)
    (args : List (Ty × RVal)) (fuel : Nat) :
    (runFunc (Prog.ofModule m) ext name args fuel).end ≠ .stuck .fellOffEnd :=
  fun he => wf_sound m h ext name args fuel (he ▸ trivial)

theorem wf_sound_from (m : Module) (h : wf m = .ok ()) (ext : Ext) (s : State) (hs : StateOk s)
    (fuel : Nat) : ¬ BadStuck (run (Prog.ofModule m) ext fuel s).end :=
  run_ok (wf_progOk h) fuel hs

/-- **Single definition.**  In a well-formed module every temporary of a function (parameters, phi
    results, instruction results) is defined exactly once. -/
theorem wf_single_def (m : Module) (h : wf m = .ok ()) (f : Func) (hf : f ∈ m.funcs) :
    (f.allDefs.map (·.1)).Nodup :=
  (wf_funcFacts h f hf).single

/-- **Labels (static form).**  Every jump of every block, reachable or not, names a block of its
    function. -/
theorem wf_labels_static (m : Module) (h : wf m = .ok ()) (f : Func) (hf : f ∈ m.funcs)
    (b : Block) (hb : b ∈ f.blocks.toList) (j : Jump) (hj : b.term = some j) (l : String)
    (hl : l ∈ j.targets) : ∃ i, (FuncInfo.of f).labelIdx[l]? = some i := by
  have := List.all_eq_true.1 (wf_funcFacts h f hf).labels b hb
  rw [hj] at this
  exact Option.isSome_iff_exists.1 (Std.HashMap.mem_iff_isSome_getElem?.1
    (Std.HashMap.mem_iff_contains.2 (List.all_eq_true.1 this l hl)))

/-! ## Classes

  The class rules of `wf` (opcode/result-class table, operand classes, jnz, phis, call arguments
  against the callee's signature, returned values against the return type, call results against
  the callee's return type) are sound as well: the run-time typing invariant `Cls.EnvTyped` against
  the static class map `Cls.tcOf f` is preserved by every step, and no run ends in a class mismatch
  (`Cls.ClassStuck`), except possibly at an INDIRECT call: the callee of `call %t(...)` is a computed
  address, QBE IL has no function types, and no static check can compare such a call with the
  signature of the function it reaches (in C: a call through a function pointer of an incompatible
  type is undefined behaviour). -/

/-- The assumption on external functions: see `Cls.ExtOkP`. -/
def ExtOk (m : Module) (ext : Ext) : Prop := Cls.ExtOkP (Prog.ofModule m) m.funcs ext

/-- All call instructions of the module name their callee (`call $f(...)`). -/
def DirectCalls (m : Module) : Prop := Cls.DirectCallsL m.funcs

theorem wf_ctx {m : Module} (h : wf m = .ok ()) :
    Cls.Ctx (Prog.ofModule m) m.funcs (Cls.sigsOf m) :=
  ⟨fun f hf => Cls.wf_funcCls h f hf, fun name fi hfi =>
    have hs := Cls.sigs_funcs m.funcs name
    ⟨(hs.2 fi hfi).1, hs.1.trans (congrArg (Option.map _) hfi)⟩⟩

theorem wf_argsOk {m : Module} {name : String} {args : List (Ty × RVal)}
    (hargs : ∀ f ∈ m.funcs, f.name = name → Cls.ArgsOk f args) :
    ∀ fi, (Prog.ofModule m).funcs[name]? = some fi → Cls.ArgsOk fi.f args := fun fi hfi =>
  have ⟨hf, _, hn⟩ := (Cls.sigs_funcs m.funcs name).2 fi hfi
  hargs _ hf hn

/-- **Static class correctness.**  In a well-formed module every instruction, jump and phi of every
    function uses its operands at classes that the static class map allows, the opcode exists with
    the named result class, and every direct call agrees with the signature of its callee. -/
theorem wf_classes_static (m : Module) (h : wf m = .ok ()) (f : Func) (hf : f ∈ m.funcs) :
    Cls.FuncCls (Cls.sigsOf m) f :=
  Cls.wf_funcCls h f hf

/-- **Preservation** of `Cls.StackT`: every frame executes a function of the module, every bound
    temporary holds a value of its class, adjacent frames are linked by a call instruction. -/
theorem wf_classes_preserved (m : Module) (h : wf m = .ok ()) (ext : Ext) (hext : ExtOk m ext)
    (s s' : State) (hs : Cls.StackT m.funcs (Cls.sigsOf m) s.frames)
    (hstep : step (Prog.ofModule m) ext s = .next s') :
    Cls.StackT m.funcs (Cls.sigsOf m) s'.frames := by
  have := Cls.step_typed (ext := ext) (wf_ctx h) hext hs
  rw [hstep] at this
  exact this

/-- **Progress for classes, general form.**  A class mismatch ends a run only at an indirect call
    (`Cls.IndirectSite`: about to execute one, or returning to one). -/
theorem wf_sound_classes_at (m : Module) (h : wf m = .ok ()) (ext : Ext) (hext : ExtOk m ext)
    (name : String) (args : List (Ty × RVal))
    (hargs : ∀ f ∈ m.funcs, f.name = name → Cls.ArgsOk f args) (fuel : Nat)
    (hstuck : Cls.ClassStuck (runFunc (Prog.ofModule m) ext name args fuel).end) :
    ∃ s₀, initState (Prog.ofModule m) name args = .ok s₀ ∧
      Cls.IndirectSite (Cls.lastState (Prog.ofModule m) ext fuel s₀) := by
  have hc := wf_ctx h
  obtain ⟨hok, herr⟩ := Cls.initState_typed hc (wf_argsOk hargs)
  unfold runFunc at hstuck
  cases hi : initState (Prog.ofModule m) name args with
  | error e =>
    rw [hi] at hstuck
    exact absurd hstuck (herr e hi)
  | ok s₀ =>
    rw [hi] at hstuck
    exact ⟨s₀, rfl, Cls.run_typed hc hext fuel (hok s₀ hi) hstuck⟩

/-- The full-strength statement: no restriction on indirect calls.  It does not hold (an indirect
    call can reach a function whose signature differs from the types written at the call, and `wf`
    — like any static check of QBE IL — accepts such a module); `wf_sound_classes_at` says that
    this is the only way it fails. -/
def wf_sound_classes_full : Prop :=
  ∀ (m : Module), wf m = .ok () → ∀ (ext : Ext), ExtOk m ext →
  ∀ (name : String) (args : List (Ty × RVal)),
    (∀ f ∈ m.funcs, f.name = name → Cls.ArgsOk f args) →
  ∀ (fuel : Nat), ¬ Cls.ClassStuck (runFunc (Prog.ofModule m) ext name args fuel).end

/-- **Soundness of `wf` for classes** — for modules whose calls are all direct, on arguments that fit
    the signature, with external functions satisfying `ExtOk`: no run ends in a class mismatch
    (operand, result, jnz/phi/store operand, argument/parameter, returned value or call result of the
    wrong class). -/
theorem wf_sound_classes_partial (m : Module) (h : wf m = .ok ()) (hd : DirectCalls m) (ext : Ext)
    (hext : ExtOk m ext) (name : String) (args : List (Ty × RVal))
    (hargs : ∀ f ∈ m.funcs, f.name = name → Cls.ArgsOk f args) (fuel : Nat) :
    ¬ Cls.ClassStuck (runFunc (Prog.ofModule m) ext name args fuel).end := by
  intro hstuck
  obtain ⟨s₀, hi, hsite⟩ := wf_sound_classes_at m h ext hext name args hargs fuel hstuck
  have hc := wf_ctx h
  have hs0 := (Cls.initState_typed hc (wf_argsOk hargs)).1 s₀ hi
  exact Cls.no_indirectSite hd (Cls.lastState_typed hc hext fuel hs0) hsite

theorem wf_sound_full_partial (m : Module) (h : wf m = .ok ()) (hd : DirectCalls m) (ext : Ext)
    (hext : ExtOk m ext) (name : String) (args : List (Ty × RVal))
    (hargs : ∀ f ∈ m.funcs, f.name = name → Cls.ArgsOk f args) (fuel : Nat) :
    ¬ BadStuck (runFunc (Prog.ofModule m) ext name args fuel).end ∧
    ¬ Cls.ClassStuck (runFunc (Prog.ofModule m) ext name args fuel).end :=
  ⟨wf_sound m h ext name args fuel, wf_sound_classes_partial m h hd ext hext name args hargs fuel⟩

theorem wf_sound_classes_from (m : Module) (h : wf m = .ok ()) (hd : DirectCalls m) (ext : Ext)
    (hext : ExtOk m ext) (s : State) (hs : Cls.StackT m.funcs (Cls.sigsOf m) s.frames)
    (fuel : Nat) : ¬ Cls.ClassStuck (run (Prog.ofModule m) ext fuel s).end := by
  intro hstuck
  have hc := wf_ctx h
  exact Cls.no_indirectSite hd (Cls.lastState_typed hc hext fuel hs) (Cls.run_typed hc hext fuel hs hstuck)

/-! ## Non-vacuity of the class theorems

  The example module is `Cls.exMod` (`Lemmas/QbeClsEx.lean`).  `wf` itself cannot be evaluated by the
  kernel on a module with a function (`String.hash` is opaque), so acceptance is shown for the class
  checks `wf` performs on each instruction, jump and phi source (`checkIns`, `checkJump`, `argOk`,
  with the real class map and signature table of the module), and rejection is shown for `wf` itself
  through `wf_classes_static`. -/

open Cls in
example : ∀ i ∈ (exG.blocks[0]!).ins.toList,
    checkIns (sigsOf exMod) {} (tcOf exG) i = .ok () := by
  intro i hi
  have hi : i ∈ [Ins.op (some ("b", .w)) .add [.tmp "a", .int 1],
      .op (some ("y", .d)) .add [.tmp "x", .fd 1], .op (some ("z", .s)) .truncd [.tmp "y"]] := hi
  simp only [List.mem_cons, List.not_mem_nil, or_false] at hi
  rcases hi with rfl | rfl | rfl <;> refine checkIns_ok.2 ⟨?_, _, rfl, ?_⟩ <;>
    simp only [Ins.operands, undefinedTmp, List.findSome?, ex_tcG_contains, argsOk, argOk,
      ex_tcG] <;> rfl

open Cls in
example : checkJump exG (FuncInfo.of exG) (tcOf exG) (.ret (some (.tmp "b"))) = .ok () := by
  unfold checkJump
  simp only [Jump.operands, undefinedTmp, List.findSome?, ex_tcG_contains, argOk, ex_tcG]
  rfl

open Cls in
example : checkIns (sigsOf exMod) {} (tcOf exMain)
    (.call (some ("r", .base .w)) (.glob "g" false) [(.base .w, .int 1), (.base .d, .fd 2)] none)
    = .ok () := by
  refine checkIns_ok.2 ⟨rfl, ?_⟩
  simp only [checkCall, ex_sigs]
  rfl

open Cls in
example : checkJump exMain (FuncInfo.of exMain) (tcOf exMain) (.jnz (.tmp "r") "t" "e")
    = .ok () := by
  unfold checkJump
  simp only [Jump.targets, List.forIn_cons, List.forIn_nil, ex_labelsMain, Jump.operands,
    undefinedTmp, List.findSome?, ex_tcMain_contains, argOk, ex_tcMain]
  rfl

open Cls in
/-- The sources of the phi `%v =l phi @s %p, @t %q` of `$main`. -/
example : ∀ s ∈ [("s", Val.tmp "p"), ("t", Val.tmp "q")], argOk (tcOf exMain) .l s.2 = true := by
  intro s hs
  simp only [List.mem_cons, List.not_mem_nil, or_false] at hs
  rcases hs with rfl | rfl <;> simp only [argOk, ex_tcMain] <;> rfl

open Cls in
/-- Rejected: `truncd` of the `w` temporary `%b`. -/
example : checkIns (sigsOf exMod) {} (tcOf exG) (.op (some ("z", .s)) .truncd [.tmp "b"])
    ≠ .ok () := by
  intro h
  obtain ⟨_, ks, hks, ha⟩ := checkIns_ok.1 h
  cases hks
  simp only [argsOk, argOk, ex_tcG] at ha
  cases ha

open Cls in
/-- Rejected: the second argument is `w`, the parameter of `$g` is `d`. -/
example : checkIns (sigsOf exMod) {} (tcOf exMain)
    (.call (some ("r", .base .w)) (.glob "g" false) [(.base .w, .int 1), (.base .w, .int 2)] none)
    ≠ .ok () := by
  intro h
  have := ((checkIns_facts h : CallFacts ..).direct "g" false exG.sig rfl (by rw [ex_sigs]; rfl)).2.2.1
  cases this

/-- `function $bad(w %a) { @s  %z =s truncd %a   ret }` — `truncd` needs a `d` operand. -/
def exBad : Func :=
  { «export» := false, ret := none, name := "bad", params := [(.base .w, "a")], variadic := false,
    blocks := #[{ label := "s", phis := [],
                  ins := #[.op (some ("z", .s)) .truncd [.tmp "a"]], term := some (.ret none) }] }

example : wf ⟨#[.func exBad]⟩ ≠ .ok () := by
  intro h
  have hc := wf_classes_static _ h exBad (List.mem_singleton.2 rfl)
  obtain ⟨ks, hks, hargs⟩ := (hc.block 0 _ rfl).ins
    (.op (some ("z", .s)) .truncd [.tmp "a"]) (List.mem_singleton.2 rfl)
  cases hks
  have ha : (Cls.tcOf exBad)["a"]? = some .w := Cls.tcOf_lookup hc.nodup (by decide)
  simp only [argsOk, argOk, ha] at hargs
  cases hargs

/-- The hypotheses of `wf_sound_classes_partial` other than `wf` hold for the example module (this
    and the next two examples). -/
example : DirectCalls Cls.exMod := by
  intro f hf b hb res cv args va hi
  have key : ∀ f ∈ [Cls.exG, Cls.exMain], ∀ b ∈ f.blocks.toList, ∀ i ∈ b.ins.toList,
      (match i with
        | .call _ (.glob _ _) _ _ => true
        | .call .. => false
        | .op .. => true) = true := by decide
  have := key f hf b hb _ hi
  cases cv with
  | glob n th => exact ⟨n, th, rfl⟩
  | _ => cases this

example (m : Module) : ExtOk m noExt := by
  intro f _ b _ res cv args va _ name avs mem _ _ _ _
  trivial

example : Cls.ArgsOk Cls.exMain [(.base .l, ⟨.l, 16⟩)] :=
  ⟨by decide, fun _ => rfl, by decide, by decide⟩

example (h : wf Cls.exMod = .ok ()) (hd : DirectCalls Cls.exMod) (fuel : Nat) :
    ¬ Cls.ClassStuck (runFunc (Prog.ofModule Cls.exMod) noExt "main"
      [(.base .l, ⟨.l, 16⟩)] fuel).end := by
  refine wf_sound_classes_partial _ h hd noExt (fun f _ b _ res cv args va _ name avs mem _ _ _ _ => trivial)
    "main" _ ?_ fuel
  intro f hf hname
  rw [Cls.exMod_funcs] at hf
  simp only [List.mem_cons, List.not_mem_nil, or_false] at hf
  rcases hf with rfl | rfl
  · exact absurd hname (by decide)
  · exact ⟨by decide, fun _ => rfl, by decide, by decide⟩

/-- The built-in externals satisfy the assumption `ExtOk` at a call `call $outw(w %x)`: an undefined
    call result is reported as such (not a class error). -/
example (a : RVal) (mem : Mem) (h : Cls.kindOk .w a.kind = true) :
    match builtinExt "outw" [a] mem with
    | none => True
    | some (.error e) => ¬ Cls.ClsErr e
    | some (.ok _) => True := by
  have := Cls.safe_asW h
  simp only [builtinExt]
  cases hx : a.asW with
  | error e => rw [hx] at this; exact this
  | ok x => trivial

end CprocVerif.C03
