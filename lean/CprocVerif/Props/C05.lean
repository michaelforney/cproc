import CprocVerif.Lemmas.Types
import CprocVerif.Gen.BasicTypes
import CprocVerif.Gen.Targets
import CprocVerif.Gen.IntLimits

/-!
# C05 — every expression is given the type C11 assigns it

Property theorems relating the model of cproc's type system (`Model/Types.lean`: `type.c`,
`targ.c`, the typing half of `expr.c`, `decl.c:tagspec`) to the C11 spec (`Spec/Conv.lean`).

* `sc`/`cs : Bool` is the signedness of plain `char` — the only target parameter of these rules
  (all three targets are LP64); the `targets_*` theorems tie it to `targ.c` and to the psABIs.
* A theorem called `…_full` is a `def … : Prop` that is **false** today; `…_counterexample`
  proves its negation with a concrete witness (replayed on the real binary by `checks/c05.py`),
  `…_partial` is what does hold, with the excluded inputs as a hypothesis.
* The `Gen.*` obligations are re-checked against tables regenerated from `/repo` (`tools/gen_c05.py`) on every run.
-/

namespace CprocVerif.C05
open CprocVerif.Types CprocVerif.Spec CprocVerif.Types.Lemmas

def kindName : Kind → String
  | .bool => "TYPEBOOL" | .char => "TYPECHAR" | .short => "TYPESHORT" | .int => "TYPEINT"
  | .enum => "TYPEENUM" | .long => "TYPELONG" | .llong => "TYPELLONG" | .float => "TYPEFLOAT"
  | .double => "TYPEDOUBLE" | .ldouble => "TYPELDOUBLE"

def propsOf (b : Basic) : List String :=
  if b.isInt then
    (if b.kind = .char then ["PROPARITH", "PROPCHAR", "PROPINT", "PROPREAL", "PROPSCALAR"]
     else ["PROPARITH", "PROPINT", "PROPREAL", "PROPSCALAR"])
  else ["PROPARITH", "PROPFLOAT", "PROPREAL", "PROPSCALAR"]

/-- `type.c`: the 15 `INTTYPE`/`FLTTYPE` objects are exactly the model's `Basic`, with the
model's kind, size (= align), initial signedness and property bits. -/
theorem gen_basic_types :
    Gen.BasicTypes.table =
      Basic.all.map (fun b => ⟨b.var, kindName b.kind, b.size, b.size, b.issignedInit, propsOf b⟩) := by
  decide +kernel

/-- `type.c:typerank`: the switch is the model's `Kind.rank`. -/
theorem gen_typerank :
    Gen.BasicTypes.rank =
      [Kind.bool, .char, .short, .int, .long, .llong].map (fun k => (kindName k, k.rank)) := by
  decide

/-- `expr.c:inttype`: `limits[]` is the model's table. -/
theorem gen_int_limits :
    Gen.IntLimits.limits = Types.limits.map (fun r => (r.1.var, r.2.1, r.2.2)) := by
  decide

/-- `decl.c:tagspec`: `inttypes[][2]` is the model's table. -/
theorem gen_enum_types :
    Gen.IntLimits.enumTypes = Types.enumTypes.map (fun r => (r.1.var, r.2.var)) := by
  decide

/-- `targ.c:alltargs[]`: names, `wchar_t` and `signedchar` are the model's. -/
theorem gen_targets :
    Gen.Targets.table.map (fun r => (r.name, r.wchar, r.signedchar)) =
      Types.targets.map (fun t => (t.name, t.wchar.var, t.signedchar)) := by
  decide

/-- plain `char` is signed on x86_64 and unsigned on aarch64/riscv64; `wchar_t` is `int`,
`unsigned int`, `int` — what `targ.c` says is what the psABIs say. -/
theorem targets_match_psabi :
    Types.targets.map (fun t => (t.name, t.signedchar, t.wchar)) =
      Spec.targetSpecs.map (fun t => (t.name, t.charSigned, t.wchar)) := by
  decide

theorem target_char_signedness :
    (findTarget "x86_64-sysv").map (·.signedchar) = some true ∧
    (findTarget "aarch64").map (·.signedchar) = some false ∧
    (findTarget "riscv64").map (·.signedchar) = some false := by decide

theorem target_wchar :
    (findTarget "x86_64-sysv").map (·.wchar) = some .int ∧
    (findTarget "aarch64").map (·.wchar) = some .uint ∧
    (findTarget "riscv64").map (·.wchar) = some .int := by decide

/-- The model's integer types are the LP64 ones of the spec (`_Bool` occupies a byte but has one value bit). -/
theorem basic_matches_lp64 :
    (∀ b ∈ Basic.ints, b ≠ .bool → Spec.bits b = 8 * b.size) ∧
    (∀ sc, ∀ b ∈ Basic.ints, b.issigned sc = Spec.isSigned sc b) ∧
    (∀ b ∈ Basic.all, b.isInt = Spec.isInteger b) ∧
    (∀ a ∈ Basic.ints, ∀ b ∈ Basic.ints, (a.kind.rank ≤ b.kind.rank ↔ Spec.rankB a ≤ Spec.rankB b)) := by
  decide

/-- character constants by prefix (6.4.4.4; `u8` per C23) on every target -/
theorem charconst_type_correct :
    ∀ tg ∈ Types.targets, ∀ ts ∈ Spec.targetSpecs, tg.name = ts.name →
      ∀ p ∈ [CharPrefix.none, .L, .u, .U, .u8], Types.charConstType tg p = Spec.charConstType ts p := by
  decide

/-- `typepromote` is the integer promotion (6.3.1.1p2; by value range, bit-fields by width; `float → double`
as in the default argument promotions), for every arithmetic type object — including
enumerated types over any integer base — and every legal bit-field width. -/
theorem promote_correct (sc : Bool) (t : ATy) (w : Option Nat) (hwf : t.wf = true)
    (hw : validWidth t w) : typepromote sc t w = Spec.promote sc t w :=
  promote_ok sc t w hwf hw

example : validWidth (.basic .ulong) (some 33) ∧ (ATy.basic .ulong).wf = true := by decide
example : typepromote true (.basic .ulong) (some 33) = .basic .ulong := by decide
example : typepromote true (.enum 7 .uint) (some 31) = .basic .int := by decide

/-- for all operand type objects (enumerated types over any base included) and all bit-field
widths, `typecommonreal` returns the common real type of 6.3.1.8 — stated by ranks and by "can
represent all values" on ranges — and never ends in `fatal`.  (Before fix `6d47956` this failed for
`enum E : long long` with `unsigned long`: "internal error; could not find common real type".) -/
theorem commonreal_correct (sc : Bool) (t₁ : ATy) (w₁ : Option Nat) (t₂ : ATy) (w₂ : Option Nat)
    (f₁ : t₁.wf = true) (f₂ : t₂.wf = true) (hw₁ : validWidth t₁ w₁) (hw₂ : validWidth t₂ w₂) :
    typecommonreal sc t₁ w₁ t₂ w₂ = some (commonReal sc t₁ w₁ t₂ w₂) :=
  commonreal_ok sc t₁ t₂ w₁ w₂ f₁ f₂ hw₁ hw₂

example : validWidth (.basic .uint) (some 31) := by decide
example : typecommonreal true (.basic .uint) (some 31) (.basic .int) none = some (.basic .int) := by decide
example : typecommonreal true (.basic .long) none (.basic .uint) none = some (.basic .long) := by decide
example : typecommonreal false (.enum 0 .llong) none (.basic .ulong) none = some (.basic .ullong) := by decide

/-- for ALL 64-bit patterns `v` and both readings: `typehasint t v sign` says exactly whether the
denoted integer lies in the range of `t` — every integer type object, enumerated types over any
base, and `_Bool` with its single value bit.  (Full strength since fix 08f8fa4: `typehasint(&typebool,
2, false)` used to be true, reachable through C23 `enum E : _Bool { A = 2 };`.) -/
theorem hasint_correct (sc : Bool) (t : ATy) (hwf : t.wf = true) (hi : t.isInt = true)
    (v : Nat) (hv : v < 2 ^ 64) (sign : Bool) :
    typehasint sc t v sign = decide (inRange (range sc t) (decode v sign)) :=
  hasint_ok sc t (ATy.isInt_eq t hwf ▸ hi) v hv sign

example : typehasint false (.basic .bool) 2 false = false ∧ typehasint false (.enum 1 .bool) 1 false = true ∧
    typehasint true (.enum 1 .bool) (2 ^ 64 - 1) true = false := by decide
example : typehasint true (.basic .int) (2 ^ 64 - 2 ^ 31) true = true := by decide
example : typehasint true (.basic .int) (2 ^ 64 - 2 ^ 31 - 1) true = false := by decide

/-- the result the spec prescribes for an integer constant, in the model's vocabulary -/
def litResult : Option Basic → LitResult := Lemmas.litResult

/-- for every value below 2^64, every base and every suffix the C11 grammar allows (in any case
and order): `inttype` returns the first type of the 6.4.4.1p5 list that can represent the value,
and diagnoses exactly the constants that have no type -/
theorem inttype_correct (sc : Bool) (v : Nat) (hv : v < 2 ^ 64) (decimal : Bool) (s : String)
    (sfx : Suffix) (hs : parseSuffix s = some sfx) :
    inttype sc v decimal s = litResult (literalType sc v decimal sfx) := by
  simp only [litResult, inttype, suffixIndex_of_parse s sfx hs, scanLimits_eq sc v hv, scanRows_literalList, literalType]

example : parseSuffix "uLL" = some ⟨true, .ll⟩ := by decide
example : inttype true (2 ^ 63) true "" = .noType := by decide
example : inttype true (2 ^ 63) false "" = .ty .ulong := by decide
example : inttype true (2 ^ 31) true "" = .ty .long := by decide

/-- floating constants by suffix (6.4.4.2p4) -/
theorem flttype_correct (s : String) (b : Basic) (h : floatLiteralType s = some b) : flttype s = some b := by
  unfold floatLiteralType at h
  split at h <;> first | (cases h; decide) | (simp at h)

theorem compat_refl (t : Ty) : typecompatible t t = true := compat_refl' t

theorem compat_symm (a b : Ty) : typecompatible a b = typecompatible b a := compat_symm' a b

/-- model-compatible ⇒ compatible per 6.2.7 / 6.7.2.2p4 / 6.7.3p10 / 6.7.6.1-3 -/
theorem compat_sound (a b : Ty) (h : typecompatible a b = true) : Compat a b := compat_sound' a b h

/-- and conversely, on the modelled type language (prototyped functions: deviation D3 of `Spec/Conv.lean`) -/
theorem compat_complete (a b : Ty) (h : Compat a b) : typecompatible a b = true := compat_complete' h

/-- the executable spec predicate used by the check is the relation -/
theorem spec_compatible_iff (a b : Ty) : compatible a b = true ↔ Compat a b := compatible_iff a b

/-- full-strength completeness: two ASTs that denote compatible C types — taking into account that
a qualified array type is an array of qualified elements (6.7.3p9, `Spec.normalize`) — are
model-compatible -/
def compat_complete_full : Prop :=
  ∀ a b : Ty, compatibleN a b = true → typecompatible a b = true

/-- `struct S { short a[2]; }; const struct S cs; const short (*p)[2] = &cs.a;` is rejected
("base types of pointer assignment must be compatible"): `&cs.a` is built as pointer-to-(const
array) while the declarator builds pointer-to-array-of-const, and `typecompatible` compares the
two node by node (XXX in `expr.c:decay`: "qualifiers should be applied to the element type") -/
theorem compat_complete_counterexample : ¬ compat_complete_full := by
  intro h
  have := h (.ptr { c := true } (.arr {} (.const 2) {} (.arith (.basic .short))))
    (.ptr {} (.arr { c := true } (.const 2) {} (.arith (.basic .short)))) (by decide)
  exact absurd this (by decide)

/-- on ASTs in normal form — what the declarator parser builds — it does hold -/
theorem compat_complete_partial (a b : Ty) (ha : normalize a = a) (hb : normalize b = b)
    (h : compatibleN a b = true) : typecompatible a b = true := by
  unfold compatibleN at h
  rw [ha, hb, spec_compatible_eq] at h
  exact h

example : normalize (.ptr {} (.arr { c := true } (.const 2) {} (.arith (.basic .short)))) =
    .ptr {} (.arr { c := true } (.const 2) {} (.arith (.basic .short))) := by decide

theorem enum_compat (i j : Nat) (b b' : Basic) :
    typecompatible (.arith (.enum i b)) (.arith (.basic b)) = true ∧
    typecompatible (.arith (.basic b)) (.arith (.enum i b)) = true ∧
    (b' ≠ b → typecompatible (.arith (.enum i b)) (.arith (.basic b')) = false) ∧
    (i ≠ j → typecompatible (.arith (.enum i b)) (.arith (.enum j b')) = false) := by
  simp only [typecompatible, ATy.compat_enum_basic, ATy.compat_basic_enum, ATy.compat_enum, decide_true,
    decide_eq_false_iff_not, not_and, true_and]
  exact ⟨fun h e => h e.symm, fun h e => absurd e h⟩

/-- `typeadjust` is the 6.7.6.3p7-8 parameter adjustment -/
theorem typeadjust_correct (t : Ty) (tq : Qual) (h : t.isFunc = true → tq = Qual.none) :
    typeadjust t tq = some (adjustParam t tq) := by
  cases t <;> simp [typeadjust, adjustParam]
  exact h rfl

/-- array-to-pointer and function-to-pointer conversion (6.3.2.1p3-4) -/
theorem decay_correct (e : Operand) : (decay e).ty = decayTy e.ty e.qual := by
  cases h : e.ty <;> simp [decay, decayTy, h]

/-- whenever C11 gives `l op r` the type `t`, `mkbinaryexpr` accepts the expression and gives it
exactly that type — for every operator, all arithmetic / pointer / array-decayed / function / void /
struct operand types, bit-field operands included (`OperandOk`: enum bases are integer types and
bit-field widths are legal) -/
theorem binop_type_correct (sc : Bool) (op : BinOp) (l r : Operand) (t : Ty)
    (ol : OperandOk l) (or' : OperandOk r) (h : binopOk sc op l r t = true) :
    binopType sc op l r = some t :=
  (binopType_iff sc op l r ol or' t).2 h

theorem binop_type_unique (sc : Bool) (op : BinOp) (l r : Operand) (t t' : Ty)
    (h : binopOk sc op l r t = true) (h' : binopOk sc op l r t' = true) : t = t' :=
  (binopOk_split h).2.trans (binopOk_split h').2.symm

example : OperandOk { ty := .arith (.basic .ushort), width := some 7 } := ⟨rfl, by decide⟩
example : binopType true .shl { ty := .arith (.basic .ushort) } { ty := .arith (.basic .ulong) } = some Ty.int := by
  decide
example : binopType true .sub { ty := .ptr {} Ty.int } { ty := .ptr { c := true } Ty.int } = some Ty.long := by
  decide

/-- 6.5.15: both arithmetic (usual arithmetic conversions, also when both have the same narrow
type), same struct/union, both void, pointer/null pointer constant, pointers to compatible types
(qualifiers merged), pointer to object and pointer to void: whenever C11 types `c ? l : r` (scalar
first operand, 6.5.15p2; fix 98b06a1), `condexpr` (non-constant condition) accepts it and gives it a type C11 allows -/
theorem cond_type_correct (sc : Bool) (c l r : Operand) (t : Ty) (hs : c.ty.isScalar = true)
    (hc : c.constval = none)
    (ol : OperandOk l) (or' : OperandOk r) (h : condOk sc l r t = true) :
    ∃ t', condType sc c l r = some t' ∧ condOk sc l r t' = true := by
  rw [condType_nonconst hs hc]
  by_cases ha : arithOk sc l r t = true
  · have hs := (arithOk_split ha).1
    exact ⟨t, by simp only [condRes, hs.1, hs.2, Bool.and_self, if_true, commonreal_of_arithOk ol or' ha,
      Option.map_some], h⟩
  · have h0 := h
    simp only [condOk, ha, Bool.false_or, Bool.or_eq_true, Bool.and_eq_true, beq_iff_eq, Bool.not_eq_true'] at h
    rcases h with (((⟨⟨su, e⟩, rfl⟩ | ⟨⟨lv, rv⟩, rfl⟩) | ⟨⟨⟨lp, rnp⟩, rn⟩, rfl⟩) | ⟨⟨⟨rp, lnp⟩, ln⟩, rfl⟩) | h
    · refine ⟨l.ty, ?_, h0⟩
      cases hl : l.ty <;> rw [hl] at su <;> first | (cases su; done) | simp [condRes, hl, ← e, Ty.isArith]
    · exact ⟨.void, by simp [condRes, lv, rv, Ty.isArith], h0⟩
    · refine ⟨l.ty, ?_, h0⟩
      have hne : ¬ l.ty = r.ty := fun e => by rw [e, rnp] at lp; cases lp
      cases hl : l.ty <;> rw [hl] at lp hne <;> first | (cases lp; done) | simp [condRes, hl, hne, Ty.isArith, lp, rnp, rn]
    · refine ⟨r.ty, ?_, h0⟩
      have hne : ¬ l.ty = r.ty := fun e => by rw [← e, lnp] at rp; cases rp
      cases hr : r.ty <;> rw [hr] at rp hne <;> first | (cases rp; done) | simp [condRes, hr, hne, Ty.isArith, rp, ln]
    clear h0
    -- two pointers: `condexpr` returns the left type when the two types are equal, before it looks for null
    -- pointer constants; 6.5.15p6 allows that type in each of its four cases
    split at h <;> first | cases h | skip
    rename_i ql lb qr rb hl hr
    simp at h
    have hrefl : compatible lb lb = true := by rw [spec_compatible_eq]; exact compat_refl' lb
    by_cases heq : ql = qr ∧ lb = rb
    · obtain ⟨rfl, rfl⟩ := heq
      refine ⟨l.ty, by simp [condRes, hl, hr, Ty.isArith], ?_⟩
      cases hn1 : l.nullconst <;> cases hn2 : r.nullconst <;>
        simp [condOk, hl, hr, hn1, hn2, Ty.isStructUnion, Ty.isPtr, Qual.union_self, composite, hrefl]
      simp [hn1, hn2] at h
      by_cases hv : lb = .void
      · subst hv; simp [Ty.isFunc]
      · simp [hv]
    · -- different types: the other operand's type next to a null pointer constant, else by the clause of p6 that holds
      by_cases n1 : l.nullconst = true
      · refine ⟨r.ty, by simp [condRes, heq, n1, hl, hr, Ty.isArith, Ty.isPtr], ?_⟩
        cases n2 : r.nullconst <;> simp [condOk, hl, hr, n1, n2, Ty.isStructUnion, Ty.isPtr]
      by_cases n2 : r.nullconst = true
      · refine ⟨l.ty, by simp [condRes, heq, n1, n2, hl, hr, Ty.isArith, Ty.isPtr], ?_⟩
        simp [condOk, hl, hr, n1, n2, Ty.isStructUnion, Ty.isPtr]
      simp only [n1, n2, Bool.false_eq_true, false_and, or_false, false_or, true_and, and_self] at h
      rcases h with ⟨⟨⟨hv1, hv2⟩, hcmp⟩, _⟩ | ⟨⟨⟨hv, hf1⟩, hf2⟩, _⟩
      · have hcmp' : typecompatible lb rb = true := by rw [← spec_compatible_eq]; exact hcmp
        simp [condRes, heq, n1, n2, hl, hr, Ty.isArith, Ty.isPtr, hv1, hv2, hcmp', condOk, Ty.isStructUnion, hcmp,
          composite, typecomposite]
      · simp [condRes, heq, n1, n2, hl, hr, Ty.isArith, Ty.isPtr, hv, condOk, Ty.isStructUnion, hf1, hf2]

example : OperandOk { ty := .arith (.enum 4 .llong) } := ⟨rfl, trivial⟩

/-- the regression of defect #21: `c ? s : s` with `short s` has type `int` -/
example : condType true { ty := Ty.int } { ty := .arith (.basic .short) } { ty := .arith (.basic .short) } = some Ty.int := by
  decide

/-- with a constant condition cproc returns the selected operand converted to the result type:
for arithmetic operands the type is the same -/
theorem cond_type_const_arith (sc : Bool) (c l r : Operand) (ol : OperandOk l) (or' : OperandOk r)
    (h1 : l.ty.isArith = true) (h2 : r.ty.isArith = true) :
    condType sc c l r = condType sc { c with constval := none } l r := by
  obtain ⟨T, hT, hx⟩ := commonreal_total (sc := sc) ol or' (by rw [h1, h2]; rfl)
  obtain ⟨a, b, hl, hr, rfl⟩ := arithOk_iff.1 hT
  generalize commonReal sc a l.width b r.width = x at hx
  cases hs : c.ty.isScalar
  · simp [condType, hs]
  cases hc : c.constval with
  | none => simp [condType, hs, condRes, hc]
  | some v =>
    have e1 := exprconvert_ty_arith l a x hl
    have e2 := exprconvert_ty_arith r b x hr
    cases v <;> simp [condType, hs, condRes, hl, hr, Ty.isArith, hx, hc, exprconvert_ty_arith _ x x e1, exprconvert_ty_arith _ x x e2]

/-- 6.5.3.4p5: `sizeof`/`_Alignof` have type `size_t` = `unsigned long` -/
theorem sizeof_type (sc : Bool) (e o : Operand) (op : UnOp) (hop : op = .sizeofE ∨ op = .alignofE)
    (h : unaryOp sc op e = some o) : o.ty = Spec.sizeofType :=
  ((unaryOp_sizeof_some hop).1 h).2 ▸ rfl

theorem sizeof_typename (t : Ty) (r : Ty) (h : Types.sizeofType t = some r) : r = Spec.sizeofType :=
  (sizeofType_some.1 h).2.2

/-- unary `+` and `-` on an integer operand have the promoted type (also for enumerated operands,
fix `3c7c8ce`) -/
theorem unary_arith_type (sc : Bool) (e : Operand) (a : ATy) (he : e.ty = .arith a) (hi : isIntegerTy a = true)
    (oe : OperandOk e) :
    (unaryOp sc .plus e).map (·.ty) = some (.arith (intPromote sc a e.width)) ∧
    (unaryOp sc .minus e).map (·.ty) = some (.arith (intPromote sc a e.width)) := by
  have ⟨f, w⟩ := OperandOk.arith oe he
  have i : (Ty.arith a).isInt = true := (ATy.isInt_eq a f).trans hi
  constructor <;>
    simp [unaryOp, he, Ty.isArith, i, exprpromote, exprconvert_ty_arith e a _ he, typepromote_int sc a e.width f w hi,
      rvalue]

/-- member access: the member's type, qualified by the union of the object's and the member's
qualifiers (6.5.2.3p3); an lvalue iff `->` or the object expression is one -/
theorem member_qualifiers (arrow : Bool) (e o : Operand) (mty : Ty) (mq : Qual) (bits : Option Nat)
    (hna : ∀ q l p b, mty ≠ .arr q l p b) (hnf : mty.isFunc = false)
    (h : memberType arrow e mty mq bits = some o) :
    o.ty = mty ∧
    o.qual = memberQual (if arrow then (match e.ty with | .ptr q _ => q | _ => {}) else e.qual) mq ∧
    o.lvalue = (arrow || e.lvalue) := by
  obtain ⟨_, r, hr, rfl⟩ := memberType_some h
  rw [decay_id _ hna hnf] at hr
  subst hr
  exact ⟨rfl, rfl, rfl⟩

/-- `*e` designates the referenced object or function with the qualifiers of the referenced type
(6.5.3.2p4), then decays (6.3.2.1).  (Before fix `3bfdead`, `*carr` for `const int carr[2]` lost
the `const`.) -/
theorem deref_correct (sc : Bool) (e : Operand) (q : Qual) (b : Ty) (he : e.ty = .ptr q b) :
    ∃ o, unaryOp sc .deref e = some o ∧ unaryOk sc .deref e o = true := by
  refine ⟨_, unaryOp_deref_some.2 ⟨q, b, he, rfl⟩, ?_⟩
  simp only [unaryOk, he]
  cases b <;> simp [decay, decayTy, Ty.isFunc, Qual.union]

/-- a cast of a null pointer constant is one iff the target is an integer type or the unqualified
`void *` (6.3.2.3p3).  (Before fix `8619181` `(const void *)0` was taken for one.) -/
theorem cast_nullconst_correct (t : Ty) (e o : Operand) (h : castType t e = some o)
    (hwf : ∀ a, t = .arith a → a.wf = true) : o.nullconst = castNullconst t e := by
  have e2 : t.isVoidPtr = (t == .ptr Qual.none .void) := by
    rw [Bool.eq_iff_iff, beq_iff_eq]
    cases t <;> simp [Ty.isVoidPtr, Qual.none]
    rename_i q b
    cases b <;> simp
  rw [(castType_some.1 h).2, castNullconst, isInt_eq_isIntegerT t hwf, e2]

example : (castType (.ptr { c := true } .void) { ty := Ty.int, nullconst := true }).map (·.nullconst) = some false := by
  decide

/-- 6.7.2.2: the underlying type `tagspec` chooses can represent every enumerator (`min` = magnitude of the
most negative one, `max` = the largest) -/
theorem enum_base_represents (sc : Bool) (min max : Nat) (b : Basic) (hmin : min ≤ 2 ^ 63) (hmax : max < 2 ^ 64)
    (h : enumBase sc min max = some b) : enumBaseOk sc b (-(min : Int)) (max : Int) := by
  unfold enumBase at h
  split at h
  · rename_i hc
    cases h
    have e1 : rangeB sc .int = (-(2 : Int) ^ 31, 2 ^ 31 - 1) := rfl
    have e2 : rangeB sc .uint = (0, 2 ^ 32 - 1) := rfl
    unfold enumBaseOk inRange
    split <;> simp only [e1, e2] <;> omega
  · have hp := List.find?_some h
    have hm := List.mem_of_find?_eq_some h
    simp only [Bool.and_eq_true] at hp
    have hd : decode ((2 ^ 64 - min) % 2 ^ 64) true = -(min : Int) := by
      unfold decode
      by_cases h0 : min = 0
      · subst h0; simp
      · rw [Nat.mod_eq_of_lt (by omega), if_pos ⟨rfl, by omega⟩]
        omega
    have hb : isInteger b = true := by
      simp only [enumTypes, List.map] at hm
      split at hm <;> simp at hm <;> rcases hm with rfl | rfl | rfl <;> rfl
    exact ⟨hd ▸ hasint_sound sc (.basic b) hb _ (Nat.mod_lt _ (by decide)) true hp.2,
      hasint_sound sc (.basic b) hb max hmax false hp.1⟩

/-- a C11 enumeration (no fixed underlying type) never gets `long long`/`unsigned long long`:
`long` has the same range and comes first -/
theorem enum_base_c11 (sc : Bool) (min max : Nat) (b : Basic) (h : enumBase sc min max = some b) :
    b = .uint ∨ b = .int ∨ b = .ulong ∨ b = .long := by
  unfold enumBase at h
  split at h
  · cases h; split <;> simp
  · have e1 : typehasint sc (.basic .llong) = typehasint sc (.basic .long) := rfl
    have e2 : typehasint sc (.basic .ullong) = typehasint sc (.basic .ulong) := rfl
    simp only [enumTypes, List.map] at h
    split at h <;> simp only [List.find?, e1, e2] at h <;>
      (repeat' split at h) <;> first | (cases h; simp; done) | simp_all

example : enumBase true 1 5 = some .int ∧ enumBase true 0 5 = some .uint ∧
    enumBase true 0 (2 ^ 32) = some .ulong ∧ enumBase true 1 (2 ^ 32) = some .long := by decide

end CprocVerif.C05
