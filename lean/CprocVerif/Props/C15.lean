import CprocVerif.Lemmas.Tree

/-!
# C15 — a `switch` transfers control to exactly the matching case

Property theorems about the model of `/repo/tree.c` (`treeinsert`, `balance`, `rot`) and of the
comparison ladder emitted by `/repo/qbe.c:casesearch` (`Model/Tree.lean`).  No theorem bounds the
number of keys.
-/

namespace CprocVerif.Tree
open T

/-- 7 keys; `10,20,30` forces a single rotation, `25` a double rotation. -/
def exTree : T := [10, 20, 30, 40, 50, 25, 5].foldl insert nil

/-- Keys of an `int` switch: sign-extended 32-bit values (`-1`, `INT_MIN`, `-7`, `INT_MAX`, …). -/
def exTreeSext : T :=
  [0, 1, 2 ^ 64 - 1, 2 ^ 64 - 2 ^ 31, 2 ^ 31 - 1, 5, 2 ^ 64 - 7].foldl insert nil

/-- Keys of an `unsigned` switch: zero-extended 32-bit values. -/
def exTreeZext : T :=
  [0, 0x90000000, 0xFFFFFFFF, 1, 2, 3, 0x80000000].foldl insert nil

/-- Keys of an `unsigned long long` switch. -/
def exTreeL : T :=
  [2 ^ 64 - 1, 0, 2 ^ 63, 0x100000000, 7, 2 ^ 32 - 1, 2 ^ 63 + 1].foldl insert nil

end CprocVerif.Tree

namespace CprocVerif.C15
open CprocVerif.Tree CprocVerif.Tree.T

/-- Holds although `treeinsert` does not revisit the ancestors above the first height-preserving node. -/
theorem insert_avl {t : T} {k : Nat} (h : Avl t) : Avl (insert t k) := (ins_spec k t _ ⟨h, rfl⟩).1

theorem insert_bst {t : T} {k : Nat} (h : Bst t) : Bst (insert t k) := ins_bst k t h

theorem bst_iff_sorted (t : T) : Bst t ↔ (toList t).Pairwise (· < ·) := Tree.bst_iff_sorted t

theorem insert_sorted {t : T} {k : Nat} (h : Bst t) : (toList (insert t k)).Pairwise (· < ·) :=
  (Tree.bst_iff_sorted _).1 (ins_bst k t h)

/-- (The hypothesis is not needed: `mem_ins` holds for every tree.) -/
theorem insert_mem {t : T} {k x : Nat} (_h : Bst t) :
    x ∈ toList (insert t k) ↔ x = k ∨ x ∈ toList t := mem_ins k x t

/-- The `new` flag that `switchcase` tests is exact duplicate detection (on 64-bit keys). -/
theorem insert_new_iff_absent {t : T} {k : Nat} (h : Bst t) :
    (ins t k).2.2 = true ↔ k ∉ toList t := ins_new k t h

theorem insert_dup_unchanged {t : T} {k : Nat} (h : Bst t) (hk : k ∈ toList t) :
    insert t k = t := by
  show (ins t k).1 = t
  rw [ins_dup k t h hk]

theorem reachable_inv (ks : List Nat) : Avl (ks.foldl insert nil) ∧ Bst (ks.foldl insert nil) :=
  foldl_inv ks nil trivial trivial

theorem reachable_mem {ks : List Nat} {x : Nat} : x ∈ toList (ks.foldl insert nil) ↔ x ∈ ks := by
  simp [foldl_mem, toList]

theorem avl_fib {t : T} (h : Avl t) : fib (rh t + 2) ≤ size t + 1 := avl_fib_aux t _ ⟨h, rfl⟩

/-- `fib` is defined through the linear-time `fibPair`; this is the recursion by which to read `avl_fib`. -/
theorem fib_rec (n : Nat) : fib 0 = 0 ∧ fib 1 = 1 ∧ fib (n + 2) = fib n + fib (n + 1) :=
  ⟨rfl, rfl, fib_add_two n⟩

theorem fib_93_le_lt_fib_94 : fib 93 ≤ 2 ^ 64 ∧ 2 ^ 64 < fib 94 := by decide

theorem height_bound {t : T} (h : Avl t) (hs : size t < 2 ^ 64) : rh t ≤ 91 :=
  Nat.not_lt.1 fun hlt => by
    have := avl_fib h
    have := fib_mono (m := 94) (n := rh t + 2) (by omega)
    have := fib_93_le_lt_fib_94.2
    omega

/-- `treeinsert` uses one slot of `a[MAXH]` (`MAXH = sizeof(void *) * 8 * 3 / 2 = 96`) for the root
pointer plus one per visited node, i.e. at most `rh t + 1`. -/
theorem path_fits {t : T} (h : Avl t) (hs : size t < 2 ^ 64) : rh t + 1 < 96 := by
  have := height_bound h hs; omega

/-- Ladder depth is logarithmic in the number of cases: `rh t ≤ 2·log₂(size t + 1) + 1`. -/
theorem depth_log {t : T} (h : Avl t) : 2 ^ (rh t / 2) ≤ size t + 1 :=
  Nat.le_trans (two_pow_le_fib _) (avl_fib h)

/-- `unsigned` controlling type: keys are zero-extended 32-bit values. -/
theorem monoLow_of_zext {t : T} (h : ∀ k ∈ toList t, k < 2 ^ 32) : MonoLow t :=
  (monoLow_iff_monoMod t).2 (monoMod_of_lt h)

/-- `int` controlling type: keys are sign-extended 32-bit values. -/
theorem monoLow_of_sext {t : T}
    (h : ∀ k ∈ toList t, k < 2 ^ 31 ∨ (2 ^ 64 - 2 ^ 31 ≤ k ∧ k < 2 ^ 64)) : MonoLow t := by
  intro a ha b hb
  have h1 := h a ha
  have h2 := h b hb
  omega

/-! ## Why the case constants are converted

`switchcase` (qbe.c) converts each case constant to the promoted controlling type before
`treeinsert` (`caseKey`).  The next two theorems are about trees of unconverted constants, for which
the ladder is wrong. -/

/-- `switch (x /* 32-bit */) { case INT_MIN: … case 0x90000000: … }` with the constants taken as
they are: the tree holds `2^64 - 2^31` and `0x90000000`.  For `x` with low 32 bits `0x90000000` the
ladder compares (unsigned, 32 bits) against `0x80000000` at the root, goes right and reaches the
default label, although the key `0x90000000` is in the tree. -/
theorem search_w_noncanonical_counterexample :
    let t := insert (insert nil (2 ^ 64 - 2 ^ 31)) 0x90000000
    Avl t ∧ Bst t ∧ ¬ MonoLow t ∧ 0x90000000 ∈ toList t ∧ search true t 0x90000000 = none := by
  decide

/-- Likewise `case 0:` and `case 0x100000000:` in a 32-bit switch are different 64-bit keys, so no
duplicate is reported, yet only one of them is reachable. -/
theorem new_noncanonical_counterexample :
    let t := insert nil 0
    (ins t 0x100000000).2.2 = true ∧
      search true (insert t 0x100000000) 0x100000000 = some 0 := by
  decide

theorem caseKey_canonical_unsigned {i : Nat} : caseKey 4 false i < 2 ^ 32 := by
  rw [caseKey_four]; exact Nat.mod_lt _ (by decide)

theorem caseKey_canonical_signed {i : Nat} :
    caseKey 4 true i < 2 ^ 31 ∨ (2 ^ 64 - 2 ^ 31 ≤ caseKey 4 true i ∧ caseKey 4 true i < 2 ^ 64) := by
  simp only [caseKey_four, Bool.true_and, decide_eq_true_eq]; split <;> omega

theorem caseKey_low {s : Bool} {i : Nat} : caseKey 4 s i % 2 ^ 32 = i % 2 ^ 32 :=
  caseKey_four_low s i

theorem monoLow_caseKey (s : Bool) (cs : List Nat) :
    MonoLow ((cs.map (caseKey 4 s)).foldl insert nil) := by
  cases s
  · refine monoLow_of_zext fun k hk => ?_
    obtain ⟨c, -, rfl⟩ := List.mem_map.1 (reachable_mem.1 hk)
    exact caseKey_canonical_unsigned
  · refine monoLow_of_sext fun k hk => ?_
    obtain ⟨c, -, rfl⟩ := List.mem_map.1 (reachable_mem.1 hk)
    exact caseKey_canonical_signed

/-- `none`: the ladder reaches the default label. -/
theorem switch_correct (w : Bool) (f : Nat → Nat) (cs : List Nat) (v k : Nat)
    (hm : MonoMod (modulus w) ((cs.map f).foldl insert nil)) :
    (search w ((cs.map f).foldl insert nil) v = some k ↔
      k ∈ cs.map f ∧ k % modulus w = v % modulus w) ∧
    (search w ((cs.map f).foldl insert nil) v = none ↔
      ∀ c ∈ cs, f c % modulus w ≠ v % modulus w) := by
  have hb := (reachable_inv (cs.map f)).2
  simp only [search_some_iff hb hm, search_none_iff hb hm, reachable_mem, List.forall_mem_map,
    and_self]

/-- End to end for a 4-byte controlling type of either signedness: no hypothesis on the case constants. -/
theorem switch_w_correct (s : Bool) (cs : List Nat) (v k : Nat) :
    let t := (cs.map (caseKey 4 s)).foldl insert nil
    (search true t v = some k ↔ k ∈ cs.map (caseKey 4 s) ∧ k % 2 ^ 32 = v % 2 ^ 32) ∧
    (search true t v = none ↔ ∀ c ∈ cs, c % 2 ^ 32 ≠ v % 2 ^ 32) := by
  have := switch_correct true (caseKey 4 s) cs v k ((monoLow_iff_monoMod _).1 (monoLow_caseKey s cs))
  simp only [modulus_true, caseKey_four_low] at this
  exact this

/-- 8-byte controlling type: the constants are used modulo 2^64, i.e. unchanged. -/
theorem switch_l_correct (s : Bool) (cs : List Nat) (v k : Nat) :
    let t := (cs.map (caseKey 8 s)).foldl insert nil
    (search false t v = some k ↔ k ∈ cs.map (caseKey 8 s) ∧ k = v % 2 ^ 64) ∧
    (search false t v = none ↔ ∀ c ∈ cs, c % 2 ^ 64 ≠ v % 2 ^ 64) := by
  have hlt : ∀ k ∈ cs.map (caseKey 8 s), k % 2 ^ 64 = k := fun k hk => by
    obtain ⟨c, -, rfl⟩ := List.mem_map.1 hk
    exact Nat.mod_mod ..
  have := switch_correct false (caseKey 8 s) cs v k
    (monoMod_of_lt fun k hk => hlt k (reachable_mem.1 hk) ▸ Nat.mod_lt _ (by decide))
  simp only [modulus_false, caseKey_eight, Nat.mod_mod] at this
  exact ⟨this.1.trans (and_congr_right fun hk => by rw [hlt k hk]), this.2⟩

/-- `multiple 'case' labels with same value` is reported exactly for constants that are equal
after conversion to the controlling type (compare `new_noncanonical_counterexample`). -/
theorem switch_dup_detected (s : Bool) (cs : List Nat) (c : Nat) :
    (ins ((cs.map (caseKey 4 s)).foldl insert nil) (caseKey 4 s c)).2.2 = false ↔
      ∃ c' ∈ cs, c' % 2 ^ 32 = c % 2 ^ 32 := by
  rw [← Bool.not_eq_true, insert_new_iff_absent (reachable_inv _).2, Classical.not_not, reachable_mem,
    List.mem_map]
  simp only [caseKey_four_eq_iff]

/-- With the conversion both witnesses disappear. -/
example : search true ([2 ^ 64 - 2 ^ 31, 0x90000000].map (caseKey 4 true) |>.foldl insert nil)
    0x90000000 = some (2 ^ 64 - 0x70000000) := by decide
example : (ins ([0].map (caseKey 4 true) |>.foldl insert nil) (caseKey 4 true 0x100000000)).2.2
    = false := by decide
example : caseKey 4 true 0xFFFFFFFF = 2 ^ 64 - 1 ∧ caseKey 4 false (2 ^ 64 - 1) = 0xFFFFFFFF ∧
    caseKey 8 true (2 ^ 64 - 1) = 2 ^ 64 - 1 := by decide

example : [10, 20, 30].foldl insert nil = node 20 2 (node 10 1 nil nil) (node 30 1 nil nil) := by
  decide
example : [10, 20, 30, 40, 50].foldl insert nil =
    node 20 3 (node 10 1 nil nil) (node 40 2 (node 30 1 nil nil) (node 50 1 nil nil)) := by decide
example : [10, 20, 30, 40, 50, 25].foldl insert nil =
    node 30 3 (node 20 2 (node 10 1 nil nil) (node 25 1 nil nil)) (node 40 2 nil (node 50 1 nil nil)) := by
  decide
example : exTree =
    node 30 4 (node 20 3 (node 10 2 (node 5 1 nil nil) nil) (node 25 1 nil nil))
      (node 40 2 nil (node 50 1 nil nil)) := by decide
example : toList exTree = [5, 10, 20, 25, 30, 40, 50] := by decide +kernel

/-! The hypotheses of the theorems above hold of the example trees. -/

example : Avl exTree ∧ size exTree < 2 ^ 64 := by decide +kernel
example : Bst exTree := by decide +kernel
example : Bst exTree ∧ 25 ∈ toList exTree := by decide +kernel
example : (ins exTree 25).2.2 = false ∧ (ins exTree 26).2.2 = true := by decide +kernel
example : Bst exTreeL ∧ (∀ k ∈ toList exTreeL, k < 2 ^ 64) ∧ size exTreeL = 7 := by decide +kernel
example : search false exTreeL (2 ^ 64 + 7) = some 7 ∧ search false exTreeL 8 = none := by decide +kernel
example : Bst exTreeSext ∧ MonoLow exTreeSext ∧ size exTreeSext = 7 := by decide +kernel
example : ∀ k ∈ toList exTreeSext, k < 2 ^ 31 ∨ (2 ^ 64 - 2 ^ 31 ≤ k ∧ k < 2 ^ 64) := by decide +kernel
example : Bst exTreeZext ∧ MonoLow exTreeZext ∧ size exTreeZext = 7 := by decide +kernel
example : ∀ k ∈ toList exTreeZext, k < 2 ^ 32 := by decide +kernel
/-- `x = -7` held in a 32-bit temporary (upper bits arbitrary) reaches `case -7`. -/
example : search true exTreeSext (2 ^ 32 - 7) = some (2 ^ 64 - 7) ∧
    search true exTreeSext (5 * 2 ^ 32 + 6) = none := by decide +kernel

end CprocVerif.C15
