import CprocVerif.Lemmas.DriverProps
import CprocVerif.Gen.DriverTables

/-!
# C17 — the driver runs exactly the documented stages with the documented arguments

Model: `Model/Driver.lean` (`plan`: what `/repo/driver.c` does with a command line).
Spec: `Spec/DriverDoc.lean` (cproc(1) as data; a command line is a list of items, each rendered
attached or detached).  All theorems quantify over EVERY well-formed command line `c : Cmd` (any
length, any option arguments, any mixture of attached/detached forms) and every configuration.

Left out: argument lists that are not renderings of well-formed items (`-cfoo`, `-Wq,x`, `-Mx`: usage
errors in the model), except an unknown option or a flag without its value after a rendered prefix
(`unknown_option_refused`, `missing_argument_refused`).

`Opts.manual` is the manual taken literally, `Opts.asImplemented` differs from it in the two
documented points the code does not follow (`-emit-qbe` default output, `-pthread` placement).
-/

namespace CprocVerif.DriverLemmas
open CprocVerif.Driver CprocVerif.DriverDoc

def wStage : Tool → Stage
  | .cpp => .preprocess | .cc => .compile | .qbe => .codegen | .as => .assemble | .ld => .link

def toDoc : Outcome → DocOutcome
  | .fatalTarget => .fatalTarget
  | .refused _ => .refused
  | .run p => .run p

end CprocVerif.DriverLemmas

namespace CprocVerif.C17
open CprocVerif.Driver CprocVerif.DriverDoc CprocVerif.DriverLemmas

/-! Tables: extracted from `driver.c` = used by the model; model = documentation -/

theorem gen_suffixTable :
    Gen.DriverTables.suffixTable = suffixTable ∧ Gen.DriverTables.suffixDefault = FileType.obj := ⟨rfl, rfl⟩
theorem gen_maskTable : Gen.DriverTables.maskTable = maskTable := rfl
theorem gen_langTable : Gen.DriverTables.langTable = langTable := rfl
theorem gen_archTable : Gen.DriverTables.archTable = archTable := rfl
theorem gen_wTable : Gen.DriverTables.wTable = wTable := rfl
theorem gen_optRows : Gen.DriverTables.optRows = optRows := rfl

theorem tables_agree_with_doc :
    suffixTable = docSuffixes ∧ langTable = docLangs ∧
    ([FileType.asm, .asmpp, .c, .chdr, .cppout, .obj, .qbe].all fun t => maskTable.lookup t == some (docStages t)) = true ∧
    maskTable.lookup FileType.none = none ∧
    ([Tool.cpp, .as, .ld].all fun t => wTable.lookup (wLetter t) == some (wStage t)) = true :=
  ⟨rfl, rfl, by decide, rfl, by decide⟩

/-- one argument per row of `optRows` that is not a usage error, in the order of the rows (single
arguments, not renderings: `-include` stands without its value) -/
def sampleArgs : List Str :=
  [str "-nostdlib", str "-nostdinc", str "-static", str "-emit-qbe", str "-include", str "-idirafter",
   str "-isystem", str "-iquote", str "-pipe", str "-std=c11", str "-pedantic", str "-pthread", str "-c", str "-Dx",
   str "-E", str "-g", str "-Ix", str "-Lx", str "-lx", str "-M", str "-MM", str "-MD", str "-MMD", str "-MT",
   str "-MF", str "-O2", str "-ox", str "-P", str "-S", str "-s", str "-Ux", str "-v", str "-Wall", str "-xc"]

/-- every row of the option chain is selected by some documented spelling, except the
`-M<other>` fallback, which is a usage error -/
theorem optRows_all_reachable :
    (optRows.all fun r => r.act == .usage || sampleArgs.any fun a => firstMatch a == some r) = true := by
  have h : sampleArgs.map firstMatch = (optRows.filter (·.act != .usage)).map some := by decide +kernel
  refine List.all_eq_true.2 fun r hr => ?_
  by_cases hu : r.act = .usage
  · simp [hu]
  · have : some r ∈ sampleArgs.map firstMatch := by
      rw [h]; exact List.mem_map.2 ⟨r, List.mem_filter.2 ⟨hr, by simpa using hu⟩, rfl⟩
    obtain ⟨a, ha, e⟩ := List.mem_map.1 this
    exact Bool.or_eq_true_iff.2 (Or.inr (List.any_eq_true.2 ⟨a, ha, by simp [e]⟩))

/-- The model plans what the documentation prescribes, in the code's reading of the two deviating
points: same refusals, same pipelines with the same argv and wiring, same link command, same
temporaries. -/
theorem plan_eq_docPlan (cfg : Config) (c : Cmd) (h : c.WF = true) :
    toDoc (plan cfg c.argv) = docPlan .asImplemented cfg c := by
  unfold docPlan
  cases ha : docArch cfg.target with
  | none => rw [plan_fatal _ _ ha]; rfl
  | some arch =>
    obtain ⟨w, hw⟩ := plan_spec h ha
    show _ = if docRefuses c then DocOutcome.refused else .run (implPlan cfg arch c)
    rw [hw]
    cases docRefuses c <;> rfl

/-- Full strength: the manual taken literally.  FALSE (two counterexamples below). -/
def manual_full : Prop :=
  ∀ (cfg : Config) (c : Cmd), c.WF = true → toDoc (plan cfg c.argv) = docPlan .manual cfg c

def sampleCfg : Config :=
  { target := str "x86_64-linux-gnu", startfiles := [str "crt1.o"], endfiles := [str "crtn.o"],
    preprocesscmd := [str "cpp", str "-U", str "__GNUC__"], compilecmd := [str "/bin/cproc-qbe"],
    codegencmd := [str "qbe"], assemblecmd := [str "as"], linkcmd := [str "ld", str "--dynamic-linker", str "/ld.so"] }

def cexEmitQbe : Cmd := [(.emitQbe, false), (.input (str "a.c"), false)]
def cexPthread : Cmd := [(.pthread, false), (.input (str "a.o"), false), (.lib (str "foo"), false)]

theorem not_manual_full {c : Cmd} (hwf : c.WF = true)
    (h : docPlan .asImplemented sampleCfg c ≠ docPlan .manual sampleCfg c) : ¬ manual_full :=
  fun hf => h ((plan_eq_docPlan sampleCfg c hwf).symm.trans (hf sampleCfg c hwf))

/-- `cproc -emit-qbe a.c` writes `a.qbe`; cproc(1) says standard output. -/
theorem manual_counterexample_emit_qbe : ¬ manual_full :=
  not_manual_full (c := cexEmitQbe) (by decide) (by decide +kernel)

/-- `cproc -pthread a.o -lfoo`: `-l pthread` precedes `-o` and every object; cproc(1) says
`-pthread` is `-lpthread`. -/
theorem manual_counterexample_pthread : ¬ manual_full :=
  not_manual_full (c := cexPthread) (by decide) (by decide +kernel)

/-- Without `-pthread`, and unless `-emit-qbe` is used without `-o` on an input it applies to,
the model does exactly what the manual says. -/
theorem manual_partial (cfg : Config) (c : Cmd) (h : c.WF = true) (hd : deviations c = []) :
    toDoc (plan cfg c.argv) = docPlan .manual cfg c := by
  rw [docPlan_manual_eq cfg c hd]; exact plan_eq_docPlan cfg c h

/-- `cproc -c -D X=1 -Iinc dir/a.c b.S -Wa,--x, -x qbe - -l m -s`: a line that satisfies the hypotheses
of `manual_partial`, `output_name_partial`, `routing_link_partial` and of the two refusal theorems -/
def sampleCmd : Cmd :=
  [(.c, false), (.define (str "X=1"), true), (.incdir (str "inc"), false), (.input (str "dir/a.c"), false),
   (.input (str "b.S"), false), (.wtool .as [str "--x", str ""], false), (.lang (str "qbe"), true),
   (.input (str "-"), false), (.lib (str "m"), true), (.strip, false)]

example : sampleCmd.WF = true ∧ deviations sampleCmd = [] ∧ docRefuses sampleCmd = false := by decide +kernel

/-- Every tool of every pipeline receives its configured base command, the target flag where
applicable, and precisely the user options documented as belonging to it, in command-line order
(`docBase`; full strength: the manual's routing table `toolArgs`). -/
theorem routing {cfg : Config} {c : Cmd} (h : c.WF = true) {p : Plan} (hp : plan cfg c.argv = .run p) :
    ∃ arch, docArch cfg.target = some arch ∧
      ∀ pl ∈ p.pipelines, ∀ inv ∈ pl.invs, inv.stage ≠ .link ∧ inv.base = docBase cfg arch c inv.stage := by
  obtain ⟨arch, ha, rfl⟩ := plan_run h hp
  refine ⟨arch, ha, fun pl hpl inv hinv => ?_⟩
  obtain ⟨_, _, hsts, hall⟩ := mem_plan hpl
  have hne : inv.stage ≠ .link := by
    have hst := List.mem_map_of_mem (f := (·.stage)) hinv
    rw [hsts, List.mem_filter] at hst
    exact (by simpa using hst.2 : _ ∧ ¬inv.stage = Stage.link).2
  exact ⟨hne, by rw [(hall inv hinv).1]; exact implBase_eq_docBase cfg arch c _ (Or.inl hne)⟩

/-- full strength for the linker: its options are exactly the documented ones.  FALSE. -/
def routing_link_full : Prop :=
  ∀ (cfg : Config) (c : Cmd), c.WF = true → ∀ p a, plan cfg c.argv = .run p → p.link = some a →
    ∃ arch, docArch cfg.target = some arch ∧
      ∃ rest, a = (docBase cfg arch c .link).map .lit ++ Word.lit (str "-o") :: rest

theorem sampleArch : docArch sampleCfg.target = some (str "x86_64-sysv", str "amd64_sysv") := by decide +kernel

theorem routing_link_counterexample : ¬ routing_link_full := by
  intro hf
  obtain ⟨arch, ha, rest, hr⟩ := hf sampleCfg cexPthread (by decide) _ _
    (plan_accepts (by decide) sampleArch (by decide +kernel)) rfl
  cases sampleArch.symm.trans ha
  -- the fourth word is `-l` in the link command planned, `-o` in the documented one
  have h3 := congrArg (fun l => (l.drop 3).head?) hr
  rw [show (((docBase sampleCfg (str "x86_64-sysv", str "amd64_sysv") cexPthread .link).map Word.lit ++
      Word.lit (str "-o") :: rest).drop 3).head? = some (Word.lit (str "-o")) from rfl] at h3
  revert h3
  decide +kernel

/-- Each input passes through exactly the stages implied by its type (suffix, or `-x`) and the
mode flag: `docStages type` cut at the mode, link excluded (`runStages`); an input whose type does
not reach the mode's stage, and every object/library, has no pipeline.  The link step exists iff
no mode flag was given. -/
theorem stages_correct {cfg : Config} {c : Cmd} (h : c.WF = true) {p : Plan} (hp : plan cfg c.argv = .run p) :
    p.pipelines.map (fun pl => (pl.input, pl.invs.map (·.stage))) =
      (docInputs c).zipIdx.filterMap (stagesOfInput (docMode c)) ∧
    (p.link.isSome ↔ docMode c = .link) := by
  obtain ⟨arch, _, rfl⟩ := plan_run h hp
  refine ⟨docPipelines_stages _ _ _ _ _ 0, ?_⟩
  simp only [implPlan]
  split <;> simp [*]

theorem runStages_spec (mode : Stage) (t : FileType) (st : Stage) :
    (∃ sts, runStages mode t = some sts ∧ st ∈ sts) ↔
      (mode ∈ docStages t ∧ st ∈ docStages t ∧ st.idx ≤ mode.idx ∧ st ≠ .link) := by
  unfold runStages
  by_cases hm : (docStages t).contains mode = true
  · simp only [hm, if_true, Option.some.injEq, exists_eq_left', List.mem_filter, Bool.and_eq_true,
      decide_eq_true_eq, bne_iff_ne, ne_eq]
    have : mode ∈ docStages t := by simpa using hm
    simp [this]
  · have : mode ∉ docStages t := by simpa using hm
    simp [this]

theorem pipeline_order {cfg : Config} {c : Cmd} (h : c.WF = true) {p : Plan} (hp : plan cfg c.argv = .run p)
    {pl : Pipeline} (hpl : pl ∈ p.pipelines) :
    (pl.invs.map (·.stage)).Pairwise (fun a b => a.idx < b.idx) ∧
    ∀ inv ∈ pl.invs,
      (inv.src = .prev ↔ (pl.invs.map (·.stage)).head? ≠ some inv.stage) ∧
      (inv.dst = .pipe ↔ (pl.invs.map (·.stage)).getLast? ≠ some inv.stage) := by
  obtain ⟨_, _, rfl⟩ := plan_run h hp
  obtain ⟨d, _, hsts, hall⟩ := mem_plan hpl
  exact ⟨hsts ▸ (docStages_sorted d.ftype).filter _, fun inv hinv => ⟨(hall inv hinv).2.1, (hall inv hinv).2.2.1⟩⟩

/-- The stage that ends a pipeline writes where `docOutName` (code's reading: `-emit-qbe` like
`-c`/`-S`) says: the temporary object when linking, else `-o` (`-` = standard output), else the
input name with directory dropped and suffix replaced, else (`-E`) standard output. -/
theorem output_name_correct {cfg : Config} {c : Cmd} (h : c.WF = true) {p : Plan}
    (hp : plan cfg c.argv = .run p) {pl : Pipeline} (hpl : pl ∈ p.pipelines) :
    ∃ d, (docInputs c)[pl.input]? = some d ∧
      ∀ inv ∈ pl.invs, inv.dst ≠ .pipe →
        inv.dst = dstOf (docOutName false (docMode c) (docOutput c) pl.input d.name) := by
  obtain ⟨_, _, rfl⟩ := plan_run h hp
  obtain ⟨d, hd, _, hall⟩ := mem_plan hpl
  exact ⟨d, hd, fun inv hinv => (hall inv hinv).2.2.2⟩

/-- full strength: the manual's naming rule (`-emit-qbe` → standard output).  FALSE. -/
def output_name_full : Prop :=
  ∀ (cfg : Config) (c : Cmd), c.WF = true → ∀ p, plan cfg c.argv = .run p → ∀ pl ∈ p.pipelines,
    ∃ d, (docInputs c)[pl.input]? = some d ∧
      ∀ inv ∈ pl.invs, inv.dst ≠ .pipe →
        inv.dst = dstOf (docOutName true (docMode c) (docOutput c) pl.input d.name)

theorem output_name_counterexample : ¬ output_name_full := by
  intro hf
  have hrun := plan_accepts (cfg := sampleCfg) (c := cexEmitQbe) (by decide) sampleArch (by decide +kernel)
  obtain ⟨pl, hpl, inv, hinv, hne⟩ : ∃ pl ∈ (implPlan sampleCfg (str "x86_64-sysv", str "amd64_sysv") cexEmitQbe).pipelines,
      ∃ inv ∈ pl.invs, inv.dst ≠ .pipe := by decide +kernel
  obtain ⟨d, hd, h1⟩ := hf sampleCfg cexEmitQbe (by decide) _ hrun pl hpl
  obtain ⟨d', hd', h2⟩ := output_name_correct (by decide) hrun hpl
  cases hd.symm.trans hd'
  -- `-emit-qbe` without `-o`: standard output in the manual, `<stem>.qbe` as planned
  cases (h1 inv hinv hne).symm.trans (h2 inv hinv hne)

theorem output_name_partial {cfg : Config} {c : Cmd} (h : c.WF = true)
    (hne : ¬(docMode c = .compile ∧ docOutput c = none)) {p : Plan}
    (hp : plan cfg c.argv = .run p) {pl : Pipeline} (hpl : pl ∈ p.pipelines) :
    ∃ d, (docInputs c)[pl.input]? = some d ∧
      ∀ inv ∈ pl.invs, inv.dst ≠ .pipe →
        inv.dst = dstOf (docOutName true (docMode c) (docOutput c) pl.input d.name) := by
  obtain ⟨d, hd, hall⟩ := output_name_correct h hp hpl
  exact ⟨d, hd, fun inv hi hn => by rw [docOutName_opts _ _ _ _ hne]; exact hall inv hi hn⟩

example : ¬(docMode sampleCmd = .compile ∧ docOutput sampleCmd = none) := by decide +kernel

/-- "replaced suffix": the directory part is dropped and the text from the last `.` of the file
name is replaced (`changeext` of the model = `replaceExt` of the specification). -/
theorem replaced_suffix (name ext : Str) : changeext name ext = stemOf (fileOf name) ++ '.' :: ext :=
  changeext_eq name ext

theorem fileOf_spec (name : Str) :
    (∃ dir, name = dir ++ '/' :: fileOf name ∧ '/' ∉ fileOf name) ∨ ('/' ∉ name ∧ fileOf name = name) := by
  unfold fileOf
  cases h : splitAtLast '/' name with
  | none => exact Or.inr ⟨splitAtLast_none.1 h, rfl⟩
  | some p => exact Or.inl ⟨p.1, splitAtLast_some (b := p.1) (a := p.2) h⟩

theorem stemOf_spec (file : Str) :
    (∃ ext, file = stemOf file ++ '.' :: ext ∧ '.' ∉ ext) ∨ ('.' ∉ file ∧ stemOf file = file) := by
  unfold stemOf
  cases h : splitAtLast '.' file with
  | none => exact Or.inr ⟨splitAtLast_none.1 h, rfl⟩
  | some p => exact Or.inl ⟨p.2, splitAtLast_some (b := p.1) (a := p.2) h⟩

/-- A well-formed command line is refused with a usage error exactly when the documentation
calls it invalid (`docRefuses`: unknown `-x` language, `-` without `-x`, no inputs, `-o -` with
`-c` or when linking, `-o file` with several inputs unless linking).  "Before spawn": the refusal
is computed by `parse` and `check` alone; that `build` (the only place where stages are planned) is
not evaluated on the way is read off the definition of `plan`, not proved. -/
theorem usage_before_spawn {cfg : Config} {c : Cmd} (h : c.WF = true) {arch : Str × Str}
    (ha : docArch cfg.target = some arch) :
    ((∃ w, plan cfg c.argv = .refused (.usage w)) ↔ docRefuses c = true) ∧
    ((∃ p, plan cfg c.argv = .run p) ↔ docRefuses c = false) := by
  obtain ⟨w, hw⟩ := plan_spec h ha
  rw [hw]
  cases docRefuses c <;> simp

/-- Holds by the shape of `Outcome` alone (a refusal carries no plan), for any function in the place
of `plan`. -/
theorem refusal_plans_nothing (cfg : Config) (argv : List Str) (r : Refusal)
    (h : plan cfg argv = .refused r) : ∀ p, plan cfg argv ≠ .run p := by
  intro p hp; rw [hp] at h; cases h

theorem unsupported_target (cfg : Config) (argv : List Str) (h : docArch cfg.target = none) :
    plan cfg argv = .fatalTarget :=
  plan_fatal cfg argv h

/-- An argument `-<ch>…` whose second character begins no option, anywhere after a well-formed
prefix that is itself not refused (`hr`). -/
theorem unknown_option_refused {cfg : Config} {arch : Str × Str} (ha : docArch cfg.target = some arch)
    (c : Cmd) (h : c.WF = true) (hr : parseRefuses .none c.items = false)
    (ch : Char) (hch : ch ∉ knownSecond) (rest : Str) (more : List Str) :
    plan cfg (c.argv ++ ('-'::ch::rest) :: more) = .refused (.usage .unknownOpt) := by
  rw [plan_of_arch ha, (parse_cmd _ c {} h).2 hr, parse_refuse (step_unknown _ ch rest _ hch)]

theorem missing_argument_refused {cfg : Config} {arch : Str × Str} (ha : docArch cfg.target = some arch)
    (c : Cmd) (h : c.WF = true) (hr : parseRefuses .none c.items = false)
    (flag : Str) (hf : flag ∈ danglingFlags) :
    plan cfg (c.argv ++ [flag]) = .refused (.usage .plain) := by
  rw [plan_of_arch ha, (parse_cmd _ c {} h).2 hr, parse_refuse (rest := []) (step_dangling _ flag hf)]

example : parseRefuses .none sampleCmd.items = false ∧ ('z' ∉ knownSecond) ∧ ('-' ∉ knownSecond) := by decide +kernel

/-- The link command: configured command and linker options (`-L`, `-s`, `-static`, `-Wl,` in
command-line order; `-l pthread` for `-pthread`), `-o`, the start files unless `-nostdlib`, then
objects, `-l` libraries and temporary objects in command-line order of the inputs they come from
(inputs whose type does not include linking contribute nothing), then the end files. -/
theorem link_inputs_order {cfg : Config} {c : Cmd} (h : c.WF = true) {p : Plan}
    (hp : plan cfg c.argv = .run p) {a : List Word} (ha : p.link = some a) :
    ∃ arch, docArch cfg.target = some arch ∧
      a = (implBase cfg arch c .link).map .lit ++
          [.lit (str "-o"), .lit ((docOutput c).getD (str "a.out"))] ++
          (if c.items.contains .nostdlib then [] else cfg.startfiles.map .lit) ++
          (docInputs c).zipIdx.flatMap linkWordsOfInput ++
          (if c.items.contains .nostdlib then [] else cfg.endfiles.map .lit) := by
  obtain ⟨arch, har, rfl⟩ := plan_run h hp
  refine ⟨arch, har, ?_⟩
  simp only [implPlan] at ha
  split at ha
  · simp only [Option.some.injEq] at ha
    rw [← ha, docLinkWords_zipIdx]
  · simp at ha

theorem routing_link_partial {cfg : Config} {c : Cmd} (h : c.WF = true) (hnp : Item.pthread ∉ c.items)
    {p : Plan} {a : List Word} (hp : plan cfg c.argv = .run p) (ha : p.link = some a) :
    ∃ arch, docArch cfg.target = some arch ∧
      ∃ rest, a = (docBase cfg arch c .link).map .lit ++ Word.lit (str "-o") :: rest := by
  obtain ⟨arch, har, rfl⟩ := link_inputs_order h hp ha
  exact ⟨arch, har, _, by rw [implBase_eq_docBase cfg arch c .link (Or.inr hnp)]; simp only [List.append_assoc]; rfl⟩

example : Item.pthread ∉ sampleCmd.items := by decide

/-- The temporaries removed at exit are exactly those made for the compiled inputs. -/
theorem temporaries {cfg : Config} {c : Cmd} (h : c.WF = true) {p : Plan} (hp : plan cfg c.argv = .run p) :
    p.unlinks = if docMode c = .link then docUnlinks .asImplemented 0 (docInputs c) else [] := by
  obtain ⟨arch, _, rfl⟩ := plan_run h hp
  rfl

end CprocVerif.C17
