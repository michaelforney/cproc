import CprocVerif.Lemmas.EvalTree
import CprocVerif.Lemmas.EvalLit
import CprocVerif.Gen.IntLimits
import CprocVerif.Gen.BasicTypes

/-!
# C04 — constant expressions fold to the value run-time evaluation would give

Property theorems relating the model of `/repo/eval.c` (`Model/Eval.lean`) to C11 integer
semantics (`Spec/CInt.lean`).  Every theorem quantifies over all operand values; integer types
range over all widths 8/16/32/64 of either signedness (`IntTy.Arith`), plus `_Bool` where stated
(`IntTy.Valid`).  Floating point operations are fields of an arbitrary `FloatOps F`.

Five deviations found while stating these theorems were repaired in `/repo` (conversion to
`_Bool`: 7c8b86a; `C + (long)(P + C1)`: 536afbc; `int → float` double rounding: 0457315; floating
`?:` condition: b66d549; integer literal `≥ 2^64`: 23c06f0); the model is the repaired code and
the statements below hold at full strength (`cast_correct`, `addr_fold_swapped`,
`fold_int_to_float_model`, `cond_float_condition`, `literal_overflow_rejected`).

Trap: `binary_correct`, `cast_correct`, `eval_correct`, `eval_canon` exist in `CprocVerif.Eval` as well;
inside this namespace the bare name is the theorem of this file (for `eval_canon` a different
statement), the lemma is written `Eval.…`.
-/

namespace CprocVerif.C04
open CprocVerif.CInt CprocVerif.Eval

section
variable {F : Type} (ops : FloatOps F)

/-- When C11 defines `a op b = v`, `binary` (hence the folded node) carries `repr64 t' (wrap t' v)`, `t'` the result
type.  Operands are canonical constants of the common type `t`; for shifts the right operand may
have any type `tr` (`hty`). -/
theorem binary_correct {t tr : IntTy} (ht : t.Arith) (htr : tr.Arith) (op : BinOp)
    (hop : op ≠ .lor ∧ op ≠ .land) (hty : op.isShift = false → tr = t)
    {a b v : Int} (ha : InRange t a) (hb : InRange tr b) (h : CInt.bin op t a b = some v) :
    Eval.binary ops op (tyOf t) (repr64 t a) (repr64 tr b) (tyOf (binResTy op t))
      = some (repr64 (binResTy op t) (wrap (binResTy op t) v)) :=
  Eval.binary_correct ops ht htr op hop hty ha hb h

/-- So `wrap t' v = v` in `binary_correct`. -/
theorem binary_result_inRange {t : IntTy} (ht : t.Arith) (op : BinOp) {a b v : Int}
    (ha : InRange t a) (hb : op.isShift = false → InRange t b) (h : CInt.bin op t a b = some v) :
    InRange (binResTy op t) v :=
  bin_inRange ht op ha hb h

/-- The folding step of `eval` (guard included): a defined operation is folded, to the C value. -/
theorem fold_correct {t tr : IntTy} (ht : t.Arith) (htr : tr.Arith) (op : BinOp)
    (hop : op ≠ .lor ∧ op ≠ .land) (hty : op.isShift = false → tr = t)
    {a b v : Int} (ha : InRange t a) (hb : InRange tr b) (h : CInt.bin op t a b = some v) :
    foldBin ops op (tyOf t) (repr64 t a) (repr64 tr b) (tyOf (binResTy op t))
      = .folded (repr64 (binResTy op t) v) :=
  foldBin_correct ops ht htr op hop hty ha hb h

/-- `-e`: `unary(TSUB)`; `~e`: `e ^ mkconstexpr(type, -1)` (64 one bits, any type); `!e`: `e == 0`
of type `int`; `+e`: the operand itself. -/
theorem unary_correct {t : IntTy} (ht : t.Arith) {a v : Int} (ha : InRange t a) :
    (CInt.un .neg t a = some v →
      unaryNeg ops (tyOf t) (tyOf t) (repr64 t a) = repr64 t (wrap t v)) ∧
    (CInt.un .bnot t a = some v →
      foldBin ops .bxor (tyOf t) (repr64 t a) (W - 1) (tyOf t) = .folded (repr64 t (wrap t v))) ∧
    (CInt.un .lnot t a = some v →
      foldBin ops .eq (tyOf t) (repr64 t a) 0 (tyOf IntTy.int)
        = .folded (repr64 IntTy.int (wrap IntTy.int v))) ∧
    (CInt.un .plus t a = some v → repr64 t a = repr64 t v) :=
  ⟨unaryNeg_correct ops ht, bnot_correct ops ht,
   fun h => by
    cases h
    exact foldBin_of_binary ops (by decide)
      (binary_correct ops ht ht .eq (by decide) (fun _ => rfl) ha (inRange_zero t) rfl),
   fun h => by cases h; rfl⟩

/-- Every conversion between integer types, `_Bool` included (6.3.1.2: "0 if the value compares
equal to 0, otherwise 1"; 6.3.1.3: modular).  `(_Bool)256` is 1. -/
theorem cast_correct {f t : IntTy} (hf : f.Valid) (ht : t.Valid) {v : Int} (hv : InRange f v) :
    castConst ops (tyOf f) (tyOf t) (repr64 f v) = .const (tyOf t) (repr64 t (wrap t v)) :=
  Eval.cast_correct ops hf ht hv

/-- Conversion of ANY constant (integer, floating, pointer) to `_Bool` is its truth value. -/
theorem cast_to_bool (lty : Ty) (l : Nat) :
    castConst ops lty (tyOf IntTy.bool) l = .const (tyOf IntTy.bool) (b2n (istrue ops lty l)) :=
  castConst_bool ops lty l

/-- C11 6.5.7p3 makes a negative count or a count `≥` the width of the promoted left operand
undefined (so no value is prescribed); `binary` masks the count with 63 and never executes an
undefined host shift: a shift of constants always folds.  For defined shifts the folded value is
the C value (`fold_correct`). -/
theorem shift_count_guard {t : IntTy} (op : BinOp) (hop : op = .shl ∨ op = .shr) :
    (∀ a b : Int, (b < 0 ∨ (t.bits : Int) ≤ b) → CInt.bin op t a b = none) ∧
    (∀ (sz : Nat) (sg : Bool) (l r : Nat) (ty : Ty), ∃ u, foldBin ops op (.int sz sg) l r ty = .folded u) := by
  refine ⟨fun a b h => ?_, fun sz sg l r ty => ?_⟩
  · rcases hop with rfl | rfl <;> simp [CInt.bin, h]
  · rcases hop with rfl | rfl
    · exact ⟨_, rfl⟩
    · cases sg <;> exact ⟨_, rfl⟩

/-- Both operands constant integers, of any two integer types (no conversion between them). -/
theorem lor_land_correct {tl tr : IntTy} (hl : tl.Valid) (hr : tr.Valid) (op : BinOp)
    (hop : op = .lor ∨ op = .land) {a b v : Int} (ha : InRange tl a) (hb : InRange tr b)
    (h : CInt.bin op tl a b = some v) :
    eval ops (.binary op (tyOf IntTy.int) (.const (tyOf tl) (repr64 tl a)) (.const (tyOf tr) (repr64 tr b)))
      = .const (tyOf IntTy.int) (repr64 IntTy.int v) := by
  rcases hop with rfl | rfl <;> simp only [CInt.bin] at h <;> cases h <;>
    simp only [eval, Expr.isFail, istrue_int ops hl ha, istrue_int ops hr hb, repr64_b2i] <;>
    by_cases ha0 : a = 0 <;> by_cases hb0 : b = 0 <;> simp [ha0, hb0]

/-- Short circuit: when the left constant (integer OR floating: `istrue`) decides, the node folds
whatever the right operand is, as long as evaluating it does not end the compilation. -/
theorem lor_land_short_circuit (t lty : Ty) (lu : Nat) (r : Expr)
    (hr : (eval ops r).isFail = false) :
    (istrue ops lty lu = true → eval ops (.binary .lor t (.const lty lu) r) = .const t 1) ∧
    (istrue ops lty lu = false → eval ops (.binary .land t (.const lty lu) r) = .const t 0) :=
  ⟨eval_lor_land_decided ops t (Or.inl rfl) rfl hr, eval_lor_land_decided ops t (Or.inr rfl) rfl hr⟩

/-- Whenever a `||`/`&&` node folds, it folds to 0 or 1 (the defect fixed by b3c8afb). -/
theorem lor_land_zero_one (op : BinOp) (hop : op = .lor ∨ op = .land) (t : Ty) (l r : Expr)
    {t' : Ty} {u : Nat} (h : eval ops (.binary op t l r) = .const t' u) : u = 0 ∨ u = 1 := by
  have hs := eval_binary_step ops op t l r
  generalize eval ops (.binary op t l r) = e at hs h
  cases hs with
  | failL hf => rw [h] at hf; cases hf
  | failR _ hf => rw [h] at hf; cases hf
  | logic c => cases h; cases c <;> simp [b2n]
  | fold _ _ ho => exact absurd hop (not_or.2 ho)
  | _ => cases h

/-- `hb`: `Expr.bad` stands for `fatal("internal error …")`, which only ill-typed trees (e.g. `%` on a floating
node) can reach. -/
theorem eval_canon_of_ne_bad (e : Expr) (h : Canon e) (hb : eval ops e ≠ .bad) : Canon (eval ops e) :=
  (Eval.eval_canon ops e h).resolve_left hb

/-- On the integer fragment `eval` never fails, so the invariant is preserved without the hypothesis `≠ .bad`. -/
theorem eval_canon (e : Expr) (hi : IntFrag e) (h : Canon e) :
    Canon (eval ops e) ∧ IntFrag (eval ops e) ∧ (eval ops e).ty = e.ty := by
  obtain ⟨h1, h2⟩ := eval_intFrag ops e hi
  refine ⟨(Eval.eval_canon ops e h).resolve_left ?_, h1, h2⟩
  intro hb; rw [hb] at h1; exact h1

/-- If C11 gives the expression the value `v` (`evalC`: every subexpression that is evaluated is
defined; `||`/`&&` do not evaluate a decided right operand), `eval` returns the constant
`repr64 t v` of the expression's type `t`. -/
theorem eval_correct (e : Expr) (hi : IntFrag e) (hc : Canon e) {v : Int} (hv : evalC e = some v) :
    ∃ t : IntTy, e.ty.ity? = some t ∧ InRange t v ∧ eval ops e = .const e.ty (repr64 t v) :=
  Eval.eval_correct ops e hi hc v hv

/-- The constant shortcut of `condexpr`: an integer constant condition selects the branch C selects. -/
theorem cond_shortcut_correct (c l r : Expr) (t : Ty) (hi : IntFrag c) (hc : Canon c) {v : Int}
    (hv : evalC c = some v) :
    condexpr ops c l r t = convert (if v ≠ 0 then l else r) t := by
  obtain ⟨tc, hty, hr, he⟩ := Eval.eval_correct ops c hi hc v hv
  simp only [condexpr, he, isInt_of_ity? hty, true_or, if_true, istrue_of_ity? ops hi hc hty hr]
  by_cases hz : v = 0 <;> simp [hz]

/-- A floating constant condition is folded by its truth value (`0.5 ? 1 : 2` is 1). -/
theorem cond_float_condition (c l r : Expr) (t : Ty) (sz u : Nat)
    (h : eval ops c = .const (.flt sz) u) :
    condexpr ops c l r t = convert (if istrue ops (.flt sz) u then l else r) t := by
  simp [condexpr, h, Ty.isFlt]

/-- `intconstexpr(s, allowneg)` yields the 64-bit representation; with `allowneg = false` it
rejects exactly the negative values (an `unsigned long` value `≥ 2^63` is not negative). -/
theorem intconstexpr_sign_rule (e : Expr) {t : IntTy} (ht : t.Valid) {v : Int} (hv : InRange t v)
    (he : eval ops e = .const (tyOf t) (repr64 t v)) (allowneg : Bool) :
    intconstexpr ops e allowneg = if allowneg = false ∧ v < 0 then none else some (repr64 t v) := by
  simp only [intconstexpr, he, tyOf_isInt, if_true, Bool.and_assoc, isSigned_and_top_bit ht hv]
  cases allowneg <;> simp

/-- `x / 0`, `x % 0` (any integer type, any `x`) and `LLONG_MIN / -1`, `LLONG_MIN % -1` stay
unfolded; and for integer operands `eval` never calls `binary` where the host operation is
undefined (all sizes, all bit patterns). -/
theorem undefined_left_unfolded (op : BinOp) :
    ((op = .div ∨ op = .mod) → ∀ lty, lty.isInt = true → ∀ l ty, foldBin ops op lty l 0 ty = .unfolded) ∧
    ((op = .div ∨ op = .mod) → ∀ sz ty, foldBin ops op (.int sz true) (2 ^ 63) (W - 1) ty = .unfolded) ∧
    ((op ≠ .lor ∧ op ≠ .land) → ∀ lty, lty.isInt = true → ∀ l r ty, foldBin ops op lty l r ty ≠ .hostUB) :=
  ⟨fun h lty hl l ty => if_pos ⟨h, by simp [divGuard, hl]⟩,
   fun h sz ty => if_pos ⟨h, by simp only [divGuard, Ty.isInt, Ty.isSigned]; decide⟩,
   fun h lty hl l r ty => foldBin_no_hostUB ops op h hl l r ty⟩

/-- …and the spec leaves division and remainder by zero undefined (`none`). -/
theorem spec_div_zero_undefined (t : IntTy) (a : Int) :
    CInt.bin .div t a 0 = none ∧ CInt.bin .mod t a 0 = none := by
  simp [CInt.bin]

/-- `(P + C1) ± C2 → P + (C1 ± C2)` with 64-bit offsets (all that `mkbinaryexpr` produces): the
new offset is `C1 ± C2` modulo `2^64`, i.e. the address arithmetic of the target. -/
theorem addr_fold (P : Expr) (ty : Ty) (s1 s2 : Bool) {c1 c2 : Nat} (h1 : c1 < W) (h2 : c2 < W) :
    evalAddSub ops .add ty (.binary .add .ptr P (.const (.int 8 s1) c1)) (.const (.int 8 s2) c2)
      = .binary .add ty P (.const (.int 8 s2) ((c1 + c2) % W)) ∧
    evalAddSub ops .sub ty (.binary .add .ptr P (.const (.int 8 s1) c1)) (.const (.int 8 s2) c2)
      = .binary .add ty P (.const (.int 8 s2) ((c1 + W - c2) % W)) := by
  have hm1 : (c1 + c2) % W < W := Nat.mod_lt _ (by decide)
  have hm2 : (c1 + W - c2) % W < W := Nat.mod_lt _ (by decide)
  constructor <;>
    simp [evalAddSub, Expr.isBinary, Eval.binary, binaryRaw, Eval.cast, castInt_8, hm1, hm2]

/-- The commuted form `C2 + (P + C1)` (536afbc: the operands of the node are swapped too). -/
theorem addr_fold_swapped (P : Expr) (ty : Ty) (s1 s2 : Bool) {c1 c2 : Nat} (h1 : c1 < W) (h2 : c2 < W) :
    evalAddSub ops .add ty (.const (.int 8 s2) c2) (.binary .add .ptr P (.const (.int 8 s1) c1))
      = .binary .add ty P (.const (.int 8 s2) ((c1 + c2) % W)) := by
  have hm1 : (c1 + c2) % W < W := Nat.mod_lt _ (by decide)
  simp [evalAddSub, Expr.isBinary, Eval.binary, binaryRaw, Eval.cast, castInt_8, hm1]

/-- `int a[10]; long x = 5 + (long)&a[3];` folds to `$a + 17`. -/
example : eval ops (.binary .add (.int 8 true) (.const (.int 8 true) 5)
    (.cast (.int 8 true)
      (.binary .add .ptr (.unary .addr .ptr (.obj .other "a")) (.const (.int 8 false) 12))))
    = .binary .add (.int 8 true) (.unary .addr .ptr (.obj .other "a")) (.const (.int 8 true) 17) := by
  simp [eval, evalAddSub, Expr.isFail, Expr.isBinary, Expr.ty, Eval.binary, binaryRaw, Eval.cast]
  decide

/-- `&*e` is `e`; `&"string"` becomes the address of the pooled object. -/
theorem addr_deref (t t' : Ty) (e : Expr) (h : (eval ops e).isFail = false) :
    eval ops (.unary .addr t (.unary .deref t' e)) = eval ops e := by
  have hd : (Expr.unary .deref t' (eval ops e)).isFail = false := rfl
  simp [eval, h, hd]

theorem addr_string (t sty : Ty) (i : Nat) :
    eval ops (.unary .addr t (.str sty i)) = .unary .addr t (.obj sty (".Lstring." ++ toString i)) := by
  simp [eval, Expr.isFail]

/-- Folding a floating `+ - * /` applies the host operation to the two operand values and
normalises to the node type (`(float)` for a 4-byte type): compile time and run time apply the
same IEEE operation to the same operands (that rounding the `double` result to `float` equals
the single-precision operation is the classical double-rounding theorem for `+ - * /`, an
assumption on `FloatOps`; checked numerically by `checks/c04.py`). -/
theorem fold_float_same_op (sz : Nat) (l r : Nat) :
    Eval.binary ops .add (.flt sz) l r (.flt sz) = some (Eval.cast ops (.flt sz) (ops.bits (ops.add (ops.ofBits l) (ops.ofBits r)))) ∧
    Eval.binary ops .sub (.flt sz) l r (.flt sz) = some (Eval.cast ops (.flt sz) (ops.bits (ops.sub (ops.ofBits l) (ops.ofBits r)))) ∧
    Eval.binary ops .mul (.flt sz) l r (.flt sz) = some (Eval.cast ops (.flt sz) (ops.bits (ops.mul (ops.ofBits l) (ops.ofBits r)))) ∧
    Eval.binary ops .div (.flt sz) l r (.flt sz) = some (Eval.cast ops (.flt sz) (ops.bits (ops.div (ops.ofBits l) (ops.ofBits r)))) :=
  ⟨rfl, rfl, rfl, rfl⟩

theorem fold_float_cmp (sz : Nat) (l r : Nat) :
    Eval.binary ops .lt (.flt sz) l r (tyOf IntTy.int) = some (b2n (ops.lt (ops.ofBits l) (ops.ofBits r))) ∧
    Eval.binary ops .le (.flt sz) l r (tyOf IntTy.int) = some (b2n (ops.le (ops.ofBits l) (ops.ofBits r))) ∧
    Eval.binary ops .eq (.flt sz) l r (tyOf IntTy.int) = some (b2n (ops.eq (ops.ofBits l) (ops.ofBits r))) ∧
    Eval.binary ops .ne (.flt sz) l r (tyOf IntTy.int) = some (b2n (!ops.eq (ops.ofBits l) (ops.ofBits r))) :=
  ⟨binary_cmp ops rfl, binary_cmp ops rfl, binary_cmp ops rfl, binary_cmp ops rfl⟩

/-- int → floating: the value (signed or unsigned reading per the operand type) is converted
directly to the target format (`(float)i` for a 4-byte type, `(double)i` otherwise: one rounding,
as the run-time `sltof/ultof`, `sltod/ultod`), then normalised (a no-op on such a value). -/
theorem fold_int_to_float_model {f : IntTy} (hf : f.Arith) (sz : Nat) {v : Int} (hv : InRange f v) :
    castConst ops (tyOf f) (.flt sz) (repr64 f v)
      = .const (.flt sz) (Eval.cast ops (.flt sz)
          (ops.bits (if Ty.flt sz = .flt 4 then ops.ofIntF32 v else ops.ofInt v))) := by
  have hval : (if (tyOf f).isSigned = true then toI (repr64 f v) else ((repr64 f v : Nat) : Int)) = v := by
    rw [tyOf_arith hf]; exact valOf_repr64 hf hv
  have h1 : ¬ (Ty.flt sz = Ty.bool) := nofun
  simp only [castConst, if_neg h1, tyOf_isInt, Ty.isFlt, and_self, if_true, hval]

/-- floating → int: rejected (`error`) outside `[-2^63, 2^63)` resp. `(-1, 2^64)` — exactly the
values whose integral part is representable in 64 bits (6.3.1.4p1; NaN fails both comparisons) —
otherwise the truncated value is normalised to the target type. -/
theorem fold_float_to_int_model (fsz : Nat) {t : IntTy} (ht : t.Arith) (l : Nat) :
    castConst ops (.flt fsz) (tyOf t) l =
      if (if t.signed then ops.le (ops.ofInt (-(2 ^ 63))) (ops.ofBits l) && ops.lt (ops.ofBits l) (ops.ofInt (2 ^ 63))
          else ops.lt (ops.ofInt (-1)) (ops.ofBits l) && ops.lt (ops.ofBits l) (ops.ofInt (2 ^ 64))) = true
      then .const (tyOf t) (repr64 t (wrap t (ops.toInt (ops.ofBits l))))
      else .error := by
  rw [tyOf_arith ht]
  have h1 : ¬ (Ty.int (t.bits / 8) t.signed = Ty.bool) := by simp
  simp only [castConst, if_neg h1, Ty.isFlt, Ty.isInt, and_self, if_true, Ty.isSigned,
    Eval.cast, castInt_ofI ht]
  cases t.signed <;> simp

end

/-- `inttype`, for every spelling of every suffix (any letter case): the type
chosen is the first type of the list of 6.4.4.1p5 that can represent the value (`none` = no type,
diagnosed).  The search loop of `inttype` steps through its table by 1 or 2; the spec filters
the table by the suffix and takes the first fit. -/
theorem literal_type_correct (v : Nat) (decimal : Bool) (sfx : List Char) (s : Suffix)
    (hs : sfxOf (String.ofList (sfx.map toLower)) = some s) :
    inttype v decimal sfx = litType s decimal v :=
  inttype_correct v decimal sfx s hs

/-- Decimal, hexadecimal, binary and octal constants of any length: the parsed value is the
numeric value of the digit string and the type is the first fitting one; a value `≥ 2^64` (or
without a fitting type) is rejected (`litSpec`; 23c06f0 for the overflow). -/
theorem literal_value_correct (cs sfx : List Char) (hsx : SuffixChars sfx) {s : Suffix}
    (hsf : sfxOf (String.ofList (sfx.map toLower)) = some s) :
    (cs ≠ [] → AllDigits 10 cs → cs.head? ≠ some '0' →
      parseNumber (cs ++ sfx) = litSpec (numVal 10 (digitsOf cs)) true s) ∧
    (∀ x, x = 'x' ∨ x = 'X' → cs ≠ [] → AllDigits 16 cs →
      parseNumber ('0' :: x :: (cs ++ sfx)) = litSpec (numVal 16 (digitsOf cs)) false s) ∧
    (∀ x, x = 'b' ∨ x = 'B' → cs ≠ [] → AllDigits 2 cs →
      parseNumber ('0' :: x :: (cs ++ sfx)) = litSpec (numVal 2 (digitsOf cs)) false s) ∧
    (AllDigits 8 cs → parseNumber ('0' :: (cs ++ sfx)) = litSpec (numVal 8 (digitsOf cs)) false s) := by
  -- each form supplies `parse_digits` with its base and the disposal of its prefix
  refine ⟨fun hne h h0 => ?_, fun x hx hne h => ?_, fun x hx hne h => ?_, fun h => ?_⟩
  · refine parse_digits (base := 10) (by decide) [] cs sfx nofun hne h hsx hsf ?_
      (skipHexPrefix_ne16 (by decide) _)
    cases cs with
    | nil => exact absurd rfl hne
    | cons c cs => simp only [List.head?_cons, ne_eq, Option.some.injEq] at h0; simp [baseOf, h0]
  · refine parse_digits (base := 16) (by decide) ['0', x] cs sfx
      (prefix_chars (hx.imp id fun h => Or.inl h)) hne h hsx hsf ?_ ?_
    · rcases hx with rfl | rfl <;> simp [baseOf]
    · cases cs with
      | nil => exact absurd rfl hne
      | cons c cs => simp [skipHexPrefix, hx, h c (List.mem_cons_self ..)]
  · refine parse_digits (base := 2) (by decide) ['0', x] cs sfx
      (prefix_chars (Or.inr (Or.inr hx))) hne h hsx hsf ?_ (skipHexPrefix_ne16 (by decide) _)
    rcases hx with rfl | rfl <;> simp [baseOf]
  · -- the leading `0` is the first octal digit
    have h8 : AllDigits 8 ('0' :: cs) := fun c hc => by
      rcases List.mem_cons.1 hc with rfl | hc
      · decide
      · exact h c hc
    have := parse_digits (base := 8) (by decide) [] ('0' :: cs) sfx nofun nofun h8 hsx hsf
      (baseOf_octal cs sfx h hsx) (skipHexPrefix_ne16 (by decide) _)
    simpa [digitsOf, numVal, show (digitVal '0').getD 0 = 0 by decide] using this

/-- a constant whose value does not fit 64 bits has no type: rejected, whatever the suffix. -/
theorem literal_overflow_rejected (v : Nat) (hv : W ≤ v) (decimal : Bool) (s : Suffix) :
    litSpec v decimal s = .error := by
  simp [litSpec, hv]

def litVar : LitTy → String
  | .int => "typeint" | .uint => "typeuint" | .long => "typelong" | .ulong => "typeulong"
  | .llong => "typellong" | .ullong => "typeullong"

/-- the model's copy of `limits[]` (expr.c: `inttype`) is the table in the source. -/
theorem limits_tied :
    Eval.limits.map (fun r => (litVar r.1, r.2.1, r.2.2)) = Gen.IntLimits.limits := by decide +kernel

/-- sizes and signedness of the basic integer types (type.c) are those of `LitTy`/`IntTy`. -/
theorem basic_types_tied :
    (Gen.BasicTypes.table.filter (fun r => r.props.contains "PROPINT")).map
      (fun r => (r.var, r.size, r.issigned)) =
    [("typebool", 1, false), ("typechar", 1, true), ("typeschar", 1, true), ("typeuchar", 1, false),
     ("typeshort", 2, true), ("typeushort", 2, false), ("typeint", 4, true), ("typeuint", 4, false),
     ("typelong", 8, true), ("typeulong", 8, false), ("typellong", 8, true), ("typeullong", 8, false)] ∧
    (∀ t : LitTy, (litVar t, litSize t, litSigned t) ∈
      Gen.BasicTypes.table.map (fun r => (r.var, r.size, r.issigned))) :=
  -- the `k`-th type of `LitTy` is row `6 + k` of the table
  ⟨by decide +kernel, fun t => List.mem_of_getElem? (i := 6 + t.ctorIdx) (by cases t <;> rfl)⟩

/-! ## Non-vacuity: concrete inputs meeting the hypotheses -/

section
variable {F : Type} (ops : FloatOps F)

-- binary_correct / fold_correct: INT_MIN / -1 is undefined, -7 / 2 = -3, 0xFFFFFFFFu + 1u wraps
example : CInt.bin .div IntTy.int (-2147483648) (-1) = none := by decide
example : CInt.bin .div IntTy.int (-7) 2 = some (-3) ∧ InRange IntTy.int (-7) ∧ InRange IntTy.int 2 := by decide
example : CInt.bin .add IntTy.uint 4294967295 1 = some 0 := by decide
example : CInt.bin .shl IntTy.int 1 31 = none ∧ CInt.bin .shl IntTy.uint 1 31 = some 2147483648 := by decide
example : CInt.bin .shr IntTy.int (-8) 1 = some (-4) := by decide
example : foldBin ops .div (tyOf IntTy.int) (repr64 IntTy.int (-7)) (repr64 IntTy.int 2) (tyOf IntTy.int)
    = .folded (repr64 IntTy.int (-3)) :=
  fold_correct ops (by decide) (by decide) .div (by decide) (fun _ => rfl) (by decide) (by decide) (by decide)
-- unary_correct
example : CInt.un .neg IntTy.int (-2147483648) = none ∧ CInt.un .bnot IntTy.uint 0 = some 4294967295 := by decide
-- cast_correct: (_Bool)256 = 1, (signed char)200 = -56
example : wrap IntTy.bool 256 = 1 ∧ wrap IntTy.schar 200 = -56 ∧ IntTy.bool.Valid ∧ InRange IntTy.int 256 := by decide
-- eval_correct / eval_canon: (int)5 + 3 * -(4) with all leaves canonical
def exTree : Expr :=
  .binary .add (.int 4 true) (.const (.int 4 true) 5)
    (.binary .mul (.int 4 true) (.const (.int 4 true) 3) (.unary .neg (.int 4 true) (.const (.int 4 true) 4)))
example : IntFrag exTree := by simp [exTree, IntFrag, Ty.isInt]
example : evalC exTree = some (-7) := by decide
example : Canon exTree :=
  have w : (Ty.int 4 true).Wf := Or.inr (Or.inr (Or.inl rfl))
  ⟨w, ⟨w, 5, by decide, by decide⟩,
    Or.inl ⟨w, ⟨w, 3, by decide, by decide⟩, Or.inl ⟨w, w, 4, by decide, by decide⟩⟩⟩
-- `0 && 1/0` is defined (0): the right operand is not evaluated
example : evalC (.binary .land (.int 4 true) (.const (.int 4 true) 0)
    (.binary .div (.int 4 true) (.const (.int 4 true) 1) (.const (.int 4 true) 0))) = some 0 := by decide
-- intconstexpr_sign_rule
example : InRange IntTy.ulong (2 ^ 64 - 1) ∧ IntTy.ulong.Valid := by decide
-- literal_value_correct: "0x7fffffffu", "017", "0b101ull", "2147483648"
example : AllDigits 16 "7fffffff".toList ∧ SuffixChars "u".toList ∧
    sfxOf (String.ofList ("u".toList.map toLower)) = some ⟨true, 0⟩ := by
  refine ⟨?_, ?_, by decide⟩
  · unfold AllDigits; decide
  · unfold SuffixChars; decide
example : parseNumber "0x80000000".toList = .int 2147483648 .uint ∧
    parseNumber "2147483648".toList = .int 2147483648 .long ∧
    parseNumber "0b101ull".toList = .int 5 .ullong ∧ parseNumber "017".toList = .int 15 .int ∧
    parseNumber "18446744073709551616u".toList = .error ∧ parseNumber "08".toList = .error := by
  decide +kernel

end

end CprocVerif.C04
