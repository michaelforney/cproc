import CprocVerif.Lemmas.PPDefine
import CprocVerif.Lemmas.PPEqual
import CprocVerif.Lemmas.PPString
import CprocVerif.Lemmas.PPFuel
import CprocVerif.Lemmas.PPInv
import CprocVerif.Lemmas.PPObjMain
import CprocVerif.Lemmas.PPArgs
import CprocVerif.Lemmas.PPArgsExec
import CprocVerif.Lemmas.PPSubst
import CprocVerif.Lemmas.PPFunStep
import CprocVerif.Lemmas.PPSimpleTests
import CprocVerif.Lemmas.PPSimpleAsFn

/-!
# C12 — macro definition and expansion follow C11 6.10.3 on the implemented subset

Property theorems about the model of `/repo/pp.c` (`Model/PP.lean`) against the reference of
6.10.3 (`Spec/MacroRef.lean`).  No theorem bounds the number or size of macros, parameters,
arguments or the length of the input.

Vocabulary: `define st` is `define()` entered with `st.tok` = the token after `define`;
`Macro.WF` collects what 6.10.3p5/p6 and 6.10.3.2p1 demand of a definition (plus "no `##`", which
is outside the implemented subset); `Scanned t` = the token has a spelling exactly when its kind
has one (what `scan()` delivers); `Spellable t` = its spelling is not empty and does not end in a
blank, and it is no new-line token; `InvC ctx ms d` = the hide-flag invariant of the context stack.
-/

namespace CprocVerif.C12
open CprocVerif.PP CprocVerif.Spec CprocVerif.Gen.TokenKinds

def tk (k : Kind) (lit : Option (List UInt8) := none) (space : Bool := false) : Tok := ⟨k, lit, space, false⟩
def ident (s : List UInt8) (space : Bool := false) : Tok := ⟨.TIDENT, some s, space, false⟩
def num (s : List UInt8) (space : Bool := false) : Tok := ⟨.TNUMBER, some s, space, false⟩
def NL : Tok := ⟨.TNEWLINE, none, false, false⟩

theorem define_accepts_only_wellformed {st st' : St} (h : define st = .ok st') :
    ∃ m, macroget st'.macros (st.tok.lit.getD []) = some m ∧ m.name = st.tok.lit.getD [] ∧ m.WF ∧ m.hide = false :=
  define_wf h

/-- `##` anywhere in a replacement list: rejected (the operator is not implemented). -/
theorem define_rejects_hashhash {st st' : St} (h : define st = .ok st') :
    ∃ m, macroget st'.macros (st.tok.lit.getD []) = some m ∧ ∀ t ∈ m.body, t.kind ≠ .THASHHASH := by
  obtain ⟨m, h1, _, h3, _⟩ := define_wf h
  exact ⟨m, h1, h3.noHashHash⟩

/-- 6.10.3p5: `__VA_ARGS__` in the replacement list of a macro that is not variadic (the first
token included, since `40f4bc5`): rejected. -/
theorem define_rejects_bad_va_args {st st' : St} (h : define st = .ok st') :
    ∃ m, macroget st'.macros (st.tok.lit.getD []) = some m ∧
      (macrovarargs m.func m.params = false → ∀ t ∈ m.body, ¬ (t.kind = .TIDENT ∧ t.lit = some vaName)) := by
  obtain ⟨m, h1, _, h3, _⟩ := define_wf h
  exact ⟨m, h1, h3.vaOnlyVariadic⟩

/-- 6.10.3p6: two parameters of the same name (since `e1e687a`): rejected. -/
theorem define_rejects_duplicate_parameter {st st' : St} (h : define st = .ok st') :
    ∃ m, macroget st'.macros (st.tok.lit.getD []) = some m ∧
      ((m.params.filter (fun p => !p.fvar)).map (·.name)).Nodup := by
  obtain ⟨m, h1, _, h3, _⟩ := define_wf h
  exact ⟨m, h1, h3.distinct⟩

/-- 6.10.3.2p1: in a function-like macro a `#` that is not followed by a parameter (a `#` at the
end of the replacement list included): rejected.  Stated on the replacement list in reverse
(`RevOk`): every `#` has a parameter name right after it, up to the terminating new-line. -/
theorem define_rejects_hash_without_parameter {st st' : St} (h : define st = .ok st') :
    ∃ m, macroget st'.macros (st.tok.lit.getD []) = some m ∧
      (m.func = true → ∃ e, (e.kind = .TNEWLINE ∨ e.kind = .TEOF) ∧ RevOk (pnames m.params) (e :: m.body.reverse)) := by
  obtain ⟨m, h1, _, h3, _⟩ := define_wf h
  exact ⟨m, h1, h3.hashParam⟩

theorem define_rejects_trailing_hash {st st' : St} (h : define st = .ok st') :
    ∃ m, macroget st'.macros (st.tok.lit.getD []) = some m ∧
      (m.func = true → ∀ x r, m.body.reverse = x :: r → x.kind ≠ .THASH) := by
  obtain ⟨m, h1, _, h3, _⟩ := define_wf h
  refine ⟨m, h1, ?_⟩
  intro hf x r hx
  obtain ⟨e, he, hr⟩ := h3.hashParam hf
  rw [hx] at hr
  exact revOk_last_not_hash hr he

def failsWith (r : Except Err St) (e : Err) : Bool :=
  match r with
  | .error e' => e' == e
  | .ok _ => false

/-- the state in which `define()` runs for the line `#define <toks>` (the new-line included) -/
def defState (toks : List Tok) (ms : List Macro := []) : St :=
  { raw := toks.drop 1, macros := ms, tok := toks.headD NL }

-- non-vacuity: `#define F(a, ...) a # a __VA_ARGS__` is accepted …
example : (define (defState [ident b!"F", tk .TLPAREN, ident b!"a", tk .TCOMMA, tk .TELLIPSIS, tk .TRPAREN,
    ident b!"a" true, tk .THASH none true, ident b!"a" true, ident b!"__VA_ARGS__" true, NL])).toBool = true := by
  decide +kernel
example : failsWith (define (defState [ident b!"A", num b!"1" true, tk .THASHHASH none true, num b!"2" true, NL])) .hashhash = true := by decide +kernel
example : failsWith (define (defState [ident b!"A", ident b!"__VA_ARGS__" true, NL])) .vaArgs = true := by decide +kernel
example : failsWith (define (defState [ident b!"F", tk .TLPAREN, ident b!"x", tk .TCOMMA, ident b!"x", tk .TRPAREN,
    ident b!"x" true, NL])) .dupParam = true := by decide +kernel
example : failsWith (define (defState [ident b!"F", tk .TLPAREN, ident b!"x", tk .TRPAREN, tk .THASH none true,
    ident b!"y", NL])) .hashNotParam = true := by decide +kernel
example : failsWith (define (defState [ident b!"F", tk .TLPAREN, ident b!"x", tk .TRPAREN, ident b!"x" true,
    tk .THASH none true, NL])) .hashIdent = true := by decide +kernel

/-- `m1.params = m2.params` compares names, `...` and use flags; `Tok.key` is class and spelling. -/
theorem macroequal_equiv (m1 m2 : Macro) (h1 : ∀ a ∈ m1.body, Scanned a) (h2 : ∀ b ∈ m2.body, Scanned b) :
    macroequal m1 m2 = true ↔
      (m1.func = m2.func ∧ (m1.func = true → m1.params = m2.params) ∧
       m1.body.map Tok.key = m2.body.map Tok.key) :=
  macroequal_iff m1 m2 h1 h2

/-- the definition as the reference sees it -/
def toDef (m : Macro) : MacroRef.MacroDef :=
  { name := m.name, func := m.func, params := (m.params.filter (fun p => !p.fvar)).map (·.name),
    variadic := m.params.any (·.fvar), body := m.body.map toP }

/-- Full strength (6.10.3p2): a redefinition is accepted exactly when the two definitions are
identical, *white-space separation included*.  False of the current tree: -/
def macroequal_c11_full : Prop :=
  ∀ m1 m2 : Macro, (∀ a ∈ m1.body, Scanned a) → (∀ b ∈ m2.body, Scanned b) → m1.params = m2.params →
    (macroequal m1 m2 = true ↔ MacroRef.identical (toDef m1) (toDef m2) = true)

def mA1 : Macro := { func := false, name := b!"A", body := [tk .TLPAREN none true, num b!"1", tk .TRPAREN] }
def mA2 : Macro := { func := false, name := b!"A", body := [tk .TLPAREN none true, num b!"1" true, tk .TRPAREN none true] }

/-- known finding `macroequal-ignores-space`: `#define A (1)` then `#define A ( 1 )` is accepted -/
theorem macroequal_c11_counterexample : ¬ macroequal_c11_full := by
  intro h
  have := h mA1 mA2 (by decide) (by decide) rfl
  revert this
  decide +kernel

/-- what does hold: acceptance is identity *up to* white-space separation -/
theorem macroequal_partial (m1 m2 : Macro) (h1 : ∀ a ∈ m1.body, Scanned a) (h2 : ∀ b ∈ m2.body, Scanned b)
    (hp : m1.params = m2.params) :
    macroequal m1 m2 = true ↔ MacroRef.identicalModSpace (toDef m1) (toDef m2) = true := by
  rw [macroequal_iff m1 m2 h1 h2]
  unfold MacroRef.identicalModSpace toDef
  simp only [hp, List.map_map, Bool.and_eq_true, decide_eq_true_eq, and_true, implies_true, true_and]
  have : (MacroRef.PTok.key ∘ toP) = Tok.key := by funext t; rfl
  rw [this]

theorem benign_redefinition_accepted (m1 m2 : Macro) (h1 : ∀ a ∈ m1.body, Scanned a)
    (h2 : ∀ b ∈ m2.body, Scanned b) (hp : m1.params = m2.params)
    (hid : MacroRef.identical (toDef m1) (toDef m2) = true) : macroequal m1 m2 = true :=
  (macroequal_partial m1 m2 h1 h2 hp).2 (MacroRef.identical_modSpace hid)

theorem incompatible_redefinition_rejected (m1 m2 : Macro) (h1 : ∀ a ∈ m1.body, Scanned a)
    (h2 : ∀ b ∈ m2.body, Scanned b)
    (hd : m1.func ≠ m2.func ∨ (m1.func = true ∧ m1.params ≠ m2.params) ∨ m1.body.map Tok.key ≠ m2.body.map Tok.key) :
    macroequal m1 m2 = false := by
  cases h : macroequal m1 m2 with
  | false => rfl
  | true =>
    have := (macroequal_iff m1 m2 h1 h2).mp h
    rcases hd with hd | ⟨hf, hd⟩ | hd
    · exact absurd this.1 hd
    · exact absurd (this.2.1 hf) hd
    · exact absurd this.2.2 hd

example : macroequal mA1 mA1 = true := by decide +kernel
example : macroequal mA1 { mA1 with body := [num b!"2"] } = false := by decide +kernel

/-- **The string literal built for `# parameter` is the 6.10.3.2p2 spelling** of the tokens fed
to `stringize`: spellings in order, exactly one blank where white space separated two tokens,
none at either end, a `\` before each `"` and `\` inside string literals and character constants. -/
theorem stringize_correct (ts : List Tok) (hs : ∀ t ∈ ts, Spellable t) :
    some (stringizeAll ts) = (MacroRef.stringizeRef (ts.map toP)).lit :=
  stringizeAll_eq ts hs

example : stringizeAll [ident b!"a" true, tk .TADD none true, ⟨.TSTRINGLIT, some b!"\"b\\n\"", true, false⟩, ident b!"c"]
    = b!"\"a + \\\"b\\\\n\\\"c\"" := by decide +kernel
example : ∀ t ∈ [ident b!"a" true, tk .TADD none true], Spellable t := by decide +kernel

/-- 6.10.3.4p2, last sentence: a painted identifier is never expanded (`rb = false`: `expand` reports
"not expanded"). -/
theorem painted_never_expands (n : Nat) (t : Tok) (st : St) (h : t.hide = true) :
    exec (n + 1) (.expand t) st = .ok { st with rb := false, rt := t } := by
  have ht : ({ t with hide := true } : Tok) = t := by cases t; cases h; rfl
  rw [expand_eq]
  by_cases hk : t.kind ≠ .TIDENT
  · rw [if_pos hk]
  · rw [if_neg hk]
    cases macroget st.macros (t.lit.getD []) with
    | none => simp only [ht]
    | some m => simp only [h, or_true, ↓reduceIte, ht]

example : (ident b!"A" false).hide = false := rfl
example : exec 1 (.expand { ident b!"A" with hide := true }) { raw := [], macros := [mA1] }
    = .ok { raw := [], macros := [mA1], rb := false, rt := { ident b!"A" with hide := true } } :=
  painted_never_expands 0 _ _ rfl

/-- `popDone`: the loop at the head of `ctxnext` that pops exhausted frames (`macrodone`). -/
theorem hide_iff_active_pop (ctx : List Frame) (ms : List Macro) (d : Nat) (h : InvC ctx ms d) :
    InvC (popDone ctx ms d).1 (popDone ctx ms d).2.1 (popDone ctx ms d).2.2 :=
  (popDone_inv ctx ms d h).1

/-- what `expand` does for a macro of the table that is not hidden: it pushes the replacement list, sets the
flag and counts it. -/
theorem hide_iff_active_push {ctx : List Frame} {ms : List Macro} {d : Nat} {m : Macro} (toks : List Tok)
    (h : InvC ctx ms d) (hm : m ∈ ms) (hh : m.hide = false) :
    InvC (⟨toks, some m.name⟩ :: ctx) (setHide ms m.name true) (d + 1) :=
  invC_push toks h hm hh

example : InvC [] [mA1] 0 := ⟨by decide, by decide, by decide, rfl⟩

theorem fuel_monotone (n k : Nat) (c : Call) (st : St) (h : exec n c st ≠ .error .fuel) :
    exec (n + k) c st = exec n c st :=
  exec_mono n k c st h

theorem fuel_monotone_run (n k : Nat) (st : St) (h : (run n st).2 ≠ some .fuel) :
    run (n + k) st = run n st :=
  run_mono n k st h

example : (run 20 (St.init [ident b!"A", NL, ⟨.TEOF, none, false, false⟩] false)).2 ≠ some .fuel := by decide +kernel

/-- **A surplus argument is rejected, an empty one included** (since `09a3a09`): when the comma that
ends the argument for the last parameter is met at invocation level outside parentheses, the
invocation is diagnosed "too many arguments". -/
theorem too_many_args_rejected (rec : Call → St → Res) (e : EF) (st : St)
    (hlvl : st.depth ≤ e.depth) (hp : e.paren = 0) (ht : e.t.kind = .TCOMMA)
    (hv : (e.m.params.getD e.i default).fvar = false) (hi : e.i + 1 = e.m.params.length) :
    efLoopBody rec e st = .error .tooManyArgs := by
  rw [efLoop_finish rec e st (by rw [ht]; decide) hlvl ⟨hp, .inr ⟨ht, hv⟩⟩ (.inr hi)]
  simp [efFinish, ht, hi]


/-! ## Sets of object-like macros: the model is the hide-set algorithm

`Good st`: every macro of the table is object-like, the rest of the input has no directive (no
`#`), tokens are not painted, the hide-flag invariant holds, `next()` passes over new-lines
(`ppnl = false`).  `absSt st` is the source still to
be processed as the reference sees it: the tokens left in the frames of the context stack, each
with the hide set "macros with a live frame at or below it", then the tokens the scanner still
holds (new-lines dropped). -/

/-- **Any set of object-like macros (mutual and self reference included): the token stream of the
model is the token stream of the reference.**  If the model's run completes, the reference —
with `J` units of fuel or more — completes without diagnostic and delivers the same tokens by
class and spelling (after `keyword()`; the model's final `TEOF` aside). -/
theorem object_like_correct (n : Nat) (st : St) (g : Good st) (hrun : (run n st).2 = none) :
    ∃ J, ∀ K,
      (MacroRef.expandH false (K + J) (toTbl st.macros) (absSt st)).2.1 = none ∧
      (MacroRef.expandH false (K + J) (toTbl st.macros) (absSt st)).1.map (fun t => kwKey t.tok.key)
        = runKeys (run n st).1 :=
  have ⟨J, hJ⟩ := run_sim n st g hrun
  ⟨J, fun K => hJ (K + J) (Nat.le_add_left J K)⟩

theorem good_init (ms : List Macro) (raw : List Tok)
    (hnames : (ms.map (·.name)).Nodup) (hobj : ∀ m ∈ ms, m.func = false) (hhide : ∀ m ∈ ms, m.hide = false)
    (hbody : ∀ m ∈ ms, ∀ t ∈ m.body, okKind t)
    (hraw : ∀ t ∈ raw, t.kind ≠ .THASH ∧ t.kind ≠ .TNONE ∧ t.kind ≠ .TEOF ∧ t.hide = false) :
    Good { raw := raw, macros := ms } :=
  ⟨⟨hnames, List.nodup_nil, (by intro m hm; simp [liveNames, hhide m hm]), rfl⟩, hobj,
   (fun t ht => ⟨(hraw t ht).1, (hraw t ht).2.1, (hraw t ht).2.2.1⟩), (fun t ht => (hraw t ht).2.2.2),
   (by intro f hf; cases hf), hbody, rfl⟩

theorem hide_iff_active (n : Nat) (st st' : St) (g : Good st) (h : exec n .next st = .ok st') :
    ∀ m ∈ st'.macros, (m.hide = true ↔ ∃ f ∈ st'.ctx, f.mac = some m.name) :=
  fun _ hm => (next_sim n st st' g h).1.inv.hide_iff_frame hm

/-- Rescanning with hide flags terminates, with an explicit fuel bound: `pot st` adds up, over the tokens still on
the context stack and in the scanner, the number of tokens each can turn into when every macro is
replaced at most once along a chain of replacements (`wt`). -/
theorem object_like_terminates (n : Nat) (st : St) (g : Good st) (hn : pot st + 4 ≤ n) : (run n st).2 = none :=
  run_terminates n st g hn

theorem object_like_correct_total (st : St) (g : Good st) :
    (run (pot st + 4) st).2 = none ∧
    ∃ J, ∀ K,
      (MacroRef.expandH false (K + J) (toTbl st.macros) (absSt st)).2.1 = none ∧
      (MacroRef.expandH false (K + J) (toTbl st.macros) (absSt st)).1.map (fun t => kwKey t.tok.key)
        = runKeys (run (pot st + 4) st).1 :=
  ⟨run_terminates _ st g (Nat.le_refl _), object_like_correct _ st g (run_terminates _ st g (Nat.le_refl _))⟩

-- non-vacuity: `#define A B x` / `#define B A y` / `#define C C` (mutual and self reference), text `A C B`
def mAB : Macro := { func := false, name := b!"A", body := [ident b!"B" true, ident b!"x" true] }
def mBA : Macro := { func := false, name := b!"B", body := [ident b!"A" true, ident b!"y" true] }
def mCC : Macro := { func := false, name := b!"C", body := [ident b!"C" true] }
def stObj : St := { raw := [ident b!"A", ident b!"C" true, NL, ident b!"B"], macros := [mAB, mBA, mCC] }

example : Good stObj :=
  good_init _ _ (by decide) (by decide) (by decide) (by unfold okKind; decide) (by decide)
theorem run_stObj : (run 40 stObj).2 = none ∧ runKeys (run 40 stObj).1 =
    [(.TIDENT, some b!"A"), (.TIDENT, some b!"y"), (.TIDENT, some b!"x"), (.TIDENT, some b!"C"),
     (.TIDENT, some b!"B"), (.TIDENT, some b!"x"), (.TIDENT, some b!"y")] := by decide +kernel

example : (run 40 stObj).2 = none := run_stObj.1
example : pot stObj = 13 := by decide +kernel            -- so 17 units of fuel are enough

example : runKeys (run 40 stObj).1 =
    [(.TIDENT, some b!"A"), (.TIDENT, some b!"y"), (.TIDENT, some b!"x"), (.TIDENT, some b!"C"),
     (.TIDENT, some b!"B"), (.TIDENT, some b!"x"), (.TIDENT, some b!"y")] := run_stObj.2


/-! ## Argument collection (6.10.3p10–p12)

`collect ps i paren cur done ts` is the pair of nested loops of `expandfunc` on a token list `ts`
(each token at invocation level, `expand` declining it): same tests in the same order as
`efLoopBody` — parenthesis count, comma unless the parameter is `...`, the two count checks. -/

/-- **The collected arguments are the top-level-comma split of the parenthesised token list,
variadic tail joined**: whenever the loops accept, the `)` they stop at is the one the reference
finds as matching (`matchParen`), and the arguments are what the reference's `splitTop` cuts out of
the tokens in between — at every comma outside nested parentheses, but at most as many times as
there are named parameters when the last parameter is `...` (6.10.3p12). -/
theorem split_args_correct (ps : List Param) (hv : VarLast ps) (hne : 0 < ps.length)
    (ts : List Tok) (args : List (List Tok)) (rest : List Tok)
    (h : collect ps 0 0 [] [] ts = .ok (args, rest)) :
    ∃ seg rp, ts = seg ++ rp :: rest ∧ rp.kind = .TRPAREN ∧
      MacroRef.matchParen (ts.map iT) 0 [] = some (seg.map hT, hT rp, rest.map iT, false) ∧
      args.map (·.map hT) = MacroRef.splitTop (splitsLeft ps 0 seg) 0 (seg.map hT) [] := by
  obtain ⟨seg, rp, h1, h2, h3, h4⟩ := collect_spec ps hv ts 0 0 [] [] args rest hne h
  exact ⟨seg, rp, h1, h2, h3, by simpa using h4⟩

def pA : Param := { name := b!"a", ftok := true }
def pV : Param := { name := b!"__VA_ARGS__", ftok := true, fvar := true }
-- non-vacuity: `(a, ...)` applied to `1 , ( 2 , 3 ) , 4 ) x`: two arguments, `1` and `( 2 , 3 ) , 4`
example : VarLast [pA, pV] := by
  intro j hj
  have : j = 0 := by simp at hj; omega
  subst this; rfl
def errOf {α : Type} (r : Except Err α) : Option Err :=
  match r with
  | .error e => some e
  | .ok _ => none

example : (collect [pA, pV] 0 0 [] []
    [num b!"1", tk .TCOMMA, tk .TLPAREN, num b!"2", tk .TCOMMA, num b!"3", tk .TRPAREN, tk .TCOMMA, num b!"4",
     tk .TRPAREN, ident b!"x"]).toOption =
    some ([[num b!"1"], [tk .TLPAREN, num b!"2", tk .TCOMMA, num b!"3", tk .TRPAREN, tk .TCOMMA, num b!"4"]],
         [ident b!"x"]) := by decide +kernel
example : errOf (collect [pA] 0 0 [] [] [num b!"1", tk .TCOMMA, tk .TRPAREN]) = some .tooManyArgs := by decide +kernel
example : errOf (collect [pA, pA] 0 0 [] [] [num b!"1", tk .TRPAREN]) = some .notEnoughArgs := by decide +kernel
example : errOf (collect [pA] 0 0 [] [] [tk .TLPAREN, num b!"1"]) = some .eofInArgs := by decide +kernel

/-- **`expandfunc`, as executed by `exec`, is `collect`** — for an invocation whose tokens come
straight from the scanner (empty context stack) and — as far as `collect` reads them (`PlainFor`:
up to the closing parenthesis when it accepts) — contain no new-line, `#`, end of file, scanner
diagnostic or macro name: the same verdict (`Agrees`: accepted, or the same diagnostic),
exactly the tokens up to `collect`'s `)` consumed, and for every parameter the argument `collect`
cut out is stored — its tokens (identifiers painted) if the parameter is used plainly, its
`stringize` string if it is used with `#` (`mkArg`).  With `split_args_correct` and
`stringize_correct`: the stored arguments are the top-level-comma split of the reference and their
6.10.3.2p2 spellings. -/
theorem expandfunc_is_collect (m : Macro) (st : St) (hctx : st.ctx = [])
    (hpl : PlainFor st.macros st.raw (collect m.params 0 0 [] [] st.raw)) (hne : 0 < m.params.length) :
    Agrees m.params m.name st (.expandfunc m) (collect m.params 0 0 [] [] st.raw) :=
  expandfunc_collect m st hctx hpl hne

def mF : Macro := { func := true, name := b!"F", params := [pA, pV] }
def stF : St := { raw := [num b!"1", tk .TCOMMA, tk .TLPAREN, num b!"2", tk .TCOMMA, ident b!"y", tk .TRPAREN,
                          tk .TRPAREN, ident b!"x"], macros := [mF] }
example : stF.ctx = [] ∧ PlainFor stF.macros stF.raw (collect mF.params 0 0 [] [] stF.raw) ∧ 0 < mF.params.length :=
  ⟨rfl, plainFor_of_all (by decide +kernel) _, by decide⟩

/-! ## Lazy parameter substitution (6.10.3.1, 6.10.3.2)

`ctxnext` replaces a parameter only when it reaches it.  `flat ms ctx` is the eager description of
what the context stack holds: for the frame of a function-like macro its remaining replacement list
with every parameter replaced by the stored argument (`substBody`: first token of a replacement
takes the white-space flag of the parameter's place, `# parameter` is the stored string), for any
other frame its tokens. -/

/-- **Each `ctxnext()` delivers the next token of `flat`** — through parameter replacement, empty
arguments (`goto again`), `#` strings and exhausted frames (`macrodone`) — and reports "nothing"
exactly when `flat` is empty.  Fuel: one unit more than there are tokens on the stack. -/
theorem ctxnext_delivers_flat (k : Nat) (st : St) (hk : ctxSize st.ctx ≤ k) (hW : CtxWF st.macros st.ctx) :
    ∃ s, exec (k + 1) .ctxnext st = .ok s ∧ s.raw = st.raw ∧ CtxWF s.macros s.ctx ∧
      ((s.rb = false ∧ s.ctx = [] ∧ flat st.macros st.ctx = []) ∨
       (s.rb = true ∧ flat st.macros st.ctx = s.rt :: flat s.macros s.ctx)) :=
  ctxnext_flat k st hk hW

/-- **What the frame delivers is the reference's substituted replacement list**: if the stored
arguments are the reference's completely macro-replaced arguments (`full`) and the stored strings
the reference's spellings of the arguments as written (`raw`), then `substBody` equals
`Spec.MacroRef.subst` on the parsed replacement list, token by token in class, spelling and
"never replace" mark. -/
theorem lazy_substitution_correct (m : Macro) (md : MacroRef.MacroDef) (hf : md.func = true)
    (hidx : ∀ t : Tok, MacroRef.paramIndex md (toP t) = macroparam m.params t)
    (raw full : Nat → List MacroRef.HTok)
    (hargs : ∀ i, ((m.args.getD i default).toks).map kh = (full i).map kh')
    (hstr : ∀ i, kh (m.args.getD i default).str =
      ((MacroRef.stringizeRef ((raw i).map (·.tok))).kind, (MacroRef.stringizeRef ((raw i).map (·.tok))).lit, false))
    (body : List Tok) (hb : ∀ t ∈ body, t.hide = false) (pend : Bool) :
    (substBody m body).map kh = (MacroRef.subst raw full (MacroRef.elems md (body.map toP)) pend).map kh' :=
  substBody_spec m md hf hidx raw full hargs hstr body hb pend

/-- the well-formedness `ctxnext_delivers_flat` asks of function-like frames is what `define`
guarantees (with `define_accepts_only_wellformed`) -/
theorem define_hash_followed {m : Macro} (h : m.WF) (hf : m.func = true) : HashFollowed m.params m.body :=
  wf_hashFollowed h hf

-- non-vacuity: `#define G(a, b) a # b x` invoked with a = `1 2`, b = `y`; the frame holds the whole body
def mG : Macro :=
  { func := true, name := b!"G", params := [{ name := b!"a", ftok := true }, { name := b!"b", fstr := true }],
    args := [⟨[num b!"1", num b!"2" true], default⟩, ⟨[], strTok b!"\"y\""⟩],
    body := [ident b!"a" true, tk .THASH none true, ident b!"b", ident b!"x" true] }
example : HashFollowed mG.params mG.body := by
  simp [HashFollowed, mG, ident, tk, macroparam]
  decide
example : flat [mG] [⟨mG.body, some b!"G"⟩] =
    [num b!"1" true, num b!"2" true, ⟨.TSTRINGLIT, some b!"\"y\"", true, false⟩, ident b!"x" true] := by decide +kernel
example : ∃ s, exec 5 .ctxnext { raw := [], ctx := [⟨mG.body, some b!"G"⟩], macros := [mG] } = .ok s ∧
    s.rb = true ∧ s.rt = num b!"1" true := ⟨_, rfl, rfl, rfl⟩

/-! ## One simple function-like invocation, end to end

`SimpleFun F`: function-like, at least one parameter, no `...`, no `#`, use flags as `define` sets
them.  The invocation is read from the source text (empty context stack), its arguments contain no
macro name, new-line or `#` (`PlainFor`, only as far as `collect` reads), and `collect` accepts. -/

/-- **The model's new context is the reference's new source.**  `expand` completes, consumes exactly
`( … )` (the `)` that the reference's `matchParen` finds), and what the pushed frame will deliver
(`flat`: the replacement list with parameters lazily replaced) equals — by class and spelling — the
list `B` that the reference puts in front of the rest of the source in its own step on this
invocation (second conjunct: `expandH` with one more unit of fuel on `name ( args ) X` is `expandH`
on `B ++ X`, for every continuation `X`). -/
theorem function_like_step_correct (F : Macro) (T lp : Tok) (r : List Tok) (st : St) (args : List (List Tok))
    (rest : List Tok) (hsf : SimpleFun F) (hnd : (st.macros.map (·.name)).Nodup)
    (hctx : st.ctx = []) (hprag : st.prag = false) (hTk : T.kind = .TIDENT) (hTh : T.hide = false)
    (hget : macroget st.macros (T.lit.getD []) = some F) (hFh : F.hide = false)
    (hraw : st.raw = lp :: r) (hlp : lp.kind = .TLPAREN)
    (hcol : collect F.params 0 0 [] [] r = .ok (args, rest))
    (hpl : PlainFor st.macros r (collect F.params 0 0 [] [] r)) :
    ∃ seg rp, r = seg ++ rp :: rest ∧ rp.kind = .TRPAREN ∧
    ∃ n s2, exec n (.expand T) st = .ok s2 ∧ s2.rb = true ∧ s2.raw = rest ∧ s2.depth = st.depth + 1 ∧
      (flat s2.macros s2.ctx).map Tok.key =
        (MacroRef.respace (MacroRef.hsadd [F.name]
          (MacroRef.subst (fun i => (MacroRef.splitTop (seg.length + 1) 0 (seg.map hT) []).getD i [])
                 (fun i => (MacroRef.splitTop (seg.length + 1) 0 (seg.map hT) []).getD i [])
                 (MacroRef.elems (toDefF F) (toDefF F).body) false)) T.space).1.map k2' ∧
      ∀ (K : Nat) (X : List MacroRef.Item), seg.length < K →
        outKeys (MacroRef.expandH false (K + 1) (tblF st.macros)
            (.tok (mkH [] T) :: .tok (mkH [] lp) :: (seg.map iT ++ iT rp :: X))) =
          outKeys (MacroRef.expandH false K (tblF st.macros)
            ((MacroRef.respace (MacroRef.hsadd [F.name]
                (MacroRef.subst (fun i => (MacroRef.splitTop (seg.length + 1) 0 (seg.map hT) []).getD i [])
                       (fun i => (MacroRef.splitTop (seg.length + 1) 0 (seg.map hT) []).getD i [])
                       (MacroRef.elems (toDefF F) (toDefF F).body) false)) T.space).1.map MacroRef.Item.tok ++
             MacroRef.pendItems (MacroRef.respace (MacroRef.hsadd [F.name]
                (MacroRef.subst (fun i => (MacroRef.splitTop (seg.length + 1) 0 (seg.map hT) []).getD i [])
                       (fun i => (MacroRef.splitTop (seg.length + 1) 0 (seg.map hT) []).getD i [])
                       (MacroRef.elems (toDefF F) (toDefF F).body) false)) T.space).2 X)) :=
  by
  obtain ⟨seg, rp, hr, hrp, hA, n, s2, hex, hd, hK⟩ :=
    funclike_core hsf ⟨hctx, hprag, hTk, hTh, hget, hFh, hraw, hlp, hcol, hpl⟩
  refine ⟨seg, rp, hr, hrp, n, s2, hex, hd.rb, hd.raw, hd.depth, ?_, ?_⟩
  · rw [(hd.flat_eq hget rfl hsf.func).2, hA]; exact refCall_key hsf args T.space
  · rw [hA]; exact hK

-- non-vacuity: `#define H(a, b) b + a a` and the text `H ( 1 , ( 2 , y ) ) x`
def pB : Param := { name := b!"b", ftok := true }
def mH : Macro := { func := true, name := b!"H", params := [pA, pB],
                    body := [ident b!"b" true, tk .TADD none true, ident b!"a" true, ident b!"a" true] }
def rawH : List Tok := [num b!"1", tk .TCOMMA, tk .TLPAREN, num b!"2", tk .TCOMMA, ident b!"y", tk .TRPAREN,
                        tk .TRPAREN, ident b!"x"]
example : SimpleFun mH :=
  ⟨rfl, by decide, by decide, by decide, by
    intro t ht i hi
    simp only [mH, List.mem_cons, List.mem_nil_iff, or_false] at ht
    rcases ht with rfl | rfl | rfl | rfl <;> revert hi <;> revert i <;> decide⟩
example : (collect mH.params 0 0 [] [] rawH).toOption =
    some ([[num b!"1"], [tk .TLPAREN, num b!"2", tk .TCOMMA, ident b!"y", tk .TRPAREN]], [ident b!"x"]) := by decide +kernel
example : PlainFor [mH] rawH (collect mH.params 0 0 [] [] rawH) := plainFor_of_all (by decide +kernel) _

/-! ## Tables with function-like macros: the whole stream

The class.  `TblOK ms0` (table): distinct names; no empty replacement list; replacement lists of
unpainted tokens, none of them the name of a function-like macro (object-like macros may refer
to each other and to themselves in any way); every function-like macro is `SimpleFun` (at least
one parameter, no `...`, no `#`).  `TextOK ms0 raw` (text): no directive; every occurrence of the
name of a function-like macro is an invocation that `collect` accepts, whose arguments hold no
macro name, new-line or `#` and none of which is empty; the list may end with the end-of-file
token.  `GoodF ms0 st` (state): the table of `st` is `ms0` up to the hide flags and the stored
arguments, the hide-flag invariant holds, what the context stack still holds (`flat`) is free of
new-lines, end-of-file tokens and function-like names and a hidden identifier in it names no macro
(`FlatOK`), no `#pragma` line is being read and `next()` passes over new-lines
(`prag = false`, `ppnl = false`).  `absF st` is the
source still to be processed as the reference sees it: the tokens the context stack will deliver
(parameters lazily replaced), each with the hide set "macros with a live frame at or below it",
then the text up to its end-of-file token (new-lines dropped). -/

/-- **Object-like and simple function-like macros together**: as `object_like_correct`, on the class above. -/
theorem function_like_correct_partial (ms0 : List Macro) (hTb : TblOK ms0) (n : Nat) (st : St) (g : GoodF ms0 st)
    (ht : TextOK ms0 st.raw) (hrun : (run n st).2 = none) :
    ∃ J, ∀ K, J ≤ K →
      (MacroRef.expandH false K (tblF ms0) (absF st)).2.1 = none ∧
      (MacroRef.expandH false K (tblF ms0) (absF st)).1.map (fun t => kwKey t.tok.key) = runKeys (run n st).1 :=
  run_simF ms0 hTb n st g ht hrun

/-- the same from the start of a text, with the class given by its executable tests (`tblOKb`,
`textOKb`: what the check's driver evaluates to count the units this theorem covers) -/
theorem function_like_correct_init (ms0 : List Macro) (raw : List Tok) (n : Nat) (h1 : tblOKb ms0 = true)
    (h2 : ∀ m ∈ ms0, m.hide = false) (h3 : textOKb ms0 (raw.length + 1) raw = true)
    (hrun : (run n { raw := raw, macros := ms0 }).2 = none) :
    ∃ J, ∀ K, J ≤ K →
      (MacroRef.expandH false K (tblF ms0) ((absRawF raw).map .tok)).2.1 = none ∧
      (MacroRef.expandH false K (tblF ms0) ((absRawF raw).map .tok)).1.map (fun t => kwKey t.tok.key)
        = runKeys (run n { raw := raw, macros := ms0 }).1 :=
  function_like_correct_partial ms0 (tblOK_of_b h1) n { raw := raw, macros := ms0 }
    (goodF_init ms0 raw (tblOK_of_b h1).names h2) (textOK_of_b ms0 _ raw h3) hrun

-- non-vacuity: `#define H(a, b) b + a a` / `#define A B x` / `#define B A 7`, and the text
-- `A H ( 1 , ( 2 , y ) ) x` new-line `B H(z,z)`
def mAB' : Macro := { func := false, name := b!"A", body := [ident b!"B" true, ident b!"x" true] }
def mBA' : Macro := { func := false, name := b!"B", body := [ident b!"A" true, num b!"7" true] }
def tblHAB : List Macro := [mH, mAB', mBA']
def rawHAB : List Tok := ident b!"A" :: ident b!"H" true :: tk .TLPAREN none true :: rawH ++
  [NL, ident b!"B", ident b!"H" true, tk .TLPAREN, ident b!"z", tk .TCOMMA, ident b!"z", tk .TRPAREN, NL, tk .TEOF]
example : tblOKb tblHAB = true := by decide +kernel
example : ∀ m ∈ tblHAB, m.hide = false := by decide
example : textOKb tblHAB (rawHAB.length + 1) rawHAB = true := by decide +kernel
theorem run_rawHAB : (run 60 { raw := rawHAB, macros := tblHAB }).2 = none ∧
    runKeys (run 60 { raw := rawHAB, macros := tblHAB }).1 =
    [ident b!"A", num b!"7", ident b!"x", tk .TLPAREN, num b!"2", tk .TCOMMA, ident b!"y", tk .TRPAREN, tk .TADD,
     num b!"1", num b!"1", ident b!"x", ident b!"B", ident b!"x", num b!"7", ident b!"z", tk .TADD, ident b!"z",
     ident b!"z"].map (fun t => (t.kind, t.lit)) := by decide +kernel

example : (run 60 { raw := rawHAB, macros := tblHAB }).2 = none := run_rawHAB.1
example : runKeys (run 60 { raw := rawHAB, macros := tblHAB }).1 =
    [ident b!"A", num b!"7", ident b!"x", tk .TLPAREN, num b!"2", tk .TCOMMA, ident b!"y", tk .TRPAREN, tk .TADD,
     num b!"1", num b!"1", ident b!"x", ident b!"B", ident b!"x", num b!"7", ident b!"z", tk .TADD, ident b!"z",
     ident b!"z"].map (fun t => (t.kind, t.lit)) := run_rawHAB.2

/-! ## Arguments with macro names and nested invocations: complete replacement before substitution (6.10.3.1)

The class of texts grows (`TextP`, `ArgsOK`): the tokens between the parentheses of an invocation may
name object-like macros of the table and may hold complete invocations of function-like macros
(`F(G(A), (F(1, G(2)), y))`), to any depth; the name of a function-like macro is always followed by
its parenthesised arguments; no `#` token in the text, no new-line from the name of an invocation to its `)`.
The class of tables grows too
(`TblOKS`): the replacement list of a function-like macro may hold `# parameter` (`SimpleFunS`: as
`define` accepts it; no parameter is used both with `#` and outside: there lives the recorded finding
stringize-nested-call), and the string the model builds while it reads the argument is the spelling the
reference computes (`stringize_correct`).  `expandfunc` reads
the arguments through `expand`: the replacement of a macro named in an argument is pushed on the
context stack and delivered into the argument while the nesting depth tells it apart from the
text of the invocation; the reference isolates each argument and replaces it completely on its
own.  The abstraction carries paint marks (`mkHp`: a hidden token that names a macro), because a
macro name painted inside an argument must stay painted when the replacement list is rescanned.
`GoodP ms0 st` (state): as `GoodF`, but a hidden identifier on the stack may name a macro, and every token
the stack will deliver sits in or above the frame of a macro; `absP ms0 st`: as `absF`, with the paint marks
(at the start of a text both are the text itself: `absP_init`). -/

/-- **Complete macro replacement of the arguments, then substitution, then rescanning** (6.10.3.1): as
`object_like_correct`, on the class above. -/
theorem function_like_args_correct_partial (ms0 : List Macro) (hTb : TblOKS ms0) (n : Nat) (st : St) (g : GoodP ms0 st)
    (ht : TextP ms0 st.raw) (hrun : (run n st).2 = none) :
    ∃ J, ∀ K, J ≤ K →
      (MacroRef.expandH false K (tblF ms0) (absP ms0 st)).2.1 = none ∧
      (MacroRef.expandH false K (tblF ms0) (absP ms0 st)).1.map (fun t => kwKey t.tok.key) = runKeys (run n st).1 :=
  run_sims ms0 hTb.toFn st g.toFn ht.toFn hrun

/-- the same from the start of a text, with the class given by its executable tests (`tblOKSb`,
`textPb`), and the source of the reference written without paint marks (`absRawF`) -/
theorem function_like_args_correct_init (ms0 : List Macro) (raw : List Tok) (n : Nat) (h1 : tblOKSb ms0 = true)
    (h2 : ∀ m ∈ ms0, m.hide = false) (h3 : textPb ms0 (raw.length + 1) raw = true)
    (hrun : (run n { raw := raw, macros := ms0 }).2 = none) :
    ∃ J, ∀ K, J ≤ K →
      (MacroRef.expandH false K (tblF ms0) ((absRawF raw).map .tok)).2.1 = none ∧
      (MacroRef.expandH false K (tblF ms0) ((absRawF raw).map .tok)).1.map (fun t => kwKey t.tok.key)
        = runKeys (run n { raw := raw, macros := ms0 }).1 := by
  have ht := textP_of_b ms0 _ raw h3
  exact absP_init ht.toFn ▸ function_like_args_correct_partial ms0 (tblOKS_of_b h1) n { raw := raw, macros := ms0 }
    (goodP_init ms0 raw (tblOKS_of_b h1).names h2) ht hrun

-- non-vacuity: the table above, and the text `H ( A , ( B , y ) ) x`: the first argument is replaced
-- by `A 7 x` (inner `A` painted), the second by `( B x 7 , y )` (inner `B` painted)
def rawArgs : List Tok := [ident b!"H", tk .TLPAREN none true, ident b!"A" true, tk .TCOMMA none true, tk .TLPAREN none true,
  ident b!"B" true, tk .TCOMMA none true, ident b!"y" true, tk .TRPAREN none true, tk .TRPAREN none true, ident b!"x" true,
  NL, tk .TEOF]
-- and `H ( H ( 1 , A ) , B ) ;`: an invocation nested in an argument
def rawNest : List Tok := [ident b!"H", tk .TLPAREN none true, ident b!"H" true, tk .TLPAREN none true, num b!"1" true,
  tk .TCOMMA none true, ident b!"A" true, tk .TRPAREN none true, tk .TCOMMA none true, ident b!"B" true,
  tk .TRPAREN none true, tk .TSEMICOLON none true, NL, tk .TEOF]
example : textPb tblHAB (rawNest.length + 1) rawNest = true := by decide +kernel
example : (run 120 { raw := rawNest, macros := tblHAB }).2 = none := by decide +kernel
-- and `#define S(a, b) #a b` with the text `S ( H ( 1 , A ) "q" , B )`: the first argument is spelled, not replaced
def pAs : Param := { name := b!"a", fstr := true }
def mS : Macro := { func := true, name := b!"S", params := [pAs, pB],
                    body := [tk .THASH none true, ident b!"a", ident b!"b" true] }
def tblS : List Macro := mS :: tblHAB
def rawS : List Tok := [ident b!"S", tk .TLPAREN none true, ident b!"H" true, tk .TLPAREN none true, num b!"1" true,
  tk .TCOMMA none true, ident b!"A" true, tk .TRPAREN none true, tk .TSTRINGLIT (some b!"\"q\"") true, tk .TCOMMA none true,
  ident b!"B" true, tk .TRPAREN none true, NL, tk .TEOF]
example : tblOKSb tblS = true := by decide +kernel
example : tblOKb tblS = false := by decide +kernel
example : textPb tblS (rawS.length + 1) rawS = true := by decide +kernel
example : runKeys (run 80 { raw := rawS, macros := tblS }).1 =
    [tk .TSTRINGLIT (some b!"\"H ( 1 , A ) \\\"q\\\"\""), ident b!"B", ident b!"x", num b!"7"].map (fun t => (t.kind, t.lit)) := by
  decide +kernel
example : tblOKSb tblHAB = true := by decide +kernel
example : textPb tblHAB (rawArgs.length + 1) rawArgs = true := by decide +kernel
example : textOKb tblHAB (rawArgs.length + 1) rawArgs = false := by decide +kernel
theorem run_rawArgs : (run 80 { raw := rawArgs, macros := tblHAB }).2 = none ∧
    runKeys (run 80 { raw := rawArgs, macros := tblHAB }).1 =
    [tk .TLPAREN, ident b!"B", ident b!"x", num b!"7", tk .TCOMMA, ident b!"y", tk .TRPAREN, tk .TADD,
     ident b!"A", num b!"7", ident b!"x", ident b!"A", num b!"7", ident b!"x", ident b!"x"].map (fun t => (t.kind, t.lit)) := by
  decide +kernel

example : (run 80 { raw := rawArgs, macros := tblHAB }).2 = none := run_rawArgs.1
example : runKeys (run 80 { raw := rawArgs, macros := tblHAB }).1 =
    [tk .TLPAREN, ident b!"B", ident b!"x", num b!"7", tk .TCOMMA, ident b!"y", tk .TRPAREN, tk .TADD,
     ident b!"A", num b!"7", ident b!"x", ident b!"A", num b!"7", ident b!"x", ident b!"x"].map (fun t => (t.kind, t.lit)) :=
  run_rawArgs.2

theorem hide_iff_active_funclike (ms0 : List Macro) (hTb : TblOKS ms0) (n : Nat) (st st' : St) (g : GoodP ms0 st)
    (ht : TextP ms0 st.raw) (h : exec n .next st = .ok st') :
    ∀ m ∈ st'.macros, (m.hide = true ↔ ∃ f ∈ st'.ctx, f.mac = some m.name) := by
  obtain ⟨k, s, hs, g', _⟩ := next_runs ms0 hTb.toFn st g.toFn ht.toFn
  cases exec_det hs h
  exact fun _ hm => g'.1.inv.hide_iff_frame hm

/-! ## Termination with function-like macros

The run of the model completes on every good state over a text of the class (`TextP`): the
context stack has a potential (`potW`: the weights `W` of the tokens it will deliver, each against
the macros without a live frame at or below it; a replacement trades a token's weight for one unit
less), the argument loop completes on the text of every invocation (`loopOK_of_fnArgs`, by
induction on the structure of the arguments, with the potential for the replacements inside an
argument), and the text gets shorter.  No bound is computed: the statement is that enough fuel
exists, and then (`fuel_monotone_run`) any larger amount gives the same run. -/

theorem function_like_terminates (ms0 : List Macro) (hTb : TblOKS ms0) (st : St) (g : GoodP ms0 st)
    (ht : TextP ms0 st.raw) : ∃ N, ∀ n, N ≤ n → (run n st).2 = none := by
  obtain ⟨N, hN, _⟩ := run_runs ms0 hTb.toFn st g.toFn ht.toFn
  exact ⟨N, fun n hn => by rw [run_stable hN hn]; exact hN⟩

theorem function_like_correct_total (ms0 : List Macro) (raw : List Tok) (h1 : tblOKSb ms0 = true)
    (h2 : ∀ m ∈ ms0, m.hide = false) (h3 : textPb ms0 (raw.length + 1) raw = true) :
    ∃ N J, ∀ n K, N ≤ n → J ≤ K →
      (run n { raw := raw, macros := ms0 }).2 = none ∧
      (MacroRef.expandH false K (tblF ms0) ((absRawF raw).map .tok)).2.1 = none ∧
      (MacroRef.expandH false K (tblF ms0) ((absRawF raw).map .tok)).1.map (fun t => kwKey t.tok.key)
        = runKeys (run n { raw := raw, macros := ms0 }).1 := by
  have hTb := tblOKS_of_b h1
  have ht := textP_of_b ms0 _ raw h3
  have g := goodP_init ms0 raw hTb.names h2
  obtain ⟨N, hN⟩ := function_like_terminates ms0 hTb { raw := raw, macros := ms0 } g ht
  obtain ⟨J, hJ⟩ := function_like_args_correct_init ms0 raw N h1 h2 h3 (hN N (Nat.le_refl _))
  refine ⟨N, J, fun n K hn hK => ?_⟩
  rw [run_stable (hN N (Nat.le_refl _)) hn]
  exact ⟨hN N (Nat.le_refl _), (hJ K hK).1, (hJ K hK).2⟩

/-! ## Function-like macros: the full statement, and why it is false today

Full strength: on every translation unit on which both complete, model and reference deliver the
same tokens.  It holds for tables of object-like macros (`object_like_correct`) and on the class
`TblOKS`/`TextP` (`function_like_correct_total`), and its function-like ingredients are proved
separately (`split_args_correct`, `stringize_correct`, `painted_never_expands`,
`too_many_args_rejected`, `define_*`); as a whole it is false of the current tree, by the recorded
known findings: -/

def unit_correct_full : Prop :=
  ∀ (unit : List Tok) (n k : Nat),
    (run n (St.init unit false)).2 = none → (MacroRef.expandUnit k (unit.map toP)).err = none →
    runKeys (run n (St.init unit false)).1 = (MacroRef.expandUnit k (unit.map toP)).toks.map (fun t => kwKey t.key)

def HASH : Tok := tk .THASH
def EOFT : Tok := tk .TEOF

/-- `#define N(x) x` / `#define M(p) p #p` / `M(N(2))`  (known finding `stringize-nested-call`) -/
def unitNested : List Tok :=
  [HASH, ident b!"define", ident b!"N" true, tk .TLPAREN, ident b!"x", tk .TRPAREN, ident b!"x" true, NL,
   HASH, ident b!"define", ident b!"M" true, tk .TLPAREN, ident b!"p", tk .TRPAREN, ident b!"p" true,
     tk .THASH none true, ident b!"p", NL,
   ident b!"M", tk .TLPAREN, ident b!"N", tk .TLPAREN, num b!"2", tk .TRPAREN, tk .TRPAREN, NL, EOFT]

/-- the model (like pp.c) delivers `2 "N"`, C11 6.10.3.2p2 demands `2 "N(2)"` -/
theorem unit_correct_counterexample : ¬ unit_correct_full := by
  intro h
  have key : (run 200 (St.init unitNested false)).2 = none ∧ (MacroRef.expandUnit 200 (unitNested.map toP)).err = none ∧
      runKeys (run 200 (St.init unitNested false)).1 ≠
        (MacroRef.expandUnit 200 (unitNested.map toP)).toks.map (fun t => kwKey t.key) := by decide +kernel
  exact key.2.2 (h unitNested 200 200 key.1 key.2.1)

/-- `#define S(x) #x` / `#define T(y) S(a y+b)` / `T()`  (known finding `empty-expansion-space`):
the model delivers `"a+b"`, the reference `"a +b"` -/
def unitEmptySpace : List Tok :=
  [HASH, ident b!"define", ident b!"S" true, tk .TLPAREN, ident b!"x", tk .TRPAREN, tk .THASH none true, ident b!"x", NL,
   HASH, ident b!"define", ident b!"T" true, tk .TLPAREN, ident b!"y", tk .TRPAREN, ident b!"S" true, tk .TLPAREN,
     ident b!"a", ident b!"y" true, tk .TADD, ident b!"b", tk .TRPAREN, NL,
   ident b!"T", tk .TLPAREN, tk .TRPAREN, NL, EOFT]

theorem empty_expansion_space_witness :
    runKeys (run 200 (St.init unitEmptySpace false)).1 = [(.TSTRINGLIT, some b!"\"a+b\"")] ∧
    (MacroRef.expandUnit 200 (unitEmptySpace.map toP)).toks.map (·.key) = [(.TSTRINGLIT, some b!"\"a +b\"")] := by
  decide +kernel

/-- units on which the full statement does hold are not rare: e.g. a variadic macro with an
argument containing parentheses and commas, stringification, self reference:
`#define F(x, ...) #x __VA_ARGS__ F` / `F(a + 1, (3, 4), 5)` -/
def unitFine : List Tok :=
  [HASH, ident b!"define", ident b!"F" true, tk .TLPAREN, ident b!"x", tk .TCOMMA, tk .TELLIPSIS, tk .TRPAREN,
     tk .THASH none true, ident b!"x", ident b!"__VA_ARGS__" true, ident b!"F" true, NL,
   ident b!"F", tk .TLPAREN, ident b!"a", tk .TADD none true, num b!"1", tk .TCOMMA, tk .TLPAREN, num b!"3",
     tk .TCOMMA, num b!"4", tk .TRPAREN, tk .TCOMMA, num b!"5", tk .TRPAREN, NL, EOFT]

example : (run 120 (St.init unitFine false)).2 = none ∧
    runKeys (run 120 (St.init unitFine false)).1 =
      (MacroRef.expandUnit 120 (unitFine.map toP)).toks.map (fun t => kwKey t.key) := by decide +kernel

end CprocVerif.C12
