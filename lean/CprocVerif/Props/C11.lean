import CprocVerif.Lemmas.PPLinePP

/-!
# C11 — diagnostics name the file and line of the offending construct

Property theorems about the model of the location bookkeeping of `/repo/scan.c` + `pp.c`
(`Model/Scan.lean`, `Model/PPLine.lean`) against the declarative presumed-location rules of
`Spec/Presumed.lean`.  No theorem bounds the length of the source text.

Vocabulary.  `run nl file text` is what the preprocessor delivers for the source text `text`
opened under the name `file` (`nl` = `PPNEWLINE`, i.e. whether new-line tokens are delivered):
the tokens up to `TEOF` or up to the first diagnostic, that diagnostic, and the line directives
(`#line n ["f"]`, `# n "f" flags`) that had taken effect by then — each as (offset of the byte
behind its new-line, line number, file name if given).  Each token carries the ghost byte offset
`off` of its first character.  `presumedFile/presumedLine/column` are the spec: last directive
ending at or before the offset, plus the number of new-line characters since (every new-line
counts: spliced, inside a comment, or plain); column = distance from the start of the physical
line + 1.  A diagnostic of the preprocessor carries (ghost) the token whose location was passed
to `error()`.

Trusted: the directives the spec is applied to are the model's own ghost log (`Run.dirs`, written by
`lineDirEnd`).  That a logged entry is the directive that stands in the text — its end offset, its
file name, its line number as the decimal value of the digit sequence (`Spec.Presumed.decimalValue`
is used by no theorem) — is shown on examples only; the theorems say that the log grows in text order
(`dirs_increasing`) and that locations are the spec's under the logged directives.

Full-strength statements that are false on the current tree are kept as `def …_full : Prop` with
`…_counterexample : ¬ …_full` and the provable restriction `…_partial`
(known finding `newline-token-next-line`).
-/

namespace CprocVerif.C11
open CprocVerif.Scan CprocVerif.PPLine CprocVerif.Spec.Presumed CprocVerif.Gen.TokenKinds

def dirsOfRun (r : Run) : List LineDir := r.dirs.map toDir

/-- the name the harness opens its input under -/
abbrev inC : List UInt8 := b!"in.c"

theorem run_ok (nl : Bool) (file text : List UInt8) :
    RunOK file text [] (off (S.init text)) (run nl file text) :=
  runLoop_ok nl _ _ (init_pinv file text) (Nat.le_succ _)

/-! ## 1. Every delivered token is located at the presumed position of its first byte -/

/-- **`tok_loc_correct`**, restricted to tokens other than new-line (`hk`). -/
theorem tok_loc_correct_partial (nl : Bool) (file text : List UInt8) (t : PTok)
    (ht : t ∈ (run nl file text).toks) (hk : t.kind ≠ .TNEWLINE) :
    t.file = presumedFile file (dirsOfRun (run nl file text)) t.off ∧
    t.line = presumedLine text (dirsOfRun (run nl file text)) t.off ∧
    t.col = column text t.off := by
  obtain ⟨a, b, _⟩ := ((run_ok nl file text).toks t ht).2
  exact ⟨a, b hk⟩

def tok_loc_correct_full : Prop :=
  ∀ (nl : Bool) (file text : List UInt8) (t : PTok), t ∈ (run nl file text).toks →
    t.file = presumedFile file (dirsOfRun (run nl file text)) t.off ∧
    t.line = presumedLine text (dirsOfRun (run nl file text)) t.off ∧
    t.col = column text t.off

/-- It is false (known finding `newline-token-next-line`): the new-line that ends line 1 of
`a⏎` is delivered (with `PPNEWLINE`) as located at line 2, column 0. -/
theorem tok_loc_correct_counterexample : ¬ tok_loc_correct_full := by
  intro h
  have := h true inC b!"a\n" ⟨.TNEWLINE, none, inC, 2, 0, false, 1⟩ (by decide +kernel)
  revert this
  decide +kernel

theorem newline_tok_loc (nl : Bool) (file text : List UInt8) (t : PTok)
    (ht : t ∈ (run nl file text).toks) (hk : t.kind = .TNEWLINE) :
    t.file = presumedFile file (dirsOfRun (run nl file text)) t.off ∧
    t.line = presumedLine text (dirsOfRun (run nl file text)) t.off + 1 ∧ t.col = 0 := by
  obtain ⟨a, _, c⟩ := ((run_ok nl file text).toks t ht).2
  exact ⟨a, c hk⟩

-- non-vacuity: a text with a marker, a splice and a multi-line comment delivers non-new-line tokens
example : ((run false inC b!"# 7 \"f.c\"\n/* a\n b */ x\\\ny z\n").toks.map
    fun t => (t.kind, t.file, t.line, t.col, t.off)) =
    [(.TIDENT, b!"f.c", 8, 7, 21), (.TIDENT, b!"f.c", 9, 3, 26), (.TEOF, b!"f.c", 10, 1, 28)] := by
  decide +kernel

example : ∃ t ∈ (run true inC b!"a\n").toks, t.kind = .TNEWLINE := by decide +kernel

/-! ## 2. Diagnostics of the preprocessor point at the presumed position of the offending token -/

/-- **`diag_loc_correct`**, restricted to offending tokens other than new-line (`hk`).  Every line
directive completed before the token is taken into account, the directive being read is not. -/
theorem diag_loc_correct_partial (nl : Bool) (file text : List UInt8) (e : PErr) (t : PTok)
    (he : (run nl file text).err = some e) (ht : e.tok = some t) (hk : t.kind ≠ .TNEWLINE) :
    e.file = presumedFile file (dirsOfRun (run nl file text)) t.off ∧
    e.line = presumedLine text (dirsOfRun (run nl file text)) t.off ∧
    e.col = column text t.off := by
  obtain ⟨_, _, _, _, hat⟩ := (run_ok nl file text).err e he
  obtain ⟨⟨a, b, _⟩, _, c, d, f⟩ := hat.tok t ht
  rw [c, d, f]
  exact ⟨a, b hk⟩

def diag_loc_correct_full : Prop :=
  ∀ (nl : Bool) (file text : List UInt8) (e : PErr) (t : PTok),
    (run nl file text).err = some e → e.tok = some t →
    e.file = presumedFile file (dirsOfRun (run nl file text)) t.off ∧
    e.line = presumedLine text (dirsOfRun (run nl file text)) t.off ∧
    e.col = column text t.off

/-- False (same finding): `#line⏎` is diagnosed ("expected number after #line, saw newline") at
line 2, column 0, while the offending new-line is the sixth byte of line 1. -/
theorem diag_loc_correct_counterexample : ¬ diag_loc_correct_full := by
  intro h
  have := h false inC b!"#line\n"
    ⟨inC, 2, 0, .expected .TNUMBER .afterLine, some ⟨.TNEWLINE, none, inC, 2, 0, false, 5⟩, []⟩
    ⟨.TNEWLINE, none, inC, 2, 0, false, 5⟩ (by decide +kernel) rfl
  revert this
  decide +kernel

theorem diag_at_newline (nl : Bool) (file text : List UInt8) (e : PErr) (t : PTok)
    (he : (run nl file text).err = some e) (ht : e.tok = some t) (hk : t.kind = .TNEWLINE) :
    e.file = presumedFile file (dirsOfRun (run nl file text)) t.off ∧
    e.line = presumedLine text (dirsOfRun (run nl file text)) t.off + 1 ∧ e.col = 0 := by
  obtain ⟨_, _, _, _, hat⟩ := (run_ok nl file text).err e he
  obtain ⟨⟨a, _, b⟩, _, c, d, f⟩ := hat.tok t ht
  rw [c, d, f]
  exact ⟨a, b hk⟩

example : ((run false inC b!"# 3 \"h.c\"\n#line\n").err.map
    fun e => (e.file, e.line, e.col, e.tok.map (fun t => (t.kind, t.off)))) =
    some (b!"h.c", 4, 0, some (.TNEWLINE, 15)) := by decide +kernel

-- non-vacuity: a diagnostic inside the SECOND directive, located under the numbering of the first
example : ((run false inC b!"#line 5 \"g.c\"\n\n#line 9 x\n").err.map
    fun e => (e.file, e.line, e.col, e.kind, e.tok.map (·.off))) =
    some (b!"g.c", 6, 9, .expected .TNEWLINE .afterDirective, some 23) := by decide +kernel

/-- **diagnostics of scan.c** ("EOF in comment", "newline in string literal", "invalid escape
sequence", …, which pass `&s->loc`): the diagnostic names the presumed file, and the presumed line
of some byte `o` that lies behind every delivered token (inside the offending literal or comment,
or the end of the text) — or, when that byte is a new-line character, the line after it (the
recorded finding again: "newline in string literal" names the line after the unterminated one).
Every line directive completed before is taken into account. -/
theorem scan_diag_loc (nl : Bool) (file text : List UInt8) (e : PErr) (k : ErrKind)
    (he : (run nl file text).err = some e) (hk : e.kind = .scan k) (ht : e.tok = none) :
    ∃ o, o ≤ text.length ∧ (∀ t' ∈ (run nl file text).toks, t'.off < o) ∧
      e.file = presumedFile file (dirsOfRun (run nl file text)) o ∧
      (text[o]? ≠ some NL → e.line = presumedLine text (dirsOfRun (run nl file text)) o) ∧
      (text[o]? = some NL → e.line = presumedLine text (dirsOfRun (run nl file text)) o + 1) := by
  obtain ⟨_, b, _, hbt, hat⟩ := (run_ok nl file text).err e he
  obtain ⟨o, hbo, hlen, hf, hl⟩ := hat.scan ht k hk
  exact ⟨o, hlen, fun t' h => Nat.lt_of_lt_of_le (hbt t' h) hbo, hf,
    fun hn => by rw [hl, if_neg hn]; rfl, fun hn => by rw [hl, if_pos hn]; rfl⟩

example : ((run false inC b!"# 5 \"f.c\"\nx = \"abc\n").err.map fun e => (e.file, e.line, e.col, e.kind, e.tok)) =
    some (b!"f.c", 6, 0, .scan .nlStr, none) := by decide +kernel
example : ((run false inC b!"a\n/* b\n\n").err.map fun e => (e.file, e.line, e.col, e.kind)) =
    some (inC, 4, 1, .scan .eofComment) := by decide +kernel

/-! ## 3. The effect of a line directive -/

theorem line_directive_effect (nl : Bool) (file text : List UInt8) (t : PTok)
    (ht : t ∈ (run nl file text).toks) (hk : t.kind ≠ .TNEWLINE) (d : LineDir)
    (hd : (inEffect (dirsOfRun (run nl file text)) t.off).getLast? = some d) :
    t.line = d.line + newlines text d.endOff t.off ∧ (∀ f, d.file = some f → t.file = f) := by
  obtain ⟨a, b, _⟩ := tok_loc_correct_partial nl file text t ht hk
  constructor
  · rw [b]; unfold presumedLine; rw [hd]
  · intro f hf
    rw [a]; unfold presumedFile
    obtain ⟨l', hl'⟩ := List.getLast?_eq_some_iff.mp hd
    rw [hl', List.filterMap_append]
    simp [hf]

theorem no_directive_physical (nl : Bool) (file text : List UInt8) (t : PTok)
    (ht : t ∈ (run nl file text).toks) (hk : t.kind ≠ .TNEWLINE)
    (hd : inEffect (dirsOfRun (run nl file text)) t.off = []) :
    t.line = 1 + newlines text 0 t.off ∧ t.file = file := by
  obtain ⟨a, b, _⟩ := tok_loc_correct_partial nl file text t ht hk
  constructor
  · rw [b]; unfold presumedLine; rw [hd]; rfl
  · rw [a]; unfold presumedFile; rw [hd]; rfl

/-- a directive takes effect BEHIND its own line: the tokens of the directive's own line, and a
diagnostic inside it, are numbered by what was in force before -/
theorem line_directive_not_before (file text : List UInt8) (D new : List LineDir) (o : Nat)
    (h : ∀ d ∈ new, o < d.endOff) :
    presumedLine text (D ++ new) o = presumedLine text D o ∧
    presumedFile file (D ++ new) o = presumedFile file D o :=
  presumed_stable file D new o h

/-- the directives are logged in text order: "the last one in the list that ends at or before
`o`" is the one with the greatest end among those -/
theorem dirs_increasing (nl : Bool) (file text : List UInt8) :
    (dirsOfRun (run nl file text)).Pairwise (fun a b => a.endOff < b.endOff) :=
  (run_ok nl file text).sorted

-- the regression witnesses of the fixed findings, on the model
-- line-directive-blank-line: a blank line right after the marker
example : ((run false inC b!"# 10 \"foo.c\"\n\nint x = y;\n").toks.map
    fun t => (t.file, t.line, t.col)) =
    [(b!"foo.c", 11, 1), (b!"foo.c", 11, 5), (b!"foo.c", 11, 7), (b!"foo.c", 11, 9),
     (b!"foo.c", 11, 10), (b!"foo.c", 12, 1)] := by decide +kernel
-- line-directive-octal: the digit sequence is decimal
example : ((run false inC b!"#line 010\nint x = y;\n").toks.head?.map (·.line)) = some 10 := by
  decide +kernel
-- dotdot-splice-line: `..` followed by a line splice keeps the line count
example : ((run false inC b!"..\\\nx\n y").toks.map fun t => (t.line, t.col, t.off)) =
    [(1, 1, 0), (1, 2, 1), (2, 1, 4), (3, 2, 7), (3, 3, 8)] := by decide +kernel
example : ((run false inC b!"#line 7 \"g.c\"\n\\\n\\\nx").dirs) = [(14, 7, some b!"g.c")] := by
  decide +kernel
example : (inEffect [⟨14, 7, some b!"g.c"⟩] 18).getLast? = some ⟨14, 7, some b!"g.c"⟩ := by decide

/-! ## 4. Monotonicity -/

theorem tok_off_increasing (nl : Bool) (file text : List UInt8) :
    (run nl file text).toks.Pairwise (fun a b => a.off < b.off) := (run_ok nl file text).incr

theorem diag_after_tokens (nl : Bool) (file text : List UInt8) (e : PErr) (t : PTok)
    (he : (run nl file text).err = some e) (ht : e.tok = some t) :
    ∀ t' ∈ (run nl file text).toks, t'.off < t.off := by
  obtain ⟨_, b, _, hbt, hat⟩ := (run_ok nl file text).err e he
  exact fun t' h => Nat.lt_of_lt_of_le (hbt t' h) (hat.tok t ht).2.1

example : inEffect [⟨14, 7, none⟩, ⟨40, 2, none⟩] 20 = inEffect [⟨14, 7, none⟩, ⟨40, 2, none⟩] 30 ∧
    ∀ d ∈ inEffect [⟨14, 7, none⟩, ⟨40, 2, none⟩] 20, d.endOff ≤ 20 := by decide

/-- `hsame`: no line directive takes effect between the two tokens (one may lower the line number) -/
theorem tok_line_monotone (nl : Bool) (file text : List UInt8) (t1 t2 : PTok)
    (h1 : t1 ∈ (run nl file text).toks) (h2 : t2 ∈ (run nl file text).toks)
    (k1 : t1.kind ≠ .TNEWLINE) (k2 : t2.kind ≠ .TNEWLINE) (hle : t1.off ≤ t2.off)
    (hsame : inEffect (dirsOfRun (run nl file text)) t1.off =
      inEffect (dirsOfRun (run nl file text)) t2.off) : t1.line ≤ t2.line := by
  rw [(tok_loc_correct_partial nl file text t1 h1 k1).2.1,
    (tok_loc_correct_partial nl file text t2 h2 k2).2.1]
  refine presumedLine_mono text _ _ _ hle hsame ?_
  intro d hd
  unfold inEffect at hd
  simpa using (List.mem_filter.mp hd).2

example : ((run false inC b!"a /*\n\n*/ b \\\nc\nd").toks.map fun t => (t.line, t.off)) =
    [(1, 0), (3, 9), (4, 13), (5, 15), (5, 16)] := by decide +kernel

/-! ## 5. Physical lines: what the spec counts (splices and comment new-lines are lines) -/

theorem newlines_count (text : List UInt8) (o : Nat) :
    newlines text 0 o = (text.take o).count NL := by
  simp [newlines]

/-- `physAt` is what `nextchar` computes byte by byte (`Lemmas/PPLineInv.lean: nextchar_after`) -/
theorem phys_is_declarative (text : List UInt8) (o : Nat) :
    (physAt text o).line = 1 + newlines text 0 o ∧ (physAt text o).col = sinceLineStart text o :=
  ⟨physAt_line text o, physAt_col text o⟩

/-! ## 6. The model's loops always have enough fuel; a clean run ends with `TEOF` -/

theorem run_no_fuel (nl : Bool) (file text : List UInt8) (e : PErr)
    (he : (run nl file text).err = some e) : e.kind ≠ .fuel ∧ e.kind ≠ .scan .fuel :=
  ((run_ok nl file text).err e he).1

theorem run_ends_with_eof (nl : Bool) (file text : List UInt8) (he : (run nl file text).err = none) :
    ∃ ts t, (run nl file text).toks = ts ++ [t] ∧ t.kind = .TEOF ∧ ∀ x ∈ ts, x.kind ≠ .TEOF :=
  (run_ok nl file text).eof he

example : (run false inC b!"#pragma once\nx").err = none := by decide +kernel
example : ((run false inC b!"#define A 1\n").err.map (·.kind)) = some .unmodelled := by decide +kernel

end CprocVerif.C11
