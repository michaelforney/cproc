import CprocVerif.Lemmas.LinkageCor

/-!
# C09 — linkage and the unit's symbol table follow C11 6.2.2 / 6.9

`Model/Linkage.lean` transliterates `decl.c` (`getlinkage`, `declcommon`, the object and function
branches of `decl`, `emittentativedefns`) and the naming of `qbe.c:mkglobal`; `Spec/Link.lean` states
C11 on the whole history of declarations of one identifier.  The theorems quantify over histories
of any length.
-/
namespace CprocVerif.C09
open CprocVerif.Linkage CprocVerif.Link

/-- decidable form of "the model accepts `h` with the symbols the spec prescribes" -/
def agrees (h : List Form) : Bool :=
  match run h with
  | .ok s => decide (symbols s = Link.symbols h)
  | .error _ => false

theorem agrees_of {h : List Form} (hx : ∃ s, run h = .ok s ∧ symbols s = Link.symbols h) :
    agrees h = true := by
  obtain ⟨s, hs, hsym⟩ := hx
  simp [agrees, hs, hsym]

/-- Full strength: whatever history C11 accepts, the model accepts and yields the prescribed
symbols. -/
def linkage_history_correct_full : Prop :=
  ∀ h : List Form, Link.ok h → ∃ s, run h = .ok s ∧ symbols s = Link.symbols h

def Fi1 : Form := ⟨.func, .none, true, .file, true, none⟩     -- inline int f(void){…}
def Fe0 : Form := ⟨.func, .extern, false, .file, false, none⟩ -- extern int f(void);
def Ot0 : Form := ⟨.obj, .none, true, .file, false, none⟩     -- _Thread_local int x;
def Ot1 : Form := ⟨.obj, .none, true, .file, true, none⟩      -- _Thread_local int x = 1;
def On0 : Form := ⟨.obj, .none, false, .file, false, none⟩    -- int x;
def Be0 : Form := ⟨.obj, .extern, false, .block, false, none⟩ -- { extern int x; }

/-- `inline int f(void){…} extern int f(void);` — C11: external definition of `f`; the model
(like `decl.c`, see its XXX) emits nothing.  fid `inline-then-extern-not-emitted`. -/
theorem linkage_history_correct_counterexample : ¬ linkage_history_correct_full := by
  intro hfull
  have h := agrees_of (hfull [Fi1, Fe0] (by decide))
  revert h
  decide

/-- `_Thread_local int x; _Thread_local int x = 1;` — valid C11 (tentative definition, then the
definition); the model rejects it.  fid `thread-local-tentative-then-init`. -/
theorem linkage_history_correct_counterexample_thread :
    Link.ok [Ot0, Ot1] ∧ ∃ e, run [Ot0, Ot1] = .error e :=
  ⟨by decide, (isError_iff _).1 (by decide)⟩

/-- Outside the two classes above, every history C11 accepts is accepted by the
model, and the model's symbol table (definitions, export, thread marks, unique local names,
undefined references) is the one C11 prescribes. -/
theorem linkage_history_correct_partial (h : List Form) (hok : Link.ok h)
    (hI : inlineThenExtern h = false) (hT : threadTentativeThenInit h = false) :
    ∃ s, run h = .ok s ∧ symbols s = Link.symbols h := by
  rcases core_sim h.reverse (classify_ok hok) with ⟨hd, _⟩ | ⟨_, s, hs, inv, io⟩
  · exact absurd (hd.symm.trans hT) (by decide)
  · exact ⟨finish s, by rw [run_eq, hs], symbols_finish inv (io hI)⟩

theorem of_spec {h : List Form} (hok : Link.ok h) (hI : inlineThenExtern h = false)
    (hT : threadTentativeThenInit h = false) {P : SymTab → Prop} (hp : P (Link.symbols h)) :
    ∃ s, run h = .ok s ∧ P (symbols s) :=
  let ⟨s, hr, hsym⟩ := linkage_history_correct_partial h hok hI hT
  ⟨s, hr, hsym ▸ hp⟩

/-- Full strength: every constraint violation is rejected. -/
def rejects_violations_full : Prop :=
  ∀ h : List Form, Link.violates h → ∃ e, run h = .error e

/-- `void u(void){ extern int x; } _Thread_local int x;` violates 6.7.1p3; the model accepts it
(`decl.c` keeps no record of block-scope `extern` declarations once their block is closed — the
XXX in `declcommon` — so the file-scope declaration is compared with nothing). -/
theorem rejects_violations_counterexample : ¬ rejects_violations_full := by
  intro hfull
  have h := (isError_iff _).2 (hfull [Be0, Ot0] ⟨.c6_7_1p3_threadMismatchUnseenBlockExtern, by decide⟩)
  revert h
  decide

/-- Every constraint violation other than a `_Thread_local` mismatch with a block-scope `extern`
declaration that is no longer (or not) visible is rejected. -/
theorem rejects_violations_partial (h : List Form) (c : Clause) (hc : classify h = .violates c)
    (hne : c ≠ .c6_7_1p3_threadMismatchUnseenBlockExtern) : ∃ e, run h = .error e :=
  rejects (by rw [hc]; simpa [mustReject] using hne)

/-- A second external definition (undefined behaviour by 6.9p5 when the linkage is external, so not
part of `violates`) is rejected as well. -/
theorem rejects_redefinition (h : List Form)
    (hc : classify h = .undefined .c6_9p5_externalRedefined) : ∃ e, run h = .error e :=
  rejects (by rw [hc]; rfl)

/-! ## Corollaries, clause by clause of the property -/

/-- "tentative definitions yield exactly one zero-initialised definition at end of unit" -/
theorem tentative_exactly_one (h : List Form) (hok : Link.ok h) (hI : inlineThenExtern h = false)
    (hT : threadTentativeThenInit h = false)
    (ht : ∃ f ∈ h, f.scope = .file ∧ f.kind = .obj ∧ f.hasDef = false ∧ f.sc ≠ .extern)
    (hn : ∀ f ∈ h, f.scope = .file → f.hasDef = false) :
    ∃ s y, run h = .ok s ∧ (symbols s).main = [y] ∧ y.zero = true ∧ y.isFunc = false :=
  let ⟨s, hr, y, hy⟩ := of_spec hok hI hT (P := fun S => ∃ y, S.main = [y] ∧ y.zero = true ∧ y.isFunc = false)
    (spec_tentative_one hok ht hn)
  ⟨s, y, hr, hy⟩

/-- "`extern` declarations yield none" -/
theorem extern_decl_emits_nothing (h : List Form) (hok : Link.ok h) (hI : inlineThenExtern h = false)
    (hT : threadTentativeThenInit h = false)
    (he : ∀ f ∈ h, f.sc = .extern ∧ f.hasDef = false) :
    ∃ s, run h = .ok s ∧ (symbols s).main = [] ∧ (symbols s).locals = [] :=
  of_spec hok hI hT (P := fun S => S.main = [] ∧ S.locals = []) (spec_extern_nothing he)

/-- "internal-linkage … objects are local" -/
theorem static_is_local (h : List Form) (hok : Link.ok h) (hI : inlineThenExtern h = false)
    (hT : threadTentativeThenInit h = false)
    (hs : ∃ f ∈ h, f.scope = .file ∧ f.sc = .static) :
    ∃ s, run h = .ok s ∧ (∀ y ∈ (symbols s).main, y.exported = false) ∧
      (∀ y ∈ (symbols s).locals, y.exported = false) :=
  of_spec hok hI hT (P := fun S => (∀ y ∈ S.main, y.exported = false) ∧ ∀ y ∈ S.locals, y.exported = false)
    (spec_static_local hok hs)

/-- "redeclarations inherit prior linkage", e.g. `static int x; extern int x;` stays local -/
theorem redeclaration_inherits_linkage (h : List Form) (hok : Link.ok h)
    (hI : inlineThenExtern h = false) (hT : threadTentativeThenInit h = false) :
    ∃ s, run h = .ok s ∧ ∀ l ∈ Link.linkages h, l ≠ .none →
      (∀ l' ∈ Link.linkages h, l' ≠ .none → l' = l) ∧
      (∀ y ∈ (symbols s).main, y.exported = decide (l = .extern)) :=
  of_spec hok hI hT (P := fun S => ∀ l ∈ Link.linkages h, l ≠ .none →
      (∀ l' ∈ Link.linkages h, l' ≠ .none → l' = l) ∧ ∀ y ∈ S.main, y.exported = decide (l = .extern))
    (spec_inherits hok)

/-- "inline functions without an external definition are not emitted" -/
theorem inline_without_extern_not_emitted (h : List Form) (hok : Link.ok h)
    (hI : inlineThenExtern h = false) (hT : threadTentativeThenInit h = false)
    (hin : ∀ f ∈ h, f.kind = .func ∧ f.flag = true ∧ f.sc = .none) :
    ∃ s, run h = .ok s ∧ (symbols s).main = [] :=
  of_spec hok hI hT (P := fun S => S.main = []) (spec_inline_not_emitted hok hin)

/-- "Assembler labels are used verbatim" -/
theorem asm_label_verbatim (f0 : Form) (rest : List Form) (lab : Label) (hok : Link.ok (f0 :: rest))
    (hI : inlineThenExtern (f0 :: rest) = false) (hT : threadTentativeThenInit (f0 :: rest) = false)
    (hf : f0.scope = .file) (ha : f0.asm = some lab) :
    ∃ s, run (f0 :: rest) = .ok s ∧ (∀ y ∈ (symbols s).main, y.name = .asm lab) ∧
      (∀ r ∈ (symbols s).undef, r.name = .asm lab) :=
  of_spec hok hI hT (P := fun S => (∀ y ∈ S.main, y.name = .asm lab) ∧ ∀ r ∈ S.undef, r.name = .asm lab)
    (spec_asm_label hf ha)

/-- "thread-local objects are marked as such" -/
theorem thread_marked (h : List Form) (hok : Link.ok h) (hI : inlineThenExtern h = false)
    (hT : threadTentativeThenInit h = false)
    (ht : ∃ f ∈ h, f.kind = .obj ∧ f.flag = true ∧ f.scope = .file) :
    ∃ s, run h = .ok s ∧ (∀ y ∈ (symbols s).main, y.thread = true) ∧
      (∀ r ∈ (symbols s).undef, r.thread = true) :=
  of_spec hok hI hT (P := fun S => (∀ y ∈ S.main, y.thread = true) ∧ ∀ r ∈ S.undef, r.thread = true)
    (spec_thread_marked hok ht)

/-- "block-scope static objects are local and unique" -/
theorem block_static_unique_name (h : List Form) (hok : Link.ok h) (hI : inlineThenExtern h = false)
    (hT : threadTentativeThenInit h = false) :
    ∃ s, run h = .ok s ∧ (symbols s).locals.length = (h.filter blockStaticForm).length ∧
      ((symbols s).locals.map (·.name)).Nodup ∧
      (∀ y ∈ (symbols s).locals, y.exported = false ∧ y.name.isLoc = true) :=
  of_spec hok hI hT (P := fun S => S.locals.length = (h.filter blockStaticForm).length ∧
      (S.locals.map (·.name)).Nodup ∧ ∀ y ∈ S.locals, y.exported = false ∧ y.name.isLoc = true)
    (spec_block_static h)

/-! ## Non-vacuity: inputs satisfying the hypotheses of each theorem -/

section Examples
def o (sc : SC) (thread : Bool) (s : Scope) (init : Bool) (a : Option Label := none) : Form :=
  ⟨.obj, sc, thread, s, init, a⟩
def fn (sc : SC) (inline : Bool) (s : Scope) (body : Bool) (a : Option Label := none) : Form :=
  ⟨.func, sc, inline, s, body, a⟩

/-- `static int x; void u(void){ extern int x; { extern int x; } } extern int x; static int x = 1;` -/
def ex1 : List Form := [o .static false .file false, o .extern false .block false,
  o .extern false .nested false, o .extern false .file false, o .static false .file true]
example : Link.ok ex1 ∧ inlineThenExtern ex1 = false ∧ threadTentativeThenInit ex1 = false := by decide
example : agrees ex1 = true := by decide

/-- `void u(void){ int x; extern int x; }` -/
example : classify [o .none false .block false, o .extern false .block false] =
    .violates .c6_7p3_noLinkageRedeclared := by decide
/-- `int x = 1; int x = 1;` -/
example : classify [o .none false .file true, o .none false .file true] =
    .undefined .c6_9p5_externalRedefined := by decide

/-- `int x; int x; extern int x;` -/
def ex2 : List Form := [o .none false .file false, o .none false .file false, o .extern false .file false]
example : Link.ok ex2 ∧ inlineThenExtern ex2 = false ∧ threadTentativeThenInit ex2 = false ∧
    (∃ f ∈ ex2, f.scope = .file ∧ f.kind = .obj ∧ f.hasDef = false ∧ f.sc ≠ .extern) ∧
    (∀ f ∈ ex2, f.scope = .file → f.hasDef = false) := by decide

/-- `extern int x; void u(void){ extern int x; }` -/
def ex3 : List Form := [o .extern false .file false, o .extern false .block false]
example : Link.ok ex3 ∧ inlineThenExtern ex3 = false ∧ threadTentativeThenInit ex3 = false ∧
    (∀ f ∈ ex3, f.sc = .extern ∧ f.hasDef = false) := by decide

/-- `static int f(void); int f(void){…}` -/
def ex4 : List Form := [fn .static false .file false, fn .none false .file true]
example : Link.ok ex4 ∧ inlineThenExtern ex4 = false ∧ threadTentativeThenInit ex4 = false ∧
    (∃ f ∈ ex4, f.scope = .file ∧ f.sc = .static) ∧ Link.intern ∈ Link.linkages ex4 := by decide

/-- `inline int f(void); inline int f(void){…}` -/
def ex5 : List Form := [fn .none true .file false, fn .none true .file true]
example : Link.ok ex5 ∧ inlineThenExtern ex5 = false ∧ threadTentativeThenInit ex5 = false ∧
    (∀ f ∈ ex5, f.kind = .func ∧ f.flag = true ∧ f.sc = .none) := by decide

/-- `int x __asm__("x_a"); int x = 1;` -/
def ex6 : List Form := [o .none false .file false (some .a), o .none false .file true]
example : Link.ok ex6 ∧ inlineThenExtern ex6 = false ∧ threadTentativeThenInit ex6 = false := by decide

/-- `_Thread_local int x = 1; void u(void){ extern _Thread_local int x; }` -/
def ex7 : List Form := [o .none true .file true, o .extern true .block false]
example : Link.ok ex7 ∧ inlineThenExtern ex7 = false ∧ threadTentativeThenInit ex7 = false ∧
    (∃ f ∈ ex7, f.kind = .obj ∧ f.flag = true ∧ f.scope = .file) := by decide

/-- `void u(void){ static int x; { static int x = 1; } } int x; void v(void){ static _Thread_local int x; }` -/
def ex8 : List Form := [o .static false .block false, o .static false .nested true, o .none false .file false,
  o .static true .block false]
example : Link.ok ex8 ∧ inlineThenExtern ex8 = false ∧ threadTentativeThenInit ex8 = false ∧
    (ex8.filter blockStaticForm).length = 3 := by decide
end Examples

end CprocVerif.C09
