import CprocVerif.Lemmas.InitEmitLoop
import CprocVerif.Lemmas.InitDec
import CprocVerif.Lemmas.InitParseInside
import CprocVerif.Lemmas.InitRefNoSw
import CprocVerif.Lemmas.InitRefTop
import CprocVerif.Lemmas.InitGeoKeeps
import CprocVerif.Lemmas.InitGeoUnb
import CprocVerif.Lemmas.InitAuto

/-!
# C07 — initialised objects contain exactly the specified initial image

Property theorems about the model of `/repo/init.c` (`initadd`, `initclear`, `parseinit`) and of
`/repo/qbe.c:emitdata` (`Model/Init.lean`) and `funcinit` (`Model/InitAuto.lean`) against `Spec/Image.lean`
(`image size inits = inits.foldl write (zeros size)`) and `Spec/InitRef.lean`.  No theorem bounds the number of
initialisers, the nesting of types or the magnitude of values, except where the C code has a
bound itself (`obj[32]`).

Vocabulary (`Lemmas/InitAdd.lean`, `Lemmas/InitImage.lean`, `Lemmas/InitEmitCells.lean`):
* `Lam a b` (earlier `a`, later `b`): bit ranges disjoint, or `b` covers `a`, or `b` is one element
  of the string `a`; `Laminar inits` = every earlier/later pair is `Lam`.  Partial overlap, or a
  scalar nested in another scalar, needs sub-members of *different union members* — the case of the
  XXX comment and the `assert`s in `emitdata` — and is excluded by this hypothesis.
* `Forest l`: sorted by first bit, any two cells either follow each other without overlap or the
  later one is a proper part (an element) of the earlier string.
* `Wf size i`: non-empty bit range inside the object, a bit-field is an integer in a storage unit of
  at most 8 bytes, any other value fills its byte range.
* `EvsOK prev evs`: `Laminar` for a log of events `.add i` / `.clear a b` (what `parseinit` does to the list, in order);
  a cleared byte range contains or is bit-disjoint from every initialiser still in the list.  `evWrite` reads an event as
  a write (`initclear` as zeros), `adds evs` are the initialisers added.
-/

namespace CprocVerif.C07
open CprocVerif.Init CprocVerif.Image

theorem initadd_sorted_step {l : List Init} {new : Init} (hf : Forest l)
    (hl : ∀ o ∈ l, Lam o new ∧ NonEmpty o) (hn : NonEmpty new) : Forest (initadd l new) :=
  forest_initadd hf hl hn

theorem initadd_sorted {inits : List Init} (hl : Laminar inits) (hn : ∀ i ∈ inits, NonEmpty i) :
    Forest (inits.foldl initadd []) :=
  forest_foldl hl hn (l := []) List.Pairwise.nil (fun _ h => by simp at h)

theorem initadd_sorted_lo {inits : List Init} (hl : Laminar inits) (hn : ∀ i ∈ inits, NonEmpty i) :
    (inits.foldl initadd []).Pairwise (fun a b => a.lo ≤ b.lo) :=
  (initadd_sorted hl hn).imp (fun h => h.1)

theorem initadd_sorted_disjoint {l : List Init} (hf : Forest l)
    (hnp : ∀ a ∈ l, ∀ b ∈ l, ¬ PatchOK a b) : l.Pairwise (fun a b => a.hi ≤ b.lo) := by
  unfold Forest at hf
  refine (List.pairwise_iff_forall_sublist.2 ?_)
  intro a b hab
  have h := (List.pairwise_iff_forall_sublist.1 hf) hab
  have ha : a ∈ l := hab.subset (by simp)
  have hb : b ∈ l := hab.subset (by simp)
  rcases h.2 with h | h
  · exact h
  · exact absurd h.2.2 (hnp a ha b hb)

theorem initadd_mem {l : List Init} {new x : Init} (h : x ∈ initadd l new) : x = new ∨ x ∈ l := mem_initadd h

/-- Later designators override earlier ones. -/
theorem initadd_last_wins {l : List Init} {new : Init} (hf : Forest l)
    (hl : ∀ o ∈ l, Lam o new ∧ NonEmpty o) (hn : NonEmpty new) :
    ∀ x ∈ (initaddGo new l).1 ++ (initaddGo new l).2, ¬ Inside x new :=
  initadd_removes_covered hf hl

/-- The `last` cursor (`p->last`).  This is the fact for one `initadd` only: no theorem says that the
list `parseinit` carries itself (`st.il`, built with the cursor) is `st.log.foldl applyEv []`, the replay
from the head with which the end-to-end theorems below are stated; `Drv/C07.lean` emits from
`st.il.toList`, so that equality is covered by the differential comparison only. -/
theorem initadd_cursor_eq {il : IList} {new : Init} (h : ∀ o ∈ il.pre, o.hi ≤ new.lo) :
    (il.add new).toList = initadd il.toList new := ilist_add_toList h

/-- Where that fails the cursor matters (why `designator` resets it): with the cursor behind
`[4,8)` a new `[0,4)` would be appended behind it. -/
theorem initadd_cursor_counterexample :
    let a : Init := ⟨4, 8, 0, 0, .int 4 1⟩
    let b : Init := ⟨0, 4, 0, 0, .int 4 2⟩
    ((({} : IList).add a).add b).toList = [a, b] ∧ initadd (initadd [] a) b = [b, a] := by
  decide

/-- Event form of `emitdata_image` (`initclear` counting as a write of zeros).  `isSome`: no `assert` of `emitdata` fails. -/
theorem emitdata_image_ev {size : Nat} {evs : List Ev} (hok : EvsOK [] evs)
    (hw : ∀ i ∈ adds evs, Wf size i) :
    (emitdata size (evs.foldl applyEv [])).isSome ∧
      bytes (emitItems size (evs.foldl applyEv [])) = image size (evs.map evWrite) := by
  obtain ⟨hf, hwf, hcell⟩ := applyEv_nil hok hw
  obtain ⟨items, h1, h2⟩ := emitdata_cells hf hwf
  rw [emitItems, h1]
  exact ⟨rfl, h2.trans (hcell.image size)⟩

theorem emitdata_image {size : Nat} {inits : List Init} (hl : Laminar inits) (hw : ∀ i ∈ inits, Wf size i) :
    (emitdata size (inits.foldl initadd [])).isSome ∧
      bytes (emitItems size (inits.foldl initadd [])) = image size inits := by
  have hok : EvsOK [] (inits.map Ev.add) :=
    evsOK_of_laminar (prev := []) (by simpa using hl) (fun i hi => ⟨(hw i hi).nonEmpty, (hw i hi).byteVal⟩)
  have := emitdata_image_ev (size := size) hok (by rw [adds_map_add]; exact hw)
  rw [foldl_applyEv_adds] at this
  have e : (inits.map Ev.add).map evWrite = inits := by
    rw [List.map_map]; exact List.map_id' _
  rw [e] at this
  exact this

theorem emitdata_size {size : Nat} {inits : List Init} (hl : Laminar inits) (hw : ∀ i ∈ inits, Wf size i) :
    (bytes (emitItems size (inits.foldl initadd []))).length = size := by
  rw [(emitdata_image hl hw).2, length_image]

/-- A bit-field value is truncated to its field, whatever its magnitude (no hypothesis on `u`). -/
theorem bitfield_truncated {size : Nat} {i : Init} {w u : Nat} (hw : Wf size i) (hv : i.val = .int w u)
    {j : Nat} (hj : j < size) (k : Nat) (hk : k < 8) :
    ∃ n, (bytes (emitItems size [i]))[j]? = some (.byte n) ∧
      n.testBit k = (decide (i.lo ≤ 8 * j + k ∧ 8 * j + k < i.hi) && u.testBit (8 * j + k - i.lo)) := by
  have h : bytes (emitItems size [i]) = image size [i] :=
    (emitdata_image (List.pairwise_singleton _ _) (fun x hx => List.mem_singleton.1 hx ▸ hw)).2
  rw [h, getElem?_image _ hj]
  -- touched or not, the byte is `intCell` over the zero byte
  refine ⟨_, congrArg some (writeCell_int_byte hv j (by decide : 0 < 256)), ?_⟩
  rw [testBit_ofBits, decide_eq_true hk, Bool.true_and]
  split <;> simp [*, Cell.toNat]

/-- Padding, array tails, the neighbours of a bit-field inside its storage unit. -/
theorem zero_elsewhere {size : Nat} {inits : List Init} (hl : Laminar inits) (hw : ∀ i ∈ inits, Wf size i)
    {j k : Nat} (hj : j < size) (hk : k < 8)
    (hfree : ∀ i ∈ inits, ¬ (i.lo ≤ 8 * j + k ∧ 8 * j + k < i.hi)) :
    ∃ n, (bytes (emitItems size (inits.foldl initadd [])))[j]? = some (.byte n) ∧ n.testBit k = false := by
  rw [(emitdata_image hl hw).2, getElem?_image _ hj]
  obtain ⟨n, h1, h2⟩ := cellAt_zero_of_untouched (fun i hi => (hw i hi).byteVal) hk hfree
  exact ⟨n, by rw [h1], h2⟩

theorem last_write_wins {size : Nat} {pre post : List Init} {s e : Nat} {v : Val}
    (hl : Laminar (pre ++ ⟨s, e, 0, 0, v⟩ :: post)) (hw : ∀ x ∈ pre ++ ⟨s, e, 0, 0, v⟩ :: post, Wf size x)
    (hv : ∀ w u, v ≠ .int w u) {k : Nat} (hk : k < e - s) (hpost : ∀ x ∈ post, ¬ touches x (s + k)) :
    (bytes (emitItems size ((pre ++ ⟨s, e, 0, 0, v⟩ :: post).foldl initadd [])))[s + k]? = some (valCell v k) := by
  have hin := (hw ⟨s, e, 0, 0, v⟩ (List.mem_append_right _ List.mem_cons_self)).inside
  simp only [] at hin
  have hse : s + k < e := by omega
  rw [(emitdata_image hl hw).2, getElem?_image _ (Nat.lt_of_lt_of_le hse hin), cellAt_eq, cellFold_append, cellFold_cons,
    cellFold_untouched hpost, writeCell_byteval hv (by unfold touches Init.lo Init.hi; dsimp only; omega)]
  show some (valCell v (s + k - s)) = _
  rw [Nat.add_sub_cancel_left]

/-- Zero extension: `getD … 0` past the end of the literal.  Truncation: the definition has exactly `size` bytes
(`emitdata_size`) and byte `k` exists only for `k < stop - start`, so elements of a longer literal that do not fit are dropped. -/
theorem string_trunc_extend {size : Nat} {pre post : List Init} {s e w : Nat} {cs : List Nat}
    (hl : Laminar (pre ++ ⟨s, e, 0, 0, .str w cs⟩ :: post))
    (hw : ∀ x ∈ pre ++ ⟨s, e, 0, 0, .str w cs⟩ :: post, Wf size x)
    {k : Nat} (hk : k < e - s) (hpost : ∀ x ∈ post, ¬ touches x (s + k)) :
    (bytes (emitItems size ((pre ++ ⟨s, e, 0, 0, .str w cs⟩ :: post).foldl initadd [])))[s + k]? =
      some (.byte (cs.getD (k / w) 0 / 2 ^ (8 * (k % w)) % 256)) :=
  last_write_wins hl hw (fun _ _ h => by cases h) hk hpost

theorem reloc_correct {size : Nat} {pre post : List Init} {s : Nat} {sym : String} {off : Nat}
    (hl : Laminar (pre ++ ⟨s, s + 8, 0, 0, .addr sym off⟩ :: post))
    (hw : ∀ x ∈ pre ++ ⟨s, s + 8, 0, 0, .addr sym off⟩ :: post, Wf size x)
    {k : Nat} (hk : k < 8) (hpost : ∀ x ∈ post, ¬ touches x (s + k)) :
    (bytes (emitItems size ((pre ++ ⟨s, s + 8, 0, 0, .addr sym off⟩ :: post).foldl initadd [])))[s + k]? =
      some (.rel sym off k) :=
  last_write_wins hl hw (fun _ _ h => by cases h) (by rw [Nat.add_sub_cancel_left]; exact hk) hpost

theorem dataitem_addr (sym : String) (off size : Nat) : dataitem (.addr sym off) size = some (.addr sym off) := rfl

/-! ### what the hypothesis `Laminar` excludes (the code's own XXX) -/

/-- Two members of a union that overlap partially (`unsigned a:12` and `char c[2]`'s second byte,
say bits `[0,12)` and `[8,16)`): `initadd` keeps both, and the inner loop of `emitdata` takes the
second for an element of the first: its `assert(cur->expr->kind == EXPRSTRING)` fails (`emitdata`
is `none` in the model, so `emitItems` is `[]`). -/
theorem partial_overlap_counterexample :
    let a : Init := ⟨0, 2, 0, 4, .int 2 0xfff⟩
    let b : Init := ⟨1, 2, 0, 0, .int 1 0x55⟩
    ¬ Lam a b ∧ bytes (emitItems 2 ([a, b].foldl initadd [])) ≠ image 2 [a, b] := by
  refine ⟨?_, by decide⟩
  intro h
  rcases h with h | h | ⟨h, _⟩
  · revert h; unfold Disj Init.lo Init.hi; decide
  · revert h; unfold Inside Init.lo Init.hi; decide
  · revert h; unfold Inside Init.lo Init.hi; decide

/-- `subobj` is the only operation that moves `p->sub` up, and it refuses ("internal error: too many
designators", exit 1) instead of writing `obj[32]`. -/
theorem depth_bound {t : Ty} {inc : Bool} {i : Ini} {st : St} (e : parseinit t inc i = .ok st) :
    st.sub < 32 ∧ ∀ c, st.cur = some c → c < 32 := parseinit_bnd e

/-- The same for every intermediate step: each primitive keeps the indices inside `obj[0..31]` or returns an error. -/
theorem depth_bound_steps {st st' : St} (h : Bnd st) :
    (∀ t off, subobj st t off = .ok st' → Bnd st') ∧ (focus st = .ok st' → Bnd st') ∧
    (∀ ds, designator st ds = .ok st' → Bnd st') ∧ (∀ fuel, advance fuel st = .ok st' → Bnd st') ∧
    (∀ fuel e, placeExpr fuel st e = .ok st' → Bnd st') ∧ (∀ ds i, parseItem st ds i = .ok st' → Bnd st') :=
  ⟨fun _ _ e => subobj_bnd h e, fun e => focus_bnd h e, fun _ e => designator_bnd h e,
    fun _ e => advance_bnd h e, fun _ _ e => placeExpr_bnd h e, fun ds i e => parseItem_bnd i st st' ds h e⟩

/-- 32 nested designators are refused, 31 are fine (`int a[1]…[1] = {[0]…[0] = 7}`). -/
def nestTy : Nat → Ty
  | 0 => .scalar 4 (.int 6 true)
  | n + 1 => .array 1 (nestTy n)
example : (match parseinit (nestTy 32) false
    (.list (.cons (List.replicate 32 (.idx 0)) (.expr (.num 7 true 0 0)) .nil)) with
    | .error (.diag _) => true | _ => false) = true := by decide +kernel
example : (match parseinit (nestTy 31) false
    (.list (.cons (List.replicate 31 (.idx 0)) (.expr (.num 7 true 0 0)) .nil)) with
    | .ok st => st.log == [.add ⟨0, 4, 0, 0, .int 4 7⟩] | _ => false) = true := by decide +kernel

/-- Hypotheses: the type is of known size (`inc = false`) and well formed (`TyOk`: members inside their
struct/union, arrays non-empty; without it the statement is false, `offsets_inside_counterexample`). -/
theorem offsets_inside {t : Ty} {i : Ini} {st : St} (ht : TyOk t) (e : parseinit t false i = .ok st) :
    ∀ ev ∈ st.log, match ev with
      | .add x => x.start ≤ x.stop ∧ x.stop ≤ t.size
      | .clear a b => a ≤ b ∧ b ≤ t.size := by
  intro ev hev
  have := (parseinit_J ht e).log ev hev
  cases ev <;> exact this

/-- The statement without the hypothesis on the type is false: a flexible array member
(`struct {int n; int a[];} = {1, {2}}`, member array of 0 elements) is initialised outside the
object — the input on which `emitdata`'s `assert(offset <= d->type->size)` fails (C19
`flexible-init-assert`). -/
def offsets_inside_full : Prop :=
  ∀ (t : Ty) (i : Ini) (st : St), parseinit t false i = .ok st →
    ∀ ev ∈ st.log, match ev with
      | .add x => x.stop ≤ t.size
      | .clear _ b => b ≤ t.size

def logInside (size : Nat) : Except Err St → Bool
  | .ok st => st.log.all fun ev => match ev with | .add x => x.stop ≤ size | .clear _ b => b ≤ size
  | .error _ => true

/-- `int a[0] = {1};` (a zero-length array, GNU) or equally a flexible array member. -/
theorem offsets_inside_counterexample : ¬ offsets_inside_full := fun h => by
  have key : ∀ t i, logInside t.size (parseinit t false i) = true := fun t i => by
    cases hr : parseinit t false i with
    | error e => rfl
    | ok st =>
      refine List.all_eq_true.2 fun ev hev => ?_
      have := h t i st hr ev hev
      cases ev <;> exact decide_eq_true this
  exact absurd (key (.array 0 (.scalar 4 (.int 6 true))) (.list (.cons [] (.expr (.num 1 true 0 0)) .nil))) (by decide)

example : TyOk (.agg false 1 8 (.cons (some "a") (.scalar 1 (.int 1 true)) 0 0 0
    (.cons (some "b") (.scalar 4 (.int 6 true)) 0 8 20 (.cons (some "v") (.array 2 (.scalar 2 (.int 4 true))) 4 0 0 .nil)))) := by
  simp [TyOk, MsOk, Ty.size]

/-- `struct {char a; int b:4; int c:10; char d; short e;} = {1, 0x1ff, -1, 'd', 7}` — the two
bit-fields share byte 1, `c` crosses into byte 2; then `.b = 5` overrides. -/
def exInits : List Init :=
  [⟨0, 1, 0, 0, .int 1 1⟩, ⟨0, 4, 8, 20, .int 4 0x1ff⟩, ⟨0, 4, 12, 10, .int 4 (2 ^ 64 - 1)⟩,
   ⟨3, 4, 0, 0, .int 1 100⟩, ⟨4, 6, 0, 0, .int 2 7⟩, ⟨0, 4, 8, 20, .int 4 5⟩]

example : bytes (emitItems 8 (exInits.foldl initadd [])) =
    [.byte 1, .byte 0xf5, .byte 0x3f, .byte 100, .byte 7, .byte 0, .byte 0, .byte 0] := by decide +kernel
example : (exInits.foldl initadd []).length = 5 := by decide +kernel
-- the hypotheses of `emitdata_image`, `emitdata_size`, `zero_elsewhere`, `initadd_sorted`
example : Laminar exInits := laminar_of_laminarB (by decide)
example : ∀ i ∈ exInits, Wf 8 i := fun i hi =>
  wf_of_wfB ((List.all_eq_true.1 (by decide : exInits.all (wfB 8) = true)) i hi)

/-- `struct {char s[8]; char *p;} = {"ab", .s[5] = 'x', &y + 3}`: a patched, zero-extended string
and a relocation. -/
def exInits2 : List Init :=
  [⟨0, 8, 0, 0, .str 1 [97, 98, 0]⟩, ⟨5, 6, 0, 0, .int 1 120⟩, ⟨8, 16, 0, 0, .addr "y" 12⟩]

example : emitdata 16 (exInits2.foldl initadd []) =
    some [.str 1 [97, 98, 0, 0, 0, 120, 0, 0] 0, .addr "y" 12] := by decide +kernel

-- the hypotheses of `last_write_wins`, `string_trunc_extend`, `reloc_correct`
example : Laminar exInits2 := laminar_of_laminarB (by decide)
example : ∀ i ∈ exInits2, Wf 16 i := fun i hi =>
  wf_of_wfB ((List.all_eq_true.1 (by decide : exInits2.all (wfB 16) = true)) i hi)

/-- an event sequence with an `initclear`: `{.s.a = 5, .s = {.b = 2}}` -/
def exEvs : List Ev := [.add ⟨0, 4, 0, 0, .int 4 5⟩, .clear 0 8, .add ⟨4, 8, 0, 0, .int 4 2⟩]
example : EvsOK [] exEvs ∧ ∀ i ∈ adds exEvs, Wf 12 i := evsOK_of_evsOKB (by decide)
example : bytes (emitItems 12 (exEvs.foldl applyEv [])) =
    [.byte 0, .byte 0, .byte 0, .byte 0, .byte 2, .byte 0, .byte 0, .byte 0, .byte 0, .byte 0, .byte 0, .byte 0] := by
  decide +kernel

/-! ## `parseinit` refines C11 6.7.9: the cursor machine against `Spec/InitRef`

The statements above are about the model's own list of initialisers.  The theorems below say
that this list is the one C11 6.7.9 prescribes: the image of `parseinit`'s event log (every
`initclear` read as a write of zeros) equals the image of the writes of the independent,
recursive, type-directed reference `InitRef.ref` — for EVERY type of the member language
(structs, unions, arrays, bit-fields, anonymous members, nesting of any depth) and EVERY
initialiser tree, of any length and depth: positional or with designators `.m` / `[k]` of any
length (through anonymous members, overriding earlier initialisers, re-initialising a sub-object
with a braced list, "continue after the designated member" at every level of the path, 6.7.9p17),
fully braced or with braces elided at any level (p20), fewer initialisers than members, string
literals for character arrays (braced or not), struct/union values, empty braces.  The hypotheses are
decidable predicates (`Spec/InitClass.lean`) that `Drv/C07.lean` evaluates for every generated object.  The reference runs
on fuel `1000000` (`InitRef.ref`): on an initialiser that needs more it fails, and the theorems, which
assume `ref … = .ok r`, say nothing. -/

open CprocVerif.InitRef CprocVerif.InitSim

/-- **`parseinit_refines_ref`** (objects of known size).  Hypotheses: the type is well formed
(`tyWf`: arrays have at least one element of non-zero size, structs/unions have a member, only
scalar members carry bit-field positions); at the top level the initialiser is a braced list or
an expression for the whole object (`topOK`); the reference never switches the active member of a
union (`r.nswitch = 0` — the designated-union-member switch is known finding
`union-member-switch`, see `parseinit_refines_ref_counterexample`). -/
theorem parseinit_refines_ref {t : Ty} {i : Ini} {st : St} {r : InitRef.Result}
    (hm : parseinit t false i = .ok st) (hr : InitRef.ref t false i = .ok r)
    (hwf : tyWf t = true) (htop : topOK t i = true) (hsw : r.nswitch = 0) :
    st.top = r.size ∧ image st.top (st.log.map evWrite) = image r.size r.writes :=
  refines_image hm hr hsw (by simpa [tyWfFor] using hwf) htop

/-- Arrays of unknown size (`T a[] = …`, 6.7.9p22).  `st.top` is the size the model gives the array (what
`emitdata` is called with), `r.size` the one the reference determines from the largest indexed element. -/
theorem parseinit_refines_ref_unb {e0 : Ty} {i : Ini} {st : St} {r : InitRef.Result}
    (hm : parseinit (.array 0 e0) true i = .ok st) (hr : InitRef.ref (.array 0 e0) true i = .ok r)
    (hwf : tyWf e0 = true) (hes : 0 < e0.size) (htop : topOK (.array 0 e0) i = true) (hsw : r.nswitch = 0) :
    st.top = r.size ∧ image st.top (st.log.map evWrite) = image r.size r.writes :=
  refines_image hm hr hsw (by simp [tyWfFor, hwf, hes]) htop

/-- Without designators no hypothesis on unions is needed: positional initialisation reaches
only the first member of a union. -/
theorem parseinit_refines_ref_nodesig {t : Ty} {i : Ini} {st : St} {r : InitRef.Result}
    (hm : parseinit t false i = .ok st) (hr : InitRef.ref t false i = .ok r)
    (hwf : tyWf t = true) (hnd : noDesig i = true) (htop : topOK t i = true) :
    st.top = r.size ∧ image st.top (st.log.map evWrite) = image r.size r.writes :=
  parseinit_refines_ref hm hr hwf htop (nswitch_zero hr hnd)

/-- `fullyBraced`: every aggregate has its own braces (scalars unbraced or braced, strings for character
arrays, struct values, partial lists, `{}`). -/
theorem parseinit_refines_ref_braced {t : Ty} {i : Ini} {st : St} {r : InitRef.Result}
    (hm : parseinit t false i = .ok st) (hr : InitRef.ref t false i = .ok r)
    (hwf : tyWf t = true) (hnd : noDesig i = true) (hfb : fullyBraced t i = true) :
    st.top = r.size ∧ image st.top (st.log.map evWrite) = image r.size r.writes :=
  parseinit_refines_ref_nodesig hm hr hwf hnd (topOK_of_fullyBraced hfb)

/-- The class as one decidable predicate, which the `class` op of the driver evaluates. -/
theorem parseinit_refines_ref_class {t : Ty} {inc : Bool} {i : Ini} {st : St} {r : InitRef.Result}
    (hc : refClass t inc i = true) (hm : parseinit t inc i = .ok st) (hr : InitRef.ref t inc i = .ok r) :
    st.top = r.size ∧ image st.top (st.log.map evWrite) = image r.size r.writes := by
  simp only [refClass, noSwitch, hr, Bool.and_eq_true, beq_iff_eq] at hc
  exact refines_image hm hr hc.2 hc.1.1 hc.1.2

/-- End to end where the model's log satisfies the hypotheses of `emitdata_image_ev` (the driver reports
them for every input: `hyp`). -/
theorem emitdata_refines_ref {t : Ty} {i : Ini} {st : St} {r : InitRef.Result}
    (hm : parseinit t false i = .ok st) (hr : InitRef.ref t false i = .ok r)
    (hwf : tyWf t = true) (htop : topOK t i = true) (hsw : r.nswitch = 0)
    (hok : EvsOK [] st.log) (hw : ∀ x ∈ adds st.log, Wf st.top x) :
    bytes (emitItems st.top (st.log.foldl applyEv [])) = image r.size r.writes := by
  rw [(emitdata_image_ev hok hw).2]
  exact (parseinit_refines_ref hm hr hwf htop hsw).2

/-! ### non-vacuity: nested struct/array values with designators, elided braces, a bit-field, a string -/

def tInt : Ty := .scalar 4 (.int 6 true)
def tChar : Ty := .scalar 1 (.int 1 true)
def tShort : Ty := .scalar 2 (.int 4 true)
def numI (n : Int) : Ini := .expr (.num n (n != 0) 0 0)

/-- `struct P { short x; int y[2]; }` -/
def exP : Ty := .agg false 2 12 (.cons (some "x") tShort 0 0 0 (.cons (some "y") (.array 2 tInt) 4 0 0 .nil))
/-- `struct { char a; int b:4; struct P p[2]; char s[4]; }` -/
def exT : Ty := .agg false 1 36 (.cons (some "a") tChar 0 0 0 (.cons (some "b") tInt 0 8 20
  (.cons (some "p") (.array 2 exP) 4 0 0 (.cons (some "s") (.array 4 tChar) 28 0 0 .nil))))
/-- `{ 1, 3, { {1, {2, 3}}, 4, 5, 6 }, "ab" }`: the second element of `p` and its array have no
braces of their own -/
def exI : Ini := .list (.cons [] (numI 1) (.cons [] (numI 3)
  (.cons [] (.list (.cons [] (.list (.cons [] (numI 1) (.cons [] (.list (.cons [] (numI 2) (.cons [] (numI 3) .nil))) .nil)))
    (.cons [] (numI 4) (.cons [] (numI 5) (.cons [] (numI 6) .nil)))))
  (.cons [] (.expr (.str 1 1 [97, 98, 0])) .nil))))
/-- `{ .p[1].y[0] = 5, 6, "xy", .a = 1, .p[0] = {1, {2}}, .p[0].y[1] = 9, .p[1] = {7} }`:
multi-level designators, continuation after the designated element (`6` goes to `p[1].y[1]`, the
string to `s`), overriding, re-initialisation of `p[1]` by a braced list -/
def exD : Ini := .list
  (.cons [.fld "p", .idx 1, .fld "y", .idx 0] (numI 5) (.cons [] (numI 6) (.cons [] (.expr (.str 1 1 [120, 121, 0]))
  (.cons [.fld "a"] (numI 1)
  (.cons [.fld "p", .idx 0] (.list (.cons [] (numI 1) (.cons [] (.list (.cons [] (numI 2) .nil)) .nil)))
  (.cons [.fld "p", .idx 0, .fld "y", .idx 1] (numI 9)
  (.cons [.fld "p", .idx 1] (.list (.cons [] (numI 7) .nil)) .nil)))))))

def isOk {ε α} : Except ε α → Bool
  | .ok _ => true
  | .error _ => false

theorem ok_of_isOk {ε α} {x : Except ε α} (h : isOk x = true) : ∃ a, x = .ok a := by
  cases x with
  | error e => cases h
  | ok a => exact ⟨a, rfl⟩

-- the hypotheses of `parseinit_refines_ref_nodesig`
example : tyWf exT = true ∧ noDesig exI = true ∧ topOK exT exI = true := by decide +kernel
example : isOk (parseinit exT false exI) = true ∧ isOk (InitRef.ref exT false exI) = true := by decide +kernel
-- brace elision really occurs in the example: it is not fully braced
example : fullyBraced exT exI = false := by decide +kernel
-- the hypotheses of `parseinit_refines_ref` / `parseinit_refines_ref_class` with designators
example : refClass exT false exD = true ∧ noDesig exD = false := by decide +kernel
example : isOk (parseinit exT false exD) = true ∧ isOk (InitRef.ref exT false exD) = true := by decide +kernel

/-- `struct P a[] = { {1, {2, 3}}, [3] = {4}, 5, 6, 7 }`: the size comes from the largest index
(element 4 is reached by continuing after `[3]` with elided braces) -/
def exUnb : Ini := .list
  (.cons [] (.list (.cons [] (numI 1) (.cons [] (.list (.cons [] (numI 2) (.cons [] (numI 3) .nil))) .nil)))
  (.cons [.idx 3] (.list (.cons [] (numI 4) .nil)) (.cons [] (numI 5) (.cons [] (numI 6) (.cons [] (numI 7) .nil)))))
-- the hypotheses of `parseinit_refines_ref_unb` / `parseinit_refines_ref_class` (inc = true)
example : refClass (.array 0 exP) true exUnb = true := by decide +kernel
example : isOk (parseinit (.array 0 exP) true exUnb) = true ∧ isOk (InitRef.ref (.array 0 exP) true exUnb) = true := by
  decide +kernel
example : (match InitRef.ref (.array 0 exP) true exUnb with | .ok r => r.size | .error _ => 0) = 60 := by decide +kernel

/-! ### what the hypothesis `nswitch = 0` excludes

`union { int a; char b[8]; } u = {.a = 7, .b[5] = 9};` keeps `a` in the model (= the code: known
finding `union-member-switch`, upstream todo/38); the reference (= gcc, clang) zeroes the union when
the second member is designated.  So the statement without that hypothesis is false. -/

def parseinit_refines_ref_full : Prop :=
  ∀ (t : Ty) (i : Ini) (st : St) (r : InitRef.Result), parseinit t false i = .ok st → InitRef.ref t false i = .ok r →
    tyWf t = true → topOK t i = true → image st.top (st.log.map evWrite) = image r.size r.writes

def exU : Ty := .agg true 3 8 (.cons (some "a") tInt 0 0 0 (.cons (some "b") (.array 8 tChar) 0 0 0 .nil))
def exUI : Ini := .list (.cons [.fld "a"] (numI 7) (.cons [.fld "b", .idx 5] (numI 9) .nil))

def imgM (t : Ty) (i : Ini) : Option (List Cell) :=
  match parseinit t false i with
  | .ok st => some (image st.top (st.log.map evWrite))
  | .error _ => none
def imgR (t : Ty) (i : Ini) : Option (List Cell) :=
  match InitRef.ref t false i with
  | .ok r => some (image r.size r.writes)
  | .error _ => none

theorem parseinit_refines_ref_counterexample : ¬ parseinit_refines_ref_full := by
  intro h
  have key : imgM exU exUI ≠ imgR exU exUI ∧ isOk (parseinit exU false exUI) = true ∧
      isOk (InitRef.ref exU false exUI) = true := by decide +kernel
  obtain ⟨st, hm⟩ := ok_of_isOk key.2.1
  obtain ⟨r, hr⟩ := ok_of_isOk key.2.2
  have := h exU exUI st r hm hr (by decide +kernel) (by decide +kernel)
  apply key.1
  unfold imgM imgR
  rw [hm, hr]
  exact congrArg some this

/-! ## End to end: the emitted bytes are the image C11 prescribes

`emitdata_refines_ref` assumes the hypotheses of `emitdata_image_ev` for the model's log.  They
are consequences of `parseinit` itself (`Lemmas/InitGeo*.lean`): every live slot of `obj[]` is a
place of the object's tree of sub-objects, so every logged initialiser sits at such a place and
every `initclear` clears one; under a C layout two places are bit-disjoint or nested, and a
nested later initialiser is an element of an earlier string literal — exactly the laminarity
`initadd`'s sorted list and `emitdata`'s loops need. -/

/-- **laminarity of `parseinit`** (objects of known size).  Hypotheses, all decidable on
`(t, i)`: `tyWf t`; `layOK t` (a C layout: members inside their struct/union, struct members in
increasing bit order without overlap, bit-fields inside a storage unit, LP64 sizes of the basic
types); no designator designates a union member other than the first (`desigsOK (subTys t) i`,
true without unions and without designators); string literals have the
width of their character type (`strsOK i`); every stored value is a constant of the member's kind
(`constVals`). -/
theorem parseinit_log_laminar {t : Ty} {i : Ini} {st : St} (hm : parseinit t false i = .ok st)
    (hwf : tyWf t = true) (hlay : layOK t = true) (hmode : desigsOK (subTys t) i = true)
    (hso : strsOK i = true) (hcv : constVals t false i = true) :
    EvsOK [] st.log ∧ ∀ x ∈ adds st.log, Wf st.top x := by
  obtain ⟨hpl, htop⟩ := parseinit_placed hm hwf hlay hmode hso
  rw [htop]
  exact laminar_of_placed (root_geo hwf hlay) rfl hm hcv hpl

theorem imgClass_parts {t : Ty} {inc : Bool} {i : Ini} (hc : imgClass t inc i = true) :
    refClass t inc i = true ∧ (inc = false ∨ incFlat t i = true) ∧ layOK t = true ∧ desigsOK (subTys t) i = true ∧
      strsOK i = true ∧ constVals t inc i = true := by
  simp only [imgClass, Bool.and_eq_true, Bool.or_eq_true, Bool.not_eq_true'] at hc
  exact ⟨hc.1.1.1.1.1, hc.1.1.1.1.2, hc.1.1.1.2, hc.1.1.2, hc.1.2, hc.2⟩

theorem imgClass_laminar {t : Ty} {inc : Bool} {i : Ini} {st : St} (hm : parseinit t inc i = .ok st)
    (hc : imgClass t inc i = true) : EvsOK [] st.log ∧ ∀ x ∈ adds st.log, Wf st.top x := by
  obtain ⟨hrc, hinc, hlay, hmode, hso, hcv⟩ := imgClass_parts hc
  cases inc with
  | false =>
    have hwf : tyWf t = true := by
      simp only [refClass, Bool.and_eq_true] at hrc
      simpa [tyWfFor] using hrc.1.1
    exact parseinit_log_laminar hm hwf hlay hmode hso hcv
  | true =>
    have hfl : incFlat t i = true := by
      rcases hinc with h | h
      · cases h
      · exact h
    unfold incFlat at hfl
    split at hfl
    · rename_i s k its
      exact parseinit_laminar_unb hm (by simpa [layOK] using hlay) hfl hcv
    · cases hfl

/-- The chain `parseinit` → `initadd`/`initclear` → `emitdata` against C11 6.7.9, with hypotheses on
`(t, inc, i)` only: the decidable class `imgClass` (`refClass` and the hypotheses of `parseinit_log_laminar`;
of the arrays of unknown size those with scalar elements and a flat list of expressions, `incFlat`).
`isSome`: no `assert` fails, no "not a constant expression". -/
theorem static_image_correct {t : Ty} {inc : Bool} {i : Ini} {st : St} {r : InitRef.Result}
    (hm : parseinit t inc i = .ok st) (hr : InitRef.ref t inc i = .ok r) (hc : imgClass t inc i = true) :
    (emitdata st.top (st.log.foldl applyEv [])).isSome ∧
      bytes (emitItems st.top (st.log.foldl applyEv [])) = image r.size r.writes := by
  obtain ⟨hok, hw⟩ := imgClass_laminar hm hc
  have h1 := emitdata_image_ev hok hw
  exact ⟨h1.1, by rw [h1.2]; exact (parseinit_refines_ref_class (imgClass_parts hc).1 hm hr).2⟩

-- the non-vacuity examples above are in the class
example : imgClass exT false exI = true ∧ imgClass exT false exD = true := by decide +kernel

/-- Without `constVals` the statement is false: `int x = f();` (not a constant expression) is
accepted by `parseinit` and by the reference, `emitdata` reports the error and emits nothing. -/
def static_image_correct_full : Prop :=
  ∀ (t : Ty) (i : Ini) (st : St) (r : InitRef.Result), parseinit t false i = .ok st → InitRef.ref t false i = .ok r →
    refClass t false i = true → layOK t = true → bytes (emitItems st.top (st.log.foldl applyEv [])) = image r.size r.writes

def bytesM (t : Ty) (i : Ini) : Option (List Cell) :=
  match parseinit t false i with
  | .ok st => some (bytes (emitItems st.top (st.log.foldl applyEv [])))
  | .error _ => none

theorem static_image_correct_counterexample : ¬ static_image_correct_full := by
  intro h
  have key : bytesM tInt (.expr .nonconst) ≠ imgR tInt (.expr .nonconst) ∧ isOk (parseinit tInt false (.expr .nonconst)) = true ∧
      isOk (InitRef.ref tInt false (.expr .nonconst)) = true := by decide +kernel
  obtain ⟨st, hm⟩ := ok_of_isOk key.2.1
  obtain ⟨r, hr⟩ := ok_of_isOk key.2.2
  have := h tInt (.expr .nonconst) st r hm hr (by decide +kernel) (by decide +kernel)
  apply key.1
  unfold bytesM imgR
  rw [hm, hr]
  exact congrArg some this

/-! ## Automatic objects: `funcinit` leaves the same image in memory

`Model/InitAuto.lean` models `qbe.c:funcinit`/`zero` on the bytes of the object: zero-filling of the
gaps (`offset`/`max` bookkeeping), element stores of string literals, `funcstore` with the
read-modify-write of bit-fields after zero-filling their storage unit. -/

open CprocVerif.InitAuto

/-- `garb`: whatever the memory held before. -/
theorem funcinit_image_correct {size : Nat} {l : List Init} {garb : Mem} (hlen : garb.length = size)
    (hs : l.Pairwise (fun a b => a.hi ≤ b.lo)) (hw : ∀ i ∈ l, Wf size i) : funcinit size garb l = image size l :=
  funcinit_image hlen hs hw

/-- "An automatic object given the same initialiser holds the same member values at run time."
`autoClass`: `imgClass`, and no element patched inside an earlier string literal (the recorded finding
`auto-zero-after-patch`); `garb`: whatever the stack held before. -/
theorem auto_image_correct {t : Ty} {inc : Bool} {i : Ini} {st : St} {r : InitRef.Result} {garb : Mem}
    (hm : parseinit t inc i = .ok st) (hr : InitRef.ref t inc i = .ok r) (hc : autoClass t inc i = true)
    (hlen : garb.length = st.top) :
    funcinit st.top garb (st.log.foldl applyEv []) = image r.size r.writes ∧
      funcinit st.top garb (st.log.foldl applyEv []) = bytes (emitItems st.top (st.log.foldl applyEv [])) := by
  simp only [autoClass, hm, Bool.and_eq_true] at hc
  obtain ⟨hic, hflat⟩ := hc
  obtain ⟨hok, hw⟩ := imgClass_laminar hm hic
  obtain ⟨_, hwl, hcell⟩ := applyEv_nil hok hw
  have h1 := (funcinit_image hlen (pairwise_of_flatListB hflat) hwl).trans (hcell.image _)
  have h4 := (emitdata_image_ev hok hw).2
  exact ⟨by rw [h1, ← h4]; exact (static_image_correct hm hr hic).2, by rw [h1, h4]⟩

/-- Without the flat-list hypothesis the statement is false (the recorded finding
`auto-zero-after-patch`): `struct {char s[8]; int x;} v = {"abcdefgh", .s[5] = 'x', .x = 1};` — after
the element patch `funcinit` zero-fills from the end of the patched element and wipes `gh`. -/
def exAZ : Ty := .agg false 4 12 (.cons (some "s") (.array 8 tChar) 0 0 0 (.cons (some "x") tInt 8 0 0 .nil))
def exAZI : Ini := .list (.cons [] (.expr (.str 1 1 [97, 98, 99, 100, 101, 102, 103, 104, 0]))
  (.cons [.fld "s", .idx 5] (numI 120) (.cons [.fld "x"] (numI 1) .nil)))

def autoM (t : Ty) (i : Ini) : Option (List Cell) :=
  match parseinit t false i with
  | .ok st => some (funcinit st.top (List.replicate st.top (.byte 0xa5)) (st.log.foldl applyEv []))
  | .error _ => none

theorem auto_image_counterexample :
    imgClass exAZ false exAZI = true ∧ autoClass exAZ false exAZI = false ∧ autoM exAZ exAZI ≠ imgR exAZ exAZI := by
  decide +kernel

end CprocVerif.C07
