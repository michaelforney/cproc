import CprocVerif.Gen.ErrorSites
import CprocVerif.Gen.C10Catalogue
import CprocVerif.Lemmas.C10Sites
import CprocVerif.Lemmas.C10Types
import CprocVerif.Lemmas.C10Accept
import CprocVerif.Lemmas.Layout
import CprocVerif.Props.C05
import CprocVerif.Props.C07
import CprocVerif.Props.C09
import CprocVerif.Props.C13
import CprocVerif.Props.C14
import CprocVerif.Props.C15

/-!
# C10 — constraint violations and unsupported features are diagnosed, never accepted

Two kinds of theorem.

1. **Catalogue coverage**, over tables regenerated from `/repo` on every run: every diagnostic site
   of the current sources has an entry in `catalogue/c10.json`, whose violating templates
   `checks/c10.py` compiles at every position of generated programs.
2. **Acceptance soundness** of the modelled front-end components, for ALL inputs: *if the model of
   the component accepts, the C11 constraint holds*.  The constraints are stated in
   `Spec/Constraints.lean` (6.5.x), `Spec/Link.lean` (6.2.2/6.7/6.9), `Spec/Lex.lean` (6.4.4.4/6.4.5)
   and below, independently of the models' code; the models are those of the other properties
   (each tied to `/repo` by its own correspondence run).  Where the full statement is false on
   the current tree it is kept as `def …_full`, refuted by `…_counterexample`, and the provable
   restriction is `…_partial`.
-/

namespace CprocVerif.C10
open CprocVerif.Gen CprocVerif.Sites

/-- EVERY diagnostic site of the current source (`error`/`fatal`/`usage`/`tokencheck`/`expect` call,
keyed by file, enclosing function and format string) has an entry in `catalogue/c10.json`.  A
diagnostic added to `/repo` without a catalogue entry breaks this theorem. -/
theorem sites_covered : ∀ c ∈ ErrorSites.codes, ∃ e ∈ C10Catalogue.codes, e.1 = c := by
  have h : sub ErrorSites.codes (C10Catalogue.codes.map (·.1)) = true := by decide +kernel
  intro c hc
  obtain ⟨e, he, rfl⟩ := List.mem_map.mp (mem_of_sub _ _ h c hc)
  exact ⟨e, he, rfl⟩

/-- no catalogue entry is stale: each one names a diagnostic site that exists in the current source.
Deleting a diagnostic from `/repo` breaks this theorem (and `checks/c10.py` then looks for the now
accepted violating program among that entry's templates). -/
theorem no_stale_entries : ∀ e ∈ C10Catalogue.codes, e.1 ∈ ErrorSites.codes := by
  have h : sub (C10Catalogue.codes.map (·.1)) ErrorSites.codes = true := by decide +kernel
  intro e he
  exact mem_of_sub _ _ h e.1 (List.mem_map.mpr ⟨e, he, rfl⟩)

theorem sites_nodup : ErrorSites.codes.Nodup :=
  strictAsc_nodup _ (by decide +kernel)

theorem catalogue_nodup : (C10Catalogue.codes.map (·.1)).Nodup :=
  strictAsc_nodup _ (by decide +kernel)

/-- every entry is of class 0 (has ≥ 1 violating template, run by `checks/c10.py` at every position),
1 (internal-error site no input reaches; reason in the catalogue) or 2 (I/O, command line) -/
theorem classes_valid : ∀ e ∈ C10Catalogue.codes, e.2 ≤ 2 := by decide +kernel

/-- how many entries there are of each class (the triple is printed by `tools/gen_c10.py`) -/
theorem class_counts :
    (countClass 0 C10Catalogue.codes, countClass 1 C10Catalogue.codes, countClass 2 C10Catalogue.codes)
      = C10Catalogue.classCounts ∧
    C10Catalogue.classCounts.1 + C10Catalogue.classCounts.2.1 + C10Catalogue.classCounts.2.2
      = C10Catalogue.codes.length := by decide +kernel

/-- at least nine in ten diagnostic sites are exercised by a violating template -/
theorem template_majority : 9 * ErrorSites.codes.length ≤ 10 * countClass 0 C10Catalogue.codes := by
  decide +kernel

/-! Acceptance soundness for expressions: `expr.c`, model `Model/Types.lean`. -/

section Expressions
open CprocVerif.Types CprocVerif.Spec CprocVerif.Spec.Constraints CprocVerif.Types.Lemmas CprocVerif.C10Types

/-- **Binary operators.**  Whenever `mkbinaryexpr` accepts `l op r` (any of the 18 operators, any
operand types: arithmetic incl. enums and bit-fields, pointers, `void`, structs, functions), the
Constraints paragraph of the operator's clause holds: 6.5.5p2, 6.5.6p2-3, 6.5.7p2, 6.5.8p2, 6.5.9p2,
6.5.10-12p2, 6.5.13-14p2.  (Holds at full strength since fixes 6e57e5d, 826c347, ac293b9.) -/
theorem binop_accept_sound (sc : Bool) (op : BinOp) (l r : Operand) (t : Ty)
    (ol : OperandOk l) (or' : OperandOk r) (h : binopType sc op l r = some t) :
    Constraints.binop op l r = true :=
  (binopOk_split ((binopType_iff sc op l r ol or' t).1 h)).1

example : OperandOk { ty := .ptr {} Ty.int } ∧ OperandOk { ty := .arith (.enum 3 .uint), width := some 5 } :=
  ⟨trivial, rfl, by decide⟩
example : binopType true .sub { ty := .ptr {} Ty.int } { ty := .ptr { c := true } Ty.int } = some Ty.long := by decide
-- the witnesses of the repaired defects are rejected by the model:
example : binopType true .band { ty := .arith (.basic .double) } { ty := Ty.int } = none := by decide
example : binopType true .eql { ty := .ptr {} .void, nullconst := true } { ty := .arith (.basic .double) } = none := by
  decide
example : binopType true .sub { ty := .ptr {} (.arr {} (.const 3) {} Ty.int) }
    { ty := .ptr {} (.arr {} .incomplete {} Ty.int) } = none := by decide

/-- …and conversely nothing that C11 types (`binopOk`, which entails the constraint) is rejected
(`C05.binop_type_correct`): `mkbinaryexpr` accepts exactly the operand pairs `binopOk` types. -/
theorem binop_accepts_valid (sc : Bool) (op : BinOp) (l r : Operand) (t : Ty)
    (ol : OperandOk l) (or' : OperandOk r) (h : binopOk sc op l r t = true) :
    binopType sc op l r = some t ∧ Constraints.binop op l r = true :=
  ⟨(binopType_iff sc op l r ol or' t).2 h, (binopOk_split h).1⟩

/-- **Unary operators.**  Whenever `unaryexpr`/`mkunaryexpr`/`mkincdecexpr` accept, 6.5.3.2p1-2,
6.5.3.3p1, 6.5.3.4p1 and 6.5.2.4p1/6.5.3.1p1 hold.  For `++`/`--` the typing code leaves "real or
pointer type" to the code generator (`qbe.c:funcexpr`, "not a scalar"), hence the hypothesis `har`.
(Full strength since fixes df57034 and fcded40: `&g()` on a structure rvalue used to be accepted.) -/
theorem unary_accept_sound (sc : Bool) (op : UnOp) (e o : Operand) (ok : OperandOk e)
    (har : (op = .preinc ∨ op = .predec ∨ op = .postinc ∨ op = .postdec) →
      e.ty.isArith = true ∨ e.ty.isPtr = true)
    (h : unaryOp sc op e = some o) : Constraints.unop op e = true := by
  have hg := unaryOp_guard h
  cases op
  case preinc | predec | postinc | postdec => exact incdec_sound sc e o (har (by simp)) h
  case addr =>
    have := (unaryOp_addr_some h).1
    cases hd : e.decayedFrom <;> simp_all [Constraints.unop, designatesBitfield, designatorType]
  case deref =>
    obtain ⟨q, b, he, _⟩ := unaryOp_deref_some.1 h
    simp only [Constraints.unop, he, Ty.isPtr]
  case plus => exact hg.1 (.inl rfl)
  case minus => exact hg.1 (.inr rfl)
  case lnot => exact hg.2.2 rfl
  case bnot => exact (OperandOk.isInt ok).symm.trans (hg.2.1 rfl)
  case sizeofE | alignofE =>
    have := ((unaryOp_sizeof_some (by simp)).1 h).1
    cases hd : e.decayedFrom <;> simp_all [Constraints.unop, designatesBitfield, designatorType]

example : unaryOp true .addr { ty := .struct 0 } = none := by decide   -- fix fcded40
example : (unaryOp true .postinc { ty := .ptr {} Ty.int, lvalue := true }).map (·.ty) = some (.ptr {} Ty.int) := by decide
example : unaryOp true .postinc { ty := .ptr {} .void, lvalue := true } = none := by decide   -- fix df57034
example : unaryOp true .addr { ty := Ty.int, lvalue := true, width := some 3 } = none := by decide
example : unaryOp true .sizeofE { ty := .ptr {} Ty.int, decayedFrom := some (.arr {} .incomplete {} Ty.int, {}) } = none := by
  decide

/-- **Casts**, 6.5.4p2: void, or scalar to scalar. -/
theorem cast_accept_sound (t : Ty) (e o : Operand) (h : castType t e = some o) : castScalar t e = true := by
  rcases (castType_some.1 h).1 with rfl | ⟨h1, h2⟩
  · rfl
  · simp [castScalar, h1, h2]

/-- 6.5.4p4 (no conversion between pointer and floating types) at full strength -/
def cast_ptr_float_full : Prop := ∀ (t : Ty) (e o : Operand), castType t e = some o → castNoPtrFloat t e = true

/-- `(double)p` is accepted (and compiled as `ultof`): cproc checks this constraint nowhere. -/
theorem cast_ptr_float_counterexample : ¬ cast_ptr_float_full := by
  intro h
  have := h (.arith (.basic .double)) { ty := .ptr {} Ty.int } _ rfl
  exact absurd this (by decide)

example : castType (.struct 1) { ty := Ty.int } = none ∧ castType Ty.int { ty := .struct 1 } = none := by decide

/-- `sizeof (type-name)`, `_Alignof (type-name)`: 6.5.3.4p1. -/
theorem sizeof_typename_accept_sound (t r : Ty) (h : Types.sizeofType t = some r) : sizeofTypeName t = true := by
  obtain ⟨h1, h2, _⟩ := sizeofType_some.1 h
  simp [sizeofTypeName, h1, h2]

/-- **Simple assignment** `l = r`, full strength: the left operand is an lvalue (6.5.16p2) and the
operand types satisfy 6.5.16.1p1.  (The assignment OPERATOR applies `exprassign` since fix 7e9d66c:
`int *p; int x; p = x;` used to be accepted.) -/
def assign_accept_sound_full : Prop :=
  ∀ (l r o : Operand), assignType l r = some o → assignLvalue l = true ∧ simpleAssign l.ty r = true

/-- `void g(void); void *p; p = g;` — pointer to function next to pointer to void (see
`ptr_assign_accept_sound_counterexample`) -/
theorem assign_accept_sound_counterexample : ¬ assign_accept_sound_full := by
  intro h
  have := (h { ty := .ptr {} .void, lvalue := true } { ty := .ptr {} (.func {} .void [] false) } _ rfl).2
  exact absurd this (by decide)

theorem assign_accept_sound_partial (l r o : Operand) (hx : voidVsFuncPtr l.ty r.ty = false)
    (h : assignType l r = some o) : assignLvalue l = true ∧ simpleAssign l.ty r = true := by
  unfold assignType at h
  split at h
  · rename_i hlv
    split at h
    · rename_i hc; exact ⟨hlv, exprassign_sound _ _ hx hc⟩
    · cases h
  · cases h

-- the witnesses of `assign-operator-unchecked` are rejected: p = x, p = 1.5, s = t
example : assignType { ty := .ptr {} Ty.int, lvalue := true } { ty := Ty.int } = none ∧
    assignType { ty := .ptr {} Ty.int, lvalue := true } { ty := .arith (.basic .double) } = none ∧
    assignType { ty := .struct 1, lvalue := true } { ty := .struct 2 } = none := by decide
example : (assignType { ty := .ptr {} Ty.int, lvalue := true } { ty := Ty.int, nullconst := true }).isSome = true := by decide
/-- a member of array type is not an lvalue (fix 71be578: `p->m += 2`, `p->m = q`, `s.arr++`) -/
example : (memberType true { ty := .ptr {} (.struct 0) } (.arr {} (.const 4) {} Ty.int) {} none).map (·.lvalue) = some false := by
  decide
example : (memberType true { ty := .ptr {} (.struct 0) } Ty.int {} none).map (·.lvalue) = some true := by decide

/-- **Compound assignment** `l op= r`: the left operand is an lvalue and the operands satisfy the
constraint of the binary operator (6.5.16.2p1-2). -/
theorem compound_assign_accept_sound (sc : Bool) (op : BinOp) (l r o : Operand) (ol : OperandOk l)
    (or' : OperandOk r) (h : compoundAssignType sc op l r = some o) :
    assignLvalue l = true ∧ Constraints.binop op { l with decayedFrom := none } r = true := by
  simp only [compoundAssignType, Option.ite_none_left_eq_some, Bool.not_eq_true', Bool.not_eq_false] at h
  obtain ⟨hl, h⟩ := h
  split at h
  · rename_i t ht
    exact ⟨hl, binop_accept_sound sc op _ r t ol or' ht⟩
  · cases h

example : compoundAssignType true .mod { ty := .arith (.basic .double), lvalue := true } { ty := Ty.int } = none := by
  decide

/-- simple assignment / initialisation / argument passing / `return` to a pointer (6.5.16.1p1) -/
def ptr_assign_accept_sound_full : Prop :=
  ∀ (t : Ty) (e : Operand), ptrAssignOk t e = true → assignToPointer t e = true

/-- `void g(void); void *p = g;` — a pointer to *function* next to a pointer to void is accepted
(`exprassign` asks for "compatible or void"); gcc/clang reject it only with -pedantic-errors. -/
theorem ptr_assign_accept_sound_counterexample : ¬ ptr_assign_accept_sound_full := by
  intro h
  have := h (.ptr {} .void) { ty := .ptr {} (.func {} .void [] false) } (by decide)
  exact absurd this (by decide)

theorem ptr_assign_accept_sound_partial (t : Ty) (e : Operand) (hx : voidVsFuncPtr t e.ty = false)
    (h : ptrAssignOk t e = true) : assignToPointer t e = true :=
  ptrAssign_sound t e hx h

example : voidVsFuncPtr (.ptr {} Ty.int) (.ptr { c := true } Ty.int) = false ∧
    ptrAssignOk (.ptr {} Ty.int) { ty := .ptr { c := true } Ty.int } = false := by decide

/-- **Function calls**, 6.5.2.2p1-2: the callee is a pointer to function and the number of arguments
agrees with the prototype (at least the named parameters for a variadic one; full strength since
fix 49541f0). -/
theorem call_accept_sound (f o : Operand) (n : Nat) (h : callType f n = some o) : Constraints.call f n = true := by
  unfold callType at h
  split at h
  · rename_i q fq ret params va hf
    simp only [Option.ite_none_left_eq_some] at h
    cases va <;> simp_all [Constraints.call] <;> omega
  · cases h

example : callType { ty := .ptr {} (.func {} Ty.int [Ty.int, Ty.int] true) } 1 = none := by decide   -- fix 49541f0
example : (callType { ty := .ptr {} (.func {} Ty.int [Ty.int] true) } 3).isSome = true := by decide
example : callType { ty := .ptr {} (.func {} Ty.int [Ty.int] false) } 2 = none ∧
    callType { ty := Ty.int } 0 = none := by decide

/-- **Member access**, 6.5.2.3p1-2 -/
theorem member_accept_sound (arrow : Bool) (e o : Operand) (mty : Ty) (mq : Qual) (bits : Option Nat)
    (h : memberType arrow e mty mq bits = some o) : Constraints.member arrow e = true :=
  (memberType_some h).1

theorem subscript_sound (tg : Target) (a i : Expr) (o : Operand) (wa : ∀ x, typeOf tg a = some x → OperandOk x)
    (wi : ∀ y, typeOf tg i = some y → OperandOk y) (h : typeOf tg (.index a i) = some o) :
    ∃ x y, typeOf tg a = some x ∧ typeOf tg i = some y ∧ subscript x y = true := by
  -- `a[i]` is built as `*(a + i)` with the pointer operand first: 6.5.6p2 for that sum is the constraint
  have key : ∀ (x y : Operand) (q : Qual) (b : Ty), OperandOk x → OperandOk y → x.ty = .ptr q b →
      (binopType tg.signedchar .add x y).bind (fun t => unaryOp tg.signedchar .deref (rvalue t)) = some o →
      subscript x y = true := by
    intro x y q b ox oy hx h
    cases ht : binopType tg.signedchar .add x y with
    | none => rw [ht] at h; cases h
    | some t =>
      have hb := binop_accept_sound tg.signedchar .add x y t ox oy ht
      simpa only [Constraints.binop, subscript, hx, Ty.isArith, Bool.false_and, Bool.false_or] using hb
  simp only [typeOf] at h
  cases ha : typeOf tg a with
  | none => simp [ha] at h
  | some x =>
    cases hi : typeOf tg i with
    | none => simp [ha, hi] at h
    | some y =>
      refine ⟨x, y, rfl, rfl, ?_⟩
      simp only [ha, hi] at h
      by_cases hp : x.ty.isPtr = true
      · simp only [hp, if_true] at h
        split at h <;> first | (cases h; done) | skip
        rename_i q b hx
        simp only [Option.ite_none_left_eq_some] at h
        exact key x y q b (wa x ha) (wi y hi) hx h.2.2
      · simp only [hp, Bool.false_eq_true, if_false] at h
        split at h <;> first | (cases h; done) | skip
        rename_i q b hy
        simp only [Option.ite_none_left_eq_some] at h
        rw [subscript, Bool.or_comm]
        exact key y x q b (wi y hi) (wa x ha) hy h.2.2

/-- **Array subscripting**, 6.5.2.1p1 (`wf`: the sub-expressions have well-formed arithmetic types).
Trap: `wf` quantifies over every expression and holds for no target (`typeOf tg (.rv (.arith (.enum 0 .float)))` succeeds
with an operand that is not `OperandOk`), so this instance says nothing; the statement with content is
`subscript_sound` above, which asks `OperandOk` of the operands of `a` and `i` only. -/
theorem subscript_accept_sound (tg : Target) (a i : Expr) (o : Operand)
    (wf : ∀ e x, typeOf tg e = some x → OperandOk x) (h : typeOf tg (.index a i) = some o) :
    ∃ x y, typeOf tg a = some x ∧ typeOf tg i = some y ∧ subscript x y = true :=
  subscript_sound tg a i o (wf a) (wf i) h

/-- **Conditional operator**, 6.5.15p2-3 (C23 adds: both operands `nullptr_t`) -/
def cond_accept_sound_full : Prop :=
  ∀ (sc : Bool) (c l r : Operand) (t : Ty), converted l.ty = true → condType sc c l r = some t →
    condFirst c = true ∧ (condArms l r = true ∨ (l.ty = .nullptr ∧ r.ty = .nullptr))

/-- `c ? (void *)p : fn` with a pointer to function: accepted (gcc/clang: pedantic error). -/
theorem cond_accept_sound_counterexample : ¬ cond_accept_sound_full := by
  intro h
  have := (h true { ty := Ty.int } { ty := .ptr {} .void } { ty := .ptr {} (.func {} .void [] false) } _
    (by decide) rfl).2
  exact absurd this (by decide)

theorem cond_accept_sound_partial (sc : Bool) (c l r : Operand) (t : Ty) (hl : converted l.ty = true)
    (hx : voidVsFuncPtr l.ty r.ty = false) (h : condType sc c l r = some t) :
    condFirst c = true ∧ (condArms l r = true ∨ (l.ty = .nullptr ∧ r.ty = .nullptr)) := by
  obtain ⟨hs, x, hr⟩ := condType_some h
  exact ⟨hs, condRes_sound sc l r x hl hx hr⟩

example : condType true { ty := .struct 0 } { ty := Ty.int } { ty := Ty.int } = none := by decide   -- fix 98b06a1
/-- `(1 ? x : y)` is not an lvalue although the condition is constant and both arms are (fix f22c49c):
`(1 ? x : y) = 3`, `&(0 ? x : y)`, `(1 ? x : y)++` are then rejected by `assignType` / `unaryOp`, which ask for an
lvalue (`assign_accept_sound_partial`, `unary_accept_sound`) -/
example : (condOperand true { ty := Ty.int, constval := some true } { ty := Ty.int, lvalue := true }
    { ty := Ty.int, lvalue := true }).map (·.lvalue) = some false := by decide
example : condType true { ty := Ty.int } { ty := .ptr {} Ty.int } { ty := .ptr {} (.arith (.basic .double)) } = none := by
  decide

/-- **Generic selection**, 6.5.1.1p2 (as far as cproc checks it: the controlling type matches at
most one association, exactly one without `default`) -/
theorem generic_accept_sound (want : Ty) (assocs : List (Ty × Qual)) (d : Bool) (r : Option Nat)
    (h : genericSelect want assocs d = some r) : Constraints.generic want assocs d := by
  unfold genericSelect at h
  have hlen := filter_zipIdx_length (fun p : Ty × Qual => typecompatible p.1 want && p.2 == Qual.none) assocs 0
  have hspec : (fun p : Ty × Qual => compatible p.1 want && p.2 == Qual.none) =
      (fun p : Ty × Qual => typecompatible p.1 want && p.2 == Qual.none) := by
    funext p; rw [spec_compatible_eq]
  simp only [Constraints.generic, hspec, ← hlen]
  generalize (assocs.zipIdx.filter fun x => typecompatible x.1.1 want && x.1.2 == Qual.none) = hits at h
  match hits, h with
  | [i], _ => simp
  | [], h =>
    simp only [List.map_nil] at h
    split at h
    · rename_i hd; simp [hd]
    · cases h
  | _ :: _ :: _, h => simp at h

/-- the other half of 6.5.1.1p2, "No two generic associations in the same generic selection shall
specify compatible types", at full strength -/
def generic_distinct_assocs_full : Prop :=
  ∀ (want : Ty) (assocs : List (Ty × Qual)) (d : Bool) (r : Option Nat), genericSelect want assocs d = some r →
    assocs.Pairwise (fun a b => ¬ (compatible a.1 b.1 = true ∧ a.2 = b.2))

/-- `_Generic(1L, int: 1, T: 2, default: 0)` with `typedef int T;` is accepted: cproc compares the
associations with the controlling type only, never with each other (checked nowhere). -/
theorem generic_distinct_assocs_counterexample : ¬ generic_distinct_assocs_full := by
  intro h
  have := h Ty.long [(Ty.int, {}), (Ty.int, {})] true none (by decide)
  rw [List.pairwise_cons] at this
  exact this.1 _ List.mem_cons_self ⟨by decide, rfl⟩

example : genericSelect Ty.int [(Ty.int, {}), (Ty.int, {})] true = none ∧
    genericSelect Ty.int [(Ty.long, {})] false = none := by decide

/-- **Integer constants**, 6.4.4p2: "the value of a constant shall be in the range of representable
values for its type": the type `inttype` picks can represent the value. -/
theorem intconst_accept_sound (sc : Bool) (v : Nat) (hv : v < 2 ^ 64) (decimal : Bool) (s : String) (b : Basic)
    (h : inttype sc v decimal s = .ty b) : inRange (rangeB sc b) (v : Int) := by
  unfold inttype at h
  split at h
  · cases h
  · exact scanLimits_ty sc v hv _ _ _ b h

example : inttype true (2 ^ 63) true "" = .noType ∧ inttype true 5 true "q" = .badSuffix := by decide

/-- **Enumerator values**, 6.7.2.2p2 / C23 6.7.2.2p5: an enumerator `tagspec` accepts for a (fixed or
chosen) underlying type is representable in it — every integer type, `_Bool` included (full strength
since fix 08f8fa4: `enum E : _Bool { A = 2 };` used to be accepted). -/
theorem enum_value_accept_sound (sc : Bool) (t : ATy) (hwf : t.wf = true) (hi : t.isInt = true)
    (v : Nat) (hv : v < 2 ^ 64) (sign : Bool)
    (h : typehasint sc t v sign = true) : inRange (range sc t) (decode v sign) :=
  hasint_sound sc t (ATy.isInt_eq t hwf ▸ hi) v hv sign h

example : typehasint true (.enum 0 .bool) 2 false = false ∧ typehasint true (.enum 0 .bool) 1 false = true := by decide

end Expressions

section Linkage
open CprocVerif.Linkage CprocVerif.Link

/-- **Linkage** (6.2.2, 6.7p3, 6.7.1, 6.7.9p5, 6.9): an accepted history of declarations of one
identifier violates no constraint — at full strength -/
def linkage_accept_sound_full : Prop :=
  ∀ (h : List Form) (s : _), run h = .ok s → ¬ Link.violates h

/-- `void u(void){ extern int x; } _Thread_local int x;` (C09 `thread-local-mismatch-unseen-block-extern`) -/
theorem linkage_accept_sound_counterexample : ¬ linkage_accept_sound_full := by
  intro hfull
  apply C09.rejects_violations_counterexample
  intro h hv
  cases hr : run h with
  | error e => exact ⟨e, rfl⟩
  | ok s => exact absurd hv (hfull h s hr)

/-- every accepted history violates at most that one clause -/
theorem linkage_accept_sound_partial (h : List Form) (s : _) (hr : run h = .ok s) (c : Clause)
    (hc : classify h = .violates c) : c = .c6_7_1p3_threadMismatchUnseenBlockExtern := by
  apply Classical.byContradiction
  intro hne
  obtain ⟨e, he⟩ := C09.rejects_violations_partial h c hc hne
  rw [hr] at he
  cases he

example : ∃ s, run [C09.On0, C09.On0] = .ok s := ⟨_, rfl⟩
example : classify [C09.On0, C09.Ot0] = .violates .c6_7_1p3_threadMismatchSameScope ∧
    (∃ e, run [C09.On0, C09.Ot0] = .error e) := ⟨by decide, _, rfl⟩

end Linkage

section Switch
open CprocVerif.Tree CprocVerif.Tree.T CprocVerif.Accept

/-- **Case labels**, 6.8.4.2p3: "no two of the case constant expressions in the same switch
statement shall have the same value after conversion" — for a promoted controlling type of 4 bytes
(conversion = the low 32 bits) and of 8 bytes, any number of labels, either signedness.
`switchCases` = `qbe.c:switchcase` run on the labels in order. -/
theorem case_labels_accept_sound (s : Bool) (cs : List Nat) (t : T) :
    (switchCases 4 s nil cs = some t → (cs.map (· % 2 ^ 32)).Nodup) ∧
    (switchCases 8 s nil cs = some t → (cs.map (· % 2 ^ 64)).Nodup) := by
  constructor <;> intro h
  · have := (switchCases_iff 4 s cs nil trivial).1 (by rw [h]; rfl)
    exact (nodup_map_congr _ _ (fun a b => caseKey_four_eq_iff s a b) cs).1 this.1
  · have := (switchCases_iff 8 s cs nil trivial).1 (by rw [h]; rfl)
    exact (nodup_map_congr _ _ (fun a b => by rw [caseKey_eight, caseKey_eight]) cs).1 this.1

/-- …and duplicate-free label lists are accepted (the diagnostic is exact). -/
theorem case_labels_accepts_valid (s : Bool) (cs : List Nat) (h : (cs.map (· % 2 ^ 32)).Nodup) :
    (switchCases 4 s nil cs).isSome = true :=
  (switchCases_iff 4 s cs nil trivial).2
    ⟨(nodup_map_congr _ _ (fun a b => caseKey_four_eq_iff s a b) cs).2 h, fun _ _ hm => by simp [toList] at hm⟩

example : switchCases 4 true nil [0, 0x100000000] = none := by decide      -- fix 4f4b330
example : (switchCases 4 true nil [3, 1, 2 ^ 32 - 1, 7]).isSome = true := by decide

end Switch

section Members
open CprocVerif.Layout

private theorem wfDecls_flexible_last {isUnion pack : Bool} (hu : isUnion = false) :
    ∀ pre d post, WfDecls isUnion pack (pre ++ d :: post) → d.ty.incomplete = true → post = []
  | [], _, _, hw, hinc => hw.2.1 hu hinc
  | _ :: pre, d, post, hw, hinc => wfDecls_flexible_last hu pre d post hw.2.2 hinc

/-- **Structure and union members**, 6.7.2.1p3-5, 6.7.5p2-4, whenever `addmember`/`tagspec` accept a
member list (`ht`: of parser-produced type descriptors).  Per member: incomplete types, members containing a flexible
array member, `_Alignas`, bit-fields; then: nothing after a flexible array member; at least one member. -/
theorem members_accept_sound {isUnion pack : Bool} {ds : List Decl} {L : Layout.Layout} (ht : TypesWf ds)
    (h : Layout.layout isUnion pack ds = .ok L) :
    (∀ d ∈ ds, (d.ty.incomplete = true → d.ty.isArray = true) ∧
      (isUnion = false → d.ty.flexible = false) ∧
      (match d.width with
       | none => d.align = 0 ∨ (Pow2 d.align ∧ d.ty.align ≤ d.align)
       | some w => d.ty.isInt = true ∧ d.align = 0 ∧ pack = false ∧ (w = 0 → d.named = false) ∧
           w ≤ 8 * d.ty.size)) ∧
    (isUnion = false → ∀ pre d post, ds = pre ++ d :: post → d.ty.incomplete = true → post = []) ∧
    ds.any Decl.hasMember = true := by
  obtain ⟨hw, hm, _⟩ := layout_ok_wf ht h
  refine ⟨fun d hd => ?_, fun hu pre d post e => wfDecls_flexible_last hu pre d post (e ▸ hw), hm⟩
  have hd := WfDecls.mem hw d hd
  refine ⟨hd.2.1, hd.2.2.1, ?_⟩
  cases hwd : d.width with
  | none => exact hd.plain hwd
  | some w =>
    have c := hd.bf hwd
    exact ⟨c.1, c.2.1, c.2.2.1, c.2.2.2.1, c.2.2.2.2.1⟩

/-- **Flexible array members propagate** (6.7.2.1p3: "such a structure (and any union containing, possibly
recursively, a member that is such a structure) shall not be a member of a structure"): the type
`tagspec` builds is marked flexible exactly when one of its members is an incomplete array or has a
flexible type — for a union that is how the mark travels upwards through any number of nested
unions — and by `members_accept_sound` a structure never has a member whose type carries the mark.
(Seeded change C10b dropped the propagation through unions.) -/
theorem flexible_propagates {isUnion pack : Bool} {ds : List Decl} {L : Layout.Layout} (ht : TypesWf ds)
    (h : Layout.layout isUnion pack ds = .ok L) :
    L.flexible = ds.any (fun d => d.ty.incomplete || d.ty.flexible) := by
  obtain ⟨_, rfl⟩ := accepted_eq ht h
  rw [layout_flexible, aggFlexible_any]

/-- `struct F { int n; int a[]; }` inside `union U`, `union U` inside `union V`: the demos of seed C10b -/
def flexStruct : CType := .su false false (.cons (some "n") (.scalar 4 4 true) 0 none (.cons (some "a") (.array (.scalar 4 4 true) none) 0 none .nil))
def flexUnion : CType := .su true false (.cons (some "f") flexStruct 0 none (.cons (some "r") (.scalar 4 4 true) 0 none .nil))
def flexUnion2 : CType := .su true false (.cons (some "u") flexUnion 0 none (.cons (some "b") (.array (.scalar 1 1 true) (some 8)) 0 none .nil))

-- the union alone is fine and carries the mark; a structure containing it, at any depth, is rejected
example : (tinfo flexUnion).toOption.map (·.flexible) = some true ∧
    (tinfo flexUnion2).toOption.map (·.flexible) = some true := by decide
example : tinfo (.su false false (.cons (some "u") flexUnion 0 none (.cons (some "c") (.scalar 4 4 true) 0 none .nil)))
    = .error .containsFlexible := by decide
example : tinfo (.su false false (.cons (some "i") (.scalar 4 4 true) 0 none
    (.cons (some "v") flexUnion2 0 none (.cons (some "t") (.scalar 4 4 true) 0 none .nil)))) = .error .containsFlexible := by
  decide
/-- STATED LIMIT of the layout model: the array-element clause of 6.7.2.1p3 (`struct F fa[2];`,
`struct S { struct F fa[2]; };`) is diagnosed by `decl.c:declarator` since fix 878d11a ("array element
contains flexible array member"), but `Model/Layout.lean:tinfo` (property C06's model) has no such branch in
its array case and still accepts it; for C10 that diagnostic is covered by the catalogue templates, the corpus
witness and the `flexible-struct-member` mutation kind, not by a theorem. -/
example : (tinfo (.su false false (.cons (some "fa") (.array flexStruct (some 2)) 0 none .nil))).toOption.isSome = true := by
  decide

end Members

section Literals
open CprocVerif.Scan CprocVerif.Spec.Lex

/-- **Character constants and string literals**, 6.4.4.4 / 6.4.5 syntax: when the scanner delivers a
token for text that starts with a quote, the lexeme is a complete literal — closed by the same
quote before any new-line or end of file, every escape sequence one of 6.4.4.4p1.  (Unterminated
literals, new-lines, NUL bytes and invalid escapes are the `error` branches of `scan.c`.) -/
theorem literal_accept_sound (str : Bool) (t : List UInt8) (tok : Tok) (rest : List UInt8)
    (h : first (quoteOf str :: t) = .ok (tok, rest)) :
    ∃ w, tok.lit = some w ∧ IsQuoted (quoteOf str) w ∧ quoteOf str :: t = w ++ rest := by
  rcases C13.quote_starts_literal str t with ⟨e, he, _⟩ | ⟨w, rest', hr, hq, _, hcat⟩
  · rw [h] at he; cases he
  · rw [h] at hr
    cases hr
    exact ⟨w, rfl, hq, hcat⟩

example : first b!"\"a\\q\"" = .error .escape ∧ first b!"'a" = .error .eofChar ∧
    first b!"\"a\nb\"" = .error .nlStr := by decide +kernel

end Literals

section CharValues
open CprocVerif.CharLit CprocVerif.Unicode

/-- **UTF-8 in literals**: when `decodechar` accepts a character position that does not start with a
backslash, some prefix of at most 4 bytes is a well-formed UTF-8 sequence (no stray continuation
byte, overlong form, surrogate or value above U+10FFFF is ever accepted). -/
theorem utf8_accept_sound {bs : List Nat} (hne : bs ≠ []) (hb : ∀ b ∈ bs, b < 256) (h5c : bs.headD 0 ≠ 0x5c)
    (r : _) (h : decodechar bs = .ok r) : ∃ l, l ≤ 4 ∧ WellFormed8 (bs.take l) := by
  apply Classical.byContradiction
  intro hn
  have := C14.decodechar_rejects_invalid hne hb h5c (fun l hl hw => hn ⟨l, hl, hw⟩)
  rw [h] at this
  cases this

end CharValues

section Initialisers
open CprocVerif.Init

/-- **Initialisers**, 6.7.9p2: "No initializer shall attempt to provide a value for an object not
contained within the entity being initialized" — full strength -/
def init_accept_sound_full : Prop := C07.offsets_inside_full

/-- `int a[0] = {1};` / a flexible array member (C19 `flexible-init-assert`) -/
theorem init_accept_sound_counterexample : ¬ init_accept_sound_full := C07.offsets_inside_counterexample

/-- for every type of known, non-zero-length shape and EVERY initialiser tree `parseinit` accepts,
each initialised range lies inside the object -/
theorem init_accept_sound_partial {t : Ty} {i : Ini} {st : St} (ht : TyOk t) (e : parseinit t false i = .ok st) :
    ∀ ev ∈ st.log, match ev with
      | .add x => x.start ≤ x.stop ∧ x.stop ≤ t.size
      | .clear a b => a ≤ b ∧ b ≤ t.size :=
  C07.offsets_inside ht e

end Initialisers

end CprocVerif.C10
