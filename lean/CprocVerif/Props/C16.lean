import CprocVerif.Model.Map
import CprocVerif.Model.Scope
import CprocVerif.Lemmas.Map
import CprocVerif.Lemmas.Scope
/-!
# C16 — map.c is a dictionary for every hash function; scope lookup returns the innermost declaration

The hash of a key is a free field, so every theorem below quantifies over every hash assignment and
every collision pattern.  `Inv` is `CprocVerif.Map.Inv` (Lemmas/Map.lean): `cap = 2^e`, `4 ≤ cap`,
`slots.size = cap`, `len` = number of occupied slots, `len ≤ cap/2 + 1`, `NoDup`, `NoGap`.

FORCED HYPOTHESIS.  `4 ≤ cap` (not `2 ≤ cap`): `mapinit` only asserts `!(cap & cap-1)`, which accepts
0, 1 and 2.  With `cap = 2` two `mapput`s fill the table completely (growth is only triggered when
`cap/2 < len` at the START of `mapput`), and `mapget` of an absent key then never returns
(`cap2_full_table_loops` below).  All clients use 8 (qbe.c, goto labels), 32 (scope.c) or 64 (pp.c macro table,
decl.c string pool); that is read off the `mapinit` calls of `/repo`, no generated table checks it.
-/
namespace CprocVerif.C16
open CprocVerif.Map CprocVerif.Scope

theorem mask_is_mod {cap e : Nat} (hc : cap = 2 ^ e) (x : Nat) : x &&& (cap - 1) = x % cap :=
  mask_eq_mod hc x

/-- The probe loop written with `&` as in map.c is the modelled loop (written with `%`). -/
theorem keyindex_mask {m : Map} (hI : Inv m) (k : Key) : keyindexMask m k = keyindex m k := by
  obtain ⟨e, he⟩ := hI.pow2
  unfold keyindexMask keyindex keyindexS
  rw [mask_eq_mod he, keyindexFromMask_eq he]

theorem put_inv {m : Map} (hI : Inv m) (k : Key) (v : Nat) : Inv (put m k v) :=
  (put_spec hI k v).1

theorem grow_inv {m : Map} (hI : Inv m) : Inv (grow m) :=
  (grow_spec hI).1

theorem putKeep_inv {m : Map} (hI : Inv m) (k : Key) (v : Nat) : Inv (putKeep m k v).1 :=
  (putKeep_spec hI k v).1

theorem run_inv {cap e : Nat} (hc : cap = 2 ^ e) (h4 : 4 ≤ cap) (ops : List (Key × Nat)) :
    Inv (run cap ops) :=
  (run_spec hc h4 ops).1

/-- The `while` loop of `keyindex` stops within `cap` steps: there is always an empty slot. -/
theorem keyindex_terminates {m : Map} (hI : Inv m) (k : Key) : (keyindex m k).isSome := by
  obtain ⟨i, hk, _⟩ := keyindexS_home hI.hasEmpty k
  exact (show keyindex m k = some i from hk) ▸ rfl

theorem keyindex_in_bounds {m : Map} (hI : Inv m) (k : Key) {i : Nat} (h : keyindex m k = some i) :
    i < m.slots.size := by
  obtain ⟨i', hk, hh⟩ := keyindexS_home hI.hasEmpty k
  cases (show keyindex m k = some i' from hk).symm.trans h
  exact hI.size ▸ hh.lt

/-- `cap = 2` passes the assertion of `mapinit` but is not safe: after two `put`s the table is full,
    and the probe loop for a third key does not terminate. -/
theorem cap2_full_table_loops :
    keyindex (run 2 [(⟨0, [97]⟩, 1), (⟨1, [98]⟩, 2)]) ⟨0, [99]⟩ = none := by decide +kernel

theorem get_put_same {m : Map} (hI : Inv m) (k : Key) (v : Nat) : get (put m k v) k = v :=
  (get_put hI k v k).trans (if_pos rfl)

theorem get_put_other {m : Map} (hI : Inv m) (k : Key) (v : Nat) {k' : Key} (hne : k' ≠ k) :
    get (put m k v) k' = get m k' :=
  (get_put hI k v k').trans (if_neg hne)

theorem get_grow {m : Map} (hI : Inv m) (k : Key) : get (grow m) k = get m k :=
  get_congr hI (grow_spec hI).1 ((grow_spec hI).2 k)

/-- `entry = mapput(..); if (!*entry) *entry = v;` returns / stores the old non-NULL value, else `v`. -/
theorem putKeep_value {m : Map} (hI : Inv m) (k : Key) (v : Nat) :
    (putKeep m k v).2 = if get m k ≠ 0 then get m k else v :=
  (putKeep_spec hI k v).2.1

theorem get_putKeep_same {m : Map} (hI : Inv m) (k : Key) (v : Nat) :
    get (putKeep m k v).1 k = (putKeep m k v).2 := by
  obtain ⟨h1, _, h3⟩ := putKeep_spec hI k v
  exact (get_of_upd hI h1 h3 k).trans (if_pos rfl)

theorem get_putKeep_other {m : Map} (hI : Inv m) (k : Key) (v : Nat) {k' : Key} (hne : k' ≠ k) :
    get (putKeep m k v).1 k' = get m k' := by
  obtain ⟨h1, _, h3⟩ := putKeep_spec hI k v
  exact (get_of_upd hI h1 h3 k').trans (if_neg hne)

theorem mapput_index {m : Map} (hI : Inv m) (k : Key) :
    keyindex (mapput m k).1 k = some (mapput m k).2 ∧ (mapput m k).2 < (mapput m k).1.slots.size := by
  obtain ⟨h1, h3, _⟩ := mapput_spec hI k
  exact ⟨keyindexS_stored h1.rinv h1.hasEmpty h3, lt_of_sl_some h3⟩

/-- `get` returns the value of the LAST `put` of that key, else 0; any hash fields, any values including NULL.
    `run` and `dict` of Lemmas/Map.lean are written out, so that the statement reads without them. -/
theorem map_refines (cap k0 : Nat) (ops : List (Key × Nat)) (hc : cap = 2 ^ k0) (h4 : 4 ≤ cap)
    (k : Key) :
    get (ops.foldl (fun m kv => put m kv.1 kv.2) (init cap)) k =
      ((ops.reverse.find? (fun kv => decide (kv.1 = k))).map (·.2)).getD 0 :=
  (run_spec hc h4 ops).2.1 k

/-- `hcons`: keys with equal bytes have equal hash — true for every real hash function, but the hash field of `Key` is
    free. -/
theorem hash_independent (f : List Nat → Nat) {cap e cap' e' : Nat}
    (hc : cap = 2 ^ e) (h4 : 4 ≤ cap) (hc' : cap' = 2 ^ e') (h4' : 4 ≤ cap')
    (ops : List (Key × Nat)) (k : Key) (hcons : HashConsistent (k :: ops.map (·.1))) :
    get (run cap' (ops.map (fun kv => (rekey f kv.1, kv.2)))) (rekey f k) = get (run cap ops) k := by
  rw [(run_spec hc' h4' _).2.1, (run_spec hc h4 ops).2.1]
  exact dict_rekey f ops k hcons

theorem hash_independent' (f g : List Nat → Nat) {cap e cap' e' : Nat}
    (hc : cap = 2 ^ e) (h4 : 4 ≤ cap) (hc' : cap' = 2 ^ e') (h4' : 4 ≤ cap')
    (ops : List (List Nat × Nat)) (b : List Nat) :
    get (run cap (ops.map (fun bv => (⟨f bv.1, bv.1⟩, bv.2)))) ⟨f b, b⟩ =
      get (run cap' (ops.map (fun bv => (⟨g bv.1, bv.1⟩, bv.2)))) ⟨g b, b⟩ := by
  have hall : ∀ k ∈ (⟨f b, b⟩ : Key) ::
      (ops.map (fun bv => ((⟨f bv.1, bv.1⟩ : Key), bv.2))).map (·.1), k.hash = f k.bytes := by
    simp only [List.map_map, List.mem_cons, List.mem_map, Function.comp]
    rintro k (rfl | ⟨bv, -, rfl⟩) <;> rfl
  have := hash_independent g hc h4 hc' h4' _ _ fun k1 h1 k2 h2 hb => by
    rw [hall k1 h1, hall k2 h2, hb]
  rw [List.map_map] at this
  exact this.symm

theorem distinctKeys_nodup (ops : List (Key × Nat)) : (distinctKeys ops).Nodup := by
  induction ops using snoc_induction with
  | hnil => exact List.nodup_nil
  | hsnoc l a ih =>
    rw [distinctKeys_snoc]
    split
    · exact ih
    · exact List.nodup_cons.mpr ⟨‹_›, ih⟩

theorem mem_distinctKeys (ops : List (Key × Nat)) (k : Key) :
    k ∈ distinctKeys ops ↔ k ∈ ops.map (·.1) := by
  induction ops using snoc_induction with
  | hnil => simp [distinctKeys]
  | hsnoc l a ih =>
    rw [distinctKeys_snoc, List.map_append, List.mem_append, ← ih, List.map_singleton,
      List.mem_singleton, or_comm]
    split
    · exact ⟨Or.inr, fun h => h.elim (· ▸ ‹_›) id⟩
    · exact List.mem_cons

/-- `h->len`.  `distinctKeys` is a duplicate-free list with exactly the keys of the history, by the two theorems
    above. -/
theorem len_counts {cap e : Nat} (hc : cap = 2 ^ e) (h4 : 4 ≤ cap) (ops : List (Key × Nat)) :
    (run cap ops).len = (distinctKeys ops).length :=
  (run_spec hc h4 ops).2.2.1

theorem len_occupancy {m : Map} (hI : Inv m) :
    m.len = m.slots.countP (·.isSome) ∧ m.len ≤ m.cap / 2 + 1 ∧ m.len < m.cap :=
  ⟨hI.len_occ, hI.len_le, hI.len_lt_cap⟩

theorem scope_innermost (c : Chain) (k : Key) :
    getDecl c k true = ((c.map (·.declOf k)).find? (fun d => d != 0)).getD 0 :=
  (getDecl_eq k true c).trans (getBy_innermost _ c)

theorem scope_innermost_tag (c : Chain) (k : Key) :
    getTag c k true = ((c.map (·.tagOf k)).find? (fun d => d != 0)).getD 0 :=
  (getTag_eq k true c).trans (getBy_innermost _ c)

theorem scope_norecurse (s : Scope) (p : Chain) (k : Key) :
    getDecl (s :: p) k false = s.declOf k ∧ getTag (s :: p) k false = s.tagOf k := by
  rw [getDecl_cons, getTag_cons]; simp

/-- Lazy `mapinit(…, 32)` included. -/
theorem scope_putDecl_lookup {s : Scope} (h : ScopeWf s) (k : Key) (v : Nat) (k' : Key) :
    (s.putDecl k v).declOf k' = if k' = k then v else s.declOf k' :=
  declOf_putDecl h k v k'

theorem scope_putTag_lookup {s : Scope} (h : ScopeWf s) (k : Key) (v : Nat) (k' : Key) :
    (s.putTag k v).tagOf k' = if k' = k then v else s.tagOf k' :=
  tagOf_putTag h k v k'

/-- `hv`: a NULL value counts as no declaration. -/
theorem scope_shadow {c : Chain} (hw : ChainWf c) (hne : c ≠ []) (k : Key) {v : Nat} (hv : v ≠ 0)
    (r : Bool) : getDecl (putDecl c k v) k r = v := by
  cases c with
  | nil => exact (hne rfl).elim
  | cons s p =>
    rw [putDecl, getDecl_cons, declOf_putDecl (hw s (List.mem_cons_self ..))]
    simp [hv]

theorem scope_putDecl_other {c : Chain} (hw : ChainWf c) (k : Key) (v : Nat) {k' : Key} (hne : k' ≠ k)
    (r : Bool) : getDecl (putDecl c k v) k' r = getDecl c k' r := by
  cases c with
  | nil => rfl
  | cons s p =>
    rw [putDecl, getDecl_cons, getDecl_cons, declOf_putDecl (hw s (List.mem_cons_self ..)), if_neg hne]

theorem tags_decls_independent (c : Chain) (k : Key) (v : Nat) (k' : Key) (r : Bool) :
    getDecl (putTag c k v) k' r = getDecl c k' r ∧ getTag (putDecl c k v) k' r = getTag c k' r := by
  cases c with
  | nil => exact ⟨rfl, rfl⟩
  | cons s p =>
    constructor
    · rw [putTag, getDecl_cons, getDecl_cons, declOf_putTag]
    · rw [putDecl, getTag_cons, getTag_cons, tagOf_putDecl]

theorem mkscope_delscope (c : Chain) :
    delscope (mkscope c) = c ∧
      (∀ k, getDecl (mkscope c) k true = getDecl c k true ∧ getTag (mkscope c) k true = getTag c k true) ∧
      (∀ k, getDecl (mkscope c) k false = 0 ∧ getTag (mkscope c) k false = 0) := by
  refine ⟨rfl, fun k => ?_, fun k => ?_⟩
  · rw [mkscope, getDecl_cons, getTag_cons, fresh_declOf, fresh_tagOf]
    simp
  · rw [mkscope, getDecl_cons, getTag_cons, fresh_declOf, fresh_tagOf]
    simp

/-- `h`: the inner blocks of the body are properly nested. -/
theorem block_scope_vanishes (c : Chain) (body : List Op) (h : bodyDepth body 1 = some 1) :
    delscope (body.foldl step (mkscope c)) = c ∧
      ∀ k r, getDecl (delscope (body.foldl step (mkscope c))) k r = getDecl c k r ∧
        getTag (delscope (body.foldl step (mkscope c))) k r = getTag c k r := by
  obtain ⟨inner', hl, he⟩ := body_preserves c body [Scope.fresh] 0 1 rfl h
  have : delscope (body.foldl step (mkscope c)) = c := by
    rw [show mkscope c = [Scope.fresh] ++ c from rfl, he]
    match inner', hl with
    | [_], _ => rfl
  exact ⟨this, fun k r => by rw [this]; exact ⟨rfl, rfl⟩⟩

/-- Refinement for scopes, no hypothesis on the sequence of operations: the specification is a chain of per-scope
    association lists (`AScope`), `aGetDecl` = last value declared in the innermost scope having a non-NULL one. -/
theorem scope_refines (ops : List Op) (k : Key) (r : Bool) :
    getDecl (ops.foldl step fileChain) k r = aGetDecl (ops.foldl aStep [⟨[], []⟩]) k r ∧
      getTag (ops.foldl step fileChain) k r = aGetTag (ops.foldl aStep [⟨[], []⟩]) k r := by
  have h := CRel_run ops CRel_file
  rw [getDecl_eq, getTag_eq, aGetDecl_eq, aGetTag_eq]
  exact ⟨getBy_of_CRel (fun _ _ hs => hs.2.1 k) r h, getBy_of_CRel (fun _ _ hs => hs.2.2 k) r h⟩

theorem scope_run_wf (ops : List Op) : ChainWf (ops.foldl step fileChain) :=
  run_wf ops fileChain_wf

/-! ## Non-vacuity: a concrete state

Nine `put`s of seven distinct keys starting from capacity 4: hashes 3, 7, 11, 19 collide in the low
two bits (3, 11, 19 also in the low three bits, 3 and 19 in the low four), two keys have the SAME hash
3 and different bytes, one key is overwritten, one gets NULL written.  The table grows twice
(4 → 8 → 16). -/

def exOps : List (Key × Nat) :=
  [ (⟨3, [97]⟩, 1), (⟨7, [98]⟩, 2), (⟨11, [99]⟩, 3), (⟨19, [100]⟩, 4), (⟨3, [101]⟩, 5),
    (⟨0, []⟩, 6), (⟨3, [97]⟩, 7), (⟨4, [102, 103]⟩, 8), (⟨7, [98]⟩, 0) ]

def exMap : Map := run 4 exOps

theorem exInv : Inv exMap := run_inv (e := 2) (by decide) (by decide) exOps

/-- The state reached, evaluated once for the examples below. -/
theorem exMap_eq : exMap = ⟨16, 7, #[some (⟨0, []⟩, 6), none, none, some (⟨3, [97]⟩, 7),
    some (⟨19, [100]⟩, 4), some (⟨3, [101]⟩, 5), some (⟨4, [102, 103]⟩, 8), some (⟨7, [98]⟩, 0),
    none, none, none, some (⟨11, [99]⟩, 3), none, none, none, none]⟩ := by
  have h : ∀ (m : Map) {c l s}, m.cap = c ∧ m.len = l ∧ m.slots = s → m = ⟨c, l, s⟩ := by
    rintro ⟨_, _, _⟩ _ _ _ ⟨rfl, rfl, rfl⟩; rfl
  exact h _ (by decide +kernel)

example : exMap.cap = 16 ∧ exMap.len = 7 := by rw [exMap_eq]; decide
example : (exMap.slots.toList.filter (·.isSome)).length = 7 := by rw [exMap_eq]; decide
/- collisions really happened: three keys with home slot 3 sit in slots 3, 4, 5 -/
example : keyindex exMap ⟨3, [97]⟩ = some 3 ∧ keyindex exMap ⟨19, [100]⟩ = some 4 ∧
    keyindex exMap ⟨3, [101]⟩ = some 5 ∧ keyindex exMap ⟨4, [102, 103]⟩ = some 6 := by
  rw [exMap_eq]; decide +kernel
example : get exMap ⟨3, [97]⟩ = 7 ∧ get exMap ⟨3, [101]⟩ = 5 ∧ get exMap ⟨7, [98]⟩ = 0 ∧
    get exMap ⟨3, [102]⟩ = 0 ∧ get exMap ⟨19, [100]⟩ = 4 := by
  rw [exMap_eq]; decide +kernel

example : Inv (init 8) := init_inv (e := 3) (by decide) (by decide)
example : (0xdeadbeef : Nat) &&& (64 - 1) = 0xdeadbeef % 64 := mask_is_mod (e := 6) (by decide) _
example : Inv (put exMap ⟨35, [104]⟩ 9) := put_inv exInv _ _
example : Inv (putKeep exMap ⟨35, [104]⟩ 9).1 := putKeep_inv exInv _ _
example : 8 < exMap.slots.size :=
  keyindex_in_bounds exInv ⟨35, [104]⟩ (by rw [exMap_eq]; decide +kernel)
example : get (grow exMap) ⟨3, [101]⟩ = get exMap ⟨3, [101]⟩ := get_grow exInv _
example : get (init 64) ⟨3, [101]⟩ = 0 := get_init (e := 6) (by decide) (by decide) _
example : get (putKeep exMap ⟨7, [98]⟩ 42).1 ⟨7, [98]⟩ = (putKeep exMap ⟨7, [98]⟩ 42).2 :=
  get_putKeep_same exInv _ _
example : get (putKeep exMap ⟨7, [98]⟩ 42).1 ⟨3, [97]⟩ = get exMap ⟨3, [97]⟩ :=
  get_putKeep_other exInv _ _ (by decide)
example : keyindex (mapput exMap ⟨35, [104]⟩).1 ⟨35, [104]⟩ = some (mapput exMap ⟨35, [104]⟩).2 :=
  (mapput_index exInv _).1
example : (mapput exMap ⟨35, [104]⟩).2 = 8 ∧ (mapput exMap ⟨19, [100]⟩).2 = 4 := by
  rw [exMap_eq]; decide +kernel
example : Inv (grow exMap) := grow_inv exInv
example : (grow exMap).cap = 32 ∧ get (grow exMap) ⟨3, [101]⟩ = 5 := by
  rw [exMap_eq]; decide +kernel
example : (keyindex exMap ⟨35, [104]⟩).isSome := keyindex_terminates exInv _
example : keyindex exMap ⟨35, [104]⟩ = some 8 := by rw [exMap_eq]; decide +kernel
example : keyindexMask exMap ⟨35, [104]⟩ = keyindex exMap ⟨35, [104]⟩ := keyindex_mask exInv _
example : get (put exMap ⟨35, [104]⟩ 9) ⟨35, [104]⟩ = 9 := get_put_same exInv _ _
example : get (put exMap ⟨35, [104]⟩ 9) ⟨3, [101]⟩ = get exMap ⟨3, [101]⟩ :=
  get_put_other exInv _ _ (by decide)
example : get (put exMap ⟨35, [104]⟩ 9) ⟨35, [104]⟩ = 9 ∧ get (put exMap ⟨35, [104]⟩ 9) ⟨3, [101]⟩ = 5 := by
  rw [exMap_eq]; decide +kernel
example : (putKeep exMap ⟨3, [101]⟩ 42).2 = 5 ∧ (putKeep exMap ⟨7, [98]⟩ 42).2 = 42 := by
  rw [exMap_eq]; decide +kernel
example : (putKeep exMap ⟨3, [101]⟩ 42).2 = if get exMap ⟨3, [101]⟩ ≠ 0 then get exMap ⟨3, [101]⟩ else 42 :=
  putKeep_value exInv _ _
example : exMap.len = (distinctKeys exOps).length := len_counts (e := 2) (by decide) (by decide) exOps
example : (distinctKeys exOps).length = 7 := by decide +kernel
example : ∀ k, get exMap k = dict exOps k :=
  fun k => map_refines 4 2 exOps (by decide) (by decide) k

/- hash independence: the same byte strings under the constant-zero hash (every key collides) -/
theorem exHashConsistent : HashConsistent (⟨3, [97]⟩ :: exOps.map (·.1)) := by
  intro k1 h1 k2 h2
  revert k1 k2
  decide +kernel
example : HashConsistent (⟨3, [97]⟩ :: exOps.map (·.1)) := exHashConsistent
example : get (run 8 (exOps.map (fun kv => (rekey (fun _ => 0) kv.1, kv.2)))) (rekey (fun _ => 0) ⟨3, [97]⟩) = 7 := by
  decide +kernel
example : get (run 8 (exOps.map (fun kv => (rekey (fun _ => 0) kv.1, kv.2)))) (rekey (fun _ => 0) ⟨3, [97]⟩) =
    get (run 4 exOps) ⟨3, [97]⟩ :=
  hash_independent (fun _ => 0) (e := 2) (e' := 3) (by decide) (by decide) (by decide) (by decide) exOps _
    exHashConsistent
example : get (run 4 ([([97], 1), ([98], 2), ([97], 3)].map (fun bv => (⟨bv.1.length, bv.1⟩, bv.2)))) ⟨1, [97]⟩ =
    get (run 64 ([([97], 1), ([98], 2), ([97], 3)].map (fun bv => (⟨bv.1.sum, bv.1⟩, bv.2)))) ⟨97, [97]⟩ :=
  hash_independent' (fun b => b.length) (fun b => b.sum) (e := 2) (e' := 6)
    (by decide) (by decide) (by decide) (by decide) _ [97]

def exScopeOps : List Op :=
  [ .decl ⟨1, [120]⟩ 10, .tag ⟨1, [120]⟩ 20, .decl ⟨33, [121]⟩ 11,   -- file scope: x, struct x, y
    .mk, .decl ⟨1, [120]⟩ 12,                                           -- { int x;
    .mk, .tag ⟨65, [122]⟩ 21 ]                                          --   { struct z;

def exChain : Chain := exScopeOps.foldl step fileChain

theorem exChainWf : ChainWf exChain := scope_run_wf exScopeOps

example : exChain.length = 3 := by decide +kernel
example : getDecl exChain ⟨1, [120]⟩ true = 12 ∧ getDecl exChain ⟨1, [120]⟩ false = 0 ∧
    getDecl exChain ⟨33, [121]⟩ true = 11 ∧ getTag exChain ⟨1, [120]⟩ true = 20 ∧
    getTag exChain ⟨65, [122]⟩ false = 21 ∧ getDecl exChain ⟨65, [122]⟩ true = 0 := by decide +kernel
example : getDecl (delscope (delscope exChain)) ⟨1, [120]⟩ true = 10 := by decide +kernel
example : getDecl (putDecl exChain ⟨1, [120]⟩ 13) ⟨1, [120]⟩ true = 13 :=
  scope_shadow exChainWf (by decide +kernel) _ (by decide) _
example : getDecl (putDecl exChain ⟨1, [120]⟩ 13) ⟨33, [121]⟩ true = getDecl exChain ⟨33, [121]⟩ true :=
  scope_putDecl_other exChainWf _ _ (by decide) _
example : ∀ s p, exChain = s :: p → (s.putDecl ⟨1, [120]⟩ 13).declOf ⟨1, [120]⟩ = 13 := by
  intro s p h
  have hw : ScopeWf s := exChainWf s (by rw [h]; exact List.mem_cons_self ..)
  rw [scope_putDecl_lookup hw]; simp
example : ∀ s p, exChain = s :: p → (s.putTag ⟨65, [122]⟩ 23).tagOf ⟨65, [122]⟩ = 23 := by
  intro s p h
  have hw : ScopeWf s := exChainWf s (by rw [h]; exact List.mem_cons_self ..)
  rw [scope_putTag_lookup hw]; simp
example : bodyDepth [.decl ⟨1, [120]⟩ 14, .mk, .tag ⟨1, [120]⟩ 22, .del, .decl ⟨2, [119]⟩ 15] 1 = some 1 := by
  decide +kernel
example : delscope ([Op.decl ⟨1, [120]⟩ 14, .mk, .tag ⟨1, [120]⟩ 22, .del, .decl ⟨2, [119]⟩ 15].foldl step
    (mkscope exChain)) = exChain :=
  (block_scope_vanishes exChain _ (by decide +kernel)).1

end CprocVerif.C16
