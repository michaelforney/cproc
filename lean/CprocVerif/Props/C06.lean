import CprocVerif.Lemmas.Layout
import CprocVerif.Lemmas.LayoutEnum
import CprocVerif.Gen.BasicTypes
import CprocVerif.Gen.IntLimits

/-!
# C06 — object layout equals the platform ABI

Model: `Model/Layout.lean` (`addmember`, `tagspec`, `typehasint`, `typemember`, `offsetof` of
`/repo/decl.c`, `/repo/type.c`, `/repo/expr.c`).  Spec: `Spec/Abi.lean` (bit cursor).

The theorems quantify over **all** member lists (no bound on their length); `Wf` says that none
of `addmember`'s `error(...)` branches is taken and that the aggregate stays below 2^62 bytes;
`TypesWf` is only what the parser guarantees about type descriptors (alignments are powers of
two, integer types have size = alignment ≤ 8) — `layout_ok_wf` shows `Wf` follows from it
whenever the model accepts.

Left out: `Layout.designator`/`Layout.offsetof` (array indices and nested designators after the first member) have a spec,
`Abi.pathOffset`/`Abi.offsetof`, but no theorem; the two are compared by the driver (`Drv/C06.lean`) only.
`typemember_correct` covers the member lookup they start from.
-/

namespace CprocVerif.C06
open CprocVerif.Layout CprocVerif.Abi

/-! ## The spec's primitives are what they claim to be -/

theorem roundUp_least {x a : Nat} (ha : 0 < a) :
    a ∣ roundUp x a ∧ x ≤ roundUp x a ∧ ∀ y, a ∣ y → x ≤ y → roundUp x a ≤ y := by
  refine ⟨roundUp_dvd x a, le_roundUp x ha, fun y hy hxy => ?_⟩
  apply Nat.le_of_not_lt
  intro hlt
  have h1 := roundUp_lt x ha
  have := mult_gap hy (roundUp_dvd x a) hlt
  omega

theorem bfPos_least {c U w : Nat} (hU : 0 < U) (hw : 0 < w) (hwU : w ≤ U) :
    c ≤ bfPos c U w ∧ Fits U w (bfPos c U w) ∧ ∀ q, c ≤ q → Fits U w q → bfPos c U w ≤ q := by
  refine ⟨le_bfPos c U w hU, Fits_of_bfPos hU hw hwU, fun q hq hF => ?_⟩
  unfold bfPos
  split
  · exact hq
  · rename_i hnf
    -- q lies in a later unit than c: otherwise c would fit as well
    apply Nat.le_of_not_lt
    intro hlt
    have e : (c / U + 1) * U = c / U * U + U := by rw [Nat.add_mul, Nat.one_mul]
    have hq1 : q / U = c / U := by
      apply Nat.div_eq_of_lt_le
      · exact Nat.le_trans (Nat.div_mul_le_self c U) hq
      · omega
    unfold Fits at hF hnf
    have h2 := (div_eq_iff (m := q + w - 1) (k := q / U) hU).1 hF.symm
    apply hnf
    symm
    apply Nat.div_eq_of_lt_le
    · have := Nat.div_mul_le_self c U; omega
    · rw [hq1] at h2; omega

/-! ## `ALIGNUP` / `ALIGNDOWN` (`util.h`) are correct on powers of two -/

theorem alignup_correct {x n : Nat} (hp : Pow2 n) (h : x + n < 2 ^ 64) : alignUp x n = roundUp x n :=
  alignUp_eq hp h

theorem aligndown_correct {x n : Nat} (hp : Pow2 n) (hn : n < 2 ^ 64) (hx : x < 2 ^ 64) :
    alignDown x n = x / n * n := alignDown_eq hp hn hx

/-- **struct, x86-64 SysV**: `addmember` computes exactly the bit-cursor layout: every member offset, storage unit,
`before/after`, `sizeof`, `_Alignof`, the flexible flag. -/
theorem layout_correct {pack : Bool} {ds : List Decl} (h : Wf false pack ds) :
    Layout.layout false pack ds = .ok (Abi.layout x86_64 false pack ds) :=
  layout_ok_target (fun _ _ => Or.inr rfl) h

/-- **struct, RISC-V LP64** (full strength; same alignment rule as x86-64). -/
theorem layout_correct_riscv64 {pack : Bool} {ds : List Decl} (h : Wf false pack ds) :
    Layout.layout false pack ds = .ok (Abi.layout riscv64 false pack ds) :=
  layout_ok_target (fun _ _ => Or.inr rfl) h

/-- **struct, AAPCS64**: the full-strength statement … -/
def layout_correct_aarch64_full : Prop :=
  ∀ (pack : Bool) (ds : List Decl), Wf false pack ds →
    Layout.layout false pack ds = .ok (Abi.layout aarch64 false pack ds)

def intTy (n : Nat) : MTy := { size := n, align := n, isInt := true }
def fltTy (n : Nat) : MTy := { size := n, align := n }

/-- `struct { char c; int : 0; char d; }` -/
def aarch64Witness : List Decl :=
  [⟨intTy 1, true, 0, none⟩, ⟨intTy 4, false, 0, some 0⟩, ⟨intTy 1, true, 0, none⟩]

/-- … is false: cproc gives `struct { char c; int : 0; char d; }` size 5, alignment 1 on every
target; AAPCS64 (and `clang --target=aarch64-linux-gnu`) give 8 and 4. -/
theorem layout_correct_aarch64_counterexample : ¬ layout_correct_aarch64_full := by
  intro h
  have := h false aarch64Witness (by decide)
  have h2 : (Layout.layout false false aarch64Witness).toOption.map (·.size) =
      some (Abi.layout aarch64 false false aarch64Witness).size := by rw [this]; rfl
  revert h2
  decide

/-- **struct and union, AAPCS64, partial**: holds when no bit-field is unnamed. -/
theorem layout_correct_aarch64_partial {isUnion pack : Bool} {ds : List Decl}
    (h : Wf isUnion pack ds) (hn : ∀ d ∈ ds, d.unnamedBf = false) :
    Layout.layout isUnion pack ds = .ok (Abi.layout aarch64 isUnion pack ds) :=
  layout_ok_target (fun d hd => Or.inl (hn d hd)) h

/-- **union, x86-64 SysV / RISC-V LP64**: `sizeof` = the largest member (a bit-field, named or not, needs `⌈w/8⌉` bytes)
rounded up to the alignment, every member at offset 0.  (Before commit b861666 this failed for `unionWitness`: an
unnamed bit-field of non-zero width never grew a union.) -/
theorem layout_correct_union {pack : Bool} {ds : List Decl} (h : Wf true pack ds) :
    Layout.layout true pack ds = .ok (Abi.layout x86_64 true pack ds) :=
  layout_ok_target (fun _ _ => Or.inr rfl) h

theorem layout_correct_union_riscv64 {pack : Bool} {ds : List Decl} (h : Wf true pack ds) :
    Layout.layout true pack ds = .ok (Abi.layout riscv64 true pack ds) :=
  layout_ok_target (fun _ _ => Or.inr rfl) h

/-- `union { unsigned long : 40; unsigned char m : 1; }` — the witness of the defect repaired by
b861666 (cproc gave size 1, gcc and clang give 5); kept as a regression witness -/
def unionWitness : List Decl := [⟨intTy 8, false, 0, some 40⟩, ⟨intTy 1, true, 0, some 1⟩]

theorem model_ok_wf {isUnion pack : Bool} {ds : List Decl} {L : Layout} (ht : TypesWf ds)
    (h : Layout.layout isUnion pack ds = .ok L) : Wf isUnion pack ds := layout_ok_wf ht h

theorem model_accepts_wf {isUnion pack : Bool} {ds : List Decl} (h : Wf isUnion pack ds) :
    ∃ L, Layout.layout isUnion pack ds = .ok L := ⟨_, layout_ok h⟩

/-! ## ABI-independent corollaries: every member list the model accepts (struct **and** union,
unnamed bit-fields included, every target) -/

/-- In a struct, members occupy bit ranges in declaration order (`bitStart = 8·offset + before`, `bitEnd = bitStart + width`
resp. `+ 8·sizeof`). -/
theorem offsets_monotone {pack : Bool} {ds : List Decl} {L : Layout} (ht : TypesWf ds)
    (h : Layout.layout false pack ds = .ok L) :
    L.members.Pairwise (fun a b => a.bitEnd ≤ b.bitStart) := by
  obtain ⟨hwf, rfl⟩ := accepted_eq ht h
  exact (struct_facts hwf).2.1

theorem no_overlap {pack : Bool} {ds : List Decl} {L : Layout} (ht : TypesWf ds)
    (h : Layout.layout false pack ds = .ok L) :
    L.members.Pairwise (fun a b => ∀ i, ¬ (a.bitStart ≤ i ∧ i < a.bitEnd ∧ b.bitStart ≤ i ∧ i < b.bitEnd)) :=
  (offsets_monotone ht h).imp (fun hab i hi => by omega)

/-- `talign`: `_Alignas`, type alignment, or 1 when packed; for a bit-field that of its storage unit. -/
theorem member_aligned {isUnion pack : Bool} {ds : List Decl} {L : Layout} (ht : TypesWf ds)
    (h : Layout.layout isUnion pack ds = .ok L) :
    ∀ m ∈ L.members, m.talign ∣ m.offset ∧ m.talign ∣ L.align :=
  fun m hm => ⟨((accepted_facts ht h).1 m hm).aligned, ((accepted_facts ht h).1 m hm).alignDvd⟩

theorem member_inside_object {isUnion pack : Bool} {ds : List Decl} {L : Layout} (ht : TypesWf ds)
    (h : Layout.layout isUnion pack ds = .ok L) : ∀ m ∈ L.members, m.bitEnd ≤ 8 * L.size :=
  fun m hm => ((accepted_facts ht h).1 m hm).inside

/-- The storage unit `[offset, offset + sizeof T)` of a bit-field: loads and stores access the whole unit. -/
theorem unit_inside_object {isUnion pack : Bool} {ds : List Decl} {L : Layout} (ht : TypesWf ds)
    (h : Layout.layout isUnion pack ds = .ok L) :
    ∀ m ∈ L.members, m.width.isSome → m.tsize ∣ m.offset ∧ m.offset + m.tsize ≤ L.size := by
  intro m hm hw
  obtain ⟨w, hw⟩ := Option.isSome_iff_exists.1 hw
  have := ((accepted_facts ht h).1 m hm).unit w hw
  exact ⟨this.1, this.2.1⟩

/-- So the `short` fields `before`/`after` hold the values without truncation, and the shifts of `funcbits` are in range. -/
theorem before_width_after {isUnion pack : Bool} {ds : List Decl} {L : Layout} (ht : TypesWf ds)
    (h : Layout.layout isUnion pack ds = .ok L) :
    ∀ m ∈ L.members, ∀ w, m.width = some w → m.before + w + m.after = 8 * m.tsize ∧ 0 < w := by
  intro m hm w hw
  have := ((accepted_facts ht h).1 m hm).unit w hw
  exact this.2.2

theorem size_multiple_of_align {isUnion pack : Bool} {ds : List Decl} {L : Layout} (ht : TypesWf ds)
    (h : Layout.layout isUnion pack ds = .ok L) : L.align ∣ L.size ∧ Pow2 L.align :=
  (accepted_facts ht h).2

theorem union_members_at_zero {pack : Bool} {ds : List Decl} {L : Layout} (ht : TypesWf ds)
    (h : Layout.layout true pack ds = .ok L) : ∀ m ∈ L.members, m.offset = 0 ∧ m.before = 0 := by
  obtain ⟨hwf, rfl⟩ := accepted_eq ht h
  exact fun m hm => ((union_facts hwf).1 m hm).2

theorem union_size {pack : Bool} {ds : List Decl} {L : Layout} (ht : TypesWf ds)
    (h : Layout.layout true pack ds = .ok L) :
    L.size = roundUp (unionMax ds) L.align ∧ L.align = aggAlign x86_64 pack ds := by
  obtain ⟨_, rfl⟩ := accepted_eq ht h
  exact ⟨rfl, rfl⟩

/-- `ValidTy`: the 1/2/4/8-byte integer types; `_Bool` is outside (see at `ValidTy`). -/
theorem typehasint_correct {t : IntTy} (ht : ValidTy t) {i : Nat} (hi : i < 2 ^ 64) (sign : Bool) :
    typehasint t i sign = true ↔ Represents t (val64 i sign) := typehasint_iff ht hi sign

/-- Whenever `tagspec` accepts an enum, the underlying type it chooses is the spec's choice
(C23 6.7.2.2 enumerator values; GCC's rule: `unsigned int` if no enumerator is negative and all
fit, else `int`, else the 64-bit type of that signedness; the fixed type if one is given). -/
theorem enum_underlying_correct {fixed : Option IntTy} {items : List EnumItem} {t : IntTy}
    (hw : ItemsWf items) (hf : ∀ b, fixed = some b → ValidTy b)
    (h : Layout.enumUnderlying fixed items = .ok t) : Abi.enumUnderlying fixed items = some t := by
  rw [← enumUnderlying_toOption hw hf]; exact toOption_eq_some.2 h

theorem enum_spec_represents_fixed {b : IntTy} {items : List EnumItem} {t : IntTy}
    (h : Abi.enumUnderlying (some b) items = some t) :
    t = b ∧ ∀ v ∈ enumValuesFixed 0 items, Represents b v := by
  simp only [Abi.enumUnderlying] at h
  split at h
  · rename_i hall
    simp only [Option.some.injEq] at h
    exact ⟨h.symm, by simpa [List.all_eq_true] using hall⟩
  · cases h

theorem enum_underlying_represents {items : List EnumItem} {t : IntTy} (hw : ItemsWf items)
    (h : Layout.enumUnderlying none items = .ok t) :
    ∃ vals, enumValues 0 true items = some vals ∧ ∀ v ∈ vals, Represents t v := by
  obtain ⟨vals, h1, h2, _⟩ := enum_spec_represents (enum_underlying_correct hw (fun _ h => nomatch h) h)
  exact ⟨vals, h1, h2⟩

/-- **Acceptance**: every enum the spec gives a type to is accepted by `tagspec` with that type — no spurious `error`.
(Before commit bb180d9 this failed for
`enum E : unsigned { A };`: the wrap-around test `value == 0 && !et->u.basic.issigned` also fired
on the first enumerator; `enumAcceptsWitness` below is that input, kept as a regression witness.) -/
theorem enum_accepts {fixed : Option IntTy} {items : List EnumItem} {t : IntTy}
    (hw : ItemsWf items) (hf : ∀ b, fixed = some b → ValidTy b)
    (h : Abi.enumUnderlying fixed items = some t) : Layout.enumUnderlying fixed items = .ok t :=
  toOption_eq_some.1 ((enumUnderlying_toOption hw hf).trans h)

theorem enum_underlying_iff {fixed : Option IntTy} {items : List EnumItem} {t : IntTy}
    (hw : ItemsWf items) (hf : ∀ b, fixed = some b → ValidTy b) :
    Layout.enumUnderlying fixed items = .ok t ↔ Abi.enumUnderlying fixed items = some t :=
  ⟨enum_underlying_correct hw hf, enum_accepts hw hf⟩

/-- `Layout.tinfo`: `sizeof`/`_Alignof`/flexibility by `declarator`'s array rule with its overflow guard and `tagspec`,
recursively. -/
theorem type_layout_correct {t : CType} (h : WfType t) :
    Layout.tinfo t = .ok (Abi.tinfo x86_64 t) := tinfo_ok t h

/-- `typemember` is what `offsetof` and `.`/`->` use; the offset accumulates through anonymous struct/union members. -/
theorem typemember_correct {t : CType} (name : String) (h : WfType t) :
    Layout.typemember t name = Abi.member x86_64 t name := typemember_ok t name h

/-! ## Tie to `/repo`'s own tables (`Gen/` is regenerated from `type.c`/`decl.c` on every run) -/

/-- Every integer type object of `type.c` meets the hypotheses `TypeWf`/`ValidTy` put on bit-field
and enum base types: size = alignment ∈ {1, 2, 4, 8}. -/
theorem basic_int_types_wf : ∀ r ∈ Gen.BasicTypes.table, "PROPINT" ∈ r.props →
    r.size = r.align ∧ r.size ≤ 8 ∧ Pow2 r.align ∧ ValidTy ⟨r.size, r.issigned⟩ := by decide +kernel

theorem basic_types_pow2 : ∀ r ∈ Gen.BasicTypes.table, Pow2 r.align ∧ r.size = r.align := by decide

def basicIntTy (var : String) : Option IntTy :=
  (Gen.BasicTypes.table.find? (·.var == var)).map fun r => ⟨r.size, r.issigned⟩

/-- `tagspec`'s candidate table `inttypes[][2]` is the model's `inttypes`. -/
theorem enum_candidates_tied : ∀ sign : Bool,
    Gen.IntLimits.enumTypes.map (fun p => basicIntTy (if sign then p.2 else p.1)) =
      (inttypes sign).map some := by decide +kernel

/-! ## Non-vacuity -/

/-- `struct S {char c; int x:5; long y:40; char d; int z:7; int :0; short w:9;}` -/
def exStruct : List Decl :=
  [⟨intTy 1, true, 0, none⟩, ⟨intTy 4, true, 0, some 5⟩, ⟨intTy 8, true, 0, some 40⟩,
   ⟨intTy 1, true, 0, none⟩, ⟨intTy 4, true, 0, some 7⟩, ⟨intTy 4, false, 0, some 0⟩,
   ⟨intTy 2, true, 0, some 9⟩]

example : Wf false false exStruct ∧ TypesWf exStruct := by decide
example : (Layout.layout false false exStruct).toOption.map (fun L => (L.size, L.align, L.members.map (fun m => (m.offset, m.before, m.after)))) =
    some (16, 8, [(0, 0, 0), (0, 8, 19), (0, 13, 11), (7, 0, 0), (8, 0, 25), (12, 0, 7)]) := by decide

/-- packed struct with an over-aligned member and a flexible array:
`struct __attribute__((packed)) {short a, b; _Alignas(8) float c; char d; long e[];}` -/
def exPacked : List Decl :=
  [⟨intTy 2, true, 0, none⟩, ⟨intTy 2, true, 0, none⟩, ⟨fltTy 4, true, 8, none⟩, ⟨intTy 1, true, 0, none⟩,
   ⟨{ size := 0, align := 8, incomplete := true, isArray := true }, true, 0, none⟩]

example : Wf false true exPacked ∧ TypesWf exPacked := by decide
example : (Layout.layout false true exPacked).toOption.map (fun L => (L.size, L.align, L.flexible, L.members.map (·.offset))) =
    some (16, 8, true, [0, 2, 8, 12, 13]) := by decide

/-- `union { int a; char b:3; long :0; double d; }` -/
def exUnion : List Decl :=
  [⟨intTy 4, true, 0, none⟩, ⟨intTy 1, true, 0, some 3⟩, ⟨intTy 8, false, 0, some 0⟩, ⟨fltTy 8, true, 0, none⟩]

example : Wf true false exUnion ∧ TypesWf exUnion := by decide
example : (Layout.layout true false exUnion).toOption.map (fun L => (L.size, L.align)) = some (8, 8) := by decide
example : Wf true false unionWitness ∧ TypesWf unionWitness ∧
    (Layout.layout true false unionWitness).toOption.map (fun L => (L.size, L.align, L.members.length)) = some (5, 1, 1) ∧
    (Abi.layout x86_64 true false unionWitness).size = 5 := by decide
-- `union { unsigned : 17; char c; }` = 3/1, `union { int : 0; char c; }` = 1/1,
-- `union { short : 9; short s; char : 3; }` = 2/2, `union { long : 64; char c; }` = 8/1
example : [[⟨intTy 4, false, 0, some 17⟩, ⟨intTy 1, true, 0, none⟩],
           [⟨intTy 4, false, 0, some 0⟩, ⟨intTy 1, true, 0, none⟩],
           [⟨intTy 2, false, 0, some 9⟩, ⟨intTy 2, true, 0, none⟩, ⟨intTy 1, false, 0, some 3⟩],
           [⟨intTy 8, false, 0, some 64⟩, ⟨intTy 1, true, 0, none⟩]].map
      (fun ds => (decide (Wf true false ds), (Layout.layout true false ds).toOption.map (fun L => (L.size, L.align)))) =
    [(true, some (3, 1)), (true, some (1, 1)), (true, some (2, 2)), (true, some (8, 1))] := by decide
example : ∀ d ∈ exStruct.take 5, d.unnamedBf = false := by decide
example : Wf false false (exStruct.take 5) := by decide
example : Wf false false aarch64Witness := by decide
example : Pow2 64 ∧ ¬ Pow2 48 := by decide
example : Fits 32 5 8 ∧ ¬ Fits 32 28 8 ∧ bfPos 8 32 28 = 32 ∧ bfPos 36 32 20 = 36 := by decide

/-- `enum { A = -1, B, C = 0xffffffff }` → `long`;  `enum { A = 0x7fffffff, B }` → `unsigned int` -/
example : ItemsWf [.explicit (2 ^ 64 - 1) tInt, .implicit, .explicit 0xffffffff tUInt] ∧
    Layout.enumUnderlying none [.explicit (2 ^ 64 - 1) tInt, .implicit, .explicit 0xffffffff tUInt] = .ok tLong := by
  decide
example : Layout.enumUnderlying none [.explicit 0x7fffffff tInt, .implicit] = .ok tUInt ∧
    Abi.enumUnderlying none [.explicit 0x7fffffff tInt, .implicit] = some tUInt := by decide
example : ValidTy ⟨2, false⟩ ∧ ItemsWf [.explicit 65535 tInt] ∧
    Layout.enumUnderlying (some ⟨2, false⟩) [.explicit 65535 tInt] = .ok ⟨2, false⟩ := by decide
-- enum_accepts: `enum E : unsigned short { A = 65535 }`, `enum E : long { A, B = -1 }`
example : ValidTy ⟨2, false⟩ ∧ ItemsWf [.explicit 65535 tInt] ∧
    Abi.enumUnderlying (some ⟨2, false⟩) [.explicit 65535 tInt] = some ⟨2, false⟩ := by decide
example : ValidTy tLong ∧ ItemsWf [.implicit, .explicit (2 ^ 64 - 1) tInt] ∧
    Abi.enumUnderlying (some tLong) [.implicit, .explicit (2 ^ 64 - 1) tInt] = some tLong := by decide
/-- `enum E : unsigned { A, B };` — the witness of the defect repaired by bb180d9 (before it, cproc
answered `error enum-no-type`) -/
def enumAcceptsWitness : List EnumItem := [.implicit, .implicit]
example : ValidTy tUInt ∧ ItemsWf enumAcceptsWitness ∧
    Abi.enumUnderlying (some tUInt) enumAcceptsWitness = some tUInt ∧
    Layout.enumUnderlying (some tUInt) enumAcceptsWitness = .ok tUInt := by decide
-- the wrap-around test still rejects what it is meant to reject (both sides):
-- `enum E : unsigned long { A = -1UL, B }`, `enum E : long { A = LONG_MAX, B }`, `enum { A = -1ULL, B }`
example : Layout.enumUnderlying (some tULong) [.explicit (2 ^ 64 - 1) tULong, .implicit] = .error .enumNoType ∧
    Abi.enumUnderlying (some tULong) [.explicit (2 ^ 64 - 1) tULong, .implicit] = none ∧
    Layout.enumUnderlying (some tLong) [.explicit (2 ^ 63 - 1) tLong, .implicit] = .error .enumNoType ∧
    Abi.enumUnderlying (some tLong) [.explicit (2 ^ 63 - 1) tLong, .implicit] = none ∧
    Layout.enumUnderlying none [.explicit (2 ^ 64 - 1) tULong, .implicit] = .error .enumNoType ∧
    Abi.enumUnderlying none [.explicit (2 ^ 64 - 1) tULong, .implicit] = none := by decide
-- an explicit 0 after an enumerator is not a wrap-around: `enum E : unsigned { A = 5, B = 0, C }`
example : Layout.enumUnderlying (some tUInt) [.explicit 5 tInt, .explicit 0 tInt, .implicit] = .ok tUInt := by decide
example : typehasint tInt (2 ^ 64 - 2 ^ 31) true = true ∧ typehasint tInt (2 ^ 64 - 2 ^ 31 - 1) true = false ∧
    typehasint tUInt (2 ^ 32) false = false := by decide

/-- `struct { char a; union { void *p; _Alignas(16) struct { short u; long double v; } q[3]; }; int f[]; }` -/
def exNested : CType :=
  .su false false (.cons (some "a") (.scalar 1 1 true) 0 none
    (.cons none (.su true false
        (.cons (some "p") (.scalar 8 8 false) 0 none
        (.cons (some "q") (.array (.su false false
            (.cons (some "u") (.scalar 2 2 true) 0 none
            (.cons (some "v") (.scalar 16 16 false) 0 none .nil))) (some 3)) 16 none .nil))) 0 none
    (.cons (some "f") (.array (.scalar 4 4 true) none) 0 none .nil)))

example : WfType exNested := by decide
example : (Layout.tinfo exNested).toOption.map (fun t => (t.size, t.align, t.flexible)) = some (112, 16, true) := by
  decide
example : (Layout.offsetof exNested "q" [.index 2, .field "v"]).toOption.map (·.1) = some 96 := by decide

end CprocVerif.C06
