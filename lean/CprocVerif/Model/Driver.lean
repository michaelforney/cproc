/-!
# Model of `/repo/driver.c` (the `cproc` driver): argument loop, stage selection, output naming,
pipeline and link command construction.

Strings are `List Char` (`Str`).  The model is a transliteration:

* `main`'s `if/strcmp` chain and `switch (arg[1])` are the table `optRows` *in source order*,
  interpreted by first match (`strcmp` = `Match.exact`, `strncmp` = `Match.pfx`,
  `case 'x':` = `Match.letter`; the pre-switch test `arg[2] != '\0' && strchr("cESsv", arg[1])`
  is the `bare` flag of a letter row).  `Gen/DriverTables.lean` is the same table extracted from
  the C source; `Props/C17` proves them equal (`gen_*`).
* `nextarg` (attached or following argument, `usage` when there is none) and the
  `if (!argv[1]) usage(NULL); … *++argv` form of `-include`, `-idirafter`, `-isystem`, `-iquote`,
  `-MT`, `-MF` are `nextarg` / `sepArg`.
* `buildobj` = `buildObj` (temporary object `Word.tmp i` for input number `i`), `spawnphase` =
  `mkInvs`, `buildexe` = `linkArgv`; `Plan.unlinks` = what the `atexit(cleanup)` handler removes
  (every temporary object recorded in `tmpfiles`).
-/

namespace CprocVerif.Driver

abbrev Str := List Char
abbrev str (x : String) : Str := x.toList

inductive FileType | none | asm | asmpp | c | chdr | cppout | obj | qbe
  deriving DecidableEq, Repr, Inhabited

inductive Stage | preprocess | compile | codegen | assemble | link
  deriving DecidableEq, Repr, Inhabited

def Stage.idx : Stage → Nat
  | .preprocess => 0 | .compile => 1 | .codegen => 2 | .assemble => 3 | .link => 4

def Stage.all : List Stage := [.preprocess, .compile, .codegen, .assemble, .link]

def Stage.name : Stage → String
  | .preprocess => "preprocess" | .compile => "compile" | .codegen => "codegen"
  | .assemble => "assemble" | .link => "link"

/-! ## Tables (each also extracted from the source into `Gen/DriverTables.lean`) -/

/-- `detectfiletype`: text after the last `.` → type; anything else is an object. -/
def suffixTable : List (Str × FileType) :=
  [(str "c", .c), (str "h", .chdr), (str "i", .cppout), (str "qbe", .qbe), (str "s", .asm), (str "S", .asmpp)]

/-- `switch (input->filetype)` in `main`: the stages an input of each type goes through.
`NONE` has no row (`default: usage("reading from standard input requires -x")`). -/
def maskTable : List (FileType × List Stage) :=
  [(.asm,    [.assemble, .link]),
   (.asmpp,  [.preprocess, .assemble, .link]),
   (.c,      [.preprocess, .compile, .codegen, .assemble, .link]),
   (.chdr,   [.preprocess]),
   (.cppout, [.compile, .codegen, .assemble, .link]),
   (.qbe,    [.codegen, .assemble, .link]),
   (.obj,    [.link])]

/-- `-x` languages. -/
def langTable : List (Str × FileType) :=
  [(str "none", .none), (str "c", .c), (str "c-header", .chdr), (str "cpp-output", .cppout),
   (str "qbe", .qbe), (str "assembler", .asm), (str "assembler-with-cpp", .asmpp)]

/-- `hasprefix(target, …)` chain: prefixes → (`-t` for cproc-qbe, `-t` for qbe). -/
def archTable : List (List Str × Str × Str) :=
  [([str "x86_64-", str "amd64-"], str "x86_64-sysv", str "amd64_sysv"),
   ([str "aarch64-"], str "aarch64", str "arm64"),
   ([str "riscv64-"], str "riscv64", str "rv64")]

/-- `-W<c>,…`: which command the comma list is appended to. -/
def wTable : List (Char × Stage) := [('p', .preprocess), ('a', .assemble), ('l', .link)]

inductive Match
  | exact (s : Str)                 -- strcmp(arg, s) == 0
  | pfx (s : Str)                   -- strncmp(arg, s, strlen s) == 0
  | letter (c : Char) (bare : Bool) -- case c: of switch (arg[1]); bare: usage unless arg[2] == 0
  deriving DecidableEq, Repr

inductive Piece
  | lit (s : Str)   -- a string literal
  | self            -- `arg`
  | joined          -- `nextarg(&argv)`: rest of this argument, or the next argument
  | sep             -- `*++argv` after `if (!argv[1]) usage(NULL)`
  deriving DecidableEq, Repr

inductive Act
  | add (st : Stage) (ps : List Piece)               -- arrayaddptr(&stages[st].cmd, …) …
  | last (s : Stage)                                  -- last = s
  | addLast (st : Stage) (ps : List Piece) (s : Stage)
  | nostdlib | verbose | ignore | usage
  | lib        -- input { name = nextarg, lib = true, filetype = OBJ, stages = 1<<LINK }
  | output     -- output = nextarg
  | lang       -- -x
  | wcomma     -- -W: `-W<c>,a,b` forwarded by `wTable`, everything else ignored
  deriving DecidableEq, Repr

structure OptRow where
  m : Match
  act : Act
  deriving DecidableEq, Repr

/-- The option chain of `main`, in source order (first match wins). -/
def optRows : List OptRow :=
  [⟨.exact (str "-nostdlib"), .nostdlib⟩,
   ⟨.exact (str "-nostdinc"), .add .preprocess [.self]⟩,
   ⟨.exact (str "-static"), .add .link [.self]⟩,
   ⟨.exact (str "-emit-qbe"), .last .compile⟩,
   ⟨.exact (str "-include"), .add .preprocess [.self, .sep]⟩,
   ⟨.exact (str "-idirafter"), .add .preprocess [.self, .sep]⟩,
   ⟨.exact (str "-isystem"), .add .preprocess [.self, .sep]⟩,
   ⟨.exact (str "-iquote"), .add .preprocess [.self, .sep]⟩,
   ⟨.exact (str "-pipe"), .ignore⟩,
   ⟨.pfx (str "-std="), .add .preprocess [.self]⟩,
   ⟨.exact (str "-pedantic"), .ignore⟩,
   ⟨.exact (str "-pthread"), .add .link [.lit (str "-l"), .lit (str "pthread")]⟩,
   ⟨.letter 'c' true, .last .assemble⟩,
   ⟨.letter 'D' false, .add .preprocess [.lit (str "-D"), .joined]⟩,
   ⟨.letter 'E' true, .last .preprocess⟩,
   ⟨.letter 'g' false, .ignore⟩,
   ⟨.letter 'I' false, .add .preprocess [.lit (str "-I"), .joined]⟩,
   ⟨.letter 'L' false, .add .link [.lit (str "-L"), .joined]⟩,
   ⟨.letter 'l' false, .lib⟩,
   ⟨.exact (str "-M"), .addLast .preprocess [.self] .preprocess⟩,
   ⟨.exact (str "-MM"), .addLast .preprocess [.self] .preprocess⟩,
   ⟨.exact (str "-MD"), .add .preprocess [.self]⟩,
   ⟨.exact (str "-MMD"), .add .preprocess [.self]⟩,
   ⟨.exact (str "-MT"), .add .preprocess [.self, .sep]⟩,
   ⟨.exact (str "-MF"), .add .preprocess [.self, .sep]⟩,
   ⟨.letter 'M' false, .usage⟩,
   ⟨.letter 'O' false, .ignore⟩,
   ⟨.letter 'o' false, .output⟩,
   ⟨.letter 'P' false, .add .preprocess [.lit (str "-P")]⟩,
   ⟨.letter 'S' true, .last .codegen⟩,
   ⟨.letter 's' true, .add .link [.lit (str "-s")]⟩,
   ⟨.letter 'U' false, .add .preprocess [.lit (str "-U"), .joined]⟩,
   ⟨.letter 'v' true, .verbose⟩,
   ⟨.letter 'W' false, .wcomma⟩,
   ⟨.letter 'x' false, .lang⟩]

/-! ## String helpers -/

/-- `strncmp(a, p, strlen p) == 0`. -/
def isPfx : Str → Str → Bool
  | [], _ => true
  | _ :: _, [] => false
  | p :: ps, a :: as => p == a && isPfx ps as

/-- text after the last `.` (`strrchr(name, '.') + 1`), if there is a dot. -/
def lastDotSuffix (n : Str) : Option Str :=
  let r := n.reverse
  let suf := r.takeWhile (· != '.')
  if suf.length < r.length then some suf.reverse else none

def detectFileType (name : Str) : FileType :=
  match lastDotSuffix name with
  | some suf => (suffixTable.lookup suf).getD .obj
  | none => .obj

/-- `strrchr(name, '/')`: the part after the last slash (the whole name if there is none). -/
def afterLastSlash (n : Str) : Str := (n.reverse.takeWhile (· != '/')).reverse

/-- `changeext`: directory dropped, text from the last `.` replaced by `.ext`. -/
def changeext (n ext : Str) : Str :=
  let b := afterLastSlash n
  let r := b.reverse
  let suf := r.takeWhile (· != '.')
  let base := if suf.length < r.length then (r.drop (suf.length + 1)).reverse else b
  base ++ '.' :: ext

/-- the `strchr(arg, ',')` loop of `-W<c>,…` (always at least one piece, empty pieces kept). -/
def splitComma : Str → List Str
  | [] => [[]]
  | c :: cs =>
    if c = ',' then [] :: splitComma cs
    else match splitComma cs with
      | h :: t => (c :: h) :: t
      | [] => [[c]]

/-! ## The argument loop -/

structure Input where
  name : Str
  stages : List Stage
  ftype : FileType
  lib : Bool
  deriving DecidableEq, Repr

inductive UsageWhy | plain | stdinNeedsX | unknownLang | unknownOpt | objToStdout | oMulti
  deriving DecidableEq, Repr

inductive Refusal
  | usage (why : UsageWhy)   -- `usage(...)`: message, exit 2
  deriving DecidableEq, Repr

structure PState where
  last : Stage := .link
  ftype : FileType := .none
  output : Option Str := none
  inputs : List Input := []
  cpp : List Str := []    -- appended to stages[PREPROCESS].cmd after the configured command
  cc : List Str := []
  qbe : List Str := []
  as : List Str := []
  ld : List Str := []
  nostdlib : Bool := false
  verbose : Bool := false
  deriving DecidableEq, Repr

def PState.addTo (s : PState) : Stage → List Str → PState
  | .preprocess, ws => { s with cpp := s.cpp ++ ws }
  | .compile, ws => { s with cc := s.cc ++ ws }
  | .codegen, ws => { s with qbe := s.qbe ++ ws }
  | .assemble, ws => { s with as := s.as ++ ws }
  | .link, ws => { s with ld := s.ld ++ ws }

def PState.user (s : PState) : Stage → List Str
  | .preprocess => s.cpp | .compile => s.cc | .codegen => s.qbe | .assemble => s.as | .link => s.ld

inductive StepR
  | next (s : PState) (consumed : Bool)   -- continue; `consumed`: the following argument was used
  | refuse (r : Refusal)
  deriving Repr

inductive ArgR | ok (v : Str) (consumed : Bool) | usage

/-- `nextarg(&argv)`. -/
def nextarg (arg : Str) (next : Option Str) : ArgR :=
  match arg.drop 2 with
  | [] => match next with
    | some n => .ok n true
    | none => .usage
  | v => .ok v false

/-- `if (!argv[1]) usage(NULL); … *++argv`. -/
def sepArg (next : Option Str) : ArgR :=
  match next with
  | some n => .ok n true
  | none => .usage

def evalPieces (ps : List Piece) (arg v : Str) : List Str :=
  ps.map fun
    | .lit s => s
    | .self => arg
    | .joined => v
    | .sep => v

def Match.matches : Match → Str → Bool
  | .exact s, a => a == s
  | .pfx p, a => isPfx p a
  | .letter c _, a => (a.drop 1).head? == some c

def Match.bareViolated : Match → Str → Bool
  | .letter _ true, a => a.length > 2
  | _, _ => false

def maskOf (ft : FileType) : Option (List Stage) := maskTable.lookup ft

/-- a non-option argument: `input = arrayadd(&inputs, …)`. -/
def addInput (s : PState) (arg : Str) : Except Refusal PState :=
  let ft := if s.ftype == .none && arg != ['-'] then detectFileType arg else s.ftype
  match maskOf ft with
  | none => .error (.usage .stdinNeedsX)
  | some m => .ok { s with inputs := s.inputs ++ [{ name := arg, stages := m, ftype := ft, lib := false }] }

def applyAdd (s : PState) (st : Stage) (ps : List Piece) (arg : Str) (next : Option Str)
    (k : PState → PState) : StepR :=
  if ps.contains .joined then
    match nextarg arg next with
    | .ok v c => .next (k (s.addTo st (evalPieces ps arg v))) c
    | .usage => .refuse (.usage .plain)
  else if ps.contains .sep then
    match sepArg next with
    | .ok v c => .next (k (s.addTo st (evalPieces ps arg v))) c
    | .usage => .refuse (.usage .plain)
  else .next (k (s.addTo st (evalPieces ps arg []))) false

def withNextarg (s : PState) (arg : Str) (next : Option Str) (k : PState → Str → Except Refusal PState) : StepR :=
  match nextarg arg next with
  | .ok v c =>
    match k s v with
    | .ok s' => .next s' c
    | .error r => .refuse r
  | .usage => .refuse (.usage .plain)

def applyAct (s : PState) (a : Act) (arg : Str) (next : Option Str) : StepR :=
  match a with
  | .add st ps => applyAdd s st ps arg next id
  | .last l => .next { s with last := l } false
  | .addLast st ps l => applyAdd s st ps arg next (fun s => { s with last := l })
  | .nostdlib => .next { s with nostdlib := true } false
  | .verbose => .next { s with verbose := true } false
  | .ignore => .next s false
  | .usage => .refuse (.usage .plain)
  | .lib => withNextarg s arg next fun s v =>
      .ok { s with inputs := s.inputs ++ [{ name := v, stages := [.link], ftype := .obj, lib := true }] }
  | .output => withNextarg s arg next fun s v => .ok { s with output := some v }
  | .lang => withNextarg s arg next fun s v =>
      match langTable.lookup v with
      | some ft => .ok { s with ftype := ft }
      | none => .error (.usage .unknownLang)
  | .wcomma =>
    match arg.drop 2 with
    | t :: ',' :: rest =>
      match wTable.lookup t with
      | some st => .next (s.addTo st (splitComma rest)) false
      | none => .refuse (.usage .plain)
    | _ => .next s false

/-- `arg[0] != '-' || arg[1] == '\0'`. -/
def isInputArg : Str → Bool
  | '-' :: _ :: _ => false
  | _ => true

def firstMatch (arg : Str) : Option OptRow := optRows.find? (·.m.matches arg)

/-- One iteration of the `for (;;)` loop of `main`. -/
def step (s : PState) (arg : Str) (next : Option Str) : StepR :=
  if isInputArg arg then
    match addInput s arg with
    | .ok s' => .next s' false
    | .error r => .refuse r
  else
    match firstMatch arg with
    | none => .refuse (.usage .unknownOpt)
    | some r =>
      if r.m.bareViolated arg then .refuse (.usage .plain)
      else applyAct s r.act arg next

def parse (s : PState) : List Str → Except Refusal PState
  | [] => .ok s
  | a :: rest =>
    match step s a rest.head? with
    | .refuse r => .error r
    | .next s' false => parse s' rest
    | .next s' true => parse s' rest.tail
  termination_by l => l.length
  decreasing_by all_goals simp_wf <;> (try simp [List.length_tail]) <;> omega

/-- the checks between the loop and the first `buildobj`. -/
def check (s : PState) : Except Refusal Unit :=
  if s.inputs.isEmpty then .error (.usage .plain)
  else match s.output with
    | none => .ok ()
    | some o =>
      if o = ['-'] then
        (if s.last.idx ≥ Stage.assemble.idx then .error (.usage .objToStdout) else .ok ())
      else if s.last ≠ .link ∧ s.inputs.length > 1 then .error (.usage .oMulti)
      else .ok ()

/-! ## Plans -/

inductive Word
  | lit (s : Str)
  | tmp (i : Nat)     -- the `/tmp/cproc-XXXXXX` object made for input number `i`
  deriving DecidableEq, Repr

inductive Src | file | inherit | prev deriving DecidableEq, Repr
inductive Dst | pipe | path (w : Word) | stdout deriving DecidableEq, Repr

structure Inv where
  stage : Stage
  base : List Str      -- stages[i].cmd[0 .. cmdbase)
  io : List Word       -- `-o output` (last stage) and the input name (first stage)
  src : Src
  dst : Dst
  deriving DecidableEq, Repr

def Inv.argv (i : Inv) : List Word := i.base.map .lit ++ i.io

structure Pipeline where
  input : Nat
  invs : List Inv
  deriving DecidableEq, Repr

structure LinkItem where
  word : Word
  lib : Bool
  ftype : FileType
  deriving DecidableEq, Repr

structure Plan where
  pipelines : List Pipeline
  link : Option (List Word)    -- argv of the link step
  unlinks : List Word          -- removed after the link step
  verbose : Bool
  deriving DecidableEq, Repr

inductive Outcome
  | fatalTarget
  | refused (r : Refusal)
  | run (p : Plan)
  deriving DecidableEq, Repr

structure Config where
  target : Str
  startfiles : List Str
  endfiles : List Str
  preprocesscmd : List Str
  compilecmd : List Str     -- [readlink("/proc/self/exe") ++ "-qbe"]
  codegencmd : List Str
  assemblecmd : List Str
  linkcmd : List Str
  deriving Repr

def archOf (target : Str) : Option (Str × Str) :=
  (archTable.find? fun r => r.1.any fun p => isPfx p target).map (·.2)

/-- `stages[st].cmd[0 .. cmdbase)` after the argument loop. -/
def baseCmd (cfg : Config) (arch : Str × Str) (s : PState) : Stage → List Str
  | .preprocess => cfg.preprocesscmd ++ s.cpp
  | .compile => cfg.compilecmd ++ [str "-t", arch.1] ++ s.cc
  | .codegen => cfg.codegencmd ++ [str "-t", arch.2] ++ s.qbe
  | .assemble => cfg.assemblecmd ++ s.as
  | .link => cfg.linkcmd ++ s.ld

/-- the spawn loop of `buildobj` (`spawnphase`). -/
def mkInvs (base : Stage → List Str) (name : Option Str) (out : Option Word) : Bool → List Stage → List Inv
  | _, [] => []
  | first, st :: rest =>
    let lastp := rest.isEmpty
    { stage := st
      base := base st
      io := (if lastp then (match out with | some w => [.lit (str "-o"), w] | none => []) else []) ++
            (if first then (match name with | some n => [.lit n] | none => []) else [])
      src := if first then (if name.isSome then .file else .inherit) else .prev
      dst := if lastp then (match out with | some w => .path w | none => .stdout) else .pipe } ::
      mkInvs base name out false rest

/-- output naming of `buildobj`; `sts` = stages already cut at `last`. -/
def objOutput (idx : Nat) (name : Str) (sts : List Stage) (output : Option Str) : Option Word :=
  if sts.contains .link then some (.tmp idx)
  else match output with
    | some o => if o = ['-'] then none else some (.lit o)
    | none =>
      if sts.contains .assemble then some (.lit (changeext name (str "o")))
      else if sts.contains .codegen then some (.lit (changeext name (str "s")))
      else if sts.contains .compile then some (.lit (changeext name (str "qbe")))
      else none

/-- the body of the `arrayforeach (&inputs, input)` loop: skip, or `buildobj`. -/
def buildObj (base : Stage → List Str) (last : Stage) (output : Option Str) (idx : Nat) (inp : Input) :
    Option Pipeline × Option LinkItem :=
  let keep : LinkItem := { word := .lit inp.name, lib := inp.lib, ftype := inp.ftype }
  if !inp.stages.contains last then (none, none)          -- `input->name = NULL; continue;`
  else if inp.ftype == .obj then (none, some keep)
  else
    let sts := inp.stages.filter (·.idx ≤ last.idx)
    let out := objOutput idx inp.name sts output
    let name := if inp.name = ['-'] then none else some inp.name
    (some { input := idx, invs := mkInvs base name out true (sts.filter (· != .link)) },
     out.map fun w => { keep with word := w })

def buildAll (base : Stage → List Str) (last : Stage) (output : Option Str) : Nat → List Input →
    List (Option Pipeline × Option LinkItem)
  | _, [] => []
  | i, inp :: rest => buildObj base last output i inp :: buildAll base last output (i + 1) rest

/-- `buildexe`'s command. -/
def linkArgv (cfg : Config) (base : List Str) (nostdlib : Bool) (output : Option Str) (items : List LinkItem) :
    List Word :=
  base.map .lit ++ [.lit (str "-o"), .lit (output.getD (str "a.out"))] ++
    (if nostdlib then [] else cfg.startfiles.map .lit) ++
    items.flatMap (fun it => (if it.lib then [Word.lit (str "-l")] else []) ++ [it.word]) ++
    (if nostdlib then [] else cfg.endfiles.map .lit)

def build (cfg : Config) (arch : Str × Str) (s : PState) : Plan :=
  let base := baseCmd cfg arch s
  let rs := buildAll base s.last s.output 0 s.inputs
  let items := rs.filterMap (·.2)
  { pipelines := rs.filterMap (·.1)
    link := if s.last = .link then some (linkArgv cfg (base .link) s.nostdlib s.output items) else none
    unlinks := (items.filter fun it => match it.word with | .tmp _ => true | .lit _ => false).map (·.word)
    verbose := s.verbose }

/-- `main`. -/
def plan (cfg : Config) (argv : List Str) : Outcome :=
  match archOf cfg.target with
  | none => .fatalTarget
  | some arch =>
    match parse {} argv with
    | .error r => .refused r
    | .ok s =>
      match check s with
      | .error r => .refused r
      | .ok () => .run (build cfg arch s)

end CprocVerif.Driver
