/-!
# Executable model of `/repo/map.c`

Open addressing with linear probing, power-of-two capacity, growth (doubling and rehashing every
entry) when `cap / 2 < len` at the start of `mapput`.  There is no delete.

* A key is `(hash, bytes)`.  The hash is a FREE field: nothing in this file (or in the theorems
  about it) assumes that it is FNV-1a of the bytes, or even a function of the bytes.
  `keyequal` of map.c (equal hash, equal length, equal bytes) is structural equality of `Key`.
* Values are `Nat`, `0` = `NULL`.  `mapget` cannot distinguish "absent" from "stored NULL".
* The two C arrays `keys[]`/`vals[]` are one array of `Option (Key × Nat)`;
  `keys[i].str == NULL` is `slots[i] = none`.
* `i & (cap - 1)` is modelled as `i % cap`; `Lemmas/Map.lean` proves both agree for `cap = 2^k`
  (`mask_eq_mod`), and `Props/C16.lean` that the `&&&` version of the loop (`keyindexMask`) equals
  `keyindex` (`keyindex_mask`).
* The `while` loop of `keyindex` gets fuel `cap`; `none` means "did not stop within `cap` steps"
  (for the C code: never stops, since the probe sequence is periodic with period `cap`).
-/
namespace CprocVerif.Map

/-- `struct mapkey`: the hash is an independent field. -/
structure Key where
  hash : Nat
  bytes : List Nat
deriving DecidableEq, Repr, Inhabited

/-- One slot: `none` = `keys[i].str == NULL`; `some (k, v)` = key `k` with `vals[i] = v`. -/
abbrev Slot := Option (Key × Nat)

/-- `struct map`. -/
structure Map where
  cap : Nat
  len : Nat
  slots : Array Slot
deriving Repr, Inhabited

/-- `mapinit(h, cap)` (the C code asserts `!(cap & cap - 1)`; that is a caller obligation here). -/
def init (cap : Nat) : Map := { cap := cap, len := 0, slots := Array.replicate cap none }

/-- A `struct map` on which `mapinit` has not been called; only `len = 0` is meaningful
    (scope.c sets `len = 0` in `mkscope` and tests it before every use). -/
def uninit : Map := { cap := 0, len := 0, slots := #[] }

/-- The `while` loop of `keyindex`: first argument is the fuel, second the current index `i`. -/
def keyindexFrom (slots : Array Slot) (cap : Nat) (k : Key) : Nat → Nat → Option Nat
  | 0, _ => none
  | f+1, i =>
    match slots[i]? with
    | some (some (k', _)) => if k' = k then some i else keyindexFrom slots cap k f ((i + 1) % cap)
    | _ => some i

/-- `keyindex` on a raw slot array. -/
def keyindexS (slots : Array Slot) (cap : Nat) (k : Key) : Option Nat :=
  keyindexFrom slots cap k cap (k.hash % cap)

/-- `keyindex(h, k)`; `none` = the loop does not terminate. -/
def keyindex (m : Map) (k : Key) : Option Nat := keyindexS m.slots m.cap k

/-- The same loop written with `&` as in the C source (used only for the bridging lemma). -/
def keyindexFromMask (slots : Array Slot) (cap : Nat) (k : Key) : Nat → Nat → Option Nat
  | 0, _ => none
  | f+1, i =>
    match slots[i]? with
    | some (some (k', _)) =>
      if k' = k then some i else keyindexFromMask slots cap k f ((i + 1) &&& (cap - 1))
    | _ => some i

def keyindexMask (m : Map) (k : Key) : Option Nat :=
  keyindexFromMask m.slots m.cap k m.cap (k.hash &&& (m.cap - 1))

/-- Body of the rehash loop: `j = keyindex(h, &oldkeys[i]); keys[j] = oldkeys[i]; vals[j] = oldvals[i]`. -/
def reinsert (slots : Array Slot) (cap : Nat) (k : Key) (v : Nat) : Array Slot :=
  match keyindexS slots cap k with
  | some j => slots.setIfInBounds j (some (k, v))
  | none => slots

/-- The rehash loop over the old arrays, in index order. -/
def rehash (old : Array Slot) (cap : Nat) : Array Slot :=
  old.foldl (fun acc s =>
    match s with
    | some (k, v) => reinsert acc cap k v
    | none => acc) (Array.replicate cap none)

/-- The growth branch of `mapput`: `cap *= 2`, fresh arrays, rehash. `len` is unchanged. -/
def grow (m : Map) : Map :=
  { cap := m.cap * 2, len := m.len, slots := rehash m.slots (m.cap * 2) }

/-- The growth branch at the start of `mapput`: `if (h->cap / 2 < h->len) { … }`. -/
def maybeGrow (m : Map) : Map := if m.cap / 2 < m.len then grow m else m

/-- The rest of `mapput` after the growth branch:
    `i = keyindex(h, k); if (!h->keys[i].str) { keys[i] = *k; vals[i] = NULL; ++len; } return &vals[i];` -/
def mapputTail (m : Map) (k : Key) : Map × Nat :=
  match keyindex m k with
  | none => (m, 0)   -- unreachable under the invariant (`keyindex_terminates`)
  | some i =>
    match m.slots[i]? with
    | some (some _) => (m, i)
    | _ => ({ cap := m.cap, len := m.len + 1, slots := m.slots.setIfInBounds i (some (k, 0)) }, i)

/-- `mapput(h, k)`: returns the table and the index of the value slot (`&h->vals[i]`).
    A new key gets value `NULL`. -/
def mapput (m : Map) (k : Key) : Map × Nat := mapputTail (maybeGrow m) k

/-- `*p` for a pointer returned by `mapput`. -/
def valAt (m : Map) (i : Nat) : Nat :=
  match m.slots[i]? with
  | some (some (_, v)) => v
  | _ => 0

/-- `*p = v` for a pointer returned by `mapput` (the key in the slot is untouched). -/
def setVal (m : Map) (i : Nat) (v : Nat) : Map :=
  match m.slots[i]? with
  | some (some (k, _)) => { cap := m.cap, len := m.len, slots := m.slots.setIfInBounds i (some (k, v)) }
  | _ => m

/-- `*mapput(h, k) = v` (`v` may be `NULL`, e.g. `#undef`). -/
def put (m : Map) (k : Key) (v : Nat) : Map :=
  let r := mapput m k
  setVal r.1 r.2 v

/-- `entry = mapput(h, k); if (*entry) reuse *entry; else *entry = v;`
    (decl.c `stringdecl`, qbe.c `funcgoto`).  Returns the table and the value in the slot afterwards. -/
def putKeep (m : Map) (k : Key) (v : Nat) : Map × Nat :=
  let r := mapput m k
  let old := valAt r.1 r.2
  if old ≠ 0 then (r.1, old) else (setVal r.1 r.2 v, v)

/-- `mapget(h, k)`. -/
def get (m : Map) (k : Key) : Nat :=
  match keyindex m k with
  | none => 0   -- unreachable under the invariant (`keyindex_terminates`)
  | some i => valAt m i

end CprocVerif.Map
