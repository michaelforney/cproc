import CprocVerif.Lemmas.LinkageSim

/-!
`Inv A s`: the entries of the model state `s` (after the declarations whose annotated list is `A`)
are in the simulation relation with the aggregates of `A`.  `sim_all` carries it over one
declaration; `InvOut` relates what was printed to what the spec expects to have been printed.
-/
namespace CprocVerif.Linkage
open CprocVerif.Link

/-- `steps init` on a history given newest-first, the order in which `annot` and `verdictRev` take it -/
def stepsRev : List Form → Except Err State
  | [] => .ok init
  | f :: older => match stepsRev older with
    | .ok s => step s f
    | .error e => .error e

theorem steps_append (s : State) (l : List Form) (f : Form) :
    steps s (l ++ [f]) = (match steps s l with | .ok s' => step s' f | .error e => .error e) := by
  induction l generalizing s with
  | nil => simp only [List.nil_append, steps]; cases step s f <;> rfl
  | cons g l ih =>
    simp only [List.cons_append, steps]
    cases step s g with
    | error e => rfl
    | ok s' => exact ih s'

theorem steps_rev (r : List Form) : steps init r.reverse = stepsRev r := by
  induction r with
  | nil => rfl
  | cons f older ih => rw [List.reverse_cons, steps_append, ih]; rfl

theorem annot_forms (r : List Form) : (annot r).map (·.form) = r := by
  induction r with
  | nil => rfl
  | cons f older ih => simp only [annot, List.map_cons, ih]

theorem annot_any (r : List Form) (p : Form → Bool) : (annot r).any (fun d => p d.form) = r.any p := by
  conv => rhs; rw [← annot_forms r]
  rw [List.any_map]
  rfl

theorem annot_all (r : List Form) (p : Form → Bool) : (annot r).all (fun d => p d.form) = r.all p := by
  conv => rhs; rw [← annot_forms r]
  rw [List.all_map]
  rfl

theorem aggs_hasDef (r : List Form) :
    (aggs (annot r)).hasDef = r.any (fun f => decide (f.scope = .file) && f.hasDef) :=
  annot_any r fun f => decide (f.scope = .file) && f.hasDef

theorem aggs_fTent (r : List Form) :
    (aggs (annot r)).fTent =
      r.any (fun f => decide (f.scope = .file) && decide (f.kind = .obj ∧ ¬ f.hasDef = true ∧ f.sc ≠ .extern)) :=
  (List.any_filter ..).trans (annot_any r fun f =>
    decide (f.scope = .file) && decide (f.kind = .obj ∧ ¬ f.hasDef = true ∧ f.sc ≠ .extern))

theorem aggs_fPure (r : List Form) :
    (aggs (annot r)).fPure =
      r.all (fun f => !decide (f.scope = .file) || decide (f.kind = .func → f.flag = true ∧ f.sc ≠ .extern)) :=
  (List.all_filter ..).trans (annot_all r fun f =>
    !decide (f.scope = .file) || decide (f.kind = .func → f.flag = true ∧ f.sc ≠ .extern))

def topOf (s : State) : Option Ent := s.blocks.head?.join

/-- If a block is open, the innermost one holds an entry: the declaration that opened it stored one there, and a file-scope
declaration closes all blocks.  So the search of `view` through the scopes that enclose a new nested block stops at its first
step, and the lookups are those of `viewOf` on the file-scope entry and the innermost block's entry alone (`view_enter`). -/
def Shape (s : State) : Prop := s.blocks = [] ∨ ∃ e rest, s.blocks = some e :: rest

theorem view_enter (s : State) (hs : Shape s) (sc : Scope) :
    ViewEq (view (enter s sc) (decide (sc = .file))) (viewOf s.file (topOf s) sc) := by
  rcases hs with hb | ⟨e, rest, hb⟩ <;> cases sc <;> simp [ViewEq, view, enter, viewOf, topOf, hb]

theorem apply_enter (s : State) (sc : Scope) (e : Eff) :
    (apply (enter s sc) (decide (sc = .file)) e).file = (if sc = .file then some e.ent else s.file) ∧
    topOf (apply (enter s sc) (decide (sc = .file)) e) = (if sc = .file then none else some e.ent) ∧
    Shape (apply (enter s sc) (decide (sc = .file)) e) := by
  unfold apply
  cases sc <;> cases e.global <;> cases e.emit <;> simp [store, enter, topOf, Shape] <;> split <;> simp

structure Inv (A : List Decl) (s : State) : Prop where
  shape : Shape s
  rel : related (aggs A) s.file (topOf s) = true

theorem inv_init : Inv [] init := ⟨Or.inl rfl, by decide⟩

theorem isError_iff {α} (x : Except Err α) : isError x = true ↔ ∃ e, x = .error e := by
  cases x <;> simp [isError]

theorem declare_localViol (v : View) (f : Form) (h : localViol f = true) :
    isError (declare v f) = true := by
  rcases f with ⟨k, sc, fl, s, hd, a⟩
  simp only [localViol, Bool.or_eq_true, decide_eq_true_eq] at h
  rcases h with ((⟨rfl, rfl, h⟩ | ⟨rfl, rfl, h⟩) | ⟨rfl, h, rfl⟩) | ⟨rfl, h, rfl, rfl⟩ <;>
    simp only [declare, declFunc, declObj] <;> cases declcommon v _ <;>
    simp [apply_ite isError, isError.eq_1, h]

theorem step_eq (s : State) (hs : Shape s) (f : Form) :
    step s f = (declare (viewOf s.file (topOf s) f.scope) f).map
      (apply (enter s f.scope) (decide (f.scope = .file))) := by
  unfold step
  simp only
  rw [declare_congr (view_enter s hs f.scope)]
  cases declare (viewOf s.file (topOf s) f.scope) f <;> rfl

theorem step_error {s : State} (hs : Shape s) {f : Form}
    (h : isError (declare (viewOf s.file (topOf s) f.scope) f) = true) : ∃ e, step s f = .error e := by
  obtain ⟨e, he⟩ := (isError_iff _).1 h
  exact ⟨e, by rw [step_eq s hs, he]; rfl⟩

theorem verdictRev_cons_ok {f : Form} {older : List Form} (h : verdictRev (f :: older) = .ok) :
    verdictRev older = .ok ∧ judge f (annot older) = .ok := by
  simp only [verdictRev] at h
  cases hv : verdictRev older <;> rw [hv] at h <;> simp_all

theorem devT_cons (f : Form) (older : List Form) :
    threadTentativeThenInitRev (f :: older) =
      (devTStep f (aggs (annot older)) || threadTentativeThenInitRev older) := by
  have h := annot_any older (fun g => decide (g.kind = .obj ∧ g.scope = .file ∧ g.flag ∧ ¬ g.hasDef ∧ g.sc ≠ .extern))
  simp only [threadTentativeThenInitRev, devTStep, aggs]
  rw [h]
  congr 1
  rw [Bool.eq_iff_iff]
  simp only [decide_eq_true_eq, Bool.and_eq_true, and_assoc, and_left_comm]

theorem devI_cons (f : Form) (older : List Form) :
    inlineThenExternRev (f :: older) =
      (devIStep f (aggs (annot older)) || inlineThenExternRev older) := by
  simp only [inlineThenExternRev, devIStep, aggs_hasDef, aggs_fPure, List.all_filter, pureInline]
  congr 1
  rw [Bool.eq_iff_iff]
  simp only [decide_eq_true_eq, Bool.and_eq_true, and_assoc, Bool.decide_and, Bool.decide_eq_true]

def symOf (n : SymName) (t : Bool × Bool × Bool × Bool) : Sym := ⟨n, t.1, t.2.1, t.2.2.1, t.2.2.2⟩

def nameOf (a : Agg) : SymName :=
  match a.label with
  | some l => .asm l
  | none => .plain

theorem entityName_eq (A : List Decl) : entityName A = nameOf (aggs A) := rfl

theorem nameOf_not_loc (a : Agg) : (nameOf a).isLoc = false := by
  unfold nameOf; cases a.label <;> rfl

theorem apply_out (s : State) (sc : Scope) (e : Eff) :
    (apply (enter s sc) (decide (sc = .file)) e).nextId = (match e.global with
      | none => s.nextId
      | some _ => (mkglobal s.nextId e.ent).2) ∧
    (apply (enter s sc) (decide (sc = .file)) e).refs = (match e.global with
      | none => s.refs
      | some th => s.refs ++ [⟨(mkglobal s.nextId e.ent).1, th⟩]) ∧
    (apply (enter s sc) (decide (sc = .file)) e).out = (match e.global, e.emit with
      | some _, some (isF, z) => s.out ++ [mkSym (mkglobal s.nextId e.ent).1 e.ent isF z]
      | _, _ => s.out) := by
  have hs : (enter s sc).out = s.out ∧ (enter s sc).refs = s.refs ∧ (enter s sc).nextId = s.nextId := by
    cases sc
    · exact ⟨rfl, rfl, rfl⟩
    · simp only [enter]; split <;> exact ⟨rfl, rfl, rfl⟩
    · simp only [enter]; split <;> exact ⟨rfl, rfl, rfl⟩
  rw [← hs.1, ← hs.2.1, ← hs.2.2]
  generalize enter s sc = t, decide (sc = .file) = fs
  unfold apply
  rcases e with ⟨ent, _ | th, _ | ⟨isF, z⟩⟩ <;> cases fs <;> simp [store]

theorem mkglobal_linked {d : Ent} {a : Agg} (n : Nat) (hl : d.link ≠ .none) (ha : d.asm = a.label) :
    mkglobal n d = (nameOf a, n) := by
  unfold mkglobal nameOf
  rw [ha]
  cases a.label <;> simp [hl]

theorem mkglobal_local {d : Ent} (n : Nat) (hl : d.link = .none) (ha : d.asm = none) :
    mkglobal n d = (.loc (n + 1), n + 1) := by
  unfold mkglobal
  rw [ha]
  simp [hl]

theorem countBlockStatics_cons (d : Decl) (A : List Decl) :
    countBlockStatics (d :: A) = if d.blockStatic then countBlockStatics A + 1 else countBlockStatics A := by
  unfold countBlockStatics
  by_cases h : d.blockStatic <;> simp [h]

theorem emittedA_nil {A : List Decl} (h : linkedDecls A = []) : emittedA (aggs A) = none := by
  simp [emittedA, pendingA, mainA, aggs, h]

def entRef (a : Agg) : Ref := ⟨nameOf a, a.lThread⟩

/-- What has been printed and referenced so far, against the history: the `$.Lx.N` symbols are the
block-scope statics, each referenced once where it is declared; the other symbol, if any, is the
entity's definition as far as the spec expects it by now; every declaration with linkage left one
reference to the entity. -/
structure InvOut (A : List Decl) (s : State) : Prop where
  nid : s.nextId = countBlockStatics A
  locs : s.out.filter (fun y => y.name.isLoc) = localsRev A
  mains : s.out.filter (fun y => !y.name.isLoc) =
    (emittedA (aggs A)).toList.map (symOf (nameOf (aggs A)))
  rloc : (s.refs.filter (fun r => r.name.isLoc)).map (·.name) = (localsRev A).map (·.name)
  rent : s.refs.filter (fun r => !r.name.isLoc) =
    List.replicate (linkedDecls A).length (entRef (aggs A))

theorem invOut_init : InvOut [] init := ⟨rfl, rfl, rfl, rfl, rfl⟩

theorem out_step {A : List Decl} {s : State} (io : InvOut A s) (f : Form) (l : Link) (e : Eff)
    (he : effOK f (aggs A) (aggs (⟨f, l⟩ :: A)) l e = true)
    (hm : emitOK f (aggs A) (aggs (⟨f, l⟩ :: A)) l e = true) (hdi : devIStep f (aggs A) = false) :
    InvOut (⟨f, l⟩ :: A) (apply (enter s f.scope) (decide (f.scope = .file)) e) := by
  obtain ⟨an, ar, ao⟩ := apply_out s f.scope e
  generalize apply (enter s f.scope) (decide (f.scope = .file)) e = s' at an ar ao
  obtain ⟨n0, l0, m0, r0, t0⟩ := io
  by_cases hl : l = .none
  · subst hl
    simp only [effOK, if_true, Bool.and_eq_true, decide_eq_true_eq, Bool.or_eq_true,
      Bool.not_eq_true'] at he
    obtain ⟨⟨hlink, _⟩, ⟨⟨⟨hasm, hgl⟩, hem⟩, hlab⟩, hth⟩ := he
    have hE : emittedA (aggs (⟨f, .none⟩ :: A)) = emittedA (aggs A) := by simpa [emitOK] using hm
    have hname : nameOf (aggs (⟨f, .none⟩ :: A)) = nameOf (aggs A) := by unfold nameOf; rw [hlab]
    have hent : entRef (aggs (⟨f, .none⟩ :: A)) = entRef (aggs A) := by unfold entRef; rw [hname, hth]
    have hL : linkedDecls (⟨f, .none⟩ :: A) = linkedDecls A := rfl
    have hbs : (⟨f, .none⟩ : Decl).blockStatic = (decide (f.kind = .obj) && decide (f.sc = .static)) := by
      simp [Decl.blockStatic]
    rw [← hbs] at hem hgl
    cases hdb : (⟨f, .none⟩ : Decl).blockStatic
    · rw [hdb] at hgl
      have hg : e.global = none := by simpa using hgl
      rw [hg] at an ar ao
      exact ⟨by rw [an, countBlockStatics_cons, hdb]; exact n0, by rw [ao, l0]; simp [localsRev, hdb],
        by rw [ao, m0, hE, hname], by rw [ar, r0]; simp [localsRev, hdb], by rw [ar, t0, hL, hent]⟩
    · rw [hdb] at hgl hem
      obtain ⟨hemit, hdur⟩ := hem.resolve_left (by decide)
      obtain ⟨th, hg⟩ := Option.isSome_iff_exists.1 (by simpa using hgl : e.global.isSome = true)
      rw [hg, hemit] at ao
      rw [hg] at an ar
      simp only [mkglobal_local _ hlink hasm] at an ar ao
      have hloc : localsRev (⟨f, .none⟩ :: A) =
          localsRev A ++ [mkSym (.loc (s.nextId + 1)) e.ent false (!f.hasDef)] := by
        have hfl : f.flag = decide (e.ent.dur = .thread) := by
          cases hf : f.flag <;> rw [hf] at hdur <;> simp_all
        simp only [localsRev, hdb, if_true, mkSym, hlink, n0, hfl]
        cases f.hasDef <;> simp
      exact ⟨by rw [an, countBlockStatics_cons, hdb, n0]; rfl, by rw [ao, List.filter_append, l0, hloc]; rfl,
        by rw [ao, List.filter_append, m0, hE, hname]; simp [mkSym, SymName.isLoc],
        by rw [ar, List.filter_append, List.map_append, r0, hloc, List.map_append]; rfl,
        by rw [ar, List.filter_append, t0, hL, hent]; simp [SymName.isLoc]⟩
  · simp only [effOK, hl, if_false, Bool.and_eq_true, decide_eq_true_eq, Bool.or_eq_true] at he
    obtain ⟨⟨hlink, hstab⟩, hasm, hgl⟩ := he
    simp only [emitOK, hl, if_false] at hm
    have hdb : (⟨f, l⟩ : Decl).blockStatic = false := by simp [Decl.blockStatic, hl]
    have hloc : localsRev (⟨f, l⟩ :: A) = localsRev A := by simp [localsRev, hdb]
    have hL : linkedDecls (⟨f, l⟩ :: A) = ⟨f, l⟩ :: linkedDecls A := by simp [linkedDecls, Decl.linked, hl]
    rw [hgl] at an ar ao
    simp only [mkglobal_linked s.nextId (by rw [hlink]; exact hl) hasm] at an ar ao
    -- the name and the thread flag are settled by the first declaration with linkage
    have hold : List.replicate (linkedDecls A).length (entRef (aggs A)) =
        List.replicate (linkedDecls A).length (entRef (aggs (⟨f, l⟩ :: A))) := by
      rcases hstab with h | ⟨h1, h2⟩
      · rw [show linkedDecls A = [] from List.isEmpty_iff.1 h]; rfl
      · unfold entRef nameOf; rw [h1, h2]
    have hrefs : (s'.refs.filter fun r => !r.name.isLoc) =
        List.replicate (linkedDecls (⟨f, l⟩ :: A)).length (entRef (aggs (⟨f, l⟩ :: A))) := by
      rw [ar, List.filter_append, t0, hold, hL, List.length_cons, List.replicate_succ']
      simp [entRef, nameOf_not_loc]
    have hrloc : (s'.refs.filter fun r => r.name.isLoc).map (·.name) = (localsRev (⟨f, l⟩ :: A)).map (·.name) := by
      rw [ar, List.filter_append, hloc, ← r0]; simp [nameOf_not_loc]
    have hnid : s'.nextId = countBlockStatics (⟨f, l⟩ :: A) := by simp [an, countBlockStatics_cons, hdb, n0]
    cases hem : e.emit with
    | none =>
      rw [hem] at ao hm
      simp only [hdi, Bool.false_or, decide_eq_true_eq] at hm
      refine ⟨hnid, by rw [ao, l0, hloc], ?_, hrloc, hrefs⟩
      rw [ao, m0, hm]
      rcases hstab with h | ⟨_, h2⟩
      · rw [emittedA_nil (List.isEmpty_iff.1 h)]; rfl
      · unfold nameOf; rw [h2]
    | some p =>
      obtain ⟨isF, z⟩ := p
      rw [hem] at ao hm
      simp only [Bool.and_eq_true, Option.isNone_iff_eq_none, decide_eq_true_eq] at hm
      refine ⟨hnid, by rw [ao, List.filter_append, l0, hloc]; simp [mkSym, nameOf_not_loc], ?_, hrloc, hrefs⟩
      rw [ao, List.filter_append, m0, hm.1, hm.2]
      simp [mkSym, nameOf_not_loc, symOf]

theorem core_step {older : List Form} {s : State} (inv : Inv (annot older) s) (f : Form)
    (hj : judge f (annot older) = .ok) :
    if devTStep f (aggs (annot older)) then ∃ e, step s f = .error e
    else ∃ s', step s f = .ok s' ∧ Inv (annot (f :: older)) s' ∧
      (devIStep f (aggs (annot older)) = false → InvOut (annot older) s → InvOut (annot (f :: older)) s') := by
  rw [judge_eq] at hj
  have h := (sim_all f inv.rel (judgeA_ok hj).1).1 hj
  rw [aggs_visLink, ← aggs_cons] at h
  unfold Accepts at h
  split <;> rename_i hd
  · exact step_error inv.shape (by rwa [if_pos hd] at h)
  · rw [if_neg hd] at h
    obtain ⟨e, hdec, hrel, he, hm⟩ := h
    obtain ⟨h1, h2, h3⟩ := apply_enter s f.scope e
    exact ⟨_, by rw [step_eq s inv.shape, hdec]; rfl, ⟨h3, by rw [h1, h2]; exact hrel⟩,
      fun hdi io => out_step io f _ e he hm hdi⟩

theorem core_sim (r : List Form) (h : verdictRev r = .ok) :
    (threadTentativeThenInitRev r = true ∧ ∃ e, stepsRev r = .error e) ∨
    (threadTentativeThenInitRev r = false ∧ ∃ s, stepsRev r = .ok s ∧ Inv (annot r) s ∧
      (inlineThenExternRev r = false → InvOut (annot r) s)) := by
  induction r with
  | nil => exact Or.inr ⟨rfl, init, rfl, inv_init, fun _ => invOut_init⟩
  | cons f older ih =>
    obtain ⟨ho, hj⟩ := verdictRev_cons_ok h
    rw [devT_cons]
    rcases ih ho with ⟨hd, e, he⟩ | ⟨hd, s, hs, inv, io⟩
    · exact Or.inl ⟨by rw [hd, Bool.or_true], e, by simp only [stepsRev, he]⟩
    · have hc := core_step inv f hj
      cases hdt : devTStep f (aggs (annot older)) <;> rw [hdt] at hc
      · obtain ⟨s', hst, inv', io'⟩ := hc
        refine Or.inr ⟨hd, s', by simp only [stepsRev, hs, hst], inv', fun hI => ?_⟩
        rw [devI_cons, Bool.or_eq_false_iff] at hI
        exact io' hI.1 (io hI.2)
      · obtain ⟨e, he⟩ := hc
        exact Or.inl ⟨rfl, e, by simp only [stepsRev, hs, he]⟩

theorem reject_sim (r : List Form) (h : mustReject (verdictRev r) = true) : ∃ e, stepsRev r = .error e := by
  induction r with
  | nil => cases h
  | cons f older ih =>
    simp only [verdictRev] at h
    cases hv : verdictRev older with
    | ok =>
      rw [hv] at h
      rcases core_sim older hv with ⟨_, e, he⟩ | ⟨_, s, hs, inv, _⟩
      · exact ⟨e, by simp only [stepsRev, he]⟩
      · simp only [stepsRev, hs]
        refine step_error inv.shape ?_
        cases hlv : localViol f with
        | true => exact declare_localViol _ f hlv
        | false => exact (sim_all f inv.rel hlv).2 (by rw [← judge_eq]; exact h)
    | violates c | undefined c | unspecified c =>
      rw [hv] at h ih
      obtain ⟨e, he⟩ := ih h
      exact ⟨e, by simp only [stepsRev, he]⟩

theorem mainSyms_eq (A : List Decl) :
    mainSyms A = (mainA (aggs A)).toList.map (symOf (nameOf (aggs A))) := by
  -- `mainSyms` filters the file-scope declarations first, `hasDefinition` tests the scope inside `any`
  have hd : ((A.filter Decl.atFile).any fun d => d.form.hasDef) = (aggs A).hasDef := List.any_filter ..
  unfold mainSyms mainA
  simp only [hd, show (aggs A).lHead = (linkedDecls A).head?.map (fun d => (d.form.kind, d.link)) from rfl]
  rcases (linkedDecls A).head? with _ | d0
  · rfl
  · simp only [Option.map_some]
    cases d0.form.kind <;>
      simp only [apply_ite Option.toList, apply_ite (List.map _), decide_eq_true_eq] <;> rfl

theorem finish_spec {A : List Decl} {s : State} (inv : Inv A s) (io : InvOut A s) :
    (finish s).refs = s.refs ∧
    (finish s).out.filter (fun y => y.name.isLoc) = localsRev A ∧
    (finish s).out.filter (fun y => !y.name.isLoc) =
      (mainA (aggs A)).toList.map (symOf (nameOf (aggs A))) := by
  have hf := fin_all inv.rel
  unfold finishCheck at hf
  unfold finish
  cases hfile : s.file with
  | none =>
    rw [hfile] at hf
    exact ⟨rfl, io.locs, by rw [io.mains, eq_of_beq hf]⟩
  | some d =>
    rw [hfile] at hf
    simp only at hf ⊢
    by_cases hc : d.tentative = true ∧ ¬ d.defined = true
    · rw [if_pos hc] at hf ⊢
      simp only [Bool.and_eq_true, beq_iff_eq, decide_eq_true_eq, Option.isNone_iff_eq_none] at hf
      obtain ⟨⟨⟨hE, hm⟩, hasm⟩, hlink⟩ := hf
      simp only [mkglobal_linked s.nextId hlink hasm]
      exact ⟨trivial, by rw [List.filter_append, io.locs]; simp [mkSym, nameOf_not_loc],
        by rw [List.filter_append, io.mains, hE, hm]; simp [mkSym, nameOf_not_loc, symOf]⟩
    · rw [if_neg hc] at hf ⊢
      exact ⟨rfl, io.locs, by rw [io.mains, eq_of_beq hf]⟩

theorem dedup_replicate {α} [DecidableEq α] (a : α) (n : Nat) :
    dedup (List.replicate n a) = if n = 0 then [] else [a] := by
  induction n with
  | zero => rfl
  | succ n ih => rw [List.replicate_succ, dedup, ih]; cases n <;> simp

theorem symbols_finish {A : List Decl} {s : State} (inv : Inv A s) (io : InvOut A s) :
    symbols (finish s) = symbolsRev A := by
  obtain ⟨hr, hloc, hmain⟩ := finish_spec inv io
  unfold symbols symbolsRev
  simp only [decide_not, Bool.decide_eq_true]
  rw [hmain, hloc, hr, mainSyms_eq]
  congr 1
  show dedup _ = (if ¬ (linkedDecls A).isEmpty = true ∧ _ then [entRef (aggs A)] else [])
  have hent : (finish s).out.any (fun y => decide (y.name = nameOf (aggs A))) = (mainA (aggs A)).isSome := by
    have : (fun y : Sym => decide (y.name = nameOf (aggs A))) =
        fun y => !y.name.isLoc && decide (y.name = nameOf (aggs A)) := by
      funext y
      by_cases h : y.name = nameOf (aggs A) <;> simp [h, nameOf_not_loc]
    rw [this, ← List.any_filter, hmain]
    cases mainA (aggs A) <;> simp [symOf]
  have hdef : ∀ r ∈ s.refs, (finish s).out.any (fun y => decide (y.name = r.name)) =
      (r.name.isLoc || (mainA (aggs A)).isSome) := by
    intro r hr
    cases hl : r.name.isLoc
    · have : r ∈ s.refs.filter (fun r => !r.name.isLoc) := List.mem_filter.2 ⟨hr, by simp [hl]⟩
      rw [io.rent] at this
      rw [List.eq_of_mem_replicate this]
      exact hent
    · have : r.name ∈ (s.refs.filter (·.name.isLoc)).map (·.name) :=
        List.mem_map.2 ⟨r, List.mem_filter.2 ⟨hr, hl⟩, rfl⟩
      rw [io.rloc, ← hloc, List.mem_map] at this
      obtain ⟨y, hy, hyn⟩ := this
      simpa using ⟨y, (List.mem_filter.1 hy).1, hyn⟩
  rw [List.filter_congr (fun r hr => by rw [hdef r hr])]
  cases hm : mainA (aggs A) with
  | some t => rw [List.filter_eq_nil_iff.2 (by simp)]; simp [dedup]
  | none =>
    simp only [Option.isSome_none, Bool.or_false]
    rw [io.rent, dedup_replicate]
    cases linkedDecls A <;> simp

end CprocVerif.Linkage
