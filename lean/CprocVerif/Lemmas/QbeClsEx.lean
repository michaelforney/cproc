import CprocVerif.Lemmas.QbeClsStep

/-!
  C03, classes: a two-function module for the non-vacuity examples of `Props/C03.lean`.  `String.hash`
  is opaque to the kernel, so nothing that looks a `String` up in a `HashMap` (`wf` on any module with a
  function) evaluates by `decide`/`rfl`; its class maps, signature table and label index are derived as
  lookups with the `Std.HashMap` lemmas.
-/

namespace CprocVerif.C03.Cls
open CprocVerif.Qbe

/-- `function w $g(w %a, d %x) { @s  %b =w add %a, 1   %y =d add %x, d_1   %z =s truncd %y
     ret %b }` -/
def exG : Func :=
  { «export» := false, ret := some (.base .w), name := "g",
    params := [(.base .w, "a"), (.base .d, "x")], variadic := false,
    blocks := #[
      { label := "s", phis := [],
        ins := #[.op (some ("b", .w)) .add [.tmp "a", .int 1],
                 .op (some ("y", .d)) .add [.tmp "x", .fd 1],
                 .op (some ("z", .s)) .truncd [.tmp "y"]],
        term := some (.ret (some (.tmp "b"))) }] }

/-- `export function l $main(l %p) {
     @s  %r =w call $g(w 1, d d_2)   jnz %r, @t, @e
     @t  %q =l add %p, 8             jmp @e
     @e  %v =l phi @s %p, @t %q      ret %v }` -/
def exMain : Func :=
  { «export» := true, ret := some (.base .l), name := "main",
    params := [(.base .l, "p")], variadic := false,
    blocks := #[
      { label := "s", phis := [],
        ins := #[.call (some ("r", .base .w)) (.glob "g" false)
                   [(.base .w, .int 1), (.base .d, .fd 2)] none],
        term := some (.jnz (.tmp "r") "t" "e") },
      { label := "t", phis := [],
        ins := #[.op (some ("q", .l)) .add [.tmp "p", .int 8]],
        term := some (.jmp "e") },
      { label := "e", phis := [⟨"v", .l, [("s", .tmp "p"), ("t", .tmp "q")]⟩],
        ins := #[],
        term := some (.ret (some (.tmp "v"))) }] }

def exMod : Module := ⟨#[.func exG, .func exMain]⟩

theorem exMod_funcs : exMod.funcs = [exG, exMain] := rfl

theorem ex_tcG (t : String) : (tcOf exG)[t]? =
    if "z" = t then some .s else if "y" = t then some .d else if "b" = t then some .w
    else if "x" = t then some .d else if "a" = t then some .w else none := by
  have : exG.allDefs = [("a", .w), ("x", .d), ("b", .w), ("y", .d), ("z", .s)] := rfl
  simp only [tcOf, this, List.foldl_cons, List.foldl_nil, Std.HashMap.getElem?_insert,
    Std.HashMap.getElem?_empty, beq_iff_eq]

theorem ex_tcG_contains (t : String) : (tcOf exG).contains t =
    decide (t ∈ ["z", "y", "b", "x", "a"]) := by
  rw [Bool.eq_iff_iff, Std.HashMap.contains_iff_mem, mem_tcOf, decide_eq_true_eq]
  exact (by decide : List.Perm _ _).mem_iff

theorem ex_tcMain (t : String) : (tcOf exMain)[t]? =
    if "v" = t then some .l else if "q" = t then some .l else if "r" = t then some .w
    else if "p" = t then some .l else none := by
  have : exMain.allDefs = [("p", .l), ("r", .w), ("q", .l), ("v", .l)] := rfl
  simp only [tcOf, this, List.foldl_cons, List.foldl_nil, Std.HashMap.getElem?_insert,
    Std.HashMap.getElem?_empty, beq_iff_eq]

theorem ex_tcMain_contains (t : String) : (tcOf exMain).contains t =
    decide (t ∈ ["v", "q", "r", "p"]) := by
  rw [Bool.eq_iff_iff, Std.HashMap.contains_iff_mem, mem_tcOf, decide_eq_true_eq]
  exact (by decide : List.Perm _ _).mem_iff

theorem ex_sigs (n : String) : (sigsOf exMod)[n]? =
    if "g" = n then some exG.sig else if "main" = n then some exMain.sig else none := by
  have h1 : exG.name = "g" := rfl
  have h2 : exMain.name = "main" := rfl
  simp only [sigsOf_getElem?, exMod_funcs, List.find?_cons, List.find?_nil, h1, h2]
  cases hg : "g" == n <;> cases hm : "main" == n <;> simp_all

theorem ex_labelsMain (l : String) : (FuncInfo.of exMain).labelIdx.contains l =
    decide (l ∈ ["s", "t", "e"]) := by
  have : (FuncInfo.of exMain).labelIdx =
      ((({} : Std.HashMap String Nat).insertIfNew "s" 0).insertIfNew "t" 1).insertIfNew "e" 2 := rfl
  rw [this]
  rw [Bool.eq_iff_iff]
  simp only [Std.HashMap.contains_insertIfNew, Std.HashMap.contains_empty, Bool.or_false,
    List.mem_cons, List.not_mem_nil, or_false, Bool.or_eq_true, beq_iff_eq, decide_eq_true_eq]
  constructor <;> rintro (rfl | rfl | rfl) <;> simp

end CprocVerif.C03.Cls
