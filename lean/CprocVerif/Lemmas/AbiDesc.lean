import CprocVerif.Spec.QbeLayout
import CprocVerif.Lemmas.Layout

/-! Lemmas for C08: the hypothesis `good`, and the member loop of `emittype` on member lists whose storage units are shared
or disjoint: there its merge loop `scan` finds nothing to merge, and the output is `collapse`, one entry per run of equal
offsets. -/

namespace CprocVerif.AbiDesc
open CprocVerif.Layout CprocVerif.Abi CprocVerif.QbeLayout

def declOk (d : Decl) : Bool := (d.named || d.width.isNone) && decide (d.align ≤ d.ty.align)

mutual
  /-- accepted by the compiler (`Wf`: no `error(...)` of `addmember`, sizes below 2^62), every scalar
  has a QBE class, and none of the excluded classes (`QbeLayout.classes`) occurs at any depth:
  no packed struct, no `_Alignas` above the natural alignment, no unnamed bit-field, no flexible
  array member, no member-less `va_list` element, and in every struct two members either are
  bit-fields of one storage unit or the later one starts at or after the end of the earlier one
  (of its storage unit, for a bit-field).  Stated on the x86-64 instance of the layout spec: without unnamed
  bit-fields the three targets agree (`tinfo_target`, `Lemmas/AbiDescSpec.lean`) -/
  def good : AType → Bool
    | .sc s => decide (s.size = 1 ∨ s.size = 2 ∨ s.size = 4 ∨ s.size = 8)
    | .blob s a dark => dark && decide (0 < s) && decide (a = 8) && decide (s % 8 = 0) && decide (s < 2 ^ 61)
    | .array _ none => false
    | .array e (some n) =>
      good e && decide (0 < n) && decide ((Abi.tinfo x86_64 (erase e)).size * n < 2 ^ 62)
    | .su u p fs =>
      !p && goodF fs && decide (Wf u false (Abi.decls x86_64 (eraseF fs))) &&
        (Abi.decls x86_64 (eraseF fs)).all declOk &&
        (u || pairwiseB unitRel (Abi.layout x86_64 false false (Abi.decls x86_64 (eraseF fs))).members)
  def goodF : AFields → Bool
    | .nil => true
    | .cons _ ty _ _ rest => good ty && goodF rest
end

theorem unnamedBf_of_declOk {d : Decl} (h : declOk d = true) : d.unnamedBf = false := by
  simp only [declOk, Bool.and_eq_true, Bool.or_eq_true] at h
  unfold Decl.unnamedBf
  rcases h.1 with h | h
  · simp [h]
  · cases hw : d.width with
    | none => simp
    | some w => simp [hw] at h

theorem good_su {u p : Bool} {fs : AFields} (h : good (.su u p fs) = true) :
    p = false ∧ goodF fs = true ∧ Wf u false (Abi.decls x86_64 (eraseF fs)) ∧
    (Abi.decls x86_64 (eraseF fs)).all declOk = true ∧
    (∀ d ∈ Abi.decls x86_64 (eraseF fs), d.unnamedBf = false) ∧
    (u = true ∨ pairwiseB unitRel (Abi.layout x86_64 false false (Abi.decls x86_64 (eraseF fs))).members = true) := by
  simp only [good, Bool.and_eq_true, Bool.not_eq_true', decide_eq_true_eq, Bool.or_eq_true] at h
  obtain ⟨⟨⟨⟨hp, hgf⟩, hwf⟩, hok⟩, hchain⟩ := h
  exact ⟨hp, hgf, hwf, hok, fun d hd => unnamedBf_of_declOk (List.all_eq_true.1 hok d hd), hchain⟩

/-- size/alignment of a type under the C06 layout spec -/
abbrev ti (t : AType) : MTy := Abi.tinfo x86_64 (erase t)

theorem decls_cons (name : Option String) (ty : AType) (al : Nat) (w : Option Nat) (rest : AFields) :
    Abi.decls x86_64 (eraseF (.cons name ty al w rest)) =
      { ty := ti ty, named := name.isSome, align := al, width := w } :: Abi.decls x86_64 (eraseF rest) := by
  simp only [eraseF, Abi.decls, ti]

mutual
  theorem good_complete : ∀ (t : AType), good t = true → (ti t).incomplete = false ∧ (ti t).flexible = false
    | .sc _, _ => ⟨rfl, rfl⟩
    | .blob .., _ => ⟨rfl, rfl⟩
    | .array e none, h => by simp [good] at h
    | .array e (some n), _ => ⟨rfl, rfl⟩
    | .su u p fs, h => by
      refine ⟨rfl, ?_⟩
      show (Abi.layout x86_64 u p (Abi.decls x86_64 (eraseF fs))).flexible = false
      rw [layout_flexible]; exact goodF_noflex fs (good_su h).2.1
  theorem goodF_noflex : ∀ (fs : AFields), goodF fs = true → aggFlexible (Abi.decls x86_64 (eraseF fs)) = false
    | .nil, _ => rfl
    | .cons name ty al w rest, h => by
      simp only [goodF, Bool.and_eq_true] at h
      obtain ⟨c, f⟩ := good_complete ty h.1
      rw [decls_cons]
      simp only [aggFlexible, c, f, goodF_noflex rest h.2, Bool.or_self]
end

theorem float_cases {a : Types.ATy} (h : a.isFloat = true) :
    a = .basic .float ∨ a = .basic .double ∨ a = .basic .ldouble := by
  cases a with
  | enum i b => cases h
  | basic b => revert h; cases b <;> decide

theorem float_size {a : Types.ATy} (h : a.isFloat = true) : a.size = 4 ∨ a.size = 8 ∨ a.size = 16 := by
  rcases float_cases h with rfl | rfl | rfl <;> decide

theorem qbetype_some {s : Sc} {q : Base × Base} (h : qbetype s = some q) :
    (s.size = 1 ∧ q = (.w, .b)) ∨ (s.size = 2 ∧ q = (.w, .h)) ∨
    (s.size = 4 ∧ q = (if s.isFloat then (.s, .s) else (.w, .w))) ∨
    (s.size = 8 ∧ q = (if s.isFloat then (.d, .d) else (.l, .l))) := by
  unfold qbetype at h
  have float : ∀ {x y : Base × Base}, (if s.isFloat = true then some x else some y) = some q →
      q = if s.isFloat = true then x else y := by
    intro x y h
    by_cases hf : s.isFloat = true
    · rw [if_pos hf] at h ⊢; exact (Option.some.inj h).symm
    · rw [if_neg hf] at h ⊢; exact (Option.some.inj h).symm
  by_cases h1 : s.size = 1
  · rw [if_pos h1] at h; exact Or.inl ⟨h1, (Option.some.inj h).symm⟩
  by_cases h2 : s.size = 2
  · rw [if_neg h1, if_pos h2] at h; exact Or.inr (Or.inl ⟨h2, (Option.some.inj h).symm⟩)
  by_cases h4 : s.size = 4
  · rw [if_neg h1, if_neg h2, if_pos h4] at h; exact Or.inr (Or.inr (Or.inl ⟨h4, float h⟩))
  by_cases h8 : s.size = 8
  · rw [if_neg h1, if_neg h2, if_neg h4, if_pos h8] at h; exact Or.inr (Or.inr (Or.inr ⟨h8, float h⟩))
  · rw [if_neg h1, if_neg h2, if_neg h4, if_neg h8] at h; cases h

/-- `b` describes the storage unit of `a` once more (and prints the same), or lies after it -/
def DMRel (a b : DM) : Prop := b = a ∨ a.offset + a.size ≤ b.offset

def collapse : Option Nat → List DM → QFields
  | _, [] => .nil
  | last, m :: rest =>
    if last = some m.offset then collapse last rest
    else .cons m.item m.count (collapse (some m.offset) rest)

theorem collapse_same {last : Option Nat} {m : DM} (rest : List DM) (h : last = some m.offset) :
    collapse last (m :: rest) = collapse last rest := if_pos h

theorem collapse_new {last : Option Nat} {m : DM} (rest : List DM) (h : last ≠ some m.offset) :
    collapse last (m :: rest) = .cons m.item m.count (collapse (some m.offset) rest) := if_neg h

theorem scan_after (m : DM) (after : List DM) : ∀ (os : List DM), (∀ o ∈ os, m.offset < o.offset) →
    scan m after os = (m, after)
  | [], _ => rfl
  | o :: os, h => by
    have ho := h o (List.mem_cons_self ..)
    have ih := scan_after m after os (fun x hx => h x (List.mem_cons_of_mem _ hx))
    unfold scan
    split
    · rfl
    · rw [if_neg (by omega)]; exact ih

theorem window_gt {x : Nat} (h : x < 2 ^ 63) : x < alignUp (u64 (x + 1)) 8 := by
  have h1 : u64 (x + 1) = x + 1 := u64_of_lt (by unfold M64; omega)
  rw [h1, alignUp_eq (by decide) (by unfold M64; omega)]
  have := le_roundUp (x + 1) (a := 8) (by decide)
  omega

theorem skip_sublist (E : Nat) : ∀ (l : List DM), (skip E l).Sublist l
  | [] => List.Sublist.refl _
  | o :: os => by
    unfold skip
    split
    · exact (skip_sublist E os).cons _
    · exact List.Sublist.refl _

theorem scan_rel : ∀ (os : List DM) (m : DM), List.Pairwise DMRel (m :: os) →
    (∀ x ∈ m :: os, 0 < x.size ∧ x.offset + x.size < 2 ^ 63) →
    (scan m os os).1 = m ∧
      skip (m.offset + m.size) (scan m os os).2 = skip (m.offset + m.size) os
  | [], m, _, _ => ⟨rfl, rfl⟩
  | o :: os, m, hp, hb => by
    have hm := hb m (List.mem_cons_self ..)
    have ho := hb o (List.mem_cons_of_mem _ (List.mem_cons_self ..))
    have hmo : DMRel m o := (List.pairwise_cons.1 hp).1 o (List.mem_cons_self ..)
    have hp' : List.Pairwise DMRel (o :: os) := (List.pairwise_cons.1 hp).2
    have hw := window_gt (x := m.offset) (by omega)
    unfold scan
    split
    · exact ⟨rfl, rfl⟩
    · split
      · rename_i hle
        have hs : o = m := hmo.resolve_right (by omega)
        subst hs
        obtain ⟨i1, i2⟩ := scan_rel os o hp' (fun x hx => hb x (List.mem_cons_of_mem _ hx))
        refine ⟨i1, ?_⟩
        rw [i2]
        conv => rhs; unfold skip
        rw [if_pos (by omega)]
      · rename_i hgt
        have ha : m.offset + m.size ≤ o.offset := by
          rcases hmo with hs | ha
          · rw [hs] at hgt; omega
          · exact ha
        have hall : ∀ x ∈ os, m.offset < x.offset := by
          intro x hx
          have hox : DMRel o x := (List.pairwise_cons.1 hp').1 x hx
          rcases hox with hs | h2
          · rw [hs]; omega
          · omega
        rw [scan_after m (o :: os) os hall]
        exact ⟨rfl, rfl⟩

theorem collapse_skip : ∀ (rest : List DM) (m : DM), List.Pairwise DMRel (m :: rest) → 0 < m.size →
    collapse (some m.offset) rest = collapse none (skip (m.offset + m.size) rest)
  | [], _, _, _ => rfl
  | o :: os, m, hp, hs => by
    have hmo : DMRel m o := (List.pairwise_cons.1 hp).1 o (List.mem_cons_self ..)
    have hp2 : List.Pairwise DMRel (m :: os) := by
      refine List.pairwise_cons.2 ⟨fun x hx => (List.pairwise_cons.1 hp).1 x (List.mem_cons_of_mem _ hx), ?_⟩
      exact (List.pairwise_cons.1 (List.pairwise_cons.1 hp).2).2
    rcases hmo with rfl | hafter
    · rw [collapse_same os rfl]
      conv => rhs; unfold skip
      rw [if_pos (by omega)]
      exact collapse_skip os o hp2 hs
    · rw [collapse_new os (by intro h; have := Option.some.inj h; omega)]
      conv => rhs; unfold skip
      rw [if_neg (by omega)]
      rw [collapse_new (last := none) _ (by simp)]

theorem emitStructF_collapse : ∀ (f : Nat) (ms : List DM), ms.length ≤ f → List.Pairwise DMRel ms →
    (∀ x ∈ ms, 0 < x.size ∧ x.offset + x.size < 2 ^ 63) → emitStructF f ms = collapse none ms
  | 0, [], _, _, _ => rfl
  | 0, _ :: _, h, _, _ => by simp at h
  | f + 1, [], _, _, _ => rfl
  | f + 1, m :: rest, hl, hp, hb => by
    obtain ⟨s1, s2⟩ := scan_rel rest m hp hb
    have hm := hb m (List.mem_cons_self ..)
    have hu : u64 (m.offset + m.size) = m.offset + m.size := u64_of_lt (by unfold M64; omega)
    have hsub := skip_sublist (m.offset + m.size) rest
    have hlen := hsub.length_le
    have ih := emitStructF_collapse f (skip (m.offset + m.size) rest)
      (by simp only [List.length_cons] at hl; omega)
      ((List.pairwise_cons.1 hp).2.sublist hsub)
      (fun x hx => hb x (List.mem_cons_of_mem _ (hsub.subset hx)))
    simp only [emitStructF]
    rw [s1, hu, s2, ih]
    rw [collapse_new (last := none) rest (by simp)]
    rw [collapse_skip rest m hp hm.1]

end CprocVerif.AbiDesc
