import CprocVerif.Lemmas.LayoutArith

/-! Lemmas for property C06, enumerations: `tagspec`'s choice of the underlying type
(`Model/Layout.lean: enumUnderlying`) against the C23/GCC rule (`Spec/Abi.lean`).

`typehasint` is "the value is in range" (`typehasint_eq`); with that, one iteration of the loop is a
function of the spec's counter `next` (`enumPick_implicit`, `enumPick_explicit`), and model and spec
accept the same enumerator lists with the same result (`enumUnderlying_toOption`). -/

namespace CprocVerif.Layout
open CprocVerif.Abi

/-- the integer types of the targets, by size.  Trap: `IntTy` cannot tell `_Bool` from `unsigned char`, and
`Model/Layout.typehasint` has no `if (t->kind == TYPEBOOL) return i <= 1;` (`type.c`; `Model/Types.typehasint` has it):
an enum with underlying type `bool` is outside what these theorems say about cproc -/
def ValidTy (t : IntTy) : Prop := t.size = 1 ∨ t.size = 2 ∨ t.size = 4 ∨ t.size = 8
instance (t : IntTy) : Decidable (ValidTy t) := by unfold ValidTy; infer_instance

def val64 (i : Nat) (sign : Bool) : Int :=
  if sign && i ≥ 2 ^ 63 then (i : Int) - 2 ^ 64 else (i : Int)

/-- the two constants of `typehasint` and the ranges, for the eight integer types -/
theorem intTy_table {t : IntTy} (ht : ValidTy t) :
    (((M64 - 1) >>> ((8 - t.size) * 8 + (if t.signed then 1 else 0)) : Nat) : Int) = hi t ∧
    (t.signed = true → (u64 ((M64 - 1) <<< (t.size * 8 - 1)) : Int) = 2 ^ 64 + lo t ∧ hi t = -lo t - 1 ∧
      -(2 ^ 63) ≤ lo t ∧ lo t ≤ -128) ∧
    (t.signed = false → lo t = 0 ∧ 255 ≤ hi t ∧ hi t ≤ 2 ^ 64 - 1) ∧
    hi t ≤ hi ⟨8, t.signed⟩ := by
  obtain ⟨sz, sg⟩ := t
  rcases ht with h | h | h | h <;> simp only at h <;> subst h <;> cases sg <;> decide

theorem typehasint_iff {t : IntTy} (ht : ValidTy t) {i : Nat} (hi64 : i < 2 ^ 64) (sign : Bool) :
    typehasint t i sign = true ↔ Represents t (val64 i sign) := by
  obtain ⟨h1, h2, h3, _⟩ := intTy_table ht
  unfold typehasint Represents val64
  rw [show u64 ((M64 - 1) <<< 63) = 2 ^ 63 by decide]
  generalize (M64 - 1) >>> ((8 - t.size) * 8 + (if t.signed then 1 else 0)) = H at h1 ⊢
  generalize u64 ((M64 - 1) <<< (t.size * 8 - 1)) = K at h2 ⊢
  -- a negative value: only the lower bound matters; otherwise only the upper one
  by_cases hneg : (sign && decide (i ≥ 2 ^ 63)) = true
  · rw [if_pos hneg, if_pos hneg]
    cases hs : t.signed
    · have := h3 hs; simp only [Bool.false_and, Bool.false_eq_true, false_iff]; omega
    · have := h2 hs; simp only [Bool.true_and, decide_eq_true_eq]; omega
  · rw [if_neg hneg, if_neg hneg, decide_eq_true_eq]
    cases hs : t.signed
    · have := h3 hs; omega
    · have := h2 hs; omega

theorem typehasint_eq {t : IntTy} (ht : ValidTy t) {i : Nat} (hi64 : i < 2 ^ 64) (sign : Bool) :
    typehasint t i sign = decide (Represents t (val64 i sign)) :=
  Bool.eq_iff_iff.2 (by rw [decide_eq_true_eq]; exact typehasint_iff ht hi64 sign)

/-- an explicit enumerator as the parser hands it over: a 64-bit pattern `u` whose value, read in its own type `ty`, is
in the range of `ty` -/
def ItemWf : EnumItem → Prop
  | .implicit => True
  | .explicit u ty => u < 2 ^ 64 ∧ ValidTy ty ∧ Represents ty (constValue u ty)

instance : (it : EnumItem) → Decidable (ItemWf it)
  | .implicit => isTrue trivial
  | .explicit u ty => by unfold ItemWf; infer_instance

def ItemsWf (items : List EnumItem) : Prop := ∀ it ∈ items, ItemWf it

instance (items : List EnumItem) : Decidable (ItemsWf items) := by unfold ItemsWf; infer_instance

theorem constValue_eq {u : Nat} (ty : IntTy) (hu : u < 2 ^ 64) : constValue u ty = val64 u ty.signed := by
  have e : u % M64 = u := Nat.mod_eq_of_lt hu
  have e2 : (u : Int) % (M64 : Int) = u := by unfold M64; omega
  simp only [constValue, val64, e, e2]

theorem inInt_eq (v : Int) : inInt v = decide (Represents tInt v) := by
  unfold inInt Represents lo hi tInt; simp

theorem val64_repr {b : IntTy} (hb : ValidTy b) {u : Nat} {sg : Bool} (hu : u < 2 ^ 64)
    (h : Represents b (val64 u sg)) : val64 u b.signed = val64 u sg := by
  obtain ⟨_, t2, t3, _⟩ := intTy_table hb
  have hv : val64 u sg = u ∨ val64 u sg = u - 2 ^ 64 := by
    unfold val64; split <;> simp
  generalize val64 u sg = v at h hv ⊢
  unfold Represents at h
  unfold val64
  cases hs : b.signed
  · have := t3 hs; simp only [Bool.false_and, Bool.false_eq_true, ↓reduceIte]; omega
  · have := t2 hs; simp only [Bool.true_and, decide_eq_true_eq]; split <;> omega

variable {s : EnumSt} {next : Int} {vs : List Int} {items : List EnumItem} {it : EnumItem}

/-- the model's `value` against the spec's counter `next` -/
structure Ctr (s : EnumSt) (next : Int) : Prop where
  value : (s.value : Int) = next % 2 ^ 64
  valid : ValidTy s.et
  range : s.seen = true → lo s.et + 1 ≤ next ∧ next ≤ hi s.et + 1
  first : s.seen = false → next = 0

/-- the wrap-around test `value == 0 && !issigned || value == 1ull << 63 && issigned` -/
theorem Ctr.wrap (h : Ctr s next) :
    ((s.seen && ((s.value == 0 && !s.et.signed) || (s.value == 9223372036854775808 && s.et.signed))) = true ↔
      hi ⟨8, s.et.signed⟩ < next) ∧
    (next ≤ hi ⟨8, s.et.signed⟩ →
      s.value < 2 ^ 64 ∧ val64 s.value s.et.signed = next ∧ Represents ⟨8, s.et.signed⟩ next) := by
  obtain ⟨_, t2, t3, _⟩ := intTy_table h.valid
  have hv := h.value
  cases hsn : s.seen
  · have := h.first hsn
    subst this
    have : s.value = 0 := by omega
    cases s.et.signed <;> simp [this, Represents, val64, lo, hi]
  · have := h.range hsn
    cases hs : s.et.signed
    · have := t3 hs
      simp only [Represents, val64, lo, hi, Bool.true_and, Bool.not_false, Bool.and_true, Bool.and_false,
        Bool.or_false, Bool.false_and, Bool.false_eq_true, ↓reduceIte, beq_iff_eq, Nat.reduceMul]
      omega
    · have := t2 hs
      simp only [Represents, val64, lo, hi, Bool.true_and, Bool.not_true, Bool.and_false, Bool.and_true,
        Bool.false_or, ↓reduceIte, decide_eq_true_eq, beq_iff_eq, Nat.reduceMul, Nat.reduceSub]
      omega

theorem find_inttypes (sg : Bool) (p : IntTy → Bool) (h8 : p ⟨8, sg⟩ = true) :
    (inttypes sg).find? p = some (if p ⟨4, sg⟩ then ⟨4, sg⟩ else ⟨8, sg⟩) := by
  unfold inttypes
  cases h4 : p ⟨4, sg⟩ <;> simp [List.find?, h4, h8]

theorem enumPick_implicit (h : Ctr s next) (fixed : Bool) :
    enumPick fixed s .implicit =
      if hi ⟨8, s.et.signed⟩ < next then .error .enumNoType
      else if Represents s.et next then .ok (s.value, s.et)
      else if fixed then .error .enumInvalid
      else .ok (s.value, if Represents ⟨4, s.et.signed⟩ next then ⟨4, s.et.signed⟩ else ⟨8, s.et.signed⟩) := by
  obtain ⟨hw, hrest⟩ := h.wrap
  simp only [enumPick, hw]
  split
  · rfl
  · obtain ⟨hvl, hv, h8⟩ := hrest (by omega)
    have ht : ∀ t, ValidTy t → typehasint t s.value s.et.signed = decide (Represents t next) :=
      fun t ht => by rw [typehasint_eq ht hvl, hv]
    rw [ht _ h.valid]
    by_cases hr : Represents s.et next
    · simp only [hr, decide_true, Bool.not_true, Bool.false_eq_true, ↓reduceIte]
    · simp only [hr, decide_false, Bool.not_false, ↓reduceIte]
      cases fixed
      · simp only [Bool.false_eq_true, ↓reduceIte]
        rw [find_inttypes _ _ (by rw [ht _ (Or.inr (Or.inr (Or.inr rfl))), decide_eq_true h8]), ht _ (Or.inr (Or.inr (Or.inl rfl)))]
        simp only [decide_eq_true_eq]
      · rfl

theorem enumPick_explicit {u : Nat} (ty : IntTy) (hu : u < 2 ^ 64) (hs : ValidTy s.et) (fixed : Bool) :
    enumPick fixed s (.explicit u ty) =
      if fixed then (if Represents s.et (constValue u ty) then .ok (u, s.et) else .error .enumInvalid)
      else .ok (u, if Represents tInt (constValue u ty) then tInt else ty) := by
  simp only [enumPick, u64_of_lt (show u < M64 from hu), typehasint_eq hs hu, typehasint_eq (t := tInt) (by decide) hu,
    ← constValue_eq ty hu, decide_eq_true_eq]
  cases fixed
  · rfl
  · simp only [Bool.not_true, Bool.false_eq_true, ↓reduceIte, Bool.not_eq_eq_eq_not, decide_eq_false_iff_not]
    split <;> simp_all

theorem Ctr.record (s : EnumSt) {value : Nat} {et : IntTy} {v : Int} (het : ValidTy et)
    (hv : val64 value et.signed = v) (hr : Represents et v) : Ctr (enumRecord s value et) (v + 1) := by
  subst hv
  refine ⟨?_, het, fun _ => ?_, fun h => by cases h⟩
  · simp only [enumRecord, u64, M64, val64]
    split <;> omega
  · unfold Represents at hr; exact ⟨by simp only [enumRecord]; omega, by simp only [enumRecord]; omega⟩

/-- `max`/`min` hold the largest enumerator value and the magnitude of the smallest one (0 if none is
positive resp. negative) -/
structure Ext (s : EnumSt) (vs : List Int) : Prop where
  maxub : ∀ v ∈ vs, v ≤ (s.max : Int)
  maxat : s.max = 0 ∨ (s.max : Int) ∈ vs
  minlb : ∀ v ∈ vs, -(s.min : Int) ≤ v
  minat : s.min = 0 ∨ -(s.min : Int) ∈ vs
  maxlt : s.max < 2 ^ 64
  minle : s.min ≤ 2 ^ 63

theorem max_track {M M' : Nat} {v : Int} (hub : ∀ x ∈ vs, x ≤ (M : Int))
    (hat : M = 0 ∨ (M : Int) ∈ vs) (hM : (M' = M ∧ v ≤ M) ∨ ((M' : Int) = v ∧ (M : Int) ≤ v)) :
    (∀ x ∈ vs ++ [v], x ≤ (M' : Int)) ∧ (M' = 0 ∨ (M' : Int) ∈ vs ++ [v]) := by
  constructor
  · intro x hx
    rcases List.mem_append.1 hx with hx | hx
    · have := hub x hx; omega
    · simp only [List.mem_singleton] at hx; subst hx; omega
  · rcases hM with ⟨h1, _⟩ | ⟨h1, _⟩
    · subst h1
      exact hat.imp id (List.mem_append_left _)
    · right; rw [h1]; simp

theorem min_track {m m' : Nat} {v : Int} (hlb : ∀ x ∈ vs, -(m : Int) ≤ x)
    (hat : m = 0 ∨ -(m : Int) ∈ vs) (hm : (m' = m ∧ -(m : Int) ≤ v) ∨ (-(m' : Int) = v ∧ v ≤ -(m : Int))) :
    (∀ x ∈ vs ++ [v], -(m' : Int) ≤ x) ∧ (m' = 0 ∨ -(m' : Int) ∈ vs ++ [v]) := by
  constructor
  · intro x hx
    rcases List.mem_append.1 hx with hx | hx
    · have := hlb x hx; omega
    · simp only [List.mem_singleton] at hx; subst hx; omega
  · rcases hm with ⟨h1, _⟩ | ⟨h1, _⟩
    · subst h1
      exact hat.imp id (List.mem_append_left _)
    · right; rw [h1]; simp

theorem Ext.record (h : Ext s vs) {value : Nat} {v : Int} (et : IntTy) (hvl : value < 2 ^ 64)
    (hv : val64 value et.signed = v) : Ext (enumRecord s value et) (vs ++ [v]) := by
  subst hv
  obtain ⟨h1, h2, h3, h4, h5, h6⟩ := h
  unfold enumRecord val64
  by_cases hneg : (et.signed && decide (value ≥ 9223372036854775808)) = true
  · -- a negative value: only `min` moves
    have hv : value ≥ 2 ^ 63 := by simp only [Bool.and_eq_true, decide_eq_true_eq] at hneg; exact hneg.2
    simp only [hneg, Bool.not_true, Bool.false_and, Bool.true_and, Bool.false_eq_true, ↓reduceIte,
      sub64_of_lt (show 0 < value by omega) (show value < M64 from hvl), Nat.add_zero, decide_eq_true_eq,
      ite_lt_eq_max]
    obtain ⟨m1, m2⟩ := max_track (M' := s.max) (v := (value : Int) - 2 ^ 64) h1 h2 (by omega)
    obtain ⟨n1, n2⟩ := min_track (m' := max s.min (M64 - value)) (v := (value : Int) - 2 ^ 64) h3 h4
      (by unfold M64; omega)
    exact ⟨m1, m2, n1, n2, h5, Nat.max_le.2 ⟨h6, by unfold M64; omega⟩⟩
  · simp only [hneg, Bool.not_false, Bool.true_and, Bool.false_and, Bool.false_eq_true, ↓reduceIte,
      decide_eq_true_eq, ite_lt_eq_max]
    obtain ⟨m1, m2⟩ := max_track (M' := max s.max value) (v := (value : Int)) h1 h2 (by omega)
    obtain ⟨n1, n2⟩ := min_track (m' := s.min) (v := (value : Int)) h3 h4 (by omega)
    exact ⟨m1, m2, n1, n2, Nat.max_lt.2 ⟨h5, hvl⟩, h6⟩

/-- invariant of the enumerator loop (no fixed underlying type); the spec's `sgn` is the signedness of `et` -/
structure EJ (s : EnumSt) (next : Int) (vs : List Int) : Prop where
  ctr : Ctr s next
  uns : s.et.signed = false → 2 ^ 31 < next
  ext : Ext s vs

theorem EJ_init : EJ {} 0 [] :=
  ⟨⟨by decide, by decide, fun h => (by cases h), fun _ => rfl⟩, fun h => (by cases h),
    ⟨by simp, Or.inl rfl, by simp, Or.inl rfl, by decide, by decide⟩⟩

theorem EJ.record (h : EJ s next vs) {value : Nat} {et : IntTy} {v : Int}
    (hvl : value < 2 ^ 64) (het : ValidTy et) (hv : val64 value et.signed = v) (hr : Represents et v)
    (hu : et.signed = false → 2 ^ 31 ≤ v) : EJ (enumRecord s value et) (v + 1) (vs ++ [v]) :=
  ⟨Ctr.record s het hv hr, fun hs => by have := hu hs; omega, h.ext.record et hvl hv⟩

theorem enumStep_nofix (h : EJ s next vs)
    (hw : ItemWf it) :
    (∃ e, enumStep false s it = .error e ∧ ∀ its, enumValues next s.et.signed (it :: its) = none) ∨
    ∃ s' v, enumStep false s it = .ok s' ∧ EJ s' (v + 1) (vs ++ [v]) ∧
      ∀ its, enumValues next s.et.signed (it :: its) = (enumValues (v + 1) s'.et.signed its).map (v :: ·) := by
  cases it with
  | explicit u ty =>
    obtain ⟨hu, hty, hrep⟩ := hw
    have hcv := constValue_eq ty hu
    right
    simp only [enumStep, enumPick_explicit ty hu h.ctr.valid, Bool.false_eq_true, ↓reduceIte, enumValues, inInt_eq]
    by_cases hfit : Represents tInt (constValue u ty)
    · have e : val64 u tInt.signed = constValue u ty := by rw [hcv] at hfit ⊢; exact val64_repr (by decide) hu hfit
      refine ⟨_, constValue u ty, rfl, ?_, fun its => ?_⟩
      · simp only [hfit, ↓reduceIte]
        exact h.record (et := tInt) hu (by decide) e hfit (fun hs => by cases hs)
      · simp only [hfit, ↓reduceIte, decide_true, Bool.true_or, enumRecord]; rfl
    · refine ⟨_, constValue u ty, rfl, ?_, fun its => ?_⟩
      · simp only [hfit, ↓reduceIte]
        exact h.record (et := ty) hu hty hcv.symm hrep (fun hs => by
          unfold Represents lo hi tInt at hfit
          rw [hcv] at hfit ⊢
          unfold val64 at hfit ⊢
          simp only [hs, Bool.false_and, Bool.false_eq_true, ↓reduceIte] at hfit ⊢
          omega)
      · simp only [hfit, ↓reduceIte, decide_false, Bool.false_or, enumRecord]
  | implicit =>
    obtain ⟨_, hrest⟩ := h.ctr.wrap
    have hspec : ((s.et.signed && decide (next > 2 ^ 63 - 1) || !s.et.signed && decide (next > 2 ^ 64 - 1)) = true) ↔
        hi ⟨8, s.et.signed⟩ < next := by cases s.et.signed <;> simp [hi]
    simp only [enumStep, enumPick_implicit h.ctr, Bool.false_eq_true, ↓reduceIte, enumValues, hspec]
    by_cases hlt : hi ⟨8, s.et.signed⟩ < next
    · exact Or.inl ⟨_, by rw [if_pos hlt], fun _ => by rw [if_pos hlt]⟩
    · obtain ⟨hvl, hv, h8⟩ := hrest (by omega)
      right
      simp only [hlt, ↓reduceIte]
      -- the type chosen has the signedness of `et` and represents `next`
      have key : ∀ et : IntTy, et.signed = s.et.signed → ValidTy et → Represents et next →
          EJ (enumRecord s s.value et) (next + 1) (vs ++ [next]) ∧
          ∀ its, (enumValues (next + 1) (decide (Represents tInt next) || s.et.signed) its).map (next :: ·) =
            (enumValues (next + 1) (enumRecord s s.value et).et.signed its).map (next :: ·) := by
        intro et hs het hr
        refine ⟨h.record (et := et) hvl het (hs ▸ hv) hr (fun hf => by have := h.uns (hs ▸ hf); omega), fun its => ?_⟩
        have : (decide (Represents tInt next) || s.et.signed) = s.et.signed := by
          cases hsg : s.et.signed
          · have := h.uns hsg
            simp only [Bool.or_false, decide_eq_false_iff_not, Represents, lo, hi, tInt]
            simp; omega
          · exact Bool.or_true _
        rw [this]; simp only [enumRecord, hs]
      by_cases hr : Represents s.et next
      · simp only [hr, ↓reduceIte]
        exact ⟨_, next, rfl, key s.et rfl h.ctr.valid hr⟩
      · simp only [hr, ↓reduceIte]
        by_cases h4 : Represents ⟨4, s.et.signed⟩ next
        · simp only [h4, ↓reduceIte]
          exact ⟨_, next, rfl, key ⟨4, s.et.signed⟩ rfl (Or.inr (Or.inr (Or.inl rfl))) h4⟩
        · simp only [h4, ↓reduceIte]
          exact ⟨_, next, rfl, key ⟨8, s.et.signed⟩ rfl (Or.inr (Or.inr (Or.inr rfl))) h8⟩

theorem enumLoop_nofix : ∀ (items : List EnumItem) (s : EnumSt) (next : Int) (vs : List Int),
    EJ s next vs → ItemsWf items →
    (∃ e, enumLoop false s items = .error e ∧ enumValues next s.et.signed items = none) ∨
    ∃ sf vals, enumLoop false s items = .ok sf ∧ enumValues next s.et.signed items = some vals ∧
      Ext sf (vs ++ vals)
  | [], s, next, vs, h, _ => Or.inr ⟨s, [], rfl, rfl, by simpa using h.ext⟩
  | it :: its, s, next, vs, h, hw => by
    rcases enumStep_nofix h (hw it List.mem_cons_self) with ⟨e, h1, h2⟩ | ⟨s', v, h1, h2, h3⟩
    · exact Or.inl ⟨e, by simp only [enumLoop, h1], h2 its⟩
    · simp only [enumLoop, h1, h3 its]
      rcases enumLoop_nofix its s' (v + 1) _ h2 (fun x hx => hw x (List.mem_cons_of_mem _ hx)) with
        ⟨e, i1, i2⟩ | ⟨sf, vals, i1, i2, i3⟩
      · exact Or.inl ⟨e, i1, by rw [i2]; rfl⟩
      · exact Or.inr ⟨sf, v :: vals, i1, by rw [i2]; rfl, by simpa using i3⟩

theorem all_represents_eq {t : IntTy} (ht : ValidTy t) (h : Ext s vs) :
    vs.all (fun v => decide (Represents t v)) = decide (Represents t s.max ∧ Represents t (-(s.min : Int))) := by
  obtain ⟨_, t2, t3, _⟩ := intTy_table ht
  have hz : Represents t 0 := by
    unfold Represents
    cases hs : t.signed
    · have := t3 hs; omega
    · have := t2 hs; omega
  rw [Bool.eq_iff_iff, List.all_eq_true, decide_eq_true_eq]
  simp only [decide_eq_true_eq]
  constructor
  · intro hall
    exact ⟨h.maxat.elim (fun h0 => by rw [h0]; exact hz) (hall _),
      h.minat.elim (fun h0 => by rw [h0]; exact hz) (hall _)⟩
  · intro ⟨r1, r2⟩ v hv
    have := h.maxub v hv; have := h.minlb v hv
    unfold Represents at *
    omega

theorem any_neg_eq (h : Ext s vs) :
    vs.any (fun v => decide (v < 0)) = decide (s.min > 0) := by
  rw [Bool.eq_iff_iff, List.any_eq_true, decide_eq_true_eq]
  simp only [decide_eq_true_eq]
  constructor
  · intro ⟨x, hx1, hx2⟩
    have := h.minlb x hx1; omega
  · intro hm
    exact ⟨_, h.minat.resolve_left (by omega), by omega⟩

theorem val64_neg {m : Nat} (hm : m ≤ 2 ^ 63) : val64 (sub64 0 m) true = -(m : Int) := by
  unfold val64
  by_cases h0 : m = 0
  · subst h0; decide
  · rw [sub64_of_lt (by omega) (by unfold M64; omega), if_pos (by unfold M64; simp; omega)]
    unfold M64; omega

theorem enumFinal {sf : EnumSt} {vals : List Int} (h : Ext sf vals) :
    (if sf.min ≤ 0x80000000 && sf.max ≤ 0x7fffffff then Except.ok (ε := Err) (if sf.min != 0 then tInt else tUInt)
     else match (inttypes (decide (sf.min > 0))).find?
          (fun t => typehasint t sf.max false && typehasint t (sub64 0 sf.min) true) with
       | some t => .ok t
       | none => .error .enumNoFit).toOption =
    [(⟨4, vals.any (fun v => decide (v < 0))⟩ : IntTy), ⟨8, vals.any (fun v => decide (v < 0))⟩].find?
      (fun t => vals.all (fun v => decide (Represents t v))) := by
  have hM := h.maxlt; have hm := h.minle
  rw [any_neg_eq h]
  have hp : ∀ t, ValidTy t → (typehasint t sf.max false && typehasint t (sub64 0 sf.min) true) =
      vals.all (fun v => decide (Represents t v)) := by
    intro t ht
    rw [all_represents_eq ht h, typehasint_eq ht hM, typehasint_eq ht (show sub64 0 sf.min < 2 ^ 64 from Nat.mod_lt _ (by decide)), val64_neg hm,
      show val64 sf.max false = sf.max from rfl, Bool.decide_and]
  by_cases hA : (decide (sf.min ≤ 0x80000000) && decide (sf.max ≤ 0x7fffffff)) = true
  · -- everything fits 32 bits: `int` if there is a negative value, else `unsigned`
    have h4 : vals.all (fun v => decide (Represents ⟨4, decide (sf.min > 0)⟩ v)) = true := by
      rw [all_represents_eq (Or.inr (Or.inr (Or.inl rfl))) h, decide_eq_true_eq]
      simp only [Bool.and_eq_true, decide_eq_true_eq] at hA
      unfold Represents lo hi
      by_cases h0 : sf.min = 0
      · simp [h0]; omega
      · simp [show sf.min > 0 by omega]; omega
    simp only [hA, ↓reduceIte, List.find?, h4, Except.toOption]
    by_cases h0 : sf.min = 0
    · simp [h0, tUInt]
    · simp [h0, show sf.min > 0 by omega, tInt]
  · have h4 := hp ⟨4, decide (sf.min > 0)⟩ (Or.inr (Or.inr (Or.inl rfl)))
    have h8 := hp ⟨8, decide (sf.min > 0)⟩ (Or.inr (Or.inr (Or.inr rfl)))
    simp only [hA, Bool.false_eq_true, ↓reduceIte, inttypes, List.find?, h4, h8]
    cases vals.all (fun v => decide (Represents ⟨4, decide (sf.min > 0)⟩ v))
    · cases vals.all (fun v => decide (Represents ⟨8, decide (sf.min > 0)⟩ v)) <;> rfl
    · rfl

theorem enumUnderlying_nofix (hw : ItemsWf items) :
    (Layout.enumUnderlying none items).toOption = Abi.enumUnderlying none items := by
  rcases enumLoop_nofix items {} 0 [] EJ_init hw with ⟨e, h1, h2⟩ | ⟨sf, vals, h1, h2, ex⟩
  · simp only [Layout.enumUnderlying, Abi.enumUnderlying, h1, show enumValues 0 true items = none from h2]; rfl
  · simp only [Layout.enumUnderlying, Abi.enumUnderlying, h1, show enumValues 0 true items = some vals from h2]
    exact enumFinal (by simpa using ex)

theorem enumStep_fix {b : IntTy} (h : Ctr s next) (he : s.et = b)
    (hw : ItemWf it) :
    ∃ v, (∀ its, enumValuesFixed next (it :: its) = v :: enumValuesFixed (v + 1) its) ∧
      ((Represents b v ∧ ∃ s', enumStep true s it = .ok s' ∧ Ctr s' (v + 1) ∧ s'.et = b) ∨
        (¬ Represents b v ∧ ∃ e, enumStep true s it = .error e)) := by
  have hb : ValidTy b := he ▸ h.valid
  cases it with
  | explicit u ty =>
    obtain ⟨hu, hty, hrep⟩ := hw
    refine ⟨constValue u ty, fun _ => rfl, ?_⟩
    simp only [enumStep, enumPick_explicit ty hu h.valid, ↓reduceIte, he]
    by_cases hr : Represents b (constValue u ty)
    · refine Or.inl ⟨hr, _, by rw [if_pos hr], ?_, rfl⟩
      have e : val64 u b.signed = constValue u ty := by
        rw [constValue_eq ty hu] at hr ⊢; exact val64_repr hb hu hr
      exact Ctr.record s hb e hr
    · exact Or.inr ⟨hr, _, by rw [if_neg hr]⟩
  | implicit =>
    obtain ⟨_, hrest⟩ := h.wrap
    obtain ⟨_, _, _, hle⟩ := intTy_table hb
    refine ⟨next, fun _ => rfl, ?_⟩
    simp only [enumStep, enumPick_implicit h, ↓reduceIte, he]
    by_cases hr : Represents b next
    · obtain ⟨hvl, hv, _⟩ := hrest (by rw [he]; have := hr.2; omega)
      rw [if_neg (by have := hr.2; omega), if_pos hr]
      exact Or.inl ⟨hr, _, rfl, Ctr.record s hb (he ▸ hv) hr, rfl⟩
    · rw [if_neg hr]
      by_cases hlt : hi ⟨8, b.signed⟩ < next
      · exact Or.inr ⟨hr, _, by rw [if_pos hlt]⟩
      · exact Or.inr ⟨hr, _, by rw [if_neg hlt]⟩

theorem enumLoop_fix {b : IntTy} : ∀ (items : List EnumItem) (s : EnumSt) (next : Int),
    Ctr s next → s.et = b → ItemsWf items →
    ((enumLoop true s items).toOption.isSome =
      (enumValuesFixed next items).all (fun v => decide (Represents b v)))
  | [], _, _, _, _, _ => rfl
  | it :: its, s, next, h, he, hw => by
    obtain ⟨v, hv, hstep⟩ := enumStep_fix h he (hw it List.mem_cons_self)
    rw [hv its, List.all_cons]
    rcases hstep with ⟨hr, s', h1, h2, h3⟩ | ⟨hr, e, h1⟩
    · simp only [enumLoop, h1, decide_eq_true hr, Bool.true_and]
      exact enumLoop_fix its s' (v + 1) h2 h3 (fun x hx => hw x (List.mem_cons_of_mem _ hx))
    · simp only [enumLoop, h1, decide_eq_false hr, Bool.false_and]; rfl

theorem enumUnderlying_fix {b : IntTy} (hb : ValidTy b) (hw : ItemsWf items) :
    (Layout.enumUnderlying (some b) items).toOption = Abi.enumUnderlying (some b) items := by
  have := enumLoop_fix (b := b) items { et := b } 0 ⟨rfl, hb, fun h => (by cases h), fun _ => rfl⟩ rfl hw
  simp only [Layout.enumUnderlying, Abi.enumUnderlying, ← this]
  cases enumLoop true { et := b } items <;> rfl

theorem enumUnderlying_toOption {fixed : Option IntTy} (hw : ItemsWf items)
    (hf : ∀ b, fixed = some b → ValidTy b) :
    (Layout.enumUnderlying fixed items).toOption = Abi.enumUnderlying fixed items := by
  cases fixed with
  | none => exact enumUnderlying_nofix hw
  | some b => exact enumUnderlying_fix (hf b rfl) hw

theorem toOption_eq_some {ε α : Type} {x : Except ε α} {a : α} : x.toOption = some a ↔ x = .ok a := by
  cases x <;> simp [Except.toOption]
end CprocVerif.Layout

namespace CprocVerif.C06
open CprocVerif.Layout CprocVerif.Abi

theorem find?_pair {α : Type} {p : α → Bool} {a b t : α} (h : [a, b].find? p = some t) :
    (p a = true ∧ t = a) ∨ (p a = false ∧ p b = true ∧ t = b) := by
  simp only [List.find?] at h
  cases ha : p a <;> simp only [ha] at h
  · cases hb : p b <;> simp only [hb] at h
    · cases h
    · exact Or.inr ⟨rfl, rfl, (Option.some.inj h).symm⟩
  · exact Or.inl ⟨rfl, (Option.some.inj h).symm⟩

theorem enum_spec_represents {items : List EnumItem} {t : IntTy}
    (h : Abi.enumUnderlying none items = some t) :
    ∃ vals, enumValues 0 true items = some vals ∧ (∀ v ∈ vals, Represents t v) ∧
      (t.signed = true ↔ ∃ v ∈ vals, v < 0) ∧
      (t.size = 4 ∨ (t.size = 8 ∧ ¬ ∀ v ∈ vals, Represents ⟨4, t.signed⟩ v)) := by
  simp only [Abi.enumUnderlying] at h
  cases hv : enumValues 0 true items with
  | none => simp [hv] at h
  | some vals =>
    simp only [hv] at h
    refine ⟨vals, rfl, ?_⟩
    generalize hsg : vals.any (fun v => decide (v < 0)) = sg at h
    have hsg' : sg = true ↔ ∃ v ∈ vals, v < 0 := by
      rw [← hsg]; simp [List.any_eq_true]
    rcases find?_pair h with ⟨h4, rfl⟩ | ⟨h4, h8, rfl⟩
    · exact ⟨by simpa [List.all_eq_true] using h4, hsg', Or.inl rfl⟩
    · exact ⟨by simpa [List.all_eq_true] using h8, hsg', Or.inr ⟨rfl, fun hall =>
        Bool.eq_false_iff.1 h4 (by simpa [List.all_eq_true] using hall)⟩⟩

end CprocVerif.C06
