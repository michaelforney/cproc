/-
  C01, fragment 𝔽₂ — the memory of the running function (`AInv`): every variable (parameter or block-scope object, an
  array with all its elements) owns one stack allocation, in the order of the variable numbers.  The slot of a read-only
  array parameter holds the address of an allocation of a caller.  Both clauses are read as a `Window` (`AInv.window`,
  `winAt_iff`): an allocation whose bytes are the elements the store shows, with the address and the load this gives.
-/
import CprocVerif.Lemmas.LowerFunc
import CprocVerif.Lemmas.Lower2Sim

set_option linter.unusedSimpArgs false

namespace CprocVerif.LowerMach2
open CprocVerif.Qbe CprocVerif.Lower CprocVerif.CSem CprocVerif.CSem2 CprocVerif.CInt
open CprocVerif.LowerArith CprocVerif.LowerMach CprocVerif.LowerMem

theorem storeLE_get_ge (b : ByteArray) (off : Nat) (v : UInt64) (n k : Nat) (hk : off + n ≤ k) :
    (storeLE b off v n).get! k = b.get! k := by
  induction n generalizing b off v with
  | zero => rfl
  | succ n ih =>
    simp only [storeLE]
    rw [ih _ _ _ (by omega), get!_eq, get!_eq, ByteArray.getElem!_set!_ne _ _ _ _ (by omega)]

theorem loadLE_congr (b1 b2 : ByteArray) (n : Nat) : ∀ (off : Nat),
    (∀ k, off ≤ k → k < off + n → b1.get! k = b2.get! k) → loadLE b1 off n = loadLE b2 off n := by
  induction n with
  | zero => intro off _; rfl
  | succ n ih =>
    intro off h
    simp only [loadLE]
    rw [h off (Nat.le_refl _) (by omega), ih (off + 1) (fun k h1 h2 => h k (by omega) (by omega))]

theorem load_store_other (b : ByteArray) (off1 off2 n m : Nat) (v : UInt64)
    (h : off2 + m ≤ off1 ∨ off1 + n ≤ off2) :
    loadLE (storeLE b off1 v n) off2 m = loadLE b off2 m := by
  apply loadLE_congr
  intro k h1 h2
  rcases h with h | h
  · exact storeLE_get_lt _ _ _ _ _ (by omega)
  · exact storeLE_get_ge _ _ _ _ _ (by omega)

theorem alloc_mem {M : Mem} (inv : MemInv M) (size align : Nat) (hs : 0 < size ∧ size ≤ maxAlloc)
    (ha : align = 4 ∨ align = 8) (hroom : stackLimit + 40 + size ≤ M.sp) (hsz : M.stack.size + 1 < 2 ^ 64) :
    ∃ base, M.alloc size align = .ok (base, ⟨M.globals, M.stack.push ⟨base, size, zeros size⟩, base⟩) ∧
      MemInv ⟨M.globals, M.stack.push ⟨base, size, zeros size⟩, base⟩ ∧ M.sp ≤ base + 24 + size ∧
      base + size ≤ M.sp := by
  have hmax : ¬ size > maxAlloc := by omega
  have hamax : max align 1 = align := by rcases ha with rfl | rfl <;> rfl
  have hpos : 0 < align := by rcases ha with rfl | rfl <;> decide
  have hal : align ≤ 8 := by rcases ha with rfl | rfl <;> decide
  obtain ⟨base, hbdef⟩ : ∃ base, base = (M.sp - redZone - size) / align * align := ⟨_, rfl⟩
  have hbase1 : base ≤ M.sp - 16 - size := by rw [hbdef]; exact Nat.div_mul_le_self _ _
  have hbase2 : M.sp - 16 - size < base + align := by rw [hbdef]; exact Nat.lt_div_mul_add hpos
  have hrz : redZone = 16 := rfl
  obtain ⟨hlow, hb1, hb2, hb3, hb4⟩ : ¬ base < stackLimit + redZone ∧ M.sp ≤ base + 24 + size ∧
      base + size ≤ M.sp ∧ stackLimit ≤ base ∧ base ≤ M.sp := by omega
  have halloc : M.alloc size align = .ok (base,
      ⟨M.globals, M.stack.push ⟨base, size, zeros size⟩, base⟩) := by
    simp only [Mem.alloc, hmax, if_false, hamax, ← hbdef, hlow, zeros]
  refine ⟨base, halloc, ⟨?_, ?_, hb3, by simpa using hsz⟩, hb1, hb2⟩
  · intro i k hi hk hik
    simp only [Array.size_push] at hi hk
    have hi' : i < M.stack.size := by omega
    simp only [Array.getElem_push, hi', dite_true]
    by_cases hk' : k < M.stack.size
    · simp only [hk', dite_true]; exact inv.sorted i k hi' hk' hik
    · simp only [hk', dite_false]
      exact Nat.le_trans hb2 (inv.above i hi')
  · intro i hi
    simp only [Array.getElem_push]
    split
    · rename_i h; exact Nat.le_trans hb4 (inv.above i h)
    · exact Nat.le_refl _

theorem xcount_succ (cnts : List Nat) {k : Nat} (hk : k < cnts.length) :
    xcount cnts (k + 1) = xcount cnts k + (cnts.getD k 1 - 1) := by
  unfold xcount
  rw [List.take_succ_eq_append_getElem hk, List.map_append, List.sum_append]
  simp [List.getD, List.getElem?_eq_getElem hk]

theorem xcount_mono (cnts : List Nat) : ∀ {a b : Nat}, a ≤ b → xcount cnts a ≤ xcount cnts b := by
  intro a b hab
  induction b with
  | zero => have : a = 0 := by omega
            subst this; exact Nat.le_refl _
  | succ b ih =>
    by_cases h : a = b + 1
    · subst h; exact Nat.le_refl _
    · have := ih (by omega)
      by_cases hb : b < cnts.length
      · rw [xcount_succ cnts hb]; omega
      · have e : xcount cnts (b + 1) = xcount cnts b := by
          unfold xcount
          rw [List.take_of_length_le (by omega), List.take_of_length_le (by omega)]
        rw [e]; exact this

theorem ecell_range (cnts : List Nat) {k e : Nat} (hk : k < cnts.length) (he : e < cnts.getD k 1) :
    (e = 0 ∧ ecell k (xbase cnts k) e = k) ∨
    (e ≠ 0 ∧ cnts.length + xcount cnts k ≤ ecell k (xbase cnts k) e ∧
      ecell k (xbase cnts k) e < cnts.length + xcount cnts (k + 1)) := by
  unfold ecell xbase
  by_cases h0 : e = 0
  · exact Or.inl ⟨h0, if_pos h0⟩
  · rw [if_neg h0, xcount_succ cnts hk]
    exact Or.inr ⟨h0, by omega, by omega⟩

theorem ecell_lt (cnts : List Nat) {k e : Nat} (hk : k < cnts.length) (he : e < cnts.getD k 1) :
    ecell k (xbase cnts k) e < cnts.length + xcount cnts cnts.length := by
  have hm := xcount_mono cnts (a := k + 1) (b := cnts.length) hk
  rcases ecell_range cnts hk he with ⟨_, h⟩ | ⟨_, _, h⟩ <;> omega

/-- `M0` is the memory when the function was called (the caller's memory; the marks of the frame are its stack
    size and stack pointer).  `cnts`: the number of elements of every variable (1: a scalar).  The first `i`
    variables have their stack slot; the temporary `%.σ[k]` holds its address. -/
structure AInv (M0 : Mem) (cnts : List Nat) (W : List (CSem.Ty × Nat × Nat)) (σ : List Nat)
    (vtys : List CSem.Ty) (s : Store) (i : Nat) (env : Env) (M : Mem) : Prop where
  mem : MemInv M
  ssize : M.stack.size = M0.stack.size + i
  -- 64: the frame cost of the call (`AInv.enter`).  An `alloc` of `n` elements lowers `sp` by at most `24 + 8 * n`
  -- (red zone 16, rounding down to a multiple of at most 8: `alloc_mem`), which is `32 + 8 * (n - 1)`.
  sp_lo : M0.sp ≤ M.sp + 64 + 32 * i + 8 * xcount cnts i
  sp_hi : M.sp ≤ M0.sp
  top : M0.sp ≤ stackTop
  globals : M.globals = M0.globals
  below : ∀ k, k < M0.stack.size → M.stack[k]? = M0.stack[k]?
  slots : ∀ (k : Nat) (t : CSem.Ty), k < i → vtys[k]? = some t →
    ∃ (a : UInt64) (al : Alloc), env[tmpName (σ.getD k 0)]? = some ⟨.l, a⟩ ∧
      M.stack[M0.stack.size + k]? = some al ∧ al.base = a.toNat ∧ 1 ≤ cnts.getD k 1 ∧
      al.size = t.size * cnts.getD k 1 ∧ al.bytes.size = al.size ∧ al.base + al.size ≤ M0.sp ∧
      ∀ e v, e < cnts.getD k 1 → s[ecell k (xbase cnts k) e]? = some (some v) →
        ((loadLE al.bytes (e * t.size) t.size).toNat : Int) = v % 2 ^ (8 * t.size)
  /-- the read-only array parameters (`W[j] = (t, w, c0)` for parameter `j`): the slot holds the address of an
      allocation of the callers, whose bytes are the elements seen in the cells `c0 …` -/
  wins : ∀ (j : Nat) (t : CSem.Ty) (w c0 : Nat), W[j]? = some (t, w, c0) →
    j < i ∧ vtys.length + xcount cnts cnts.length ≤ c0 ∧
    ∃ (al : Alloc) (pv : UInt64) (j' : Nat) (al' : Alloc),
      M.stack[M0.stack.size + j]? = some al ∧ loadLE al.bytes 0 8 = pv ∧
      j' < M0.stack.size ∧ M0.stack[j']? = some al' ∧ al'.base = pv.toNat ∧ w * t.size ≤ al'.size ∧
      al'.bytes.size = al'.size ∧ al'.base + al'.size ≤ stackTop ∧
      ∀ e v, e < w → s[c0 + e]? = some (some v) →
        ((loadLE al'.bytes (e * t.size) t.size).toNat : Int) = v % 2 ^ (8 * t.size)

theorem addr_lt {base size sp off n : Nat} (hin : off + n ≤ size) (h : base + size ≤ sp) (htop : sp ≤ stackTop) :
    base + off < 2 ^ 64 :=
  Nat.lt_of_le_of_lt (Nat.le_trans (Nat.add_le_add_left (Nat.le_trans (Nat.le_add_right _ _) hin) _)
    (Nat.le_trans h htop)) (by decide)

theorem lt_of_get {α : Type} {l : List α} {i : Nat} {x : α} (h : l[i]? = some x) : i < l.length :=
  (List.getElem?_eq_some_iff.1 h).1

theorem get_set_none {s : Store} {j i : Nat} {v : Int} (h : (s.set j none)[i]? = some (some v)) :
    s[i]? = some (some v) := by
  by_cases hji : j = i
  · subst hji
    rw [List.getElem?_set] at h
    simp only [if_true] at h
    split at h <;> cases h
  · rwa [List.getElem?_set_ne hji] at h

theorem ecell_zero (k xb : Nat) : ecell k xb 0 = k := by simp [ecell]

theorem ecell_inj (cnts : List Nat) {k k' e e' : Nat} (hk : k < cnts.length) (hk' : k' < cnts.length)
    (he : e < cnts.getD k 1) (he' : e' < cnts.getD k' 1)
    (h : ecell k (xbase cnts k) e = ecell k' (xbase cnts k') e') : k = k' ∧ e = e' := by
  rcases ecell_range cnts hk he with ⟨h0, h1⟩ | ⟨h0, h1, h2⟩ <;>
    rcases ecell_range cnts hk' he' with ⟨h0', h1'⟩ | ⟨h0', h1', h2'⟩
  · exact ⟨by omega, by omega⟩
  · omega
  · omega
  · -- the blocks of two different variables are disjoint
    rcases Nat.lt_trichotomy k k' with hlt | heq | hgt
    · have := xcount_mono cnts (a := k + 1) (b := k') hlt; omega
    · subst heq
      unfold ecell at h
      rw [if_neg h0, if_neg h0'] at h
      exact ⟨rfl, by omega⟩
    · have := xcount_mono cnts (a := k' + 1) (b := k) hgt; omega

/-- The clause of `AInv.slots` for the variable `k` of type `t`. -/
def SlotAt (M0 : Mem) (cnts σ : List Nat) (s : Store) (env : Env) (M : Mem) (k : Nat) (t : CSem.Ty) : Prop :=
  ∃ (a : UInt64) (al : Alloc), env[tmpName (σ.getD k 0)]? = some ⟨.l, a⟩ ∧
    M.stack[M0.stack.size + k]? = some al ∧ al.base = a.toNat ∧ 1 ≤ cnts.getD k 1 ∧
    al.size = t.size * cnts.getD k 1 ∧ al.bytes.size = al.size ∧ al.base + al.size ≤ M0.sp ∧
    ∀ e v, e < cnts.getD k 1 → s[ecell k (xbase cnts k) e]? = some (some v) →
      ((loadLE al.bytes (e * t.size) t.size).toNat : Int) = v % 2 ^ (8 * t.size)

theorem SlotAt.transfer {M0 : Mem} {cnts σ : List Nat} {s s' : Store} {env env' : Env} {M M' : Mem} {k : Nat}
    {t : CSem.Ty} (h : SlotAt M0 cnts σ s env M k t)
    (henv : env'[tmpName (σ.getD k 0)]? = env[tmpName (σ.getD k 0)]?)
    (hst : M'.stack[M0.stack.size + k]? = M.stack[M0.stack.size + k]?)
    (hs : ∀ e v, e < cnts.getD k 1 → s'[ecell k (xbase cnts k) e]? = some (some v) →
      s[ecell k (xbase cnts k) e]? = some (some v)) : SlotAt M0 cnts σ s' env' M' k t := by
  obtain ⟨a, al, h1, h2, h3, h4, h5, h6, h6b, h7⟩ := h
  exact ⟨a, al, henv ▸ h1, hst ▸ h2, h3, h4, h5, h6, h6b, fun e v he hv => h7 e v he (hs e v he hv)⟩

/-- What an array argument `pv` is: the base of an allocation of `M` whose first `w` elements are what the cells show. -/
def Window (M : Mem) (cell : Nat → Option (Option Int)) (pv : UInt64) (t : CSem.Ty) (w : Nat) : Prop :=
  ∃ (j' : Nat) (al' : Alloc), j' < M.stack.size ∧ M.stack[j']? = some al' ∧ al'.base = pv.toNat ∧
    w * t.size ≤ al'.size ∧ al'.bytes.size = al'.size ∧ al'.base + al'.size ≤ stackTop ∧
    ∀ e v, e < w → cell e = some (some v) →
      ((loadLE al'.bytes (e * t.size) t.size).toNat : Int) = v % 2 ^ (8 * t.size)

theorem Window.mono {M : Mem} {cell cell' : Nat → Option (Option Int)} {pv : UInt64} {t : CSem.Ty} {w w' : Nat}
    (h : Window M cell pv t w) (hw : w' ≤ w)
    (hc : ∀ e v, e < w' → cell' e = some (some v) → cell e = some (some v)) : Window M cell' pv t w' := by
  obtain ⟨j', al', g3, g4, g5, g6, g7, g8, g9⟩ := h
  exact ⟨j', al', g3, g4, g5, Nat.le_trans (Nat.mul_le_mul_right _ hw) g6, g7, g8,
    fun e v he hv => g9 e v (Nat.lt_of_lt_of_le he hw) (hc e v he hv)⟩

/-- A window on the caller's memory is one on the memory of the running function (`AInv.below`). -/
theorem Window.below {M0 M : Mem} {cell : Nat → Option (Option Int)} {pv : UInt64} {t : CSem.Ty} {w : Nat}
    (h : Window M0 cell pv t w) (hb : ∀ k, k < M0.stack.size → M.stack[k]? = M0.stack[k]?) : Window M cell pv t w := by
  obtain ⟨j', al', g3, g4, g⟩ := h
  exact ⟨j', al', (Array.getElem?_eq_some_iff.1 ((hb j' g3).trans g4)).1, (hb j' g3).trans g4, g⟩

theorem Window.elem_lt {M : Mem} {cell : Nat → Option (Option Int)} {pv : UInt64} {t : CSem.Ty} {w e : Nat}
    (h : Window M cell pv t w) (he : e < w) : pv.toNat + e * t.size < 2 ^ 64 := by
  obtain ⟨_, al', -, -, g5, g6, -, g8, -⟩ := h
  exact g5 ▸ addr_lt (elem_le he g6) (Nat.le_refl _) g8

theorem Window.load {M : Mem} {cell : Nat → Option (Option Int)} {pv : UInt64} {t : CSem.Ty} {w e : Nat} {v : Int}
    (h : Window M cell pv t w) (inv : MemInv M) (he : e < w) (hv : cell e = some (some v)) :
    ∃ x, M.load (pv.toNat + e * t.size) t.size = .ok x ∧ (x.toNat : Int) = v % 2 ^ (8 * t.size) := by
  obtain ⟨_, al', -, g4, g5, g6, -, -, g9⟩ := h
  exact ⟨_, g5 ▸ load_elem inv g4 (ty_size_bounds t).1 he g6, g9 e v he hv⟩

/-- The clause of `AInv.wins` for the window `(t, w, c0)` of parameter `j`. -/
def WinAt (M0 : Mem) (cnts : List Nat) (vtys : List CSem.Ty) (s : Store) (i : Nat) (M : Mem) (j : Nat)
    (t : CSem.Ty) (w c0 : Nat) : Prop :=
  j < i ∧ vtys.length + xcount cnts cnts.length ≤ c0 ∧
    ∃ (al : Alloc) (pv : UInt64) (j' : Nat) (al' : Alloc),
      M.stack[M0.stack.size + j]? = some al ∧ loadLE al.bytes 0 8 = pv ∧
      j' < M0.stack.size ∧ M0.stack[j']? = some al' ∧ al'.base = pv.toNat ∧ w * t.size ≤ al'.size ∧
      al'.bytes.size = al'.size ∧ al'.base + al'.size ≤ stackTop ∧
      ∀ e v, e < w → s[c0 + e]? = some (some v) →
        ((loadLE al'.bytes (e * t.size) t.size).toNat : Int) = v % 2 ^ (8 * t.size)

theorem winAt_iff {M0 : Mem} {cnts : List Nat} {vtys : List CSem.Ty} {s : Store} {i : Nat} {M : Mem} {j : Nat}
    {t : CSem.Ty} {w c0 : Nat} : WinAt M0 cnts vtys s i M j t w c0 ↔
      j < i ∧ vtys.length + xcount cnts cnts.length ≤ c0 ∧ ∃ (al : Alloc) (pv : UInt64),
        M.stack[M0.stack.size + j]? = some al ∧ loadLE al.bytes 0 8 = pv ∧ Window M0 (fun e => s[c0 + e]?) pv t w :=
  ⟨fun ⟨gi, g0, al, pv, j', al', g1, g2, g⟩ => ⟨gi, g0, al, pv, g1, g2, j', al', g⟩,
    fun ⟨gi, g0, al, pv, g1, g2, j', al', g⟩ => ⟨gi, g0, al, pv, j', al', g1, g2, g⟩⟩

theorem WinAt.transfer {M0 : Mem} {cnts : List Nat} {vtys : List CSem.Ty} {s s' : Store} {i i' : Nat} {M M' : Mem}
    {j : Nat} {t : CSem.Ty} {w c0 : Nat} (h : WinAt M0 cnts vtys s i M j t w c0) (hi : i ≤ i')
    (hst : M'.stack[M0.stack.size + j]? = M.stack[M0.stack.size + j]?)
    (hs : ∀ e v, e < w → s'[c0 + e]? = some (some v) → s[c0 + e]? = some (some v)) :
    WinAt M0 cnts vtys s' i' M' j t w c0 := by
  obtain ⟨gi, g0, al, pv, g1, g2, g⟩ := winAt_iff.1 h
  exact winAt_iff.2 ⟨Nat.lt_of_lt_of_le gi hi, g0, al, pv, hst ▸ g1, g2, g.mono (Nat.le_refl _) hs⟩

/-- The array arguments of an activation of `g` on the machine arguments `ρ` are windows on the elements `ws` shows. -/
def WinOK (cs : Bool) (g : CSem2.Func) (ws : List (Option Int)) (ρ : List Int) (M : Mem) : Prop :=
  ∀ (j : Nat) (t : CSem.Ty) (w : Nat), g.pwin[j]? = some (t, w) →
    ∃ pv : UInt64, ρ[j]? = some (pv.toNat : Int) ∧
      Window M (fun e => ws[((g.pwin.take j).map (·.2)).sum + e]?) pv t w ∧
      ∀ e v, e < w → ws[((g.pwin.take j).map (·.2)).sum + e]? = some (some v) → InRange (t.intTy cs) v

theorem AInv.env {M0 : Mem} {cnts σ : List Nat} {W : List (CSem.Ty × Nat × Nat)} {vtys : List CSem.Ty} {s : Store}
    {i : Nat} {env env' : Env} {M : Mem} (h : AInv M0 cnts W σ vtys s i env M)
    (he : ∀ k, k < i → env'[tmpName (σ.getD k 0)]? = env[tmpName (σ.getD k 0)]?) :
    AInv M0 cnts W σ vtys s i env' M :=
  ⟨h.mem, h.ssize, h.sp_lo, h.sp_hi, h.top, h.globals, h.below,
    fun k t hk ht => SlotAt.transfer (h.slots k t hk ht) (he k hk) rfl fun _ _ _ hv => hv, h.wins⟩

section
variable {M0 : Mem} {cnts σ : List Nat} {W : List (CSem.Ty × Nat × Nat)} {vtys : List CSem.Ty} {s : Store}
  {i : Nat} {env : Env} {M : Mem}

theorem AInv.forget (h : AInv M0 cnts W σ vtys s i env M) (j : Nat) : AInv M0 cnts W σ vtys (s.set j none) i env M :=
  ⟨h.mem, h.ssize, h.sp_lo, h.sp_hi, h.top, h.globals, h.below,
    fun k t hk ht => SlotAt.transfer (h.slots k t hk ht) rfl rfl fun _ _ _ hv => get_set_none hv,
    fun j' t w c0 hw => WinAt.transfer (h.wins j' t w c0 hw) (Nat.le_refl _) rfl fun _ _ _ hv => get_set_none hv⟩

theorem AInv.alloc (h : AInv M0 cnts W σ vtys s i env M) {t : CSem.Ty} (hi : i < cnts.length)
    (hc : 1 ≤ cnts.getD i 1) (hcmax : cnts.getD i 1 ≤ 100000000)
    (hroom : stackLimit + 128 + 32 * (i + 1) + 8 * xcount cnts (i + 1) ≤ M0.sp)
    (hsmall : M0.stack.size + i + 1 < 2 ^ 64)
    (hnone : ∀ e v, e < cnts.getD i 1 → s[ecell i (xbase cnts i) e]? ≠ some (some v)) :
    ∃ (base : Nat) (M1 : Mem),
      execOp (.alloc (if t.size = 8 then 8 else 4)) (some .l)
        [⟨.c, UInt64.ofNat (t.size * cnts.getD i 1)⟩] M none = .ok (⟨.l, base.toUInt64⟩, M1) ∧
      ∀ env' : Env, (∀ k, k < i → env'[tmpName (σ.getD k 0)]? = env[tmpName (σ.getD k 0)]?) →
        env'[tmpName (σ.getD i 0)]? = some ⟨.l, base.toUInt64⟩ → vtys[i]? = some t →
        AInv M0 cnts W σ vtys s (i + 1) env' M1 := by
  have hsz := ty_size_bounds t
  have hal : (if t.size = 8 then 8 else 4) = 4 ∨ (if t.size = 8 then 8 else 4) = 8 := by
    split <;> simp
  have hxs := xcount_succ cnts hi
  have hsize1 : 0 < t.size * cnts.getD i 1 := Nat.mul_pos hsz.1 hc
  have hsize2 : t.size * cnts.getD i 1 ≤ 8 * cnts.getD i 1 := Nat.mul_le_mul_right _ hsz.2
  have hlo := h.sp_lo; have hhi := h.sp_hi; have hss := h.ssize
  -- `hcmax` keeps the size below `maxAlloc` (8 · 10⁸ ≤ 2³⁰); the callers have it from the `f.extra ≤ 10⁶` of `CSem2.WT`
  obtain ⟨base, halloc, hinv1, hb1, hb2⟩ := alloc_mem h.mem (t.size * cnts.getD i 1)
    (if t.size = 8 then 8 else 4) ⟨hsize1, by unfold maxAlloc; omega⟩ hal (by omega) (by omega)
  have htop := h.top
  rw [stackTop_val] at htop
  obtain ⟨hbase64, hsp1, hsp2, hfit, hlt, hsz1⟩ : base < 2 ^ 64 ∧
      M0.sp ≤ base + 64 + 32 * (i + 1) + 8 * xcount cnts (i + 1) ∧ base ≤ M0.sp ∧
      base + t.size * cnts.getD i 1 ≤ M0.sp ∧ t.size * cnts.getD i 1 < 2 ^ 64 ∧
      M.stack.size + 1 = M0.stack.size + (i + 1) := by omega
  have hbn : base.toUInt64.toNat = base := by
    show (UInt64.ofNat base).toNat = base
    rw [UInt64.toNat_ofNat']; exact Nat.mod_eq_of_lt hbase64
  refine ⟨base, _, exec_alloc _ _ _ hlt halloc, ?_⟩
  intro env' he hnew hti
  have hkeep : ∀ k, k < M0.stack.size + i →
      (M.stack.push ⟨base, t.size * cnts.getD i 1, zeros (t.size * cnts.getD i 1)⟩)[k]? = M.stack[k]? :=
    fun k hk => Array.getElem?_push.trans (if_neg (Nat.ne_of_lt (hss ▸ hk)))
  refine ⟨hinv1, (Array.size_push _).trans hsz1, hsp1, hsp2, h.top, h.globals,
    fun k hk => (hkeep k (Nat.lt_of_lt_of_le hk (Nat.le_add_right _ _))).trans (h.below k hk), ?_,
    fun j t' w c0 hw => WinAt.transfer (h.wins j t' w c0 hw) (Nat.le_succ _)
      (hkeep _ (Nat.add_lt_add_left (h.wins j t' w c0 hw).1 _)) fun _ _ _ hv => hv⟩
  intro k t' hk ht'
  by_cases hki : k = i
  · subst hki
    rw [hti] at ht'; cases ht'
    refine ⟨base.toUInt64, ⟨base, t.size * cnts.getD k 1, zeros (t.size * cnts.getD k 1)⟩, hnew, ?_,
      hbn.symm, hc, rfl, zeros_size _, hfit, fun e v he' hv => absurd hv (hnone e v he')⟩
    show (M.stack.push _)[M0.stack.size + k]? = _
    rw [← hss]; simp
  · have hk' : k < i := Nat.lt_of_le_of_ne (Nat.le_of_lt_succ hk) hki
    exact SlotAt.transfer (h.slots k t' hk' ht') (he k hk') (hkeep _ (Nat.add_lt_add_left hk' _))
      fun _ _ _ hv => hv

/-- What a register must hold for `store` into a slot of type `t` to write the representation of `v`. -/
def StoreVal (t : CSem.Ty) (v : Int) (r : RVal) : Prop :=
  ∃ x : UInt64, (if t.size = 8 then r.asL else r.asW) = .ok x ∧
    (x.toNat : Int) % 2 ^ (8 * t.size) = v % 2 ^ (8 * t.size)

theorem storeVal_of_rep {t : CSem.Ty} {v : Int} {r : RVal} (h : Rep t v r) : StoreVal t v r := by
  unfold Rep at h
  unfold StoreVal
  by_cases h8 : t.size = 8
  · simp only [h8, if_true] at h ⊢
    obtain ⟨x, hx, hxv⟩ := h
    refine ⟨x, hx, ?_⟩
    rw [hxv]
    simp only [Nat.reduceMul]
    omega
  · simp only [h8, if_false] at h ⊢
    exact h

theorem AInv.cnt_pos (h : AInv M0 cnts W σ vtys s i env M) {k : Nat} {t : CSem.Ty} (hk : k < i)
    (hkt : vtys[k]? = some t) : 1 ≤ cnts.getD k 1 :=
  let ⟨_, _, _, _, _, h4, _⟩ := h.slots k t hk hkt; h4

/-- The slot of a variable is a window on its elements. -/
theorem AInv.window (h : AInv M0 cnts W σ vtys s i env M) {k : Nat} {t : CSem.Ty} (hk : k < i)
    (hkt : vtys[k]? = some t) : ∃ a : UInt64, env[tmpName (σ.getD k 0)]? = some ⟨.l, a⟩ ∧
      Window M (fun e => s[ecell k (xbase cnts k) e]?) a t (cnts.getD k 1) := by
  obtain ⟨a, al, h1, h2, h3, -, h5, h5b, h5c, h7⟩ := h.slots k t hk hkt
  exact ⟨a, h1, M0.stack.size + k, al, (Array.getElem?_eq_some_iff.1 h2).1, h2, h3,
    Nat.le_of_eq (by rw [h5, Nat.mul_comm]), h5b, Nat.le_trans h5c h.top, h7⟩

theorem AInv.storeAt (h : AInv M0 cnts W σ vtys s i env M) (hcl : cnts.length = vtys.length) {k : Nat} {t : CSem.Ty}
    (hk : k < i) (hWk : W.length ≤ k) (hkt : vtys[k]? = some t) {e : Nat} (he : e < cnts.getD k 1)
    {v : Int} {r : RVal} (hr : StoreVal t v r) {a : UInt64} (ha : env[tmpName (σ.getD k 0)]? = some ⟨.l, a⟩) :
    ∃ M' : Mem,
      (∀ ra : RVal, ra.asL = .ok (UInt64.ofNat (a.toNat + e * t.size)) →
        execOp (.store (storeOf t)) none [r, ra] M none = .ok (dummy, M')) ∧
      AInv M0 cnts W σ vtys (s.set (ecell k (xbase cnts k) e) (some v)) i env M' := by
  obtain ⟨a', al, h1, h2, h3, h4, h5, h5b, h5c, h7⟩ := h.slots k t hk hkt
  cases (RVal.mk.inj (Option.some.inj (h1.symm.trans ha))).2
  have hsz := ty_size_bounds t
  obtain ⟨x, hx, hxv⟩ := hr
  have hn : cnts.getD k 1 * t.size ≤ al.size := by rw [h5, Nat.mul_comm]; exact Nat.le_refl _
  have hst := store_elem h.mem h2 hsz.1 he hn x
  rw [h3] at hst
  have hlt : a.toNat + e * t.size < 2 ^ 64 := addr_lt (elem_le he hn) (h3 ▸ h5c) h.top
  have hna : (UInt64.ofNat (a.toNat + e * t.size)).toNat = a.toNat + e * t.size := by
    rw [UInt64.toNat_ofNat']; exact Nat.mod_eq_of_lt hlt
  refine ⟨⟨M.globals, M.stack.modify (M0.stack.size + k) (fun a_1 =>
      { a_1 with bytes := storeLE a_1.bytes (a.toNat + e * t.size - a_1.base) x t.size }), M.sp⟩, ?_, ?_⟩
  · exact fun ra hra => exec_store_ty hra hx (by rw [hna]; exact hst)
  have hkl : k < cnts.length := by rw [hcl]; exact lt_of_get hkt
  have hkeep : ∀ k', M0.stack.size + k ≠ k' → (M.stack.modify (M0.stack.size + k) (fun a_1 =>
      { a_1 with bytes := storeLE a_1.bytes (a.toNat + e * t.size - a_1.base) x t.size }))[k']? = M.stack[k']? :=
    fun k' hne => Array.getElem?_modify.trans (if_neg hne)
  refine ⟨modify_inv h.mem _ _ (fun a => ⟨rfl, rfl⟩), by simp [h.ssize], h.sp_lo, h.sp_hi, h.top,
    h.globals, fun k' hk'b => (hkeep k' (Nat.ne_of_gt (Nat.lt_of_lt_of_le hk'b (Nat.le_add_right _ _)))).trans
      (h.below k' hk'b), ?_, ?_⟩
  · intro k' t' hk'i ht'
    have hkl' : k' < cnts.length := by rw [hcl]; exact lt_of_get ht'
    by_cases hkk : k' = k
    · subst hkk
      rw [hkt] at ht'; cases ht'
      refine ⟨a, { al with bytes := storeLE al.bytes (a.toNat + e * t.size - al.base) x t.size }, h1, ?_, h3,
        h4, h5, (storeLE_size _ _ _ _).trans h5b, h5c, ?_⟩
      · show (M.stack.modify (M0.stack.size + k') _)[M0.stack.size + k']? = _
        rw [Array.getElem?_modify]
        simp [h2]
      · intro e' v' he' hv'
        show ((loadLE (storeLE al.bytes (a.toNat + e * t.size - al.base) x t.size) (e' * t.size) t.size).toNat : Int)
          = _
        rw [h3, Nat.add_sub_cancel_left]
        by_cases hee : e' = e
        · subst hee
          have hlen : ecell k' (xbase cnts k') e' < s.length := by
            rcases Nat.lt_or_ge (ecell k' (xbase cnts k') e') s.length with hl | hl
            · exact hl
            · rw [List.getElem?_eq_none (by simpa using hl)] at hv'; cases hv'
          rw [List.getElem?_set_self hlen] at hv'
          cases hv'
          rw [load_store t.size hsz.2 al.bytes (e' * t.size) x (by rw [h5b]; exact elem_le he' hn),
            Int.natCast_emod, Int.natCast_pow]
          exact hxv
        · rw [List.getElem?_set_ne fun hc => hee (ecell_inj cnts hkl hkl he he' hc).2.symm] at hv'
          rw [load_store_other]
          · exact h7 e' v' he' hv'
          · -- different elements: disjoint byte ranges
            rcases Nat.lt_or_gt_of_ne hee with hlt' | hgt'
            · exact Or.inl (by rw [← Nat.succ_mul]; exact Nat.mul_le_mul_right _ hlt')
            · exact Or.inr (by rw [← Nat.succ_mul]; exact Nat.mul_le_mul_right _ hgt')
    · exact SlotAt.transfer (h.slots k' t' hk'i ht') rfl
        (hkeep _ fun h => hkk (Nat.add_left_cancel h).symm) fun e' v' he' hv' => by
        rwa [List.getElem?_set_ne fun hc => hkk (ecell_inj cnts hkl hkl' he he' hc).1.symm] at hv'
  · intro j t' w c0 hw
    have hjW : j < W.length := lt_of_get hw
    have hc0 := (h.wins j t' w c0 hw).2.1
    have hcell := ecell_lt cnts hkl he
    exact WinAt.transfer (h.wins j t' w c0 hw) (Nat.le_refl _)
      (hkeep _ fun h => Nat.lt_irrefl _ (Nat.lt_of_lt_of_le (Nat.add_left_cancel h ▸ hjW) hWk)) fun e' v' _ hv' => by
      rwa [List.getElem?_set_ne (by rw [← hcl] at hc0; omega)] at hv'

theorem AInv.store (h : AInv M0 cnts W σ vtys s i env M) (hcl : cnts.length = vtys.length) {k : Nat} {t : CSem.Ty}
    (hk : k < i) (hWk : W.length ≤ k) (hkt : vtys[k]? = some t) {v : Int} {r : RVal} (hr : StoreVal t v r) :
    ∃ (a : UInt64) (M' : Mem), env[tmpName (σ.getD k 0)]? = some ⟨.l, a⟩ ∧
      execOp (.store (storeOf t)) none [r, ⟨.l, a⟩] M none = .ok (dummy, M') ∧
      AInv M0 cnts W σ vtys (s.set k (some v)) i env M' := by
  obtain ⟨a, h1, _⟩ := h.window hk hkt
  obtain ⟨M', h2, h5⟩ := h.storeAt hcl hk hWk hkt (e := 0) (h.cnt_pos hk hkt) hr h1
  rw [ecell_zero] at h5
  refine ⟨a, M', h1, h2 ⟨.l, a⟩ ?_, h5⟩
  simp [RVal.asL]

/-- the array parameter joins the windows; as an integer variable it is forgotten (`s.set i none`) -/
theorem AInv.addWin (h : AInv M0 cnts W σ vtys s (i + 1) env M) (hWi : W.length = i)
    (hti : vtys[i]? = some .ulong) {pv : UInt64} (hsi : s[i]? = some (some (pv.toNat : Int)))
    {t : CSem.Ty} {w c0 : Nat} (hc0 : vtys.length + xcount cnts cnts.length ≤ c0)
    (hwin : Window M0 (fun e => s[c0 + e]?) pv t w) :
    AInv M0 cnts (W ++ [(t, w, c0)]) σ vtys (s.set i none) (i + 1) env M := by
  have hf := h.forget i
  have hiv : i < vtys.length := lt_of_get hti
  refine ⟨hf.mem, hf.ssize, hf.sp_lo, hf.sp_hi, hf.top, hf.globals, hf.below, hf.slots, ?_⟩
  intro j t1 w1 c1 hw
  by_cases hj : j < W.length
  · rw [List.getElem?_append_left hj] at hw
    exact hf.wins j t1 w1 c1 hw
  · rw [List.getElem?_append_right (by omega)] at hw
    have hj0 : j - W.length = 0 := by
      rcases Nat.eq_zero_or_pos (j - W.length) with h0 | h0
      · exact h0
      · rw [List.getElem?_eq_none (by simp; omega)] at hw; cases hw
    rw [hj0] at hw
    simp only [List.getElem?_cons_zero, Option.some.injEq, Prod.mk.injEq] at hw
    obtain ⟨rfl, rfl, rfl⟩ := hw
    have hji : j = i := by omega
    subst hji
    obtain ⟨a, al, h1, h2, h3, h4, h5, h5b, h5c, h7⟩ := h.slots j .ulong (Nat.lt_succ_self _) hti
    have h70 := h7 0 pv.toNat h4 (by rw [ecell_zero]; exact hsi)
    have hsz8 : CSem.Ty.ulong.size = 8 := rfl
    rw [hsz8] at h70
    have hpv : loadLE al.bytes 0 8 = pv := by
      apply UInt64.toNat_inj.1
      simp only [Nat.zero_mul, Nat.reduceMul] at h70
      rw [Int.emod_eq_of_lt (Int.natCast_nonneg _) (by exact_mod_cast pv.toNat_lt)] at h70
      exact Int.ofNat.inj h70
    exact winAt_iff.2 ⟨Nat.lt_succ_self _, hc0, al, pv, h2, hpv, hwin.mono (Nat.le_refl _) fun e v _ hv => by
      rwa [List.getElem?_set_ne (by omega)] at hv⟩

theorem AInv.loadAt (cs : Bool) (h : AInv M0 cnts W σ vtys s i env M) {k : Nat} {t : CSem.Ty} {v : Int} (hk : k < i)
    (hkt : vtys[k]? = some t) {e : Nat} (he : e < cnts.getD k 1)
    (hv : s[ecell k (xbase cnts k) e]? = some (some v)) :
    ∃ a : UInt64, env[tmpName (σ.getD k 0)]? = some ⟨.l, a⟩ ∧ a.toNat + e * t.size < 2 ^ 64 ∧
      ∀ ra : UInt64, ra.toNat = a.toNat + e * t.size →
        ∃ r, execOp (.load (loadOf cs t)) (some (cls t)) [⟨.l, ra⟩] M none = .ok (r, M) ∧ Rep t v r := by
  obtain ⟨a, h1, hw⟩ := h.window hk hkt
  obtain ⟨x, hx, hxv⟩ := hw.load h.mem he hv
  exact ⟨a, h1, hw.elem_lt he, fun ra hra => load_rep cs t v M ra x (hra ▸ hx) hxv⟩

theorem AInv.load (cs : Bool) (h : AInv M0 cnts W σ vtys s i env M) {k : Nat} {t : CSem.Ty} {v : Int} (hk : k < i)
    (hkt : vtys[k]? = some t) (hv : s[k]? = some (some v)) :
    ∃ a r, env[tmpName (σ.getD k 0)]? = some a ∧
      execOp (.load (loadOf cs t)) (some (cls t)) [a] M none = .ok (r, M) ∧ Rep t v r := by
  obtain ⟨a, h1, _, h3⟩ := h.loadAt cs hk hkt (e := 0) (h.cnt_pos hk hkt) (by rw [ecell_zero]; exact hv)
  obtain ⟨r, hx, hr⟩ := h3 a (by simp)
  exact ⟨⟨.l, a⟩, r, h1, hx, hr⟩

theorem AInv.loadWin (cs : Bool) (h : AInv M0 cnts W σ vtys s i env M)
    {k : Nat} {t : CSem.Ty} {w c0 : Nat} (hw : W[k]? = some (t, w, c0)) (hkt : vtys[k]? = some .ulong)
    {e : Nat} {v : Int} (he : e < w) (hv : s[c0 + e]? = some (some v)) :
    ∃ (a pv : UInt64), env[tmpName (σ.getD k 0)]? = some ⟨.l, a⟩ ∧
      execOp (.load .l) (some .l) [⟨.l, a⟩] M none = .ok (⟨.l, pv⟩, M) ∧ pv.toNat + e * t.size < 2 ^ 64 ∧
      ∀ ra : UInt64, ra.toNat = pv.toNat + e * t.size →
        ∃ r, execOp (.load (loadOf cs t)) (some (cls t)) [⟨.l, ra⟩] M none = .ok (r, M) ∧ Rep t v r := by
  obtain ⟨hki, -, al, pv, g1, g2, hwin⟩ := winAt_iff.1 (h.wins k t w c0 hw)
  have hwin := hwin.below h.below
  obtain ⟨a, al2, h1, h2, h3, h4, h5, h5b, h5c, h7⟩ := h.slots k .ulong hki hkt
  cases Option.some.inj (g1.symm.trans h2)
  have hload0 := load_elem h.mem h2 (sz := 8) (e := 0) (n := 1) (by decide) (by decide)
    (by rw [h5]; exact Nat.mul_le_mul_left 8 h4)
  rw [h3, g2, Nat.zero_mul, Nat.add_zero] at hload0
  obtain ⟨x, hx, hxv⟩ := hwin.load h.mem he hv
  refine ⟨a, pv, h1, ?_, hwin.elem_lt he, fun ra hra => load_rep cs t v M ra x (hra ▸ hx) hxv⟩
  simp [execOp, needRes, bind, Except.bind, loadInfo, hload0, pure, Except.pure]

theorem AInv.popTo (h : AInv M0 cnts W σ vtys s i env M) : M.popTo M0.stack.size M0.sp = M0 := by
  cases M0 with
  | mk g0 st0 sp0 =>
    cases M with
    | mk g st sp =>
      have hg : g = g0 := h.globals
      have hb : ∀ k, k < st0.size → st[k]? = st0[k]? := h.below
      have hs : st.size = st0.size + i := h.ssize
      simp only [Mem.popTo, hg, Mem.mk.injEq, true_and, and_true]
      apply Array.ext_getElem?
      intro k
      simp only [Array.shrink_eq_take, Array.take_eq_extract, Array.getElem?_extract]
      by_cases hk : k < st0.size
      · simp [hk, hb k hk]; omega
      · simp [hk, Array.getElem?_eq_none (Nat.le_of_not_lt hk)]; omega

end

/-- The invariant while the body runs. -/
structure SInv (M0 : Mem) (cs : Bool) (cnts : List Nat) (W : List (CSem.Ty × Nat × Nat)) (σ : List Nat)
    (vtys : List CSem.Ty) (s : Store) (env : Env) (M : Mem) : Prop where
  a : AInv M0 cnts W σ vtys s vtys.length env M
  clen : cnts.length = vtys.length
  slen : vtys.length + xcount cnts cnts.length ≤ s.length
  range : ∀ (i : Nat) (t : CSem.Ty) (v : Int), vtys[i]? = some t → s[i]? = some (some v) →
    InRange (t.intTy cs) v
  xrange : ∀ (k e : Nat) (t : CSem.Ty) (v : Int), vtys[k]? = some t → e < cnts.getD k 1 →
    s[ecell k (xbase cnts k) e]? = some (some v) → InRange (t.intTy cs) v
  wrange : ∀ (j e : Nat) (t : CSem.Ty) (w c0 : Nat) (v : Int), W[j]? = some (t, w, c0) → e < w →
    s[c0 + e]? = some (some v) → InRange (t.intTy cs) v

theorem SInv.env {M0 : Mem} {cs : Bool} {cnts σ : List Nat} {W : List (CSem.Ty × Nat × Nat)} {vtys : List CSem.Ty}
    {s : Store} {env env' : Env} {M : Mem} (h : SInv M0 cs cnts W σ vtys s env M)
    (he : ∀ k, k < vtys.length → env'[tmpName (σ.getD k 0)]? = env[tmpName (σ.getD k 0)]?) :
    SInv M0 cs cnts W σ vtys s env' M := ⟨h.a.env he, h.clen, h.slen, h.range, h.xrange, h.wrange⟩

section
variable {M0 : Mem} {cs : Bool} {cnts σ : List Nat} {W : List (CSem.Ty × Nat × Nat)} {vtys : List CSem.Ty}
  {s : Store} {env : Env} {M : Mem}

theorem SInv.forget
    (h : SInv M0 cs cnts W σ vtys s env M) (j : Nat) : SInv M0 cs cnts W σ vtys (s.set j none) env M := by
  exact ⟨h.a.forget j, h.clen, by simp only [List.length_set]; exact h.slen,
    fun i t v ht hv => h.range i t v ht (get_set_none hv),
    fun k e t v ht he hv => h.xrange k e t v ht he (get_set_none hv),
    fun j' e t w c0 v hw he hv => h.wrange j' e t w c0 v hw he (get_set_none hv)⟩

theorem SInv.clear (h : SInv M0 cs cnts W σ vtys s env M) (l : List Nat) :
    SInv M0 cs cnts W σ vtys (CSem2.clear s l) env M := by
  unfold CSem2.clear
  induction l generalizing s with
  | nil => exact h
  | cons i l ih => exact ih (h.forget i)

theorem SInv.storeAt (h : SInv M0 cs cnts W σ vtys s env M) {k : Nat} {t : CSem.Ty} (hkt : vtys[k]? = some t)
    (hWk : W.length ≤ k)
    {e : Nat} (he : e < cnts.getD k 1) {v : Int} {r : RVal} (hv : InRange (t.intTy cs) v)
    (hr : StoreVal t v r) {a : UInt64} (ha : env[tmpName (σ.getD k 0)]? = some ⟨.l, a⟩) :
    ∃ M' : Mem,
      (∀ ra : RVal, ra.asL = .ok (UInt64.ofNat (a.toNat + e * t.size)) →
        execOp (.store (storeOf t)) none [r, ra] M none = .ok (dummy, M')) ∧
      SInv M0 cs cnts W σ vtys (s.set (ecell k (xbase cnts k) e) (some v)) env M' := by
  have hkl : k < cnts.length := by rw [h.clen]; exact lt_of_get hkt
  obtain ⟨M', h2, h4⟩ := h.a.storeAt h.clen (lt_of_get hkt) hWk hkt he hr ha
  have hcellb : ecell k (xbase cnts k) e < vtys.length + xcount cnts cnts.length := h.clen ▸ ecell_lt cnts hkl he
  have hcell : ecell k (xbase cnts k) e < s.length := Nat.lt_of_lt_of_le hcellb h.slen
  have hx : ∀ (k' e' : Nat) (t' : CSem.Ty) (v' : Int), vtys[k']? = some t' → e' < cnts.getD k' 1 →
      (s.set (ecell k (xbase cnts k) e) (some v))[ecell k' (xbase cnts k') e']? = some (some v') →
      InRange (t'.intTy cs) v' := by
    intro k' e' t' v' ht' he' hv'
    by_cases hki : ecell k (xbase cnts k) e = ecell k' (xbase cnts k') e'
    · have hil : k' < cnts.length := by rw [h.clen]; exact lt_of_get ht'
      obtain ⟨rfl, rfl⟩ := ecell_inj cnts hkl hil he he' hki
      rw [hkt] at ht'; cases ht'
      rw [List.getElem?_set_self hcell] at hv'
      cases hv'; exact hv
    · rw [List.getElem?_set_ne hki] at hv'
      exact h.xrange k' e' t' v' ht' he' hv'
  refine ⟨M', h2, h4, h.clen, by simp only [List.length_set]; exact h.slen, ?_, hx, ?_⟩
  · intro i t' v' ht' hv'
    exact hx i 0 t' v' ht' (h4.cnt_pos (lt_of_get ht') ht') (by rw [ecell_zero]; exact hv')
  · intro j e' t' w c0 v' hw he' hv'
    obtain ⟨_, g0, _⟩ := h.a.wins j t' w c0 hw
    have hne : ecell k (xbase cnts k) e ≠ c0 + e' := by omega
    rw [List.getElem?_set_ne hne] at hv'
    exact h.wrange j e' t' w c0 v' hw he' hv'

theorem SInv.store (h : SInv M0 cs cnts W σ vtys s env M) {k : Nat} {t : CSem.Ty} (hkt : vtys[k]? = some t)
    (hWk : W.length ≤ k)
    {v : Int} {r : RVal} (hv : InRange (t.intTy cs) v) (hr : StoreVal t v r) :
    ∃ (a : UInt64) (M' : Mem), env[tmpName (σ.getD k 0)]? = some ⟨.l, a⟩ ∧
      execOp (.store (storeOf t)) none [r, ⟨.l, a⟩] M none = .ok (dummy, M') ∧
      SInv M0 cs cnts W σ vtys (s.set k (some v)) env M' := by
  obtain ⟨a, h1, _⟩ := h.a.window (lt_of_get hkt) hkt
  obtain ⟨M', h2, h4⟩ := h.storeAt hkt hWk (e := 0) (h.a.cnt_pos (lt_of_get hkt) hkt) hv hr h1
  rw [ecell_zero] at h4
  exact ⟨a, M', h1, h2 ⟨.l, a⟩ (by simp [RVal.asL]), h4⟩
end

end CprocVerif.LowerMach2
