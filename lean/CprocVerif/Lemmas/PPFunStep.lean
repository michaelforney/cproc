import CprocVerif.Lemmas.PPFunSubst
import CprocVerif.Lemmas.PPArgsExec
import CprocVerif.Lemmas.PPFunRef

/-! # A simple function-like invocation: the model's new context is the reference's new source

For a function-like macro without `#` and `...`, invoked from the source text (empty context stack) with arguments that
contain no macro name: `expand` consumes `( args )`, stores the arguments and pushes the replacement list
(`expand_funclike`); the reference, on the same tokens, puts `refCall` in front of the rest of the source
(`funclike_core`).  What the new frame will deliver (`flat`) is `refCall` by class and spelling (`refCall_key`). -/

namespace CprocVerif.PP
open CprocVerif.Gen.TokenKinds
open CprocVerif.Spec.MacroRef (HTok Item PTok MacroDef RErr Flag Elem expandH hsadd union pendItems lookup
  matchParen splitTop subst elems paramIndex)
open CprocVerif.Spec

theorem peekparen_lparen (n : Nat) (st : St) (hctx : st.ctx = []) (lp : Tok) (r : List Tok)
    (hraw : st.raw = lp :: r) (hlp : lp.kind = .TLPAREN) (hprag : st.prag = false) :
    exec (n + 3) .peekparen st = .ok { st with raw := r, newline := false, rt := lp, rb := true } := by
  show peekparenBody (exec (n + 2)) st = _
  unfold peekparenBody
  simp only [hprag, Bool.false_eq_true, ↓reduceIte]
  rw [ctxnext_empty (n + 1) st hctx]
  show peekLoopBody (exec (n + 1)) [] { st with rb := false } = _
  unfold peekLoopBody
  rw [nextinto_tok n { st with rb := false } lp r hraw (by rw [hlp]; decide) (by rw [hlp]; decide)]
  have : ¬ (r.length + 1 < (lp :: r).length) := Nat.lt_irrefl _
  simp only [hraw, this, ↓reduceIte, hlp]
  simp [hprag]

theorem macroget_setArgs (ms : List Macro) (n : Name) (a : List Arg) (k : Name) :
    macroget (setArgs ms n a) k = (macroget ms k).map fun m => if m.name = n then { m with args := a } else m := by
  unfold macroget setArgs
  rw [List.find?_map]
  congr 2
  funext m
  show decide ((if m.name = n then { m with args := a } else m).name = k) = _
  split <;> rfl

theorem map_setArgs {β : Type} (f : Macro → β) (hf : ∀ (m : Macro) (a : List Arg), f { m with args := a } = f m)
    (ms : List Macro) (n : Name) (a : List Arg) : (setArgs ms n a).map f = ms.map f := by
  unfold setArgs
  rw [List.map_map]
  refine List.map_congr_left fun m _ => ?_
  show f (if m.name = n then { m with args := a } else m) = f m
  split
  · exact hf m a
  · rfl

/-- an invocation of `F` in the source text that `collect` accepts -/
structure Invoc (st : St) (F : Macro) (T lp : Tok) (r : List Tok) (args : List (List Tok)) (rest : List Tok) : Prop where
  ctx : st.ctx = []
  prag : st.prag = false
  kind : T.kind = .TIDENT
  hide : T.hide = false
  get : macroget st.macros (T.lit.getD []) = some F
  fhide : F.hide = false
  raw : st.raw = lp :: r
  lparen : lp.kind = .TLPAREN
  col : collect F.params 0 0 [] [] r = .ok (args, rest)
  plain : PlainFor st.macros r (collect F.params 0 0 [] [] r)

/-- the state `s2` after `expand` on an invocation in the state `st` -/
structure Invoked (st s2 : St) (F : Macro) (T : Tok) (A : List Arg) (rest : List Tok) : Prop where
  rb : s2.rb = true
  raw : s2.raw = rest
  ctx : s2.ctx = [⟨respace F.body T.space, some F.name⟩]
  macros : s2.macros = setHide (setArgs st.macros F.name A) F.name true
  depth : s2.depth = st.depth + 1
  ppnl : s2.ppnl = st.ppnl
  prag : s2.prag = st.prag

theorem expand_invoke {n : Nat} {st sp se : St} {F : Macro} {T : Tok} (hk : T.kind = .TIDENT) (hh : T.hide = false)
    (hget : macroget st.macros (T.lit.getD []) = some F) (hFh : F.hide = false) (hfun : F.func = true)
    (hpk : exec n .peekparen st = .ok sp) (hrb : sp.rb = true) (hef : exec n (.expandfunc F) sp = .ok se) :
    exec (n + 1) (.expand T) st = .ok (pushed F T se) := by
  rw [expand_eq]
  simp only [hk, ne_eq, not_true_eq_false, ↓reduceIte, hget, hFh, Bool.false_eq_true, hh, or_self, hfun, hpk, hrb, hef]

theorem pushed_invoked (F : Macro) (T : Tok) {st se : St} {A : List Arg} {rest : List Tok} (h1 : se.raw = rest)
    (h2 : se.ctx = []) (h3 : se.macros = setArgs st.macros F.name A) (h4 : se.depth = st.depth) (h5 : se.ppnl = st.ppnl)
    (h6 : se.prag = st.prag) : Invoked st (pushed F T se) F T A rest :=
  ⟨rfl, h1, congrArg (_ :: ·) h2, congrArg (setHide · F.name true) h3, congrArg (· + 1) h4, h5, h6⟩

theorem expand_funclike {st : St} {F : Macro} {T lp : Tok} {r : List Tok} {args : List (List Tok)} {rest : List Tok}
    (hi : Invoc st F T lp r args rest) (hfun : F.func = true) (hne : 0 < F.params.length) :
    ∃ n s2, exec n (.expand T) st = .ok s2 ∧ Invoked st s2 F T (List.zipWith mkArg F.params args) rest := by
  let sp : St := { st with raw := r, newline := false, rt := lp, rb := true }
  have hag := expandfunc_collect F sp hi.ctx hi.plain hne
  rw [show sp.raw = r from rfl, hi.col] at hag
  obtain ⟨n0, se, hse, h1, h2, h3, h4, h5⟩ := hag
  refine ⟨max n0 3 + 1, ?_⟩
  have hpk : exec (max n0 3) .peekparen st = .ok sp :=
    lift (peekparen_lparen 0 st hi.ctx lp r hi.raw hi.lparen hi.prag) (by intro h; cases h) _ (Nat.le_max_right ..)
  have hef : exec (max n0 3) (.expandfunc F) sp = .ok se := lift hse (by intro h; cases h) _ (Nat.le_max_left ..)
  exact ⟨_, expand_invoke hi.kind hi.hide hi.get hi.fhide hfun hpk rfl hef, pushed_invoked F T h1 h2 h3 h4 h5.2.1 h5.2.2⟩

/-- `F0` is the macro as `st` has it (`F` up to flag and stored arguments) -/
theorem Invoked.flat_eq {st s2 : St} {F F0 : Macro} {T : Tok} {A : List Arg} {rest : List Tok} {n : Name}
    (h : Invoked st s2 F T A rest) (hget : macroget st.macros n = some F0)
    (hF : ({ F0 with args := A, hide := true } : Macro) = { F with args := A, hide := true }) (hfun : F.func = true) :
    macroget s2.macros F.name = some { F with args := A, hide := true } ∧
    flat s2.macros s2.ctx = substBody { F with args := A } (respace F.body T.space) := by
  obtain ⟨-, rfl⟩ := macroget_mem hget
  have hname : F0.name = F.name := by have := congrArg Macro.name hF; exact this
  have hF' : macroget s2.macros F.name = some { F with args := A, hide := true } := by
    rw [h.macros, macroget_setHide, macroget_setArgs, show macroget st.macros F.name = some F0 from hname ▸ hget]
    simp only [Option.map_some, if_pos hname]
    exact congrArg some hF
  refine ⟨hF', ?_⟩
  simp only [h.ctx, flat, frameToks, Option.bind_some, hF', List.append_nil]
  exact (if_pos hfun).trans (substBody_hide { F with args := A } true _)

/-- the model's macro as a definition of the reference, for tables without `...`: `variadic := false` whatever the
parameters are, so it is the right reading only under `novar` (`SimpleFun`, the classes of `PPFnTable`) -/
def toDefF (m : Macro) : MacroDef :=
  { name := m.name, func := m.func, params := m.params.map (·.name), variadic := false, body := m.body.map toP }

def tblF (ms : List Macro) : List MacroDef := ms.map toDefF

theorem lookup_tblF (ms : List Macro) (n : Name) : lookup (tblF ms) n = (macroget ms n).map toDefF := by
  unfold lookup tblF macroget
  rw [List.find?_map]
  rfl

theorem paramIndex_toDefF (F : Macro) (t : Tok) : paramIndex (toDefF F) (toP t) = macroparam F.params t := by
  have hidx : ∀ ps : List Param, (ps.map (·.name)).findIdx (fun p => decide (some p = t.lit)) =
      ps.findIdx (fun p => decide (some p.name = t.lit)) := fun ps => by
    induction ps with
    | nil => rfl
    | cons p r ih => simp only [List.map_cons, List.findIdx_cons, ih]
  unfold paramIndex macroparam toDefF toP
  simp only [Bool.false_eq_true, ↓reduceIte, List.length_map, hidx]

/-- a function-like macro of the simple kind; `ftok`: the "used plainly" flag as `define` sets it -/
structure SimpleFun (F : Macro) : Prop where
  func : F.func = true
  nonempty : 0 < F.params.length
  novar : ∀ p ∈ F.params, p.fvar = false
  nohash : ∀ t ∈ F.body, t.kind ≠ .THASH
  ftok : ∀ t ∈ F.body, ∀ i, macroparam F.params t = some i → (F.params.getD i default).ftok = true

theorem getD_novar {ps : List Param} (h : ∀ p ∈ ps, p.fvar = false) (j : Nat) : (ps.getD j default).fvar = false := by
  rw [List.getD_eq_getElem?_getD]
  cases hj : ps[j]? with
  | none => rfl
  | some p => exact h p (List.mem_of_getElem? hj)

theorem key_paint (x : Tok) : Tok.key (paint x) = Tok.key x := by
  unfold paint Tok.key; split <;> rfl

theorem getD_map_map {α β : Type} (f : α → β) (l : List (List α)) (i : Nat) :
    (l.map (·.map f)).getD i [] = (l.getD i []).map f := by
  simp only [List.getD_eq_getElem?_getD, List.getElem?_map]
  cases l[i]? <;> rfl

theorem zipWith_mkArg_toks : ∀ (ps : List Param) (args : List (List Tok)) (i : Nat),
    ((List.zipWith mkArg ps args).getD i default).toks = (mkArg (ps.getD i default) (args.getD i [])).toks
  | [], _, _ => rfl
  | _ :: _, [], _ => (ite_self _).symm
  | _ :: _, _ :: _, 0 => rfl
  | _ :: ps, _ :: xs, i + 1 => zipWith_mkArg_toks ps xs i

theorem collect_segment {ps : List Param} {r : List Tok} {args : List (List Tok)} {rest : List Tok}
    (hnv : ∀ p ∈ ps, p.fvar = false) (hne : 0 < ps.length) (hcol : collect ps 0 0 [] [] r = .ok (args, rest)) :
    ∃ seg rp, r = seg ++ rp :: rest ∧ rp.kind = .TRPAREN ∧
      (∀ X : List Item, matchParen (seg.map iT ++ iT rp :: X) 0 [] = some (seg.map hT, hT rp, X, false)) ∧
      splitTop (seg.length + 1) 0 (seg.map hT) [] = args.map (·.map hT) ∧ args.length = ps.length := by
  obtain ⟨seg, rp, hr, hrp, hmp, hsplit⟩ := collect_specX ps (fun j _ => getD_novar hnv j) r 0 0 [] [] args rest hne hcol
  have hsl : splitsLeft ps 0 seg = seg.length + 1 := by
    unfold splitsLeft; rw [getD_novar hnv]; simp
  simp only [List.reverse_nil, List.map_nil, List.nil_append, hsl] at hsplit
  exact ⟨seg, rp, hr, hrp, hmp, hsplit.symm, collect_length ps r 0 0 [] [] args rest rfl hne hcol⟩

theorem plainFor_ok {ms : List Macro} {seg rest : List Tok} {rp : Tok} {args : List (List Tok)}
    (h : PlainFor ms (seg ++ rp :: rest) (.ok (args, rest))) : ∀ x ∈ seg ++ [rp], PlainTok ms x := by
  intro x hx
  apply h
  have h2 : seg ++ rp :: rest = (seg ++ [rp]) ++ rest := by simp
  rw [h2, List.length_append, Nat.add_sub_cancel, List.take_left' rfl]
  exact hx

/-- what the reference puts in place of an invocation of `F` with the arguments `A` (`pushFront`): the replacement
list with the arguments substituted, `F` added to the hide sets -/
def refCall (F : Macro) (A : List (List HTok)) : List HTok :=
  hsadd [F.name] (subst (fun i => A.getD i []) (fun i => A.getD i []) (elems (toDefF F) (toDefF F).body) false)

theorem funclike_core {st : St} {F : Macro} {T lp : Tok} {r : List Tok} {args : List (List Tok)} {rest : List Tok}
    (hsf : SimpleFun F) (hi : Invoc st F T lp r args rest) :
    ∃ seg rp, r = seg ++ rp :: rest ∧ rp.kind = .TRPAREN ∧
      splitTop (seg.length + 1) 0 (seg.map hT) [] = args.map (·.map hT) ∧
    ∃ n s2, exec n (.expand T) st = .ok s2 ∧ Invoked st s2 F T (List.zipWith mkArg F.params args) rest ∧
      ∀ (K : Nat) (X : List Item), seg.length < K →
        outKeys (expandH false (K + 1) (tblF st.macros)
            (.tok (mkH [] T) :: .tok (mkH [] lp) :: (seg.map iT ++ iT rp :: X))) =
          outKeys (expandH false K (tblF st.macros) (pushFront (refCall F (args.map (·.map hT))) T.space X)) := by
  obtain ⟨seg, rp, hr, hrp, hmp, hA, hlen⟩ := collect_segment hsf.novar hsf.nonempty hi.col
  have hplain : ∀ x ∈ seg ++ [rp], PlainTok st.macros x := by
    have := hi.plain; rw [hi.col, hr] at this; exact plainFor_ok this
  obtain ⟨n, s2, hex, hd⟩ := expand_funclike hi hsf.func hsf.nonempty
  refine ⟨seg, rp, hr, hrp, hA, n, s2, hex, hd, fun K X hK => ?_⟩
  have hseglen : (seg.map hT).length = seg.length := List.length_map ..
  have hkeyl : (seg.map hT).map Item.tok = seg.map iT := by rw [List.map_map]; rfl
  have hl : lookup (tblF st.macros) ((mkH [] T).tok.lit.getD []) = some (toDefF F) := by
    rw [lookup_tblF]; exact congrArg (Option.map toDefF) hi.get
  have := expandH_func_step (tblF st.macros) (toDefF F) (mkH [] T) (mkH [] lp) (hT rp) (seg.map hT) X K
    hi.kind rfl rfl hl hsf.func rfl (by simp [toDefF]; exact hsf.nonempty) hi.lparen
    (by rw [hkeyl]; exact hmp X)
    (by rw [hseglen, hA]; simp [toDefF, hlen])
    (by
      intro t ht
      obtain ⟨x, hx, rfl⟩ := List.mem_map.mp ht
      refine ⟨?_, rfl⟩
      by_cases hk : x.kind = .TIDENT
      · right
        show lookup (tblF st.macros) (x.lit.getD []) = none
        rw [lookup_tblF, (hplain x (List.mem_append_left _ hx)).2.2.2.2 hk]; rfl
      · left; exact hk)
    (by rw [hseglen]; exact hK)
  rw [hseglen, hkeyl, hA] at this
  exact this

theorem map_mkH_respace (h : List Name) (l : List Tok) (sp : Bool) :
    (respace l sp).map (mkH h) = (MacroRef.respace (l.map (mkH h)) sp).1 :=
  map_respace (mkH h) (fun _ _ => rfl) l sp

theorem refCall_key {F : Macro} (hsf : SimpleFun F) (args : List (List Tok)) (sp : Bool) :
    (substBody { F with args := List.zipWith mkArg F.params args } (respace F.body sp)).map Tok.key =
      (MacroRef.respace (refCall F (args.map (·.map hT))) sp).1.map k2' := by
  rw [substBody_respace_key, k2'_respace, refCall, k2'_hsadd]
  refine substBody_key { F with args := List.zipWith mkArg F.params args } (toDefF F) hsf.func
    (paramIndex_toDefF F) _ _ F.body hsf.nohash ?_ false
  intro i hu
  obtain ⟨_, t, ht, hp⟩ := uses_of_nohash F.params F.body hsf.nohash _ hu
  show List.map Tok.key ((List.zipWith mkArg F.params args).getD i default).toks = _
  rw [zipWith_mkArg_toks, mkArg, if_pos (hsf.ftok t ht i hp), getD_map_map, List.map_map, List.map_map]
  exact List.map_congr_left (fun x _ => key_paint x)

end CprocVerif.PP
