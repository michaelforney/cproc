import CprocVerif.Lemmas.PPLineInv
import CprocVerif.Model.PPLine

/-! What the location of a scanned token means in terms of `Spec/Presumed.lean`. -/

namespace CprocVerif.PPLine
open CprocVerif.Scan CprocVerif.Gen.TokenKinds CprocVerif.Spec.Presumed

variable {text : List UInt8}

def toDir (d : Nat × Nat × Option (List UInt8)) : LineDir := ⟨d.1, d.2.1, d.2.2⟩

/-- the line shift in force after the directives `D`: the last one's line number minus the
physical line number of the byte that follows it -/
def shiftOf (text : List UInt8) (D : List LineDir) : Int :=
  match D.getLast? with
  | none => 0
  | some d => (d.line : Int) - (1 + newlines text 0 d.endOff)

def curFile (file0 : List UInt8) (D : List LineDir) : List UInt8 :=
  ((D.filterMap (·.file)).getLast?).getD file0

/-- what is known about a token scanned while the directives `D` were in force -/
structure Scanned (file0 : List UInt8) (text : List UInt8) (D : List LineDir) (t : PTok) : Prop where
  loc : LocRel (shiftOf text D) ⟨t.line, t.col⟩ (locAt text t.off)
  file : t.file = curFile file0 D
  le : t.off ≤ text.length
  eof : t.kind = .TEOF ↔ text[t.off]? = none
  nl : t.kind = .TNEWLINE ↔ text[t.off]? = some (c! '\n')
  bound : ∀ d ∈ D, d.endOff ≤ t.off

theorem inEffect_all {D : List LineDir} {o : Nat} (h : ∀ d ∈ D, d.endOff ≤ o) : inEffect D o = D := by
  unfold inEffect
  exact List.filter_eq_self.mpr (fun d hd => by simpa using h d hd)

theorem locAt_line (text : List UInt8) (o : Nat) :
    (locAt text o).line = (physAt text o).line + if text[o]? = some NL then 1 else 0 := by
  unfold locAt
  cases text[o]? with
  | none => rfl
  | some c => by_cases hc : c = NL <;> simp [advChar, hc]

theorem locAt_col (text : List UInt8) (o : Nat) :
    (locAt text o).col = if text[o]? = some NL then 0 else (physAt text o).col + 1 := by
  unfold locAt
  cases text[o]? with
  | none => rfl
  | some c => by_cases hc : c = NL <;> simp [advChar, hc]

theorem presumedLine_shift {D : List LineDir} {o : Nat} (hb : ∀ d ∈ D, d.endOff ≤ o) :
    (presumedLine text D o : Int) = (physAt text o).line + shiftOf text D := by
  unfold presumedLine shiftOf
  rw [inEffect_all hb, physAt_line]
  cases hD : D.getLast? with
  | none => simp only []; omega
  | some d =>
    have := newlines_split text 0 d.endOff o (Nat.zero_le _) (hb d (List.mem_of_getLast? hD))
    simp only []; omega

theorem presumedFile_cur (file0 : List UInt8) {D : List LineDir} {o : Nat} (hb : ∀ d ∈ D, d.endOff ≤ o) :
    presumedFile file0 D o = curFile file0 D := by
  unfold presumedFile curFile; rw [inEffect_all hb]

/-- the `+ 1`: `nextchar` counts a line break as soon as it reads the new-line -/
theorem line_presumed {D : List LineDir} {o l : Nat} (hb : ∀ d ∈ D, d.endOff ≤ o)
    (h : (l : Int) = (locAt text o).line + shiftOf text D) :
    l = presumedLine text D o + if text[o]? = some NL then 1 else 0 := by
  have := presumedLine_shift (text := text) hb
  rw [locAt_line] at h
  by_cases hn : text[o]? = some NL
  · rw [if_pos hn] at h ⊢; omega
  · rw [if_neg hn] at h ⊢; omega

/-- what the spec says about a token, given the directives `D` -/
def SpecOK (file0 : List UInt8) (text : List UInt8) (D : List LineDir) (t : PTok) : Prop :=
  t.file = presumedFile file0 D t.off ∧
  (t.kind ≠ .TNEWLINE → t.line = presumedLine text D t.off ∧ t.col = column text t.off) ∧
  (t.kind = .TNEWLINE → t.line = presumedLine text D t.off + 1 ∧ t.col = 0)

theorem Scanned.specOK {file0 : List UInt8} {D : List LineDir} {t : PTok}
    (h : Scanned file0 text D t) : SpecOK file0 text D t := by
  have hl : t.line = _ := line_presumed h.bound h.loc.1
  have hc : t.col = _ := h.loc.2
  rw [locAt_col] at hc
  refine ⟨by rw [h.file, presumedFile_cur file0 h.bound], fun hk => ?_, fun hk => ?_⟩
  · rw [if_neg fun e => hk (h.nl.mpr e)] at hl hc
    exact ⟨hl, by rw [hc, column, physAt_col]⟩
  · rw [if_pos (h.nl.mp hk)] at hl hc
    exact ⟨hl, hc⟩

theorem Scanned.newline {file0 : List UInt8} {D : List LineDir} {t : PTok}
    (h : Scanned file0 text D t) (hk : t.kind = .TNEWLINE) :
    t.line = presumedLine text D t.off + 1 ∧ t.col = 0 := h.specOK.2.2 hk

theorem presumed_stable (file0 : List UInt8) (D new : List LineDir) (o : Nat)
    (h : ∀ d ∈ new, o < d.endOff) :
    presumedLine text (D ++ new) o = presumedLine text D o ∧
    presumedFile file0 (D ++ new) o = presumedFile file0 D o := by
  have : inEffect (D ++ new) o = inEffect D o := by
    have hnew : inEffect new o = [] :=
      List.filter_eq_nil_iff.mpr fun d hd => by have := h d hd; simp; omega
    unfold inEffect at hnew ⊢
    rw [List.filter_append, hnew, List.append_nil]
  unfold presumedLine presumedFile
  rw [this]
  exact ⟨rfl, rfl⟩

end CprocVerif.PPLine
