import CprocVerif.Lemmas.PPObjPot
import CprocVerif.Lemmas.PPObj
import CprocVerif.Lemmas.PPObjRef

/-! # Object-like macro sets: the abstraction of a model state and the invariant

`absSt st` is what the context stack and the scanner still hold, as a source of the reference: each
token with the hide set of its frame.  `Good` is the invariant of the simulation (`PPObjMain`).
`SameBut` relates states that differ only in what neither `Good` nor the invariants of the function-like chain
(`FnState`, `Live`) read (`Good.sameBut`, `FnState.sameBut`, `Live.sameBut`). -/

namespace CprocVerif.PP
open CprocVerif.Gen.TokenKinds
open CprocVerif.Spec.MacroRef (HTok Item PTok MacroDef RErr Flag expandH hsadd union pendItems lookup)
open CprocVerif.Spec

/-- the hide set of the tokens of the top frame: the macros with a live frame, oldest first -/
def hsOf (ctx : List Frame) : List Name := (liveNames ctx).reverse

theorem hsOf_contains {ctx : List Frame} {ms : List Macro} {d : Nat} (h : InvC ctx ms d) {m : Macro} (hm : m ∈ ms) :
    (hsOf ctx).contains m.name = m.hide := by
  rw [Bool.eq_iff_iff, hsOf, List.contains_reverse, List.contains_iff_mem]
  exact (h.hideIff m hm).symm

def mkH (hs : List Name) (t : Tok) : HTok := ⟨toP t, hs, false⟩

def absCtx : List Frame → List HTok
  | [] => []
  | f :: rest => f.toks.map (mkH (hsOf (f :: rest))) ++ absCtx rest

def visible (t : Tok) : Bool := t.kind ≠ .TNEWLINE

def absRaw (raw : List Tok) : List HTok := (raw.filter visible).map (mkH [])

def absSt (st : St) : List Item := (absCtx st.ctx ++ absRaw st.raw).map Item.tok

theorem union_single {a : List Name} {x : Name} (h : a.contains x = false) : union a [x] = a ++ [x] := by
  rw [union, List.filter_cons, h]
  rfl

def okKind (t : Tok) : Prop := t.kind ≠ .TNEWLINE ∧ t.kind ≠ .TEOF ∧ t.hide = false

structure Good (st : St) : Prop where
  inv : InvC st.ctx st.macros st.depth
  obj : ObjOnly st.macros
  plain : Plain st.raw
  rawNoHide : ∀ t ∈ st.raw, t.hide = false
  ctxOk : ∀ f ∈ st.ctx, ∀ t ∈ f.toks, okKind t
  bodyOk : ∀ m ∈ st.macros, ∀ t ∈ m.body, okKind t
  ppnl : st.ppnl = false

theorem liveNames_settoks (f : Frame) (more : List Tok) (rest : List Frame) :
    liveNames ({ f with toks := more } :: rest) = liveNames (f :: rest) := by
  simp [liveNames, List.filterMap_cons]

theorem respace_map_erase (l : List Tok) (sp : Bool) (h : List Name) :
    ((respace l sp).map (mkH h)).map eraseT = (l.map (mkH h)).map eraseT := by
  cases l <;> rfl

theorem hsadd_body (h : List Name) (body : List Tok) :
    hsadd h ((body.map toP).map fun t => (⟨t, [], false⟩ : HTok)) = body.map (mkH h) := by
  unfold hsadd
  simp only [List.map_map]
  apply List.map_congr_left
  intro t _
  simp [mkH, union]

theorem okKind_respace {l : List Tok} {sp : Bool} (h : ∀ t ∈ l, okKind t) : ∀ t ∈ respace l sp, okKind t := by
  cases l with
  | nil => intro t ht; cases ht
  | cons a r =>
    intro t ht
    simp only [respace, List.mem_cons] at ht
    rcases ht with rfl | ht
    · exact h a (List.mem_cons_self ..)
    · exact h t (List.mem_cons_of_mem _ ht)

theorem hsOf_push (toks : List Tok) (n : Name) (ctx : List Frame) : hsOf (⟨toks, some n⟩ :: ctx) = hsOf ctx ++ [n] := by
  simp [hsOf, liveNames]

/-- `a` is `b` up to the registers `tok`, `rt`, `rb` and the ghost events, which no invariant of the expansion reads -/
def SameBut (a b : St) : Prop := ∃ tok rt rb evs, a = { b with tok := tok, rt := rt, rb := rb, events := evs }

theorem SameBut.regs (st : St) (tok rt : Tok) (rb : Bool) : SameBut { st with tok := tok, rt := rt, rb := rb } st :=
  ⟨_, _, _, _, rfl⟩
theorem SameBut.refl (a : St) : SameBut a a := ⟨_, _, _, _, rfl⟩
theorem SameBut.ev (a : St) (x : Event) : SameBut (a.ev x) a := ⟨_, _, _, _, rfl⟩
theorem SameBut.trans {a b c : St} : SameBut a b → SameBut b c → SameBut a c
  | ⟨tok, rt, rb, evs, h1⟩, ⟨_, _, _, _, h2⟩ => ⟨tok, rt, rb, evs, h1.trans (h2 ▸ rfl)⟩

theorem SameBut.raw {a b : St} : SameBut a b → a.raw = b.raw | ⟨_, _, _, _, h⟩ => h ▸ rfl
theorem SameBut.ctx {a b : St} : SameBut a b → a.ctx = b.ctx | ⟨_, _, _, _, h⟩ => h ▸ rfl
theorem SameBut.macros {a b : St} : SameBut a b → a.macros = b.macros | ⟨_, _, _, _, h⟩ => h ▸ rfl

theorem Good.sameBut {a b : St} (g : Good a) : SameBut b a → Good b
  | ⟨_, _, _, _, h⟩ => h ▸ ⟨g.inv, g.obj, g.plain, g.rawNoHide, g.ctxOk, g.bodyOk, g.ppnl⟩

end CprocVerif.PP
