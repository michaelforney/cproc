import CprocVerif.Lemmas.InitRefR

/-!
# Without designators the reference never switches a union member

Positional initialisation reaches only the first member of a union, so every recorded active
member is member 0 and `enter` never finds a different one.
-/

namespace CprocVerif.InitSim
open CprocVerif.Init CprocVerif.Image CprocVerif.InitRef

theorem noDesigs_cons' {ds : List Desig} {i : Ini} {rest : Items} (h : noDesigs (.cons ds i rest) = true) :
    ds = [] ∧ noDesig i = true ∧ noDesigs rest = true := by
  simp only [noDesigs, Bool.and_eq_true, List.isEmpty_iff] at h
  exact ⟨h.1.1, h.1.2, h.2⟩

/-- every union recorded as active has its first member active -/
def ActZ (st : RSt) : Prop := ∀ e ∈ st.act, e.2.2.1 = 0

/-- from `st` to `r`: if `ActZ` held it still holds and no member was switched (the count is kept only
under `ActZ`, which is why the two are one statement) -/
def Quiet (st r : RSt) : Prop := ActZ st → ActZ r ∧ r.nswitch = st.nswitch

theorem Quiet.refl (st : RSt) : Quiet st st := fun h => ⟨h, rfl⟩

theorem Quiet.trans {a b c : RSt} (h : Quiet a b) (h' : Quiet b c) : Quiet a c := fun ha =>
  ⟨(h' (h ha).1).1, (h' (h ha).1).2.trans (h ha).2⟩

theorem Quiet.of_eq {st r : RSt} (ha : r.act = st.act) (hn : r.nswitch = st.nswitch) : Quiet st r :=
  fun h => ⟨fun e he => h e (ha ▸ he), hn⟩

theorem quiet_enter {st : RSt} {pl : Place} {pos : Nat} {ch : Place} (hc : childAt pl pos true = some ch) :
    Quiet st (enter st pl pos) := by
  intro h
  unfold enter
  split
  · rename_i tag size ms hty
    have hp0 : pos = 0 := by
      rw [childAt_agg hty] at hc
      by_cases hp : pos = 0
      · exact hp
      · simp [hp] at hc
    split
    · rename_i a b m d hf
      have hm := h _ (List.mem_of_find?_eq_some hf)
      simp only [] at hm
      rw [if_pos (by omega)]
      exact ⟨h, rfl⟩
    · refine ⟨?_, rfl⟩
      intro e he
      simp only [List.mem_cons] at he
      rcases he with rfl | he
      · exact hp0
      · exact h e he
  · exact ⟨h, rfl⟩

theorem quiet_zeroed (st : RSt) (pl : Place) : Quiet st (zeroed st pl) := by
  refine fun h => ⟨fun e he => ?_, zeroed_nswitch st pl⟩
  unfold zeroed at he
  generalize (if pl.unb then 0 else pl.ty.size) = size at he
  unfold zeroIfDirty at he
  split at he
  · exact h e (List.mem_filter.1 he).1
  · exact h e he

theorem quiet_child {st : RSt} {pl : Place} {pos : Nat} {ch : Place} (hc : childAt pl pos true = some ch) :
    Quiet st (grow (enter st pl pos) pl pos) :=
  (quiet_enter hc).trans (.of_eq (grow_facts _ _ _).2.2 (grow_nswitch _ _ _))

theorem ref_quiet {c : Call} {st : RSt} {rest' : Items} {st' : RSt} (h : Ref c st rest' st') :
    (match c with
      | .one _ ini rest => noDesig ini = true ∧ noDesigs rest = true
      | .cont _ _ its | .braced _ its | .loop _ _ its => noDesigs its = true
      | .desig .. => False) → noDesigs rest' = true ∧ Quiet st st' := by
  induction h with
  | list _ ih => exact fun ⟨h1, h2⟩ => ⟨h2, (ih h1).2⟩
  | leaf he hi =>
    obtain ⟨_, _, ⟨_, i, top, rfl, _⟩ | ⟨he', _⟩⟩ := initOne_expr_ok hi
    · exact fun ⟨_, h2⟩ => ⟨h2, .of_eq rfl rfl⟩
    · rw [he] at he'; cases he'
  | elide _ _ ih => exact fun ⟨_, h2⟩ => ih (by simp [noDesigs, noDesig, h2])
  | stop _ => exact fun h => ⟨h, .refl _⟩
  | next hch _ _ ih1 ih2 =>
    intro h
    obtain ⟨_, h1, h2⟩ := noDesigs_cons' h
    obtain ⟨b1, b2⟩ := ih1 ⟨h1, h2⟩
    obtain ⟨c1, c2⟩ := ih2 b1
    exact ⟨c1, ((quiet_child hch).trans b2).trans c2⟩
  | empty _ => exact fun _ => ⟨rfl, .refl _⟩
  | @whole pl e st _ _ _ _ _ ih =>
    intro _
    refine ⟨rfl, Quiet.trans (b := if isScalarTy pl.ty then st else zeroed st pl) ?_ (ih ⟨rfl, rfl⟩).2⟩
    split
    · exact .refl _
    · exact quiet_zeroed st pl
  | items _ _ ih => exact fun h => ⟨rfl, (quiet_zeroed _ _).trans (ih h).2⟩
  | done => exact fun _ => ⟨rfl, .refl _⟩
  | plain hch _ _ ih1 ih2 =>
    intro h
    obtain ⟨_, h1, h2⟩ := noDesigs_cons' h
    obtain ⟨b1, b2⟩ := ih1 ⟨h1, h2⟩
    exact ⟨rfl, ((quiet_child hch).trans b2).trans (ih2 b1).2⟩
  | desig _ _ _ _ _ _ => exact fun h => by cases (noDesigs_cons' h).1
  | here _ _ => exact fun h => h.elim
  | res _ _ _ _ => exact fun h => h.elim
  | down _ _ _ _ _ => exact fun h => h.elim

theorem nswitch_zero {t : Ty} {inc : Bool} {i : Ini} {r : Result} (hr : ref t inc i = .ok r) (hok : noDesig i = true) :
    r.nswitch = 0 := by
  obtain ⟨rst, hi, _, _, hns⟩ := ref_ok hr
  rw [hns]
  exact ((ref_quiet ((ref_sound _).1 _ _ _ _ _ hi) ⟨hok, rfl⟩).2 (fun e he => by cases he)).2

end CprocVerif.InitSim
