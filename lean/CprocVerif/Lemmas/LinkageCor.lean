import CprocVerif.Lemmas.LinkageInd

/-! What `Spec/Link.lean` says of the symbols of an accepted history; the model does not occur.  `Props/C09.lean` carries each
clause `spec_*` over to the model's symbol table through `linkage_history_correct_partial`.  At the end, in namespace `C09`, the
two steps from `stepsRev` to `run` that `Props/C09.lean` starts from. -/
namespace CprocVerif.Linkage
open CprocVerif.Link

theorem symbolsRev_locals (A : List Decl) : (symbolsRev A).locals = localsRev A := rfl

theorem mem_annot_form {r : List Form} {d : Decl} (hd : d ∈ annot r) : d.form ∈ r := by
  have := List.mem_map_of_mem (f := (·.form)) hd
  rwa [annot_forms] at this

theorem c11Link_file_ne_none (f : Form) (p : Option Link) (hf : f.scope = .file) : c11Link f p ≠ .none := by
  unfold c11Link
  split
  · simp
  · split
    · rcases p with _ | (_ | _ | _) <;> simp
    · simp

theorem c11Link_file_static (f : Form) (p : Option Link) (hf : f.scope = .file) (hs : f.sc = .static) :
    c11Link f p = .intern := by
  simp [c11Link, hf, hs]

theorem localsRev_names (A : List Decl) :
    (localsRev A).map (·.name) = (List.range' 1 (countBlockStatics A)).map SymName.loc := by
  induction A with
  | nil => rfl
  | cons d A ih =>
    rw [countBlockStatics_cons]
    by_cases hb : d.blockStatic
    · simp only [localsRev, hb, if_true, List.map_append, ih, List.map_cons, List.map_nil]
      rw [List.range'_concat]
      simp [Nat.add_comm]
    · simp [localsRev, hb, ih]

theorem localsRev_nil (A : List Decl) (h : ∀ d ∈ A, d.blockStatic = false) : localsRev A = [] := by
  induction A with
  | nil => rfl
  | cons d A ih =>
    simp only [localsRev, h d (List.mem_cons_self ..), Bool.false_eq_true, if_false, List.append_nil]
    exact ih (fun x hx => h x (List.mem_cons_of_mem _ hx))

theorem annot_snoc (r : List Form) (f0 : Form) :
    ∃ B, annot (r ++ [f0]) = B ++ [⟨f0, c11Link f0 none⟩] := by
  induction r with
  | nil => exact ⟨[], by simp [annot, visLink]⟩
  | cons f older ih =>
    obtain ⟨B, hB⟩ := ih
    exact ⟨⟨f, c11Link f (visLink f (annot (older ++ [f0])))⟩ :: B, by
      simp only [List.cons_append, annot, hB]⟩

theorem mem_linkedDecls {A : List Decl} {d : Decl} (hd : d ∈ A) (hl : d.link ≠ .none) :
    d ∈ linkedDecls A := List.mem_filter.2 ⟨hd, by simp [Decl.linked, hl]⟩

/-- In an accepted history all declarations with linkage have the kind and linkage of the latest one:
each was accepted against the earlier ones (`judgeA_ok`). -/
theorem uniform {r : List Form} (hv : verdictRev r = .ok) {d : Decl} (hd : d ∈ annot r) (hl : d.link ≠ .none) :
    (aggs (annot r)).lHead = some (d.form.kind, d.link) := by
  induction r with
  | nil => cases hd
  | cons f older ih =>
    obtain ⟨ho, hj⟩ := verdictRev_cons_ok hv
    rw [judge_eq] at hj
    simp only [annot, List.mem_cons] at hd
    rw [annot, aggs_cons]
    generalize hlk : c11Link f (visLink f (annot older)) = l at hd
    by_cases hn : l = .none
    · subst hn
      rcases hd with rfl | hd
      · exact absurd rfl hl
      · simpa [aggCons, Decl.linked] using ih ho hd
    · have hL : (aggCons ⟨f, l⟩ (aggs (annot older))).lHead = some (f.kind, l) := by
        simp [aggCons, Decl.linked, hn]
      rcases hd with rfl | hd
      · exact hL
      · obtain ⟨hk, hne⟩ := (judgeA_ok hj).2 (by rw [aggs_visLink, hlk]; exact hn)
        rw [aggs_visLink, hlk, aggs_linkNe _ hn] at hne
        have hmem := mem_linkedDecls hd hl
        have h1 := List.any_eq_false.1 ((mAgg_kindNe _ _).trans hk) d hmem
        have h2 := List.any_eq_false.1 hne d hmem
        simp only [ne_eq, decide_not, Bool.not_eq_true', decide_eq_false_iff_not, Decidable.not_not] at h1 h2
        rw [hL, h1, h2]

theorem file_decl {r : List Form} {f : Form} (hf : f ∈ r) (hs : f.scope = .file) :
    ∃ d ∈ annot r, d.form = f ∧ d.link ≠ .none ∧ (f.sc = .static → d.link = .intern) := by
  induction r with
  | nil => cases hf
  | cons g older ih =>
    rcases List.mem_cons.1 hf with rfl | hf
    · exact ⟨_, List.mem_cons_self .., rfl, c11Link_file_ne_none _ _ hs, c11Link_file_static _ _ hs⟩
    · obtain ⟨d, hd, h⟩ := ih hf
      exact ⟨d, List.mem_cons_of_mem _ hd, h⟩

theorem localsRev_exported (A : List Decl) : ∀ y ∈ localsRev A, y.exported = false ∧ y.name.isLoc = true := by
  induction A with
  | nil => intro y hy; cases hy
  | cons d A ih =>
    intro y hy
    simp only [localsRev, List.mem_append] at hy
    rcases hy with hy | hy
    · exact ih y hy
    · split at hy
      · simp only [List.mem_singleton] at hy
        subst hy
        exact ⟨rfl, rfl⟩
      · cases hy

def blockStaticForm (f : Form) : Bool := decide (f.scope ≠ .file) && decide (f.kind = .obj) && decide (f.sc = .static)

theorem countBlockStatics_annot (r : List Form) :
    countBlockStatics (annot r) = (r.filter blockStaticForm).length := by
  induction r with
  | nil => rfl
  | cons f older ih =>
    rw [annot, countBlockStatics_cons, ih]
    have : (⟨f, c11Link f (visLink f (annot older))⟩ : Decl).blockStatic = blockStaticForm f := by
      rcases f with ⟨k, sc, fl, s, hd, a⟩
      cases k <;> cases sc <;> cases s <;> simp [Decl.blockStatic, blockStaticForm, c11Link]
    rw [this]
    by_cases hb : blockStaticForm f <;> simp [hb]

theorem classify_ok {h : List Form} (hok : Link.ok h) : verdictRev h.reverse = .ok := by
  unfold Link.ok classify at hok
  cases hv : verdictRev h.reverse <;> rw [hv] at hok <;> simp_all

theorem symbols_main (h : List Form) :
    (Link.symbols h).main =
      (mainA (aggs (annot h.reverse))).toList.map (symOf (nameOf (aggs (annot h.reverse)))) :=
  mainSyms_eq _

theorem mem_main {h : List Form} {y : Sym} (hy : y ∈ (Link.symbols h).main) :
    ∃ k l, (aggs (annot h.reverse)).lHead = some (k, l) ∧ y.name = nameOf (aggs (annot h.reverse)) ∧
      y.exported = decide (l = .extern) ∧ (k = .obj → y.thread = (aggs (annot h.reverse)).lThread) := by
  rw [symbols_main] at hy
  obtain ⟨t, ht, rfl⟩ := List.mem_map.1 hy
  rw [Option.mem_toList] at ht
  unfold mainA at ht
  rcases hl : (aggs (annot h.reverse)).lHead with _ | ⟨k, l⟩ <;> rw [hl] at ht
  · cases ht
  · refine ⟨k, l, rfl, rfl, ?_⟩
    cases k <;> simp only at ht
    · split at ht
      · cases ht; exact ⟨rfl, fun _ => rfl⟩
      split at ht
      · cases ht; exact ⟨rfl, fun _ => rfl⟩
      · cases ht
    · split at ht
      · cases ht; exact ⟨rfl, fun hk => by cases hk⟩
      · cases ht

theorem mem_undef {h : List Form} {r : Ref} (hr : r ∈ (Link.symbols h).undef) :
    r = ⟨nameOf (aggs (annot h.reverse)), (aggs (annot h.reverse)).lThread⟩ := by
  simp only [Link.symbols, symbolsRev] at hr
  split at hr
  · exact List.mem_singleton.1 hr
  · cases hr

theorem spec_tentative_one {h : List Form} (hok : Link.ok h)
    (ht : ∃ f ∈ h, f.scope = .file ∧ f.kind = .obj ∧ f.hasDef = false ∧ f.sc ≠ .extern)
    (hn : ∀ f ∈ h, f.scope = .file → f.hasDef = false) :
    ∃ y, (Link.symbols h).main = [y] ∧ y.zero = true ∧ y.isFunc = false := by
  obtain ⟨f, hf, h1, h2, h3, h4⟩ := ht
  have hft : (aggs (annot h.reverse)).fTent = true := by
    rw [aggs_fTent, List.any_eq_true]
    exact ⟨f, List.mem_reverse.2 hf, by simp [h1, h2, h3, h4]⟩
  have hhd : (aggs (annot h.reverse)).hasDef = false := by
    rw [aggs_hasDef, List.any_eq_false]
    intro f hf
    have := hn f (List.mem_reverse.1 hf)
    by_cases hs : f.scope = .file <;> simp [hs, this]
  obtain ⟨d, hd, rfl, hdl, _⟩ := file_decl (List.mem_reverse.2 hf) h1
  have hm : mainA (aggs (annot h.reverse)) =
      some (false, decide (d.link = .extern), (aggs (annot h.reverse)).lThread, true) := by
    simp [mainA, uniform (classify_ok hok) hd hdl, h2, hhd, hft]
  exact ⟨_, by rw [symbols_main, hm]; rfl, rfl, rfl⟩

theorem spec_extern_nothing {h : List Form} (he : ∀ f ∈ h, f.sc = .extern ∧ f.hasDef = false) :
    (Link.symbols h).main = [] ∧ (Link.symbols h).locals = [] := by
  have hft : (aggs (annot h.reverse)).fTent = false := by
    rw [aggs_fTent, List.any_eq_false]
    intro f hf
    simp [(he f (List.mem_reverse.1 hf)).1]
  have hhd : (aggs (annot h.reverse)).hasDef = false := by
    rw [aggs_hasDef, List.any_eq_false]
    intro f hf
    simp [(he f (List.mem_reverse.1 hf)).2]
  refine ⟨by rw [symbols_main, mainA_nodef hhd hft]; rfl, localsRev_nil _ fun d hd => ?_⟩
  simp [Decl.blockStatic, (he _ (List.mem_reverse.1 (mem_annot_form hd))).1]

theorem spec_static_local {h : List Form} (hok : Link.ok h) (hs : ∃ f ∈ h, f.scope = .file ∧ f.sc = .static) :
    (∀ y ∈ (Link.symbols h).main, y.exported = false) ∧ (∀ y ∈ (Link.symbols h).locals, y.exported = false) := by
  refine ⟨fun y hy => ?_, fun y hy => (localsRev_exported _ y hy).1⟩
  obtain ⟨k, l, hlh, _, hexp, _⟩ := mem_main hy
  obtain ⟨f, hf, hfile, hst⟩ := hs
  obtain ⟨d, hd, rfl, hdl, hi⟩ := file_decl (List.mem_reverse.2 hf) hfile
  rw [uniform (classify_ok hok) hd hdl, hi hst] at hlh
  cases hlh
  exact hexp

theorem spec_inherits {h : List Form} (hok : Link.ok h) :
    ∀ l ∈ Link.linkages h, l ≠ .none →
      (∀ l' ∈ Link.linkages h, l' ≠ .none → l' = l) ∧
      (∀ y ∈ (Link.symbols h).main, y.exported = decide (l = .extern)) := by
  have key : ∀ l ∈ Link.linkages h, l ≠ .none → ∃ k, (aggs (annot h.reverse)).lHead = some (k, l) := by
    intro l hl hne
    simp only [Link.linkages, List.mem_map, List.mem_reverse] at hl
    obtain ⟨d, hd, rfl⟩ := hl
    exact ⟨_, uniform (classify_ok hok) hd hne⟩
  intro l hl hne
  obtain ⟨k, hk⟩ := key l hl hne
  refine ⟨fun l' hl' hne' => ?_, fun y hy => ?_⟩
  · obtain ⟨k', hk'⟩ := key l' hl' hne'
    rw [hk] at hk'
    cases hk'; rfl
  · obtain ⟨k2, l2, hlh, _, hexp, _⟩ := mem_main hy
    rw [hk] at hlh
    cases hlh
    exact hexp

theorem spec_inline_not_emitted {h : List Form} (hok : Link.ok h)
    (hin : ∀ f ∈ h, f.kind = .func ∧ f.flag = true ∧ f.sc = .none) : (Link.symbols h).main = [] := by
  rw [symbols_main]
  have hpure : (aggs (annot h.reverse)).fPure = true := by
    rw [aggs_fPure, List.all_eq_true]
    intro f hf
    obtain ⟨_, h2, h3⟩ := hin f (List.mem_reverse.1 hf)
    simp [h2, h3]
  have hm : mainA (aggs (annot h.reverse)) = none := by
    unfold mainA
    rcases hlh : (aggs (annot h.reverse)).lHead with _ | ⟨k, l⟩
    · rfl
    · -- the first declaration has external linkage, so all have
      rcases h with _ | ⟨f0, rest⟩
      · cases hlh
      · obtain ⟨hk, _, hsc⟩ := hin f0 (List.mem_cons_self ..)
        obtain ⟨B, hB⟩ := annot_snoc rest.reverse f0
        have hl0 : c11Link f0 none = .extern := by simp [c11Link, hk, hsc]
        rw [uniform (classify_ok hok) (d := ⟨f0, c11Link f0 none⟩) (by rw [List.reverse_cons, hB]; simp)
          (by simp [hl0]), hl0] at hlh
        cases hlh
        simp only [hk, hpure, and_true, not_true_eq_false, and_false, if_false]
  rw [hm]; rfl

theorem spec_asm_label {f0 : Form} {rest : List Form} {lab : Label} (hf : f0.scope = .file) (ha : f0.asm = some lab) :
    (∀ y ∈ (Link.symbols (f0 :: rest)).main, y.name = .asm lab) ∧
      (∀ r ∈ (Link.symbols (f0 :: rest)).undef, r.name = .asm lab) := by
  have hname : nameOf (aggs (annot (f0 :: rest).reverse)) = .asm lab := by
    obtain ⟨B, hB⟩ := annot_snoc rest.reverse f0
    have hl : Decl.linked ⟨f0, c11Link f0 none⟩ = true := by
      simp [Decl.linked, c11Link_file_ne_none f0 none hf]
    rw [← entityName_eq, entityName, List.reverse_cons, hB]
    simp [entityLabel, linkedDecls, List.filter_append, hl, ha]
  refine ⟨fun y hy => ?_, fun r hr' => by rw [mem_undef hr']; exact hname⟩
  obtain ⟨_, _, _, hn, _⟩ := mem_main hy
  rw [hn, hname]

theorem spec_thread_marked {h : List Form} (hok : Link.ok h)
    (ht : ∃ f ∈ h, f.kind = .obj ∧ f.flag = true ∧ f.scope = .file) :
    (∀ y ∈ (Link.symbols h).main, y.thread = true) ∧ (∀ r ∈ (Link.symbols h).undef, r.thread = true) := by
  obtain ⟨f, hf, hk, hfl, hsc⟩ := ht
  obtain ⟨d, hd, rfl, hdl, _⟩ := file_decl (List.mem_reverse.2 hf) hsc
  have hlt : (aggs (annot h.reverse)).lThread = true :=
    List.any_eq_true.2 ⟨d, mem_linkedDecls hd hdl, by simp [hk, hfl]⟩
  refine ⟨fun y hy => ?_, fun r hr' => by rw [mem_undef hr']; exact hlt⟩
  obtain ⟨k, l, hlh, _, _, hobj⟩ := mem_main hy
  rw [uniform (classify_ok hok) hd hdl, hk] at hlh
  cases hlh
  rw [hobj rfl, hlt]

theorem spec_block_static (h : List Form) :
    (Link.symbols h).locals.length = (h.filter blockStaticForm).length ∧
      ((Link.symbols h).locals.map (·.name)).Nodup ∧
      (∀ y ∈ (Link.symbols h).locals, y.exported = false ∧ y.name.isLoc = true) := by
  have hnames := localsRev_names (annot h.reverse)
  refine ⟨?_, ?_, localsRev_exported _⟩
  · show (localsRev (annot h.reverse)).length = _
    have := congrArg List.length hnames
    simp only [List.length_map, List.length_range'] at this
    rw [this, countBlockStatics_annot, List.filter_reverse, List.length_reverse]
  · show ((localsRev (annot h.reverse)).map (·.name)).Nodup
    rw [hnames]
    exact List.Pairwise.map _ (fun _ _ hab hc => hab (SymName.loc.inj hc)) List.nodup_range'

end CprocVerif.Linkage

namespace CprocVerif.C09
open CprocVerif.Linkage CprocVerif.Link

theorem run_eq (h : List Form) :
    run h = (match stepsRev h.reverse with | .ok s => .ok (finish s) | .error e => .error e) := by
  unfold run
  rw [← steps_rev, List.reverse_reverse]
  cases steps init h <;> rfl

theorem rejects {h : List Form} (hm : mustReject (classify h) = true) : ∃ e, run h = .error e := by
  have hv : mustReject (verdictRev h.reverse) = true := by
    unfold classify at hm
    cases hv : verdictRev h.reverse <;> rw [hv] at hm
    · simp only [judgeEnd] at hm
      split at hm <;> cases hm
    all_goals exact hm
  obtain ⟨e, he⟩ := reject_sim h.reverse hv
  exact ⟨e, by rw [run_eq, he]⟩

end CprocVerif.C09
