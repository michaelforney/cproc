/-
  C01, fragment 𝔽₂ — the comparison ladder of `switch` (qbe.c `casesearch`, `Lower2.ladder`): executed on
  the controlling value it arrives at the label of the case `Tree.search` finds, or at the default label.
-/
import CprocVerif.Lemmas.Lower2Ctl

set_option linter.unusedSimpArgs false

namespace CprocVerif.LowerMach2
open CprocVerif.Qbe CprocVerif.Lower CprocVerif.Lower2 CprocVerif.CSem CprocVerif.CSem2 CprocVerif.CInt
open CprocVerif.LowerArith CprocVerif.LowerMach CprocVerif.LowerMem

theorem cmp_key (w : Bool) {rv : RVal} {x : UInt64} (M : Mem)
    (hx : (if w = true then rv.asW else rv.asL) = .ok x) {k : Nat} (hk : k < 2 ^ 64) :
    (∃ r, execOp (if w = true then Op.cmpw .eq else Op.cmpl .eq) (some .w) [rv, ⟨.c, UInt64.ofNat k⟩] M none =
        .ok (r, M) ∧
      BoolRes (decide (x.toNat % Tree.modulus w = k % Tree.modulus w)) r) ∧
    (∃ r, execOp (if w = true then Op.cmpw .ult else Op.cmpl .ult) (some .w) [rv, ⟨.c, UInt64.ofNat k⟩] M none =
        .ok (r, M) ∧
      BoolRes (decide (x.toNat % Tree.modulus w < k % Tree.modulus w)) r) := by
  have hkn : (UInt64.ofNat k).toNat = k := by rw [UInt64.toNat_ofNat']; exact Nat.mod_eq_of_lt hk
  cases w
  · simp only [Bool.false_eq_true, if_false, Tree.modulus, Nat.mod_eq_of_lt x.toNat_lt, Nat.mod_eq_of_lt hk]
      at hx ⊢
    exact ⟨cmp_finish_l .eq M none hx rfl (by simp only [icmp64]; rw [u64_beq, hkn]),
      cmp_finish_l .ult M none hx rfl (by
        simp only [icmp64]; exact decide_eq_decide.2 (by rw [UInt64.lt_iff_toNat_lt, hkn]))⟩
  · simp only [if_true, Tree.modulus, Nat.mod_eq_of_lt (asW_lt hx)] at hx ⊢
    have hyn : (UInt64.ofNat k &&& mask32).toNat % 2 ^ 32 = k % 2 ^ 32 := by
      rw [toNat_and_mask32, hkn, Nat.mod_mod]
    have hxn : x.toNat % 2 ^ 32 = x.toNat := Nat.mod_eq_of_lt (asW_lt hx)
    exact ⟨cmp_finish_w .eq M none hx rfl (by simp only [icmp32]; rw [u32_beq, hyn, hxn]),
      cmp_finish_w .ult M none hx rfl (by
        simp only [icmp32]
        exact decide_eq_decide.2 (by
          rw [UInt32.lt_iff_toNat_lt, UInt64.toNat_toUInt32, UInt64.toNat_toUInt32, hyn, hxn]))⟩

theorem boolres_asW_ne {c : Bool} {r : RVal} (h : BoolRes c r) :
    ∃ w : UInt64, r.asW = .ok w ∧ ((w != 0) = c) := by
  refine ⟨_, h.asW, ?_⟩
  cases c <;> rfl

def ladderLabel (w : Bool) (t : Tree.T) (v : Nat) (lab : Nat → String) (dl : String) : String :=
  match Tree.search w t v with
  | some k => lab k
  | none => dl

/-- Of the labels outside the ladder (`lab k`, `dl`) only the one it arrives at has to be a block label. -/
theorem sim_ladder (T : Stat) (w : Bool) (v : Val) (lab : Nat → String) (dl : String) (t : Tree.T) :
    ∀ (c : Ctx) (pre post : List Item) (lnext : String) (ph : List Phi) (env : Env) (M : Mem)
      (rv : RVal) (x : UInt64),
    T.S.its = pre ++ (ladder w v lab dl t c).1 ++ .lbl (some (.jmp dl)) lnext ph :: post →
    (∀ k ∈ Tree.toList t, k < 2 ^ 64) → CanJump T.S (ladderLabel w t x.toNat lab dl) →
    ValOK c.lastid v → readVal T.S.p env v = .ok rv → (if w = true then rv.asW else rv.asL) = .ok x →
    ∃ n env' st, T.Reach n (T.at env M pre) st ∧
      Frame c.lastid (ladder w v lab dl t c).2.lastid env env' ∧
      AtLabel T.S (ladderLabel w t x.toNat lab dl) env' M st := by
  induction t with
  | nil =>
    intro c pre post lnext ph env M rv x hits _ hfin _ _ _
    simp only [ladder, List.append_nil] at hits ⊢
    obtain ⟨st, hs, hat⟩ := step_jmp_item T hits (by simpa [ladderLabel, Tree.search] using hfin) env M
    exact ⟨1, env, st, Reach.one hs, Frame.refl _ _ _, by simpa [ladderLabel, Tree.search] using hat⟩
  | node k h l r ihl ihr =>
    intro c pre post lnext ph env M rv x hits hkeys hfin hvok hv hx
    have hk := hkeys k (by simp [Tree.toList])
    obtain ⟨⟨r1, hx1, hb1⟩, ⟨r2, hx2, hb2⟩⟩ := cmp_key w M hx hk
    simp only [ladder] at hits ⊢
    obtain ⟨L, hL⟩ : ∃ L, ladder w v lab dl l ⟨c.lastid + 2, c.blockid + 3, lblName "switch_lt" (c.blockid + 2)⟩ = L :=
      ⟨_, rfl⟩
    obtain ⟨R, hR⟩ : ∃ R, ladder w v lab dl r ⟨L.2.lastid, L.2.blockid, lblName "switch_gt" (c.blockid + 3)⟩ = R :=
      ⟨_, rfl⟩
    simp only [hL, hR] at hits ⊢
    have l1 : c.lastid + 2 ≤ L.2.lastid :=
      hL ▸ (ladder_emits w v lab dl l ⟨c.lastid + 2, c.blockid + 3, lblName "switch_lt" (c.blockid + 2)⟩).lastid
    have l2 : L.2.lastid ≤ R.2.lastid :=
      hR ▸ (ladder_emits w v lab dl r ⟨L.2.lastid, L.2.blockid, lblName "switch_gt" (c.blockid + 3)⟩).lastid
    simp only [List.append_assoc, List.cons_append, List.nil_append] at hits
    have hr1 := (setM T.S M).run_ins (env := env) hits (readVals_two hv (readVal_int _ _ _)) hx1
    have h2 := its_snoc hits
    obtain ⟨w1, hw1, hwc1⟩ := boolres_asW_ne hb1
    obtain ⟨st1, hs1, hat1⟩ := step_jnz_item T h2 M (readVal_insert_self _ _ _ _) hw1 (by
      rw [hwc1]
      by_cases heq : x.toNat % Tree.modulus w = k % Tree.modulus w
      · simpa [ladderLabel, Tree.search, heq] using hfin
      · simpa [heq] using canJump_item T.S h2)
    rw [hwc1] at hat1
    by_cases heq : x.toNat % Tree.modulus w = k % Tree.modulus w
    · simp only [heq, decide_true, if_true] at hat1
      refine ⟨1 + 1, _, st1, hr1.trans (Reach.one hs1),
        Frame.insert (lo := c.lastid) (hi := R.2.lastid) (k := c.lastid + 1) env r1 (by omega) (by omega), ?_⟩
      simpa [ladderLabel, Tree.search, heq] using hat1
    · simp only [heq, decide_false, Bool.false_eq_true, if_false] at hat1
      rw [atLabel_item T h2 hat1] at hs1
      have h3 := its_snoc h2
      have hr2 := (setM T.S M).run_ins (env := env.insert (tmpName (c.lastid + 1)) r1) h3
        (readVals_two ((readVal_agree hvok (Agree.insert env r1 (Nat.lt_succ_self _))).trans hv)
          (readVal_int _ _ _)) hx2
      have h4 := its_snoc h3
      have h5 := its_app (its_snoc h4)
      obtain ⟨w2, hw2, hwc2⟩ := boolres_asW_ne hb2
      obtain ⟨st2, hs2, hat2⟩ := step_jnz_item T h4 M (readVal_insert_self _ _ _ _) hw2
        (canJump_ite (canJump_item T.S h4) (canJump_item T.S h5) _)
      rw [hwc2] at hat2
      have hfr2 : Frame c.lastid (c.lastid + 2) env
          ((env.insert (tmpName (c.lastid + 1)) r1).insert (tmpName (c.lastid + 2)) r2) :=
        (Frame.insert (lo := c.lastid) (hi := c.lastid + 2) env r1 (by omega) (by omega)).comp
          (Frame.insert (lo := c.lastid) (hi := c.lastid + 2) _ r2 (by omega) (by omega))
      have hv'' := (readVal_agree hvok hfr2.agree).trans hv
      have hreach0 := ((hr1.trans (Reach.one hs1)).trans hr2).trans (Reach.one hs2)
      by_cases hlt : x.toNat % Tree.modulus w < k % Tree.modulus w
      · simp only [hlt, decide_true, if_true] at hat2
        subst hL
        obtain ⟨n3, env3, st3, hr3, hfr3, hat3⟩ := ihl ⟨c.lastid + 2, c.blockid + 3,
          lblName "switch_lt" (c.blockid + 2)⟩ _ _ (lblName "switch_gt" (c.blockid + 3)) [] _ M rv x h5
          (fun k' hk' => hkeys k' (by simp [Tree.toList, hk'])) (by simpa [ladderLabel, Tree.search, heq, hlt] using hfin)
          (hvok.mono (by simp only; omega)) hv'' hx
        rw [atLabel_item T h4 hat2] at hreach0
        refine ⟨_, env3, st3, hreach0.trans hr3,
          (hfr2.mono (Nat.le_refl _) (by omega)).comp (hfr3.mono (by simp only; omega) (by omega)), ?_⟩
        simpa [ladderLabel, Tree.search, heq, hlt] using hat3
      · simp only [hlt, decide_false, Bool.false_eq_true, if_false] at hat2
        subst hR
        obtain ⟨n3, env3, st3, hr3, hfr3, hat3⟩ := ihr ⟨L.2.lastid, L.2.blockid,
          lblName "switch_gt" (c.blockid + 3)⟩ _ post lnext ph _ M rv x (its_app (its_snoc h5))
          (fun k' hk' => hkeys k' (by simp [Tree.toList, hk'])) (by simpa [ladderLabel, Tree.search, heq, hlt] using hfin)
          (hvok.mono (by simp only; omega)) hv'' hx
        rw [atLabel_item T h5 hat2] at hreach0
        refine ⟨_, env3, st3, hreach0.trans hr3,
          (hfr2.mono (Nat.le_refl _) (by omega)).comp (hfr3.mono (by simp only; omega) (Nat.le_refl _)), ?_⟩
        simpa [ladderLabel, Tree.search, heq, hlt] using hat3

end CprocVerif.LowerMach2
