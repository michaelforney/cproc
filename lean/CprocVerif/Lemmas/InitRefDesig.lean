import CprocVerif.Lemmas.InitRefMove

/-!
# `designator()`: the slots it pushes are the path `InitRef.resolve` computes

At the outermost array of unknown size the first designator is any index and moves `t->size` (`designator_unb`);
`designator_loop` states both cases at once.
-/

namespace CprocVerif.InitSim
open CprocVerif.Init CprocVerif.Image CprocVerif.InitRef

/-- slots `m, m+1, …` of `st` follow the positions `ps` from the place `pl` down to the slot `m'`,
which is the place `pl'` -/
inductive Chain (st : St) : Nat → Place → List Nat → Nat → Place → Prop
  | nil (m : Nat) (pl : Place) : Chain st m pl [] m pl
  | cons {m : Nat} {pl ch : Place} {p : Nat} {ps : List Nat} {m' : Nat} {pl' : Place} :
      Lvl st m pl p ch → Chain st (m + 1) ch ps m' pl' → Chain st m pl (p :: ps) m' pl'

theorem Chain.len {st : St} {m : Nat} {pl : Place} {ps : List Nat} {m' : Nat} {pl' : Place}
    (h : Chain st m pl ps m' pl') : m' = m + ps.length := by
  induction h with
  | nil => rfl
  | cons _ _ ih => rw [ih, List.length_cons]; omega

theorem Chain.le {st : St} {m : Nat} {pl : Place} {ps : List Nat} {m' : Nat} {pl' : Place}
    (h : Chain st m pl ps m' pl') : m ≤ m' := by
  rw [h.len]; exact Nat.le_add_right _ _

theorem Chain.frame {st st' : St} {m : Nat} {pl : Place} {ps : List Nat} {m' : Nat} {pl' : Place}
    (h : Chain st m pl ps m' pl') {k : Nat} (hf : Frame k st st') (hk : m' ≤ k) : Chain st' m pl ps m' pl' := by
  induction h with
  | nil => exact .nil _ _
  | cons hl hc ih =>
    have := hc.le
    exact .cons (hl.frame hf (by omega)) (ih hk)

theorem Chain.end_wf {st : St} {m : Nat} {pl : Place} {ps : List Nat} {m' : Nat} {pl' : Place}
    (h : Chain st m pl ps m' pl') (hw : PlWf pl) : PlWf pl' := by
  induction h with
  | nil => exact hw
  | cons hl _ ih => exact ih (childAt_wf hw hl.child)

/-- what `findmember` and `designator()` leave alone from `st` to `st'` -/
structure Kept (st st' : St) : Prop where
  le : st.sub ≤ st'.sub
  frame : Frame st.sub st st'
  log : st'.log = st.log
  ty : (st'.obj st.sub).ty = (st.obj st.sub).ty
  off : (st'.obj st.sub).offset = (st.obj st.sub).offset
  iscur : (st'.obj st.sub).iscur = (st.obj st.sub).iscur
  fresh : ∀ j, st.sub < j → j ≤ st'.sub → (st'.obj j).iscur = false

theorem Kept.refl (st : St) : Kept st st :=
  ⟨Nat.le_refl _, Frame.refl _ _, rfl, rfl, rfl, rfl, fun j h1 h2 => by omega⟩

theorem Kept.trans {a b c : St} (h : Kept a b) (h' : Kept b c) : Kept a c := by
  have hle := h.le
  have slot : ∀ j, j ≤ b.sub → (c.obj j).ty = (b.obj j).ty ∧ (c.obj j).offset = (b.obj j).offset ∧
      (c.obj j).iscur = (b.obj j).iscur := by
    intro j hj
    by_cases hjb : j = b.sub
    · subst hjb; exact ⟨h'.ty, h'.off, h'.iscur⟩
    · rw [h'.frame.low j (by omega)]; exact ⟨rfl, rfl, rfl⟩
  obtain ⟨s1, s2, s3⟩ := slot a.sub hle
  refine ⟨Nat.le_trans hle h'.le, h.frame.trans h'.frame hle, h'.log.trans h.log, s1.trans h.ty, s2.trans h.off,
    s3.trans h.iscur, ?_⟩
  intro j h1 h2
  by_cases hj : j ≤ b.sub
  · rw [(slot j hj).2.2]; exact h.fresh j h1 hj
  · exact h'.fresh j (by omega) h2

/-- what a successful search for a member (or one designator) does: `Kept`, and the slots pushed follow the path `ps` -/
structure Found (st st' : St) (pl : Place) (ps : List Nat) : Prop where
  ne : ps ≠ []
  chain : ∃ pl', Chain st' st.sub pl ps st'.sub pl' ∧ SP st' st'.sub pl'
  frame : Frame st.sub st st'
  log : st'.log = st.log
  ty : (st'.obj st.sub).ty = (st.obj st.sub).ty
  off : (st'.obj st.sub).offset = (st.obj st.sub).offset
  iscur : (st'.obj st.sub).iscur = (st.obj st.sub).iscur
  fresh : ∀ j, st.sub < j → j ≤ st'.sub → (st'.obj j).iscur = false

theorem Found.kept {st st' : St} {pl : Place} {ps : List Nat} (h : Found st st' pl ps) : Kept st st' := by
  obtain ⟨pl', hc, _⟩ := h.chain
  exact ⟨hc.le, h.frame, h.log, h.ty, h.off, h.iscur, h.fresh⟩

theorem Found.of_kept {st stb st' : St} {pl : Place} {ps : List Nat} (hk : Kept st stb) (hs : stb.sub = st.sub)
    (h : Found stb st' pl ps) : Found st st' pl ps := by
  have k := hk.trans h.kept
  exact ⟨h.ne, by rw [← hs]; exact h.chain, k.frame, k.log, k.ty, k.off, k.iscur, k.fresh⟩

theorem Found.cons {st st1 st2 : St} {pl ch : Place} {p : Nat} {ps : List Nat} (h1 : Found st st1 pl [p])
    (hs : st1.sub = st.sub + 1) (hl : Lvl st1 st.sub pl p ch) (h2 : Found st1 st2 ch ps) :
    Found st st2 pl (p :: ps) := by
  have k := h1.kept.trans h2.kept
  obtain ⟨pl', hc, hsp⟩ := h2.chain
  rw [hs] at hc
  exact ⟨by simp, ⟨pl', .cons (hl.frame h2.frame (by omega)) hc, hsp⟩, k.frame, k.log, k.ty, k.off, k.iscur, k.fresh⟩

/-- the `anon` flag is no part of the description -/
theorem Found.anon {st st' : St} {pl : Place} {ps : List Nat} (h : Found st st' pl ps) :
    Found st { st' with anon := true } pl ps := by
  obtain ⟨pl', hc, hsp⟩ := h.chain
  exact ⟨h.ne, ⟨pl', hc.frame (st' := { st' with anon := true }) ⟨rfl, rfl, rfl, fun _ _ => rfl⟩ (Nat.le_refl _),
    SP.congr (st := st') (st' := { st' with anon := true }) rfl hsp⟩,
    ⟨h.frame.cur, h.frame.top, h.frame.inc, h.frame.low⟩, h.log, h.ty, h.off, h.iscur, h.fresh⟩

theorem found_push {st st' : St} {pl ch : Place} {p : Nat} {u : U} {t : Ty} {off : Nat} (hw : PlWf pl)
    (hty : (st.obj st.sub).ty = pl.ty) (hoff : (st.obj st.sub).offset = pl.off)
    (hc : childAt pl p false = some ch) (hu : UAt u pl.ty p) (ht : ch.ty = t) (ho : ch.off = off + pl.off)
    (e : Push st u t off st') :
    Found st st' pl [p] ∧ AtChild st st' st.sub pl p ch := by
  have h := push_child (top' := st.top) hty hoff hc hu ht ho (gtop_known hw.unb _ _).symm e
  refine ⟨⟨by simp, ⟨ch, ?_, by rw [h.sub]; exact h.sp⟩, h.frame hw.unb, h.log, ?_, ?_, h.iscur, ?_⟩, h⟩
  · rw [h.sub]; exact .cons h.lvl (.nil _ _)
  · rw [h.lvl.ty, hty]
  · rw [h.lvl.off, hoff]
  · intro j hj1 hj2
    have : j = st.sub + 1 := by have := h.sub; omega
    rw [this]; exact h.fresh

theorem member_push {st st' : St} {pl : Place} {iu : Bool} {tag size : Nat} {all : Members} (hw : PlWf pl)
    (hty : (st.obj st.sub).ty = pl.ty) (hoff : (st.obj st.sub).offset = pl.off) (hpt : pl.ty = .agg iu tag size all)
    {k0 : Nat} {n : Option String} {ty : Ty} {off b a : Nat} {next : Members}
    (hd : Members.drop all k0 = .cons n ty off b a next)
    (e : Push st (.mem (.cons n ty off b a next)) ty off st') :
    Found st st' pl [k0] ∧
      AtChild st st' st.sub pl k0 { ty := ty, off := pl.off + off, before := b, after := a, depth := pl.depth + 1 } := by
  refine found_push hw hty hoff ?_ (by unfold UAt; rw [hpt]; simp only []; rw [hd]) rfl (Nat.add_comm _ _) e
  rw [childAt_agg hpt]
  simp only [Bool.and_false, Bool.false_and, Bool.false_eq_true, if_false]
  rw [hd]

/- `FindMs` (`Lemmas/InitMach.lean`) records successes only, and a failed search inside an anonymous member has to give
`pathTy = none`, so that `pathMs` too goes on behind it: that half is read off the equations of `findTy`/`findMs`; it needs
nothing of the state. -/
mutual
  theorem findTy_none (name : String) : ∀ (ty : Ty) (st : St), findTy name ty st = .ok none → pathTy name ty = none
    | .agg _ _ _ ms, st, e => by rw [findTy.eq_1] at e; rw [pathTy.eq_1]; exact findMs_none name ms st 0 e
    | .scalar _ _, _, _ => by simp [pathTy]
    | .array _ _, _, _ => by simp [pathTy]
  theorem findMs_none (name : String) : ∀ (ms : Members) (st : St) (k0 : Nat), findMs name ms st = .ok none →
      pathMs name ms k0 = none
    | .nil, _, _, _ => by simp [pathMs]
    | .cons (some n) ty off b a next, st, k0, e => by
      rw [findMs.eq_2] at e
      rw [pathMs.eq_2]
      split at e
      · dsimp only [] at e; split at e <;> cases e
      · rename_i hn; rw [if_neg hn]; exact findMs_none name next st (k0 + 1) e
    | .cons none ty off b a next, st, k0, e => by
      rw [findMs.eq_3] at e
      rw [pathMs.eq_3]
      split at e
      · cases e
      · rename_i st1 _
        split at e
        · cases e
        · cases e
        · rename_i h2
          rw [findTy_none name ty st1 h2]
          exact findMs_none name next _ (k0 + 1) e
end

theorem _root_.CprocVerif.Init.FindMs.spec {name : String} {ms : Members} {st st' : St} (hf : FindMs name ms st st') :
    ∀ (k0 : Nat) (pl : Place) (iu : Bool) (tag size : Nat) (all : Members), pl.ty = .agg iu tag size all →
      Members.drop all k0 = ms → (st.obj st.sub).ty = pl.ty → (st.obj st.sub).offset = pl.off → PlWf pl →
      ∃ ps, pathMs name ms k0 = some ps ∧ Found st st' pl ps := by
  induction hf with
  | here hp =>
    intro k0 pl iu tag size all hpt hd hty hoff hw
    exact ⟨[k0], by rw [pathMs.eq_2, if_pos rfl], (member_push hw hty hoff hpt hd hp).1⟩
  | skip hne _ ih =>
    intro k0 pl iu tag size all hpt hd hty hoff hw
    rw [pathMs.eq_2, if_neg hne]
    exact ih (k0 + 1) pl iu tag size all hpt (by rw [drop_succ, hd]) hty hoff hw
  | @inside iu' tag' size' ms' off b a next st st1 st2 hp _ ih =>
    intro k0 pl iu tag size all hpt hd hty hoff hw
    obtain ⟨hf1, hs1, hl1, hsp1, _⟩ := member_push hw hty hoff hpt hd hp
    obtain ⟨ps', hps, hf2⟩ := ih 0 _ iu' tag' size' ms' rfl (by cases ms' <;> rfl) (by rw [hs1]; exact hsp1.ty)
      (by rw [hs1]; exact hsp1.off) (childAt_wf hw hl1.child)
    exact ⟨k0 :: ps', by rw [pathMs.eq_3, pathTy.eq_1, hps], (hf1.cons hs1 hl1 hf2).anon⟩
  | @pass ty off b a next st st1 st' hp hnone _ ih =>
    intro k0 pl iu tag size all hpt hd hty hoff hw
    obtain ⟨hf1, hs1, _⟩ := member_push hw hty hoff hpt hd hp
    -- back at slot `st.sub`, whose type and offset are unchanged
    have k := hf1.kept
    have hk : Kept st { st1 with sub := st1.sub - 1 } :=
      ⟨by show st.sub ≤ st1.sub - 1; omega, ⟨k.frame.cur, k.frame.top, k.frame.inc, k.frame.low⟩, k.log, k.ty, k.off,
        k.iscur, fun j h1 h2 => by have : j ≤ st1.sub - 1 := h2; omega⟩
    have hsub : ({ st1 with sub := st1.sub - 1 } : St).sub = st.sub := by show st1.sub - 1 = st.sub; omega
    obtain ⟨ps, hps, hf⟩ := ih (k0 + 1) pl iu tag size all hpt (by rw [drop_succ, hd]) (by rw [hsub]; exact hk.ty.trans hty)
      (by rw [hsub]; exact hk.off.trans hoff) hw
    exact ⟨ps, by rw [pathMs.eq_3, findTy_none name ty st1 hnone]; exact hps, hf.of_kept hk hsub⟩

mutual
  theorem findTy_spec (name : String) : ∀ (ty : Ty) (st : St) (pl : Place), pl.ty = ty →
      (st.obj st.sub).ty = pl.ty → (st.obj st.sub).offset = pl.off → PlWf pl →
      ∀ r, findTy name ty st = .ok r →
        match r with
        | some st' => ∃ ps, pathTy name ty = some ps ∧ Found st st' pl ps
        | none => pathTy name ty = none := by
    intro ty st pl hpt hty hoff hw r e
    cases r with
    | none => exact findTy_none name ty st e
    | some st' =>
      obtain ⟨iu, tag, size, ms, rfl, hf⟩ := findTy_found name ty st st' e
      rw [pathTy.eq_1]
      exact hf.spec 0 pl iu tag size ms hpt (by cases ms <;> rfl) hty hoff hw
  theorem findMs_spec (name : String) : ∀ (ms : Members) (st : St) (k0 : Nat) (pl : Place) (iu : Bool) (tag size : Nat)
      (all : Members), pl.ty = .agg iu tag size all → Members.drop all k0 = ms →
      (st.obj st.sub).ty = pl.ty → (st.obj st.sub).offset = pl.off → PlWf pl →
      ∀ r, findMs name ms st = .ok r →
        match r with
        | some st' => ∃ ps, pathMs name ms k0 = some ps ∧ Found st st' pl ps
        | none => pathMs name ms k0 = none := by
    intro ms st k0 pl iu tag size all hpt hd hty hoff hw r e
    cases r with
    | none => exact findMs_none name ms st k0 e
    | some st' => exact (findMs_found name ms st st' e).spec k0 pl iu tag size all hpt hd hty hoff hw
end

theorem desigStep_spec {st st' : St} {d : Desig} {pl : Place} (hty : (st.obj st.sub).ty = pl.ty)
    (hoff : (st.obj st.sub).offset = pl.off) (hw : PlWf pl) (hp : Flat st st.sub) (e : desigStep st d = .ok st') :
    ∃ ps, resolve pl.ty d = .ok ps ∧ Found st st' pl ps := by
  rcases desigStep_ok e with ⟨n, n0, el, rfl, hty', h⟩ | ⟨name, iu, tag, size, ms, rfl, hty', hf⟩
  · have hpt : pl.ty = .array n0 el := hty.symm.trans hty'
    rcases h with ⟨hlt, hpu⟩ | ⟨_, hti, _⟩
    · rw [hp.tsize, hty'] at hlt
      have hc : childAt pl n false = some { ty := el, off := pl.off + n * el.size, depth := pl.depth + 1 } := by
        rw [childAt_array hpt hw.unb, if_pos (Nat.lt_of_mul_lt_mul_right hlt)]
      exact ⟨[n], by rw [hpt]; rfl, (found_push hw hty hoff hc (by unfold UAt; rw [hpt]) rfl
        (by simp only []; exact Nat.add_comm _ _) hpu).1⟩
    · rw [hp.tinc] at hti; cases hti
  · have hpt : pl.ty = .agg iu tag size ms := hty.symm.trans hty'
    obtain ⟨ps, hps, hfo⟩ := hf.spec 0 pl iu tag size ms hpt (by simp [Members.drop]) hty hoff hw
    exact ⟨ps, by simp only [hpt, resolve, pathTy.eq_1, hps], hfo⟩

/-- the machine after a designator list, in the shape of the recursion of `desigPath` -/
inductive DRel (st : St) : Nat → Place → List Nat → List Desig → Prop
  | done {m : Nat} {pl : Place} : st.sub = m → SP st m pl → DRel st m pl [] []
  | res {m : Nat} {pl : Place} {d : Desig} {ds : List Desig} {ps : List Nat} :
      resolve pl.ty d = .ok ps → ps ≠ [] → DRel st m pl ps ds → DRel st m pl [] (d :: ds)
  | step {m : Nat} {pl ch : Place} {p : Nat} {ps : List Nat} {ds : List Desig} :
      Lvl st m pl p ch → DRel st (m + 1) ch ps ds → DRel st m pl (p :: ps) ds

theorem chain_drel {st : St} {m : Nat} {pl : Place} {ps : List Nat} {m' : Nat} {pl' : Place} {ds : List Desig}
    (h : Chain st m pl ps m' pl') (hd : DRel st m' pl' [] ds) : DRel st m pl ps ds := by
  induction h with
  | nil => exact hd
  | cons hl _ ih => exact .step hl (ih hd)

theorem DRel.frame {st st' : St} {m : Nat} {pl : Place} {ps : List Nat} {ds : List Desig}
    (ho : st'.obj = st.obj) (hs : st'.sub = st.sub) (h : DRel st m pl ps ds) : DRel st' m pl ps ds := by
  induction h with
  | done h1 h2 => exact .done (by rw [hs]; exact h1) (h2.congr ho)
  | res h1 h2 _ ih => exact .res h1 h2 ih
  | step h1 _ ih => exact .step (h1.of_obj (by rw [ho])) ih

/-- the bits of the start slot matter only when the list is empty -/
theorem desig_fold_kept : ∀ (ds : List Desig) (st stD : St) (pl : Place), (st.obj st.sub).ty = pl.ty →
    (st.obj st.sub).offset = pl.off → (ds = [] → SP st st.sub pl) → PlWf pl → Flat st st.sub →
    ds.foldlM desigStep st = .ok stD →
    DRel stD st.sub pl [] ds ∧ Kept st stD ∧ (ds ≠ [] → st.sub < stD.sub) := by
  intro ds
  induction ds with
  | nil =>
    intro st stD pl hty hoff hsp hw hp e
    cases e
    exact ⟨.done rfl (hsp rfl), .refl _, fun h => absurd rfl h⟩
  | cons d ds ih =>
    intro st stD pl hty hoff _ hw hp e
    rw [List.foldlM_cons] at e
    cases hd : desigStep st d with
    | error er => rw [hd] at e; cases e
    | ok st1 =>
      rw [hd] at e
      obtain ⟨ps, hres, hf⟩ := desigStep_spec hty hoff hw hp hd
      obtain ⟨pl1, hch, hsp1⟩ := hf.chain
      have hne : st.sub < st1.sub := by
        have h1 := hch.len
        have h2 : 0 < ps.length := List.length_pos_iff.2 hf.ne
        omega
      obtain ⟨r1, r2, _⟩ := ih st1 stD pl1 hsp1.ty hsp1.off (fun _ => hsp1) (hch.end_wf hw)
        (flat_pos st1 (by omega)) e
      have := r2.le
      exact ⟨.res hres hf.ne (chain_drel (hch.frame r2.frame (Nat.le_refl _)) r1), hf.kept.trans r2, fun _ => by omega⟩

theorem designator_spec {st stp : St} {c : Nat} {pl : Place} {d : Desig} {ds : List Desig} (hc : st.cur = some c)
    (hty : (st.obj c).ty = pl.ty) (hoff : (st.obj c).offset = pl.off) (hw : PlWf pl) (hp : Flat st c)
    (e : designator st (d :: ds) = .ok stp) :
    DRel stp c pl [] (d :: ds) ∧ Frame c st stp ∧ stp.log = st.log ∧ c < stp.sub ∧
      (stp.obj c).iscur = (st.obj c).iscur ∧ (∀ j, c < j → j ≤ stp.sub → (stp.obj j).iscur = false) := by
  unfold designator at e
  have hg : st.cur.getD 0 = c := by rw [hc]; rfl
  rw [hg] at e
  obtain ⟨r, k, hlt⟩ := desig_fold_kept (d :: ds) { st with il := st.il.reset, sub := c } stp pl
    hty hoff (fun h => by cases h) hw ⟨hp.tinc, hp.tsize⟩ e
  exact ⟨r, ⟨k.frame.cur, k.frame.top, k.frame.inc, k.frame.low⟩, k.log, hlt (by simp), k.iscur, k.fresh⟩

theorem desigStep_unb {st st' : St} {pl : Place} {n : Nat} {el : Ty} {d : Desig} {p : Nat} (h : PlWfU pl n el)
    (hs : st.sub = 0) (hty : (st.obj 0).ty = pl.ty) (hoff : (st.obj 0).offset = pl.off)
    (hw : Whole el.size st.top p) (e : desigStep st d = .ok st') :
    ∃ k, d = .idx k ∧ AtChild st st' 0 pl k (chU pl el k) := by
  have hty' : (st.obj st.sub).ty = .array n el := by rw [hs, hty, h.ty]
  have hts : st.tsize st.sub = st.top := by unfold St.tsize; rw [if_pos hs]
  rcases desigStep_ok e with ⟨k, n', el', rfl, hty'', hc⟩ | ⟨_, _, _, _, _, _, hty'', _⟩
  · cases hty'.symm.trans hty''
    refine ⟨k, rfl, ?_⟩
    have push : ∀ top', top' = (if k * el.size ≥ st.top then k * el.size + el.size else st.top) →
        Push { st with top := top' } (.idx (k * el.size)) el (k * el.size) st' → AtChild st st' 0 pl k (chU pl el k) := by
      intro top' ht e'
      have := push_child (top' := top') (hty'.trans h.ty.symm) (by rw [hs]; exact hoff) (childAt_unb h k false)
        (by unfold UAt; rw [h.ty]) rfl (Nat.add_comm _ _) (by rw [gtop_unb h, ← hw.desig h.elpos]; exact ht) e'
      rw [hs] at this
      exact this
    rw [hts] at hc
    rcases hc with ⟨hlt, hp⟩ | ⟨hge, _, hp⟩
    · exact push st.top (if_neg (Nat.not_le.2 hlt)).symm hp
    · exact push _ (if_pos hge).symm hp
  · cases hty'.symm.trans hty''

theorem designator_unb {st stp : St} {pl : Place} {n : Nat} {el : Ty} {d : Desig} {ds : List Desig} {p : Nat}
    (h : PlWfU pl n el) (hcur : st.cur = some 0) (hty : (st.obj 0).ty = pl.ty)
    (hoff : (st.obj 0).offset = pl.off) (hw : Whole el.size st.top p) (e : designator st (d :: ds) = .ok stp) :
    ∃ k st1, d = .idx k ∧ AtChild st st1 0 pl k (chU pl el k) ∧ ds.foldlM desigStep st1 = .ok stp := by
  unfold designator at e
  rw [show st.cur.getD 0 = 0 by rw [hcur]; rfl, List.foldlM_cons] at e
  cases hd1 : desigStep { st with il := st.il.reset, sub := 0 } d with
  | error er => rw [hd1] at e; cases e
  | ok st1 =>
    rw [hd1] at e
    obtain ⟨k, hk, ha⟩ := desigStep_unb (st := { st with il := st.il.reset, sub := 0 }) h rfl hty hoff hw hd1
    exact ⟨k, st1, hk, ha.of_sub, e⟩

theorem designator_loop {st stp : St} {c p0 : Nat} {pl : Place} {d : Desig} {ds : List Desig}
    (hcur : st.cur = some c) (hty : (st.obj c).ty = pl.ty) (hoff : (st.obj c).offset = pl.off) (hok : PlOk pl)
    (hsz : Sz st c pl p0) (hco : CurOK st) (e : designator st (d :: ds) = .ok stp) :
    ∃ p ps ch, resolve pl.ty d = .ok (p :: ps) ∧ childAt pl p false = some ch ∧ Lvl stp c pl p ch ∧
      DRel stp (c + 1) ch ps ds ∧ Step c st stp ∧ stp.top = gtop pl p st.top ∧ stp.log = st.log ∧ CurOK stp ∧
      (stp.obj stp.sub).iscur = false := by
  have hic := (hco.of_cur hcur).2.1
  have curok : stp.cur = some c → c < stp.sub → (stp.obj c).iscur = (st.obj c).iscur →
      (∀ j, c < j → j ≤ stp.sub → (stp.obj j).iscur = false) → CurOK stp ∧ (stp.obj stp.sub).iscur = false := by
    intro h1 h2 h3 h4
    refine ⟨?_, h4 _ h2 (Nat.le_refl _)⟩
    unfold CurOK
    rw [h1]
    exact ⟨Nat.le_of_lt h2, h3.trans hic, fun j h5 h6 => h4 j h5 (Nat.le_of_lt h6)⟩
  cases hsz with
  | known hu hfl =>
    obtain ⟨d1, d2, d3, d5, d8, d9⟩ := designator_spec hcur hty hoff (hok.wf hu) hfl e
    cases d1 with
    | @res _ _ _ _ ps hres hne hd =>
    cases ps with
    | nil => exact absurd rfl hne
    | cons p ps =>
    cases hd with
    | step hl hd' =>
    exact ⟨_, _, _, hres, hl.child, hl, hd', d2.step, d2.top.trans (gtop_known hu _ _).symm, d3,
      curok (d2.cur.trans hcur) d5 d8 d9⟩
  | @unb n el hU hc0 hinc hwh =>
    subst hc0
    obtain ⟨k, st1, rfl, ha, e⟩ := designator_unb hU hcur hty hoff hwh e
    have hs1 : st1.sub = 1 := ha.sub
    obtain ⟨r1, ⟨r5, r2, r3, _, _, r8, r9⟩, _⟩ := desig_fold_kept ds st1 stp (chU pl el k)
      (hs1 ▸ ha.sp.ty) (hs1 ▸ ha.sp.off) (fun _ => hs1 ▸ ha.sp) (chU_wf hU k) (flat_pos st1 (by omega)) e
    rw [hs1] at r1 r2 r5 r8 r9
    have hfresh : ∀ j, 0 < j → j ≤ stp.sub → (stp.obj j).iscur = false := by
      intro j h1 h2
      by_cases hj : j = 1
      · rw [hj, r8]; exact ha.fresh
      · exact r9 j (Nat.lt_of_le_of_ne h1 (Ne.symm hj)) h2
    exact ⟨k, [], chU pl el k, by rw [hU.ty]; rfl, childAt_unb hU k false, ha.lvl.frame r2 Nat.one_pos, r1,
      ha.step.trans r2.step (Nat.zero_le _), r2.top.trans ha.top, r3.trans ha.log,
      curok (r2.cur.trans (ha.step.cur.trans hcur)) r5 ((congrArg Slot.iscur (r2.low 0 Nat.one_pos)).trans ha.iscur) hfresh⟩

end CprocVerif.InitSim
