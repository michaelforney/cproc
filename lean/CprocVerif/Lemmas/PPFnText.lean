import CprocVerif.Lemmas.PPFnCall

/-! # The class of texts `FnText`; `next()` and the whole stream on it

Every round of `next()` lowers the pair (length of the text, potential of the stack) (`Smaller`), so
`next` and the run complete and deliver what the reference delivers: `PPSimLoop`'s loop over `step_runs`. -/

namespace CprocVerif.PP
open CprocVerif.Gen.TokenKinds
open CprocVerif.Spec.MacroRef (HTok Item PTok MacroDef RErr Flag expandH)
open CprocVerif.Spec

/-- what `TextOK` and `TextP` share -/
inductive FnText (ms0 : List Macro) : List Tok → Prop where
  | nil : FnText ms0 []
  | plain (t : Tok) (r : List Tok) (h1 : ¬ IsFunName ms0 t) (h2 : t.kind ≠ .THASH) (h3 : t.kind ≠ .TNONE)
      (h4 : t.kind ≠ .TEOF) (h5 : t.hide = false) (h6 : FnText ms0 r) : FnText ms0 (t :: r)
  | call {T lp : Tok} {r' : List Tok} {F : Macro} {args : List (List Tok)} {rest : List Tok}
      (hc : IsCall ms0 T lp r' F args rest) (h7 : FnArgs ms0 r' rest) (h9 : FnText ms0 rest) : FnText ms0 (T :: lp :: r')
  | eof (t : Tok) (h : t.kind = .TEOF) : FnText ms0 [t]

theorem fnText_head {ms0 : List Macro} {t : Tok} {r : List Tok} (h : FnText ms0 (t :: r)) :
    t.kind ≠ .TNONE ∧ t.kind ≠ .THASH := by
  cases h with
  | plain _ _ h1 h2 h3 h4 h5 h6 => exact ⟨h3, h2⟩
  | call hc => exact ⟨by rw [hc.ident]; decide, by rw [hc.ident]; decide⟩
  | eof _ h => exact ⟨by rw [h]; decide, by rw [h]; decide⟩

theorem fnText_cons_inv {ms0 : List Macro} {t : Tok} {r : List Tok} (h : FnText ms0 (t :: r)) :
    (¬ IsFunName ms0 t ∧ t.kind ≠ .TEOF ∧ t.hide = false ∧ FnText ms0 r) ∨
    (∃ lp r' F args rest, r = lp :: r' ∧ IsCall ms0 t lp r' F args rest ∧ FnArgs ms0 r' rest ∧ FnText ms0 rest) ∨
    (t.kind = .TEOF ∧ r = []) := by
  cases h with
  | plain _ _ h1 h2 h3 h4 h5 h6 => exact .inl ⟨h1, h4, h5, h6⟩
  | call hc h7 h9 => exact .inr (.inl ⟨_, _, _, _, _, rfl, hc, h7, h9⟩)
  | eof _ h => exact .inr (.inr ⟨h, rfl⟩)

/-- the text as the reference sees it (paint marks kept) -/
def absRawP (ms0 : List Macro) (raw : List Tok) : List HTok :=
  ((raw.takeWhile (fun t => t.kind ≠ .TEOF)).filter visible).map (mkHp ms0 [])

theorem absRawP_nil (ms0 : List Macro) : absRawP ms0 [] = [] := rfl

theorem absRawP_eof (ms0 : List Macro) (t : Tok) (r : List Tok) (h : t.kind = .TEOF) : absRawP ms0 (t :: r) = [] := by
  simp [absRawP, List.takeWhile, h]

theorem absRawP_cons_visible (ms0 : List Macro) (t : Tok) (r : List Tok) (h : t.kind ≠ .TNEWLINE) (h2 : t.kind ≠ .TEOF) :
    absRawP ms0 (t :: r) = mkHp ms0 [] t :: absRawP ms0 r := by
  simp [absRawP, List.takeWhile, h2, visible, h]

theorem absRawP_cons_nl (ms0 : List Macro) (t : Tok) (r : List Tok) (h : t.kind = .TNEWLINE) :
    absRawP ms0 (t :: r) = absRawP ms0 r := by
  simp [absRawP, List.takeWhile, visible, h]

theorem absRawP_plain (ms0 : List Macro) : ∀ (l r : List Tok), (∀ x ∈ l, x.kind ≠ .TNEWLINE ∧ x.kind ≠ .TEOF) →
    absRawP ms0 (l ++ r) = l.map (mkHp ms0 []) ++ absRawP ms0 r
  | [], r, _ => rfl
  | t :: l, r, h => by
    have ht := h t (List.mem_cons_self ..)
    rw [List.cons_append, absRawP_cons_visible _ _ _ ht.1 ht.2, absRawP_plain ms0 l r (fun x hx => h x (List.mem_cons_of_mem _ hx))]
    rfl

/-- the source still to be processed, as the reference sees it -/
def absP (ms0 : List Macro) (st : St) : List Item := absX ms0 st ((absRawP ms0 st.raw).map Item.tok)

def Smaller (ms0 : List Macro) (s2 st : St) : Prop :=
  s2.raw.length < st.raw.length ∨ (s2.raw = st.raw ∧ potW ms0 s2 < potW ms0 st)

theorem Smaller.trans {ms0 : List Macro} {a b c : St} (h1 : Smaller ms0 a b) (h2 : Smaller ms0 b c) : Smaller ms0 a c := by
  rcases h1 with h1 | ⟨e1, h1⟩ <;> rcases h2 with h2 | ⟨e2, h2⟩
  · exact .inl (by omega)
  · exact .inl (by rw [← e2]; exact h1)
  · exact .inl (by rw [e1]; exact h2)
  · exact .inr ⟨e1.trans e2, by omega⟩

abbrev Round (ms0 : List Macro) (st s1 : St) : Prop :=
  ∃ (s2 : St) (k1 k2 : Nat), exec k1 .rawnext st = .ok s1 ∧ exec k2 (.expand s1.rt) s1 = .ok s2 ∧
    FnState ms0 s2 ∧ FnText ms0 s2.raw ∧
      StepG (tblF ms0) (absP ms0) (absP ms0 st) s2 ∧ (s2.rt.kind = .TEOF ∧ s2.rb = false ∨ Smaller ms0 s2 st)

/-- the hypothesis `hstep` of `PPSimLoop`, up to the fuel (`round_runs` takes the larger of `k1`, `k2`) -/
theorem step_runs (ms0 : List Macro) (hTb : FnTable ms0) (st : St) (g : FnState ms0 st) (ht : FnText ms0 st.raw) :
    ∃ s1, Round ms0 st s1 := by
  obtain ⟨s1, hr, g1, -, hR⟩ := rawnext_fnState ms0 st g (fun t r hh => fnText_head (by rw [← hh]; exact ht))
  refine ⟨s1, ?_⟩
  -- a token that starts no invocation
  have common : ∀ (habs : absP ms0 st = .tok (mkHp ms0 (hsOf s1.ctx) s1.rt) :: absP ms0 s1) (hf : FlatP ms0 s1.rt)
      (htx : FnText ms0 s1.raw)
      (hsm : ∀ s2 : St, s2.raw = s1.raw →
        potW ms0 s2 + 1 ≤ W (tblF ms0) (liveNames s1.ctx) s1.rt + potW ms0 s1 → Smaller ms0 s2 st),
      Round ms0 st s1 := by
    intro habs hf htx hsm
    obtain ⟨g2, hraw2, hE⟩ := expandObj_simP ms0 hTb s1 s1.rt g1 hf
    refine ⟨_, _, 1, hr, expand_flatP g1 hf 0, g2, by rw [hraw2]; exact htx, ?_⟩
    have e2 : absP ms0 (expandObj s1.rt s1) = absX ms0 (expandObj s1.rt s1) ((absRawP ms0 s1.raw).map Item.tok) := by
      unfold absP; rw [hraw2]
    have hw := W_pos (tblF ms0) (liveNames s1.ctx) s1.rt
    cases hE with
    | push hrb _ pot hK =>
      refine ⟨.again (.inl hrb) (LinkE.toLink (out := []) (LinkE.of_eq 0 (fun K _ => ?_))), .inr (hsm _ hraw2 (by omega))⟩
      rw [habs, e2]; exact hK _ K
    | pass hrb hc hm hkind hlit hK =>
      refine ⟨.out hrb (by rw [hkind]; exact hf.1) (by rw [hkind]; exact hf.2.1) ?_,
        .inr (hsm _ hraw2 (by rw [potW_congr ms0 hc hm]; omega))⟩
      have e3 : absP ms0 (expandObj s1.rt s1) = absP ms0 s1 := by rw [e2]; exact absX_congr ms0 _ hc hm
      exact LinkE.toLink (LinkE.of_out (a := absP ms0 st) (b := absP ms0 (expandObj s1.rt s1)) (mkHp ms0 [] (expandObj s1.rt s1).rt)
        (fun K => by rw [habs, e3]; exact hK _ K))
  -- a token that `expand` hands back as it is
  have plain : ∀ (hk : s1.rt.kind ≠ .TIDENT) (s2 : St) (_ : s2 = { s1 with rb := false, rt := s1.rt })
      (hP : StepG (tblF ms0) (absP ms0) (absP ms0 st) s2 ∧ (s2.rt.kind = .TEOF ∧ s2.rb = false ∨ Smaller ms0 s2 st))
      (htx : FnText ms0 s1.raw), Round ms0 st s1 :=
    fun hk s2 hs2 hP htx => ⟨s2, _, 1, hr, hs2 ▸ expand_nonident 0 _ _ hk, hs2 ▸ g1.sameBut (.regs ..), hs2 ▸ htx, hP⟩
  cases hR with
  | ctx h1 h2 h3 h4 h5 =>
    refine common ?_ h2 (by rw [h3]; exact ht) fun s2 hs2 hp => .inr ⟨hs2.trans h3, by omega⟩
    simp only [absP, absX, h1, h3, List.map_cons, List.cons_append, annHp_liveNames]
  | raw h1 h2 h3 =>
    have ht' : FnText ms0 (s1.rt :: s1.raw) := by rw [← h1]; exact ht
    have habsst : absP ms0 st = (absRawP ms0 (s1.rt :: s1.raw)).map Item.tok := by
      simp only [absP, absX, h3, h1, List.map_nil, List.nil_append]
    have habss1 : absP ms0 s1 = (absRawP ms0 s1.raw).map Item.tok := by
      simp only [absP, absX, h2, flatG, List.map_nil, List.nil_append]
    have hshort : ∀ s2 : St, s2.raw.length ≤ s1.raw.length → Smaller ms0 s2 st :=
      fun s2 hl => .inl (by rw [h1]; simp; omega)
    rcases fnText_cons_inv ht' with ⟨hnf, heof, hhide, htr⟩ | ⟨lp, r', F, args, rest, hraw, hcall, c7, c9⟩ | ⟨hkeof, hrnil⟩
    · by_cases hnl : s1.rt.kind = .TNEWLINE
      · refine plain (by rw [hnl]; decide) _ rfl ⟨.again (.inr ⟨hnl, g1.ppnl⟩) ?_, .inr (hshort _ (Nat.le_refl _))⟩ htr
        show Link _ _ _ (absP ms0 s1)
        rw [habsst, habss1, absRawP_cons_nl _ _ _ hnl]; exact Link.refl _ _
      · refine common ?_ ⟨hnl, heof, hnf⟩ htr fun s2 hs2 _ => hshort s2 (Nat.le_of_eq (congrArg _ hs2))
        rw [habsst, habss1, absRawP_cons_visible _ _ _ hnl heof, h2]
        rfl
    · obtain ⟨pre, hpre, hpreok, n, s2, hs, g2, -, hraw2, hrb, hfl, c, hK⟩ :=
        call_runs ms0 hTb s1 s1.rt lp r' F args rest g1 h2 hraw hcall c7
      refine ⟨s2, _, n, hr, hs, g2, by rw [hraw2]; exact c9,
        .again (.inl hrb) (LinkE.toLink (out := []) (LinkE.of_eq c ?_)), .inr (hshort s2 (by rw [hraw2, hraw, hpre]; simp; omega))⟩
      intro K hKc
      have hv : ∀ x ∈ lp :: pre, x.kind ≠ .TNEWLINE ∧ x.kind ≠ .TEOF := by
        intro x hx
        rcases List.mem_cons.mp hx with rfl | hx
        · rw [hcall.lparen]; exact ⟨by decide, by decide⟩
        · exact (hpreok x hx).vis
      have hsplit : s1.raw = (lp :: pre) ++ rest := by rw [hraw, hpre]; simp
      have hL : absP ms0 st = iP ms0 s1.rt :: iP ms0 lp :: (pre.map (iP ms0) ++ (absRawP ms0 rest).map Item.tok) := by
        rw [habsst, absRawP_cons_visible _ _ _ (by rw [hcall.ident]; decide) (by rw [hcall.ident]; decide), hsplit,
          absRawP_plain ms0 _ _ hv]
        simp [iP]
      have hR2 : absP ms0 s2 = absX ms0 s2 ((absRawP ms0 rest).map Item.tok) := by unfold absP; rw [hraw2]
      rw [hL, hR2]
      exact hK K hKc _
    · refine plain (by rw [hkeof]; decide) _ rfl ⟨.eof rfl hkeof ?_, .inl ⟨hkeof, rfl⟩⟩ (by rw [hrnil]; exact .nil)
      rw [habsst, absRawP_eof _ _ _ hkeof]; rfl
  | eof h1 h2 h3 h4 h5 =>
    refine plain (by rw [h1]; decide) _ rfl ⟨.eof rfl (by show s1.rt.kind = _; rw [h1]; rfl) ?_, .inl ⟨by show s1.rt.kind = _; rw [h1]; rfl, rfl⟩⟩
      (by rw [h3]; exact .nil)
    simp [absP, absX, h5, h2, absRawP_nil]

theorem smaller_wf (ms0 : List Macro) : WellFounded (Smaller ms0) :=
  Subrelation.wf (r := InvImage (Prod.Lex (· < ·) (· < ·)) fun st : St => (st.raw.length, potW ms0 st))
    (fun {a b} h => by
      rcases h with h | ⟨e, h⟩
      · exact .left _ _ h
      · show Prod.Lex _ _ (a.raw.length, _) (b.raw.length, _)
        rw [e]; exact .right _ h)
    (InvImage.wf _ (Prod.lex Nat.lt_wfRel Nat.lt_wfRel).wf)

section
variable (ms0 : List Macro) (hTb : FnTable ms0)
include hTb

theorem round_runs (st : St) (g : FnState ms0 st ∧ FnText ms0 st.raw) :
    ∃ k s1 s2, exec k .rawnext st = .ok s1 ∧ exec k (.expand s1.rt) s1 = .ok s2 ∧ (FnState ms0 s2 ∧ FnText ms0 s2.raw) ∧
      StepG (tblF ms0) (absP ms0) (absP ms0 st) s2 ∧ (s2.rt.kind = .TEOF ∧ s2.rb = false ∨ Smaller ms0 s2 st) := by
  obtain ⟨s1, s2, k1, k2, hr, he, g2, ht2, hs⟩ := step_runs ms0 hTb st g.1 g.2
  exact ⟨max k1 k2, s1, s2, liftOk hr (Nat.le_max_left ..), liftOk he (Nat.le_max_right ..), ⟨g2, ht2⟩, hs⟩

theorem next_runs (st : St) (g : FnState ms0 st) (ht : FnText ms0 st.raw) :
    ∃ n st', exec n .next st = .ok st' ∧ (FnState ms0 st' ∧ FnText ms0 st'.raw) ∧ st'.tok = toKeyword st'.rt ∧
    ((st'.rt.kind = .TEOF ∧ Link (tblF ms0) (absP ms0 st) [] []) ∨
     (st'.rt.kind ≠ .TEOF ∧ Link (tblF ms0) (absP ms0 st) [(st'.rt.kind, st'.rt.lit)] (absP ms0 st') ∧ Smaller ms0 st' st)) :=
  next_runsG (smaller_wf ms0) Smaller.trans (fun _ g => ⟨⟨g.1.sameBut (.regs ..), g.2⟩, rfl, fun _ h => h⟩)
    (round_runs ms0 hTb) st ⟨g, ht⟩

theorem run_runs (st : St) (g : FnState ms0 st) (ht : FnText ms0 st.raw) :
    ∃ n, (run n st).2 = none ∧ ∃ L, L.map kwKey = runKeys (run n st).1 ∧ Link (tblF ms0) (absP ms0 st) L [] :=
  run_runsG (smaller_wf ms0) Smaller.trans (fun _ g => ⟨⟨g.1.sameBut (.regs ..), g.2⟩, rfl, fun _ h => h⟩)
    (round_runs ms0 hTb) st ⟨g, ht⟩

theorem run_sims (st : St) (g : FnState ms0 st) (ht : FnText ms0 st.raw) {n : Nat} (h : (run n st).2 = none) :
    ∃ J, ∀ K, J ≤ K → (expandH false K (tblF ms0) (absP ms0 st)).2.1 = none ∧
      (expandH false K (tblF ms0) (absP ms0 st)).1.map (fun t => kwKey t.tok.key) = runKeys (run n st).1 :=
  run_simT (smaller_wf ms0) Smaller.trans (fun _ g => ⟨⟨g.1.sameBut (.regs ..), g.2⟩, rfl, fun _ h => h⟩)
    (round_runs ms0 hTb) (Inv := fun st => FnState ms0 st ∧ FnText ms0 st.raw) ⟨g, ht⟩ h

end

end CprocVerif.PP
