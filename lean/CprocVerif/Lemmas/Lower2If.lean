/-
  C01, fragment 𝔽₂ — `if` / `if`-`else` (stmt.c `case TIF`): controlling expression, `funcjnz` to
  `if_true`/`if_false`, the branches, `if_join`; and what the statements with sub-statements share: the
  context at a label, a sub-statement in place, a controlling expression with its branch.
-/
import CprocVerif.Lemmas.Lower2Seq
import CprocVerif.Lemmas.Lower2Expr3

set_option linter.unusedSimpArgs false

namespace CprocVerif.LowerMach2
open CprocVerif.Qbe CprocVerif.Lower CprocVerif.Lower2 CprocVerif.CSem CprocVerif.CSem2 CprocVerif.CInt
open CprocVerif.LowerArith CprocVerif.LowerMach CprocVerif.LowerMem

theorem PosS.label {T : Stat} {c : SCtx} {nd : Nat} {p0 : List Item} (h : PosS T c nd p0) {c' : SCtx}
    (hs : c'.slots = c.slots) (hl : c.lastid ≤ c'.lastid) {name : String} {k : Nat} {l : String}
    (hn : lblName name k = l) (hk : k ≤ c'.blockid) (p : List Item) (t : Option Jump) :
    Pos T (c'.atLabel l) nd (p ++ [.lbl t l []]) :=
  hn ▸ ⟨rfl, curOf_lbl _ _ _ _ _, curOK_label name _ _ _ hk, hs ▸ h.nslots,
    fun i hi => hs ▸ Nat.le_trans (h.le i hi) hl⟩

/- `expr_out` (`Lower2Expr3`), `jnz_out`, `stmt_out`: a part of the output as a variable, with the equation that defines
   it and what is known of its context.  The proofs below `obtain` the parts, rewrite with the equation of the statement
   (`funcstmt_ite` … of `Lower2StmtStruct`) and never unfold `funcstmt`: the terms stay small. -/
theorem jnz_out (cs : Bool) (c : SCtx) (t : CSem.Ty) (v : Val) :
    ∃ oj : Out, jnzOut cs c t v = oj ∧ c.lastid ≤ oj.ctx.lastid ∧ oj.ctx.blockid = c.blockid :=
  ⟨_, rfl, (jnzArg_straight cs c.ctx t v).lastid, (jnzArg_straight cs c.ctx t v).blockid⟩

theorem stmt_out (cs : Bool) (st : Stmt) (brk cont : String) (c : SCtx) (hj : c.jump = none)
    (hn : noDead st = true) : ∃ o, funcstmt cs brk cont st c = o ∧ SGood st c o :=
  ⟨_, rfl, funcstmt_good cs st brk cont c (Or.inl hj) hn⟩

section
variable (T : Stat) {s : Store} {out : CSem2.Outcome} {lp : Bool × Bool} {brk cont : String} {c : SCtx}
  {nd nd' : Nat} {pre post : List Item} {env : Env} {M : Mem}

theorem sim_sub (n : Nat) (ih : SimStmt T n) (a : Stmt) {ca : SCtx} {p rest : List Item} {o : SOut} {l : String}
    (ho : funcstmt T.S.cs brk cont a ca = o)
    (hex : exec T.S.cs T.P n s a = some out) (hfr : frag T.P T.cnts T.W a = true)
    (hwt : Stmt.wt T.vtys T.ret lp.1 lp.2 nd a = some nd') (hpa : Pos T ca nd p) (hext : Ext T o.ctx)
    {jf : Option Jump} (hjf : ∀ j, o.ctx.jump = some j → jf = some j)
    (hits : T.S.its = p ++ o.items ++ .lbl jf l [] :: rest)
    (hlp : (lp.1 = true → CanJump T.S brk) ∧ (lp.2 = true → CanJump T.S cont))
    (inv : SInv T.M0 T.S.cs T.cnts T.W T.σ T.vtys s env M) :
    Post T brk cont (T.at env M p) (p ++ o.items) o.ctx out := by
  subst ho
  exact ih a s out lp brk cont ca nd nd' p _ env M hex hfr hwt hpa hext hits
    (fun j hj => TermAt.of_item (hjf j hj ▸ hits)) hlp inv

/-- The controlling expression of `if` / a loop: `funcexpr`, the conversion of `funcjnz`, the `jnz`; run up to the
    position behind the label item the branch goes to. -/
theorem sim_branch (n : Nat) (hc : FuncSim T n) (hp : Pos T c nd pre) (e : Expr3) (k : Nat) {oe oj : Out}
    (hoe : exprOut3 T.S.cs c e = oe) (hoj : jnzOut T.S.cs ((c.upd oe.ctx).addBlocks k) e.ty oe.val = oj)
    (hext : Ext T (((c.upd oe.ctx).addBlocks k).upd oj.ctx))
    (hwt : e.wt (T.vtys.take nd) = true) (hok : eok T.P T.cnts e = true) {v : Int}
    (hev : evalE3 T.S.cs (callOf T.P fun s' st' => exec T.S.cs T.P n s' st') s e = some v)
    {l lt lz : String} {ph : List Phi}
    (hits : T.S.its = pre ++ oe.items ++ oj.items ++ .lbl (some (.jnz oj.val lt lz)) l ph :: post)
    {pt pz rt rz : List Item} {tt tz : Option Jump}
    (ht : T.S.its = pt ++ .lbl tt lt [] :: rt) (hz : T.S.its = pz ++ .lbl tz lz [] :: rz)
    (inv : SInv T.M0 T.S.cs T.cnts T.W T.σ T.vtys s env M) :
    ∃ n env', T.Reach n (T.at env M pre)
        (T.at env' M (if v ≠ 0 then pt ++ [.lbl tt lt []] else pz ++ [.lbl tz lz []])) ∧
      SInv T.M0 T.S.cs T.cnts T.W T.σ T.vtys s env' M := by
  subst hoe hoj
  have sj := jnzArg_straight T.S.cs ((c.upd (exprOut3 T.S.cs c e).ctx).addBlocks k).ctx e.ty (exprOut3 T.S.cs c e).val
  have hext1 : Ext T (c.upd (exprOut3 T.S.cs c e).ctx) := hext.before (new := []) (by simp) (by simp) sj.lastid
  obtain ⟨n1, env1, r1, hreach1, inv1, -, hval1, hrep1, hra⟩ := sim_exprOut3 T n hc hp e hext1 hwt hok hev
    (hits.trans (List.append_assoc _ _ _)) inv
  obtain ⟨n2, env2, hreach2, hfr2, r2, hval2, w, hw, hwv⟩ := sim_jnzArg (setM T.S M) _ e.ty _ _ _ env1 v r1
    hits hval1 hrep1 hra
  have inv2 := inv1.frame hp hext rfl (Nat.le_refl _)
    (Frame.mono hfr2 (exprOut3_good T.S.cs c e).lastid (Nat.le_refl _))
  obtain ⟨st, hstep, hat⟩ := step_jnz_item T hits M hval2 hw
    (canJump_ite (canJump_item T.S ht) (canJump_item T.S hz) _)
  have hr := (hreach1.trans hreach2).trans (Reach.one hstep)
  refine ⟨n1 + n2 + 1, env2, ?_, inv2⟩
  by_cases hv0 : v ≠ 0
  · rw [if_pos (by simpa using hwv.2 hv0)] at hat
    rw [if_pos hv0]; exact atLabel_item T ht hat ▸ hr
  · rw [if_neg (by simpa using fun h => hv0 (hwv.1 h))] at hat
    rw [if_neg hv0]; exact atLabel_item T hz hat ▸ hr

theorem sim_ite (n : Nat) (hc : FuncSim T n) (ih : SimStmt T n) (e : Expr3) (a : Stmt) :
    SimOf T (n + 1) (.ite e a) := by
  intro s out lp brk cont c nd nd' pre post env M hex hfr hwt hp hext hits _ hlp inv
  simp only [frag, Bool.and_eq_true] at hfr
  simp only [Stmt.wt] at hwt
  split at hwt
  · rename_i hwe
    obtain ⟨hna, -⟩ := wt_noDead _ _ a _ _ _ _ hwt
    simp only [exec, Option.bind_eq_some_iff] at hex
    obtain ⟨v, hev, hex⟩ := hex
    obtain ⟨oe, -, hoe, l1, b1⟩ := expr_out T.S.cs hp.jump e
    obtain ⟨oj, hoj, l2, b2⟩ := jnz_out T.S.cs ((c.upd oe.ctx).addBlocks 2) e.ty oe.val
    obtain ⟨lt, hlt⟩ : ∃ l, lblName "if_true" ((c.upd oe.ctx).blockid + 1) = l := ⟨_, rfl⟩
    obtain ⟨lf, hlf⟩ : ∃ l, lblName "if_false" ((c.upd oe.ctx).blockid + 2) = l := ⟨_, rfl⟩
    obtain ⟨oa, hoa, ga⟩ := stmt_out T.S.cs a brk cont ((((c.upd oe.ctx).addBlocks 2).upd oj.ctx).atLabel lt)
      rfl hna
    rw [funcstmt_ite T.S.cs brk cont hp.jump hoe hoj hlt hlf hoa] at hext hits ⊢
    simp only [iteOut] at hext hits ⊢
    simp only [List.append_assoc, List.cons_append, List.nil_append, labelItem] at hits
    -- the item list split at the label item `if_true` (which carries the `jnz`): `h1`; at `if_false`: `h3`
    have h1 := its_app (its_app hits)
    have h2 := its_snoc h1
    have h3 := its_app h2
    have hexta : Ext T oa.ctx := hext.congr rfl rfl
    unf at l1 b1 l2 b2
    obtain ⟨k1, env1, hreach, inv1⟩ := sim_branch T n hc hp e 2 hoe hoj
      ((hexta.first ga).congr rfl rfl) hwe.1 hfr.1 hev h1 h1 h3 inv
    by_cases hv0 : v ≠ 0
    · rw [if_pos hv0] at hreach hex
      have pa := sim_sub T n ih a hoa hex hfr.2 hwt (hp.toS.label
        (c' := ((c.upd oe.ctx).addBlocks 2).upd oj.ctx) rfl (by unf; omega) hlt (by unf; omega) _ _)
        hexta (fun _ h => h) h3 hlp inv1
      have dn := ((pa.close h3).prepend hreach).post (o := oa.ctx.atLabel lf) rfl
      simpa only [List.append_assoc, List.cons_append, List.nil_append, labelItem] using dn
    · rw [if_neg hv0] at hreach hex
      cases hex
      refine ⟨⟨k1, env1, M, ?_, inv1⟩, fun _ _ => rfl⟩
      simpa only [List.append_assoc, List.cons_append, List.nil_append, labelItem] using hreach
  · cases hwt

theorem sim_itee (n : Nat) (hc : FuncSim T n) (ih : SimStmt T n) (e : Expr3) (a b : Stmt) :
    SimOf T (n + 1) (.itee e a b) := by
  intro s out lp brk cont c nd nd' pre post env M hex hfr hwt hp hext hits _ hlp inv
  simp only [frag, Bool.and_eq_true] at hfr
  simp only [Stmt.wt] at hwt
  split at hwt
  · rename_i hwe
    simp only [Option.bind_eq_some_iff] at hwt
    obtain ⟨n1, hwa, hwb⟩ := hwt
    obtain ⟨hna, hca⟩ := wt_noDead _ _ a _ _ _ _ hwa
    obtain ⟨hnb, -⟩ := wt_noDead _ _ b _ _ _ _ hwb
    simp only [exec, Option.bind_eq_some_iff] at hex
    obtain ⟨v, hev, hex⟩ := hex
    obtain ⟨oe, -, hoe, l1, b1⟩ := expr_out T.S.cs hp.jump e
    obtain ⟨oj, hoj, l2, b2⟩ := jnz_out T.S.cs ((c.upd oe.ctx).addBlocks 2) e.ty oe.val
    obtain ⟨lt, hlt⟩ : ∃ l, lblName "if_true" ((c.upd oe.ctx).blockid + 1) = l := ⟨_, rfl⟩
    obtain ⟨lf, hlf⟩ : ∃ l, lblName "if_false" ((c.upd oe.ctx).blockid + 2) = l := ⟨_, rfl⟩
    obtain ⟨oa, hoa, ga⟩ := stmt_out T.S.cs a brk cont ((((c.upd oe.ctx).addBlocks 2).upd oj.ctx).atLabel lt)
      rfl hna
    obtain ⟨lj, hlj'⟩ : ∃ l, lblName "if_join" (oa.ctx.blockid + 1) = l := ⟨_, rfl⟩
    obtain ⟨ob, hob, gb⟩ := stmt_out T.S.cs b brk cont
      (((oa.ctx.addBlocks 1).setJump (.jmp lj)).atLabel lf) rfl hnb
    rw [funcstmt_itee T.S.cs brk cont hp.jump hoe hoj hlt hlf hoa hlj' hob] at hext hits ⊢
    simp only [iteeOut] at hext hits ⊢
    simp only [List.append_assoc, List.cons_append, List.nil_append, labelItem, setJump_jump] at hits
    have h1 := its_app (its_app hits)
    have h2 := its_snoc h1
    have h3 := its_app h2
    have h4 := its_snoc h3
    have h5 := its_app h4
    -- splits at the label items: `h1` at `if_true`, `h3` at `if_false` (it carries the `jmp if_join` of the first
    -- branch), `h5` at `if_join`
    have hextb : Ext T ob.ctx := hext.congr rfl rfl
    have hexta : Ext T oa.ctx := (hextb.first gb).congr rfl rfl
    have b3 := ga.blockid
    unf at l1 b1 l2 b2 b3
    obtain ⟨k1, env1, hreach, inv1⟩ := sim_branch T n hc hp e 2 hoe hoj
      ((hexta.first ga).congr rfl rfl) hwe.1 hfr.1 hev h1 h1 h3 inv
    have hpa := hp.toS.label (c' := ((c.upd oe.ctx).addBlocks 2).upd oj.ctx) rfl (by unf; omega) hlt
      (by unf; omega) (pre ++ oe.items ++ oj.items) (some (.jnz oj.val lt lf))
    by_cases hv0 : v ≠ 0
    · rw [if_pos hv0] at hreach hex
      have pa := sim_sub T n ih a hoa hex hfr.2.1 hwa hpa hexta
        (fun j hj => by rw [addBlocks_jump, hj]; rfl) h3 hlp inv1
      have dn := ((pa.closeJmpAt h3 h5).prepend hreach).post (o := ob.ctx.atLabel lj) rfl
      simpa only [List.append_assoc, List.cons_append, List.nil_append, labelItem, setJump_jump] using dn
    · rw [if_neg hv0] at hreach hex
      have pb := sim_sub T n ih b hob hex hfr.2.2 hwb ((hpa.toS.after ga hca).label
        (c' := (oa.ctx.addBlocks 1).setJump (.jmp lj)) rfl (Nat.le_refl _) hlf (by unf; omega) _ _)
        hextb (fun _ h => h) h5 hlp inv1
      have dn := ((pb.close h5).prepend hreach).post (o := ob.ctx.atLabel lj) rfl
      simpa only [List.append_assoc, List.cons_append, List.nil_append, labelItem, setJump_jump] using dn
  · cases hwt

end

end CprocVerif.LowerMach2
