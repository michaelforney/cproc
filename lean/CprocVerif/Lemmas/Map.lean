import CprocVerif.Model.Map
/-!
# Lemmas about the model of map.c

The home of a key (`Home`) is the first stopping position of its probe sequence `pos cap h 0, 1, …`: the probe loop
returns it, the invariant says that every stored key sits in its home, and storing a key into its home keeps the
invariant (`set_home`).  A history of `put`s from `mapinit` (`run`) is compared with `dict` (the last value put);
`rekey`: the same history under another hash function.
-/
namespace CprocVerif.Map

/-- For a power-of-two capacity the C expression `x & (cap - 1)` is `x % cap`. -/
theorem mask_eq_mod {cap e : Nat} (hc : cap = 2 ^ e) (x : Nat) : x &&& (cap - 1) = x % cap := by
  subst hc; exact Nat.and_two_pow_sub_one_eq_mod x e

theorem keyindexFromMask_eq {cap e : Nat} (hc : cap = 2 ^ e) (slots : Array Slot) (k : Key) :
    ∀ f i, keyindexFromMask slots cap k f i = keyindexFrom slots cap k f i
  | 0, _ => rfl
  | f + 1, i => by
    unfold keyindexFromMask keyindexFrom
    rw [mask_eq_mod hc, keyindexFromMask_eq hc slots k f]

def sl (slots : Array Slot) (i : Nat) : Slot := slots.getD i none

def keyAt (slots : Array Slot) (i : Nat) : Option Key := (sl slots i).map (·.1)

/-- The probe loop, looking for `k`, stops at `p`. -/
def Stops (slots : Array Slot) (k : Key) (p : Nat) : Prop :=
  keyAt slots p = none ∨ keyAt slots p = some k

def Skips (slots : Array Slot) (k : Key) (p : Nat) : Prop :=
  ∃ k', keyAt slots p = some k' ∧ k' ≠ k

theorem Stops.key_eq {slots : Array Slot} {k k' p} (hs : Stops slots k p) (h : keyAt slots p = some k') :
    k' = k := by
  rcases hs with h0 | h1
  · rw [h] at h0; cases h0
  · rw [h] at h1; exact Option.some.inj h1

theorem not_stops_and_skips {slots : Array Slot} {k p} : Stops slots k p → Skips slots k p → False :=
  fun hs ⟨_, h', hne⟩ => hne (hs.key_eq h')

theorem stops_or_skips (slots : Array Slot) (k p) : Stops slots k p ∨ Skips slots k p := by
  unfold Stops Skips
  cases keyAt slots p with
  | none => exact .inl (.inl rfl)
  | some k' =>
    by_cases hk : k' = k
    · exact .inl (.inr (hk ▸ rfl))
    · exact .inr ⟨k', rfl, hk⟩

theorem sl_of_ge (slots : Array Slot) (i : Nat) (h : slots.size ≤ i) : sl slots i = none := by
  unfold sl; simp [Array.getD, Nat.not_lt.mpr h]

theorem sl_of_lt (slots : Array Slot) (i : Nat) (h : i < slots.size) : sl slots i = slots[i] := by
  unfold sl; simp [Array.getD, h]

theorem lt_of_sl_some {slots : Array Slot} {i : Nat} {x} (h : sl slots i = some x) : i < slots.size :=
  Nat.lt_of_not_le fun hge => by rw [sl_of_ge _ _ hge] at h; cases h

theorem getElem?_of_lt (slots : Array Slot) (i : Nat) (h : i < slots.size) :
    slots[i]? = some (sl slots i) := by
  rw [sl_of_lt _ _ h]; exact Array.getElem?_eq_getElem h

theorem keyAt_none {slots : Array Slot} {i} : keyAt slots i = none ↔ sl slots i = none := by
  unfold keyAt; cases sl slots i <;> simp

theorem keyAt_some {slots : Array Slot} {i k} : keyAt slots i = some k ↔ ∃ v, sl slots i = some (k, v) := by
  unfold keyAt
  cases sl slots i with
  | none => simp
  | some kv => obtain ⟨k', v⟩ := kv; simp

theorem keyindexFrom_succ (slots : Array Slot) (cap k f i) :
    keyindexFrom slots cap k (f + 1) i =
      match sl slots i with
      | some (k', _) => if k' = k then some i else keyindexFrom slots cap k f ((i + 1) % cap)
      | none => some i := by
  rw [keyindexFrom]
  by_cases h : i < slots.size
  · rw [getElem?_of_lt _ _ h]; cases sl slots i <;> rfl
  · rw [sl_of_ge _ _ (Nat.le_of_not_lt h), Array.getElem?_eq_none (Nat.le_of_not_lt h)]

theorem keyindexFrom_stop (slots : Array Slot) (cap k f i) (h : Stops slots k i) :
    keyindexFrom slots cap k (f+1) i = some i := by
  rw [keyindexFrom_succ]
  rcases h with h | h
  · rw [keyAt_none.1 h]
  · obtain ⟨v, hv⟩ := keyAt_some.1 h; rw [hv]; exact if_pos rfl

theorem keyindexFrom_skip (slots : Array Slot) (cap k f i) (h : Skips slots k i) :
    keyindexFrom slots cap k (f+1) i = keyindexFrom slots cap k f ((i+1) % cap) := by
  obtain ⟨k', hs, hne⟩ := h
  obtain ⟨v, hv⟩ := keyAt_some.1 hs
  rw [keyindexFrom_succ, hv]; exact if_neg hne

/-- `j`-th position of the probe sequence of hash `h`. -/
def pos (cap h j : Nat) : Nat := (h + j) % cap

theorem pos_succ (cap h j : Nat) : (pos cap h j + 1) % cap = pos cap h (j+1) := by
  unfold pos; rw [Nat.mod_add_mod]; rfl

theorem pos_zero (cap h : Nat) : pos cap h 0 = h % cap := rfl

theorem pos_surj (cap h e : Nat) (he : e < cap) : ∃ j, j < cap ∧ pos cap h j = e := by
  unfold pos
  have hr : h % cap < cap := Nat.mod_lt _ (Nat.zero_lt_of_lt he)
  by_cases hge : h % cap ≤ e
  · refine ⟨e - h % cap, Nat.lt_of_le_of_lt (Nat.sub_le ..) he, ?_⟩
    rw [← Nat.mod_add_mod, Nat.add_sub_cancel' hge]
    exact Nat.mod_eq_of_lt he
  · refine ⟨e + cap - h % cap, by omega, ?_⟩
    rw [← Nat.mod_add_mod, Nat.add_sub_cancel' (Nat.le_trans (Nat.le_of_lt hr) (Nat.le_add_left ..)),
      Nat.add_mod_right]
    exact Nat.mod_eq_of_lt he

theorem probe_first (slots : Array Slot) (cap : Nat) (k : Key) (h : Nat) :
    ∀ (j0 b f : Nat), j0 < f → Stops slots k (pos cap h (b + j0)) →
      ∃ n, n ≤ j0 ∧ keyindexFrom slots cap k f (pos cap h b) = some (pos cap h (b + n)) ∧
        Stops slots k (pos cap h (b + n)) ∧ ∀ j, j < n → Skips slots k (pos cap h (b + j))
  | j0, b, f + 1, hf, hs => by
    rcases stops_or_skips slots k (pos cap h b) with hb | hb
    · exact ⟨0, Nat.zero_le _, keyindexFrom_stop slots cap k f _ hb, hb, nofun⟩
    · cases j0 with
      | zero => exact (not_stops_and_skips hs hb).elim
      | succ j0 =>
        obtain ⟨n, hn, hk, hst, hsk⟩ :=
          probe_first slots cap k h j0 (b + 1) f (Nat.lt_of_succ_lt_succ hf)
            (by rw [Nat.add_right_comm]; exact hs)
        rw [Nat.add_right_comm] at hk hst
        refine ⟨n + 1, Nat.succ_le_succ hn, ?_, hst, fun j hj => ?_⟩
        · rw [keyindexFrom_skip slots cap k f _ hb, pos_succ, hk]; rfl
        · cases j with
          | zero => exact hb
          | succ j => have := hsk j (Nat.lt_of_succ_lt_succ hj); rwa [Nat.add_right_comm] at this

/-- Every stored key sits on its own probe sequence with no empty slot (and no other copy) before it. -/
def NoGap (slots : Array Slot) (cap : Nat) : Prop :=
  ∀ p k, keyAt slots p = some k →
    ∃ n, n < cap ∧ p = pos cap k.hash n ∧ ∀ j, j < n → Skips slots k (pos cap k.hash j)

def NoDup (slots : Array Slot) : Prop :=
  ∀ p q k, keyAt slots p = some k → keyAt slots q = some k → p = q

def HasEmpty (slots : Array Slot) (cap : Nat) : Prop := ∃ e, e < cap ∧ sl slots e = none

/-- `i` is the home of `k`: the first stopping position of `k`'s probe sequence, which is the slot the
probe loop returns (`keyindexS_home`) and, by `NoGap`, the slot of every stored key (`home_of_nogap`). -/
def Home (slots : Array Slot) (cap : Nat) (k : Key) (i : Nat) : Prop :=
  Stops slots k i ∧ ∃ n, n < cap ∧ i = pos cap k.hash n ∧ ∀ j, j < n → Skips slots k (pos cap k.hash j)

theorem Home.lt {slots : Array Slot} {cap k i} (h : Home slots cap k i) : i < cap := by
  obtain ⟨-, n, hn, rfl, -⟩ := h
  exact Nat.mod_lt _ (Nat.zero_lt_of_lt hn)

theorem Home.unique {slots : Array Slot} {cap k i i'} (h : Home slots cap k i) (h' : Home slots cap k i') :
    i = i' := by
  obtain ⟨hs, n, -, rfl, hsk⟩ := h
  obtain ⟨hs', n', -, rfl, hsk'⟩ := h'
  rcases Nat.lt_trichotomy n n' with hlt | rfl | hgt
  · exact (not_stops_and_skips hs (hsk' n hlt)).elim
  · rfl
  · exact (not_stops_and_skips hs' (hsk n' hgt)).elim

theorem home_of_nogap {slots : Array Slot} {cap} (h : NoGap slots cap) {p k}
    (hk : keyAt slots p = some k) : Home slots cap k p :=
  ⟨.inr hk, h p k hk⟩

theorem nodup_of_nogap {slots : Array Slot} {cap : Nat} (h : NoGap slots cap) : NoDup slots :=
  fun _ _ _ hp hq => (home_of_nogap h hp).unique (home_of_nogap h hq)

/-- Invariant of a slot array and its capacity, without `len`: what the rehash loop maintains on the array it
fills (`rehash_spec`). -/
structure RInv (slots : Array Slot) (cap : Nat) : Prop where
  size : slots.size = cap
  cpos : 0 < cap
  nogap : NoGap slots cap

theorem RInv.nodup {slots : Array Slot} {cap : Nat} (h : RInv slots cap) : NoDup slots :=
  nodup_of_nogap h.nogap

def Holds (slots : Array Slot) (k : Key) (v : Nat) : Prop := ∃ p, sl slots p = some (k, v)

def Upd (s s' : Array Slot) (k : Key) (v : Nat) : Prop :=
  ∀ k' v', Holds s' k' v' ↔ (k' = k ∧ v' = v) ∨ (k' ≠ k ∧ Holds s k' v')

def occ (slots : Array Slot) : Nat := slots.countP (·.isSome)

theorem holds_unique {slots : Array Slot} {cap} (hI : RInv slots cap) {k v w}
    (h1 : Holds slots k v) (h2 : Holds slots k w) : v = w := by
  obtain ⟨p, hp⟩ := h1
  obtain ⟨q, hq⟩ := h2
  cases hI.nodup p q k (keyAt_some.mpr ⟨v, hp⟩) (keyAt_some.mpr ⟨w, hq⟩)
  rw [hp] at hq; cases hq; rfl

theorem hasEmpty_of_occ_lt {slots : Array Slot} {cap} (hs : slots.size = cap) (h : occ slots < cap) :
    HasEmpty slots cap := by
  apply Classical.byContradiction; intro hne
  have : occ slots = slots.size := Array.countP_eq_size.2 fun a ha => by
    obtain ⟨i, hi, rfl⟩ := Array.mem_iff_getElem.1 ha
    cases h' : slots[i] with
    | some _ => rfl
    | none => exact (hne ⟨i, hs ▸ hi, (sl_of_lt _ _ hi).trans h'⟩).elim
  omega

theorem RInv.home {slots : Array Slot} {cap} (hI : RInv slots cap) {p k w}
    (h : sl slots p = some (k, w)) : Home slots cap k p :=
  home_of_nogap hI.nogap (keyAt_some.2 ⟨w, h⟩)

theorem keyindexS_home {slots : Array Slot} {cap} (hE : HasEmpty slots cap) (k : Key) :
    ∃ i, keyindexS slots cap k = some i ∧ Home slots cap k i := by
  obtain ⟨e, he, hempty⟩ := hE
  obtain ⟨j0, hj0, hpos⟩ := pos_surj cap k.hash e he
  have hst : Stops slots k (pos cap k.hash (0 + j0)) := by
    left; rw [keyAt_none]; simpa [hpos] using hempty
  obtain ⟨n, hn, hk, hst', hsk⟩ := probe_first slots cap k k.hash j0 0 cap hj0 hst
  simp only [Nat.zero_add] at hk hst' hsk
  exact ⟨_, hk, hst', n, by omega, rfl, hsk⟩

theorem Home.cases {slots : Array Slot} {cap k i} (h : Home slots cap k i) :
    sl slots i = none ∨ ∃ w, sl slots i = some (k, w) :=
  h.1.imp keyAt_none.1 keyAt_some.1

theorem Home.absent {slots : Array Slot} {cap k i} (hI : RInv slots cap) (h : Home slots cap k i)
    (h0 : sl slots i = none) (w : Nat) : ¬ Holds slots k w := fun ⟨p, hp⟩ => by
  rw [h.unique (hI.home hp), hp] at h0
  cases h0

theorem keyindexS_stored {slots : Array Slot} {cap} (hI : RInv slots cap) (hE : HasEmpty slots cap)
    {i k w} (h : sl slots i = some (k, w)) : keyindexS slots cap k = some i := by
  obtain ⟨i', hk, hh⟩ := keyindexS_home hE k
  rw [hk, hh.unique (hI.home h)]

theorem sl_set (slots : Array Slot) (i : Nat) (x : Slot) (j : Nat) (hi : i < slots.size) :
    sl (slots.setIfInBounds i x) j = if i = j then x else sl slots j := by
  unfold sl
  by_cases hij : i = j
  · subst hij; simp [Array.getD, hi]
  · by_cases hj : j < slots.size <;> simp [Array.getD, hj, hij]

theorem keyAt_set (slots : Array Slot) (i : Nat) (k : Key) (v : Nat) (j : Nat) (hi : i < slots.size) :
    keyAt (slots.setIfInBounds i (some (k, v))) j = if i = j then some k else keyAt slots j := by
  unfold keyAt
  rw [sl_set _ _ _ _ hi]
  by_cases hij : i = j <;> simp [hij]

theorem occ_set (slots : Array Slot) (i : Nat) (kv : Key × Nat) (hi : i < slots.size) :
    occ (slots.setIfInBounds i (some kv)) = if sl slots i = none then occ slots + 1 else occ slots := by
  unfold occ
  rw [Array.setIfInBounds_def]
  simp only [hi, dite_true]
  rw [Array.countP_set hi, sl_of_lt _ _ hi]
  have hle := Array.boole_getElem_le_countP (p := fun (s : Slot) => s.isSome) hi
  cases h : slots[i] with
  | none => simp
  | some x =>
    rw [h] at hle
    simp only [Option.isSome_some, if_true] at hle
    simp
    omega

theorem upd_set {slots : Array Slot} {i : Nat} {k : Key} (v : Nat) (hi : i < slots.size)
    (hik : ∀ p k' w, sl slots p = some (k', w) → (i = p ↔ k' = k)) :
    Upd slots (slots.setIfInBounds i (some (k, v))) k v := by
  intro k' v'
  constructor
  · rintro ⟨p, hp⟩
    rw [sl_set _ _ _ _ hi] at hp
    by_cases hip : i = p
    · rw [if_pos hip] at hp; cases hp; exact .inl ⟨rfl, rfl⟩
    · rw [if_neg hip] at hp; exact .inr ⟨fun hkk => hip ((hik p k' v' hp).2 hkk), p, hp⟩
  · rintro (⟨rfl, rfl⟩ | ⟨hne, p, hp⟩)
    · exact ⟨i, by rw [sl_set _ _ _ _ hi, if_pos rfl]⟩
    · exact ⟨p, by rw [sl_set _ _ _ _ hi, if_neg fun hip => hne ((hik p k' v' hp).1 hip)]; exact hp⟩

theorem set_home {slots : Array Slot} {cap} (hI : RInv slots cap) {k : Key} {i : Nat}
    (h : Home slots cap k i) (v : Nat) :
    let s' := slots.setIfInBounds i (some (k, v))
    RInv s' cap ∧ Upd slots s' k v ∧ occ s' = if sl slots i = none then occ slots + 1 else occ slots := by
  intro s'
  have hi : i < slots.size := hI.size ▸ h.lt
  have hik : ∀ p k' w, sl slots p = some (k', w) → (i = p ↔ k' = k) := fun p k' w hp =>
    ⟨fun e => h.1.key_eq (e ▸ keyAt_some.2 ⟨w, hp⟩), fun e => h.unique (hI.home (e ▸ hp))⟩
  have hkey : ∀ q, keyAt s' q = if i = q then some k else keyAt slots q :=
    fun q => keyAt_set _ _ _ _ _ hi
  have keepSkips : ∀ k2 q, Skips slots k2 q → Skips s' k2 q := by
    intro k2 q ⟨k', hq, hne⟩
    rw [Skips, hkey]
    by_cases hiq : i = q
    · exact ⟨k, if_pos hiq, h.1.key_eq (hiq ▸ hq) ▸ hne⟩
    · exact ⟨k', (if_neg hiq).trans hq, hne⟩
  refine ⟨⟨by simpa [s'] using hI.size, hI.cpos, fun p k2 hp => ?_⟩, upd_set v hi hik, occ_set _ _ _ hi⟩
  rw [hkey] at hp
  obtain ⟨n2, hn2, hp2, hsk2⟩ : ∃ n, n < cap ∧ p = pos cap k2.hash n ∧
      ∀ j, j < n → Skips slots k2 (pos cap k2.hash j) := by
    by_cases hpp : i = p
    · rw [if_pos hpp] at hp; cases hp; exact hpp ▸ h.2
    · rw [if_neg hpp] at hp; exact hI.nogap p k2 hp
  exact ⟨n2, hn2, hp2, fun j hj => keepSkips _ _ (hsk2 j hj)⟩

theorem Upd.trans {s s' s'' : Array Slot} {k v w} (h1 : Upd s s' k v) (h2 : Upd s' s'' k w) :
    Upd s s'' k w := by
  intro k' v'
  rw [h2 k' v', h1 k' v']
  by_cases hk : k' = k <;> simp [hk]

theorem Upd.exists_iff {s s' : Array Slot} {k v} (h : Upd s s' k v) (k' : Key) :
    (∃ w, Holds s' k' w) ↔ k' = k ∨ ∃ w, Holds s k' w := by
  simp only [h k']
  by_cases hk : k' = k <;> simp [hk]

theorem sl_replicate (cap p : Nat) : sl (Array.replicate cap none) p = none := by
  unfold sl
  by_cases h : p < cap <;> simp [Array.getD, h]

theorem RInv_replicate {cap : Nat} (hc : 0 < cap) : RInv (Array.replicate cap none) cap := by
  have hk : ∀ p, keyAt (Array.replicate cap (none : Slot)) p = none := by
    intro p; rw [keyAt_none]; exact sl_replicate cap p
  exact ⟨by simp, hc, fun p k h => by rw [hk] at h; cases h⟩

theorem occ_replicate (cap : Nat) : occ (Array.replicate cap none) = 0 := by
  unfold occ; simp [Array.countP_replicate]

theorem not_holds_replicate (cap : Nat) (k : Key) (v : Nat) : ¬ Holds (Array.replicate cap none) k v := by
  intro ⟨p, hp⟩; rw [sl_replicate] at hp; cases hp

theorem rehash_spec {old : Array Slot} (hnd : NoDup old) {cap : Nat} (hocc : occ old < cap) :
    RInv (rehash old cap) cap ∧ occ (rehash old cap) = occ old ∧
      ∀ k v, Holds (rehash old cap) k v ↔ Holds old k v := by
  -- after `i` rounds of the loop: the entries of the first `i` old slots, and as many occupied
  -- slots as the remaining old slots leave of `occ old`
  have key : RInv (rehash old cap) cap ∧
      occ (rehash old cap) + (old.toList.drop old.size).countP (·.isSome) = occ old ∧
      ∀ k v, Holds (rehash old cap) k v ↔ ∃ j, j < old.size ∧ sl old j = some (k, v) := by
    unfold rehash
    apply Array.foldl_induction (motive := fun i acc => RInv acc cap ∧
      occ acc + (old.toList.drop i).countP (·.isSome) = occ old ∧
      ∀ k v, Holds acc k v ↔ ∃ j, j < i ∧ sl old j = some (k, v))
    · exact ⟨RInv_replicate (by omega), by rw [occ_replicate, Nat.zero_add]; exact Array.countP_toList,
        fun k v => ⟨fun h => (not_holds_replicate _ _ _ h).elim, fun ⟨j, hj, _⟩ => absurd hj (Nat.not_lt_zero _)⟩⟩
    · rintro ⟨i, hi⟩ acc ⟨hI, ho, hh⟩
      simp only [Fin.getElem_fin] at ho hh ⊢
      rw [List.drop_eq_getElem_cons (by simpa using hi), List.countP_cons, Array.getElem_toList] at ho
      have step : ∀ k v, (∃ j, j < i + 1 ∧ sl old j = some (k, v)) ↔
          (∃ j, j < i ∧ sl old j = some (k, v)) ∨ some (k, v) = old[i] := fun k v => by
        simp only [Nat.lt_succ_iff_lt_or_eq, or_and_right, exists_or, exists_eq_left, sl_of_lt _ _ hi,
          eq_comm (a := some (k, v))]
      cases hs : old[i] with
      | none =>
        rw [hs] at ho
        exact ⟨hI, by simpa using ho, fun k v => by rw [hh, step, hs]; simp⟩
      | some kv =>
        obtain ⟨k, v⟩ := kv
        rw [hs] at ho
        have habs : ∀ w, ¬ Holds acc k w := fun w hw => by
          obtain ⟨j, hj, h⟩ := (hh k w).1 hw
          have := hnd j i k (keyAt_some.2 ⟨w, h⟩) (keyAt_some.2 ⟨v, (sl_of_lt _ _ hi).trans hs⟩)
          omega
        obtain ⟨p, hk, hp⟩ := keyindexS_home (hasEmpty_of_occ_lt hI.size (by simp at ho; omega)) k
        obtain h0 | ⟨w, hw⟩ := hp.cases
        case inr => exact (habs w ⟨p, hw⟩).elim
        obtain ⟨hI', hu, ho'⟩ := set_home hI hp v
        rw [if_pos h0] at ho'
        simp only [reinsert, hk]
        refine ⟨hI', by simp at ho; omega, fun k2 v2 => ?_⟩
        rw [hu, step, hs, hh, Option.some.injEq, Prod.mk.injEq]
        by_cases hkk : k2 = k <;> simp [hkk, habs, ← hh]
  obtain ⟨hR, ho, hh⟩ := key
  rw [List.drop_eq_nil_of_le (by simp)] at ho
  refine ⟨hR, ho, fun k v => (hh k v).trans ⟨fun ⟨j, _, h⟩ => ⟨j, h⟩, fun ⟨p, h⟩ => ⟨p, lt_of_sl_some h, h⟩⟩⟩

/-- The invariant of `struct map` between calls.
    `4 ≤ cap` is forced: `mapinit` accepts 0, 1 and 2 (its assertion only checks `cap & (cap-1)`),
    but with `cap ≤ 2` the table becomes completely full and `keyindex` for an absent key never returns. -/
structure Inv (m : Map) : Prop where
  pow2 : ∃ e, m.cap = 2 ^ e
  cap4 : 4 ≤ m.cap
  size : m.slots.size = m.cap
  len_occ : m.len = occ m.slots
  len_le : m.len ≤ m.cap / 2 + 1
  nogap : NoGap m.slots m.cap
  nodup : NoDup m.slots

theorem Inv.rinv {m : Map} (h : Inv m) : RInv m.slots m.cap :=
  ⟨h.size, by have := h.cap4; omega, h.nogap⟩

theorem Inv.len_lt_cap {m : Map} (h : Inv m) : m.len < m.cap := by
  have := h.cap4; have := h.len_le; omega

theorem Inv.hasEmpty {m : Map} (h : Inv m) : HasEmpty m.slots m.cap :=
  hasEmpty_of_occ_lt h.size (h.len_occ ▸ h.len_lt_cap)

theorem Inv.of_rinv {m : Map} (hp : ∃ e, m.cap = 2 ^ e) (h4 : 4 ≤ m.cap) (hI : RInv m.slots m.cap)
    (hocc : m.len = occ m.slots) (hle : m.len ≤ m.cap / 2 + 1) : Inv m :=
  ⟨hp, h4, hI.size, hocc, hle, hI.nogap, hI.nodup⟩

theorem init_inv {cap e : Nat} (hc : cap = 2 ^ e) (h4 : 4 ≤ cap) : Inv (init cap) := by
  apply Inv.of_rinv ⟨e, hc⟩ h4 (RInv_replicate (by omega))
  · simp [init, occ_replicate]
  · simp [init]

theorem valAt_of_sl {m : Map} {i k w} (hi : sl m.slots i = some (k, w)) : valAt m i = w := by
  unfold valAt; rw [getElem?_of_lt _ _ (lt_of_sl_some hi), hi]

theorem get_of_holds {m : Map} (hI : Inv m) {k v} (h : Holds m.slots k v) : get m k = v := by
  obtain ⟨i, hi⟩ := h
  unfold get keyindex
  rw [keyindexS_stored hI.rinv hI.hasEmpty hi]; exact valAt_of_sl hi

theorem get_of_absent {m : Map} (hI : Inv m) {k} (h : ∀ w, ¬ Holds m.slots k w) : get m k = 0 := by
  obtain ⟨i, hk, hh⟩ := keyindexS_home hI.hasEmpty k
  obtain h0 | ⟨w, hw⟩ := hh.cases
  · unfold get keyindex valAt; rw [hk]; simp only []; rw [getElem?_of_lt _ _ (hI.size ▸ hh.lt), h0]
  · exact (h w ⟨i, hw⟩).elim

theorem get_congr {m m' : Map} (hI : Inv m) (hI' : Inv m') {k : Key}
    (hh : ∀ v, Holds m'.slots k v ↔ Holds m.slots k v) : get m' k = get m k := by
  by_cases h : ∃ v, Holds m.slots k v
  · obtain ⟨v, hv⟩ := h
    rw [get_of_holds hI hv, get_of_holds hI' ((hh v).2 hv)]
  · rw [get_of_absent hI fun w hw => h ⟨w, hw⟩, get_of_absent hI' fun w hw => h ⟨w, (hh w).1 hw⟩]

theorem grow_spec {m : Map} (hI : Inv m) :
    Inv (grow m) ∧ ∀ k v, Holds (grow m).slots k v ↔ Holds m.slots k v := by
  have h4 := hI.cap4
  have hlt := hI.len_lt_cap
  obtain ⟨hR, ho, hh⟩ := rehash_spec hI.nodup (cap := m.cap * 2) (by rw [← hI.len_occ]; omega)
  refine ⟨?_, hh⟩
  obtain ⟨e, he⟩ := hI.pow2
  apply Inv.of_rinv ⟨e + 1, by show m.cap * 2 = _; rw [he, Nat.pow_succ]⟩ (by show 4 ≤ m.cap * 2; omega) hR
  · exact hI.len_occ.trans ho.symm
  · show m.len ≤ m.cap * 2 / 2 + 1
    rw [Nat.mul_div_cancel _ (by decide)]; omega

theorem maybeGrow_spec {m : Map} (hI : Inv m) :
    Inv (maybeGrow m) ∧ (maybeGrow m).len = m.len ∧ (maybeGrow m).len ≤ (maybeGrow m).cap / 2 ∧
      ∀ k v, Holds (maybeGrow m).slots k v ↔ Holds m.slots k v := by
  unfold maybeGrow
  by_cases h : m.cap / 2 < m.len
  · rw [if_pos h]
    refine ⟨(grow_spec hI).1, rfl, ?_, (grow_spec hI).2⟩
    show m.len ≤ m.cap * 2 / 2
    rw [Nat.mul_div_cancel _ (by decide)]
    exact Nat.le_of_lt hI.len_lt_cap
  · rw [if_neg h]
    exact ⟨hI, rfl, by omega, fun _ _ => Iff.rfl⟩

/-- The value in the returned slot is `get m k`: the old value, or NULL if `k` is new. -/
theorem mapput_spec {m : Map} (hI : Inv m) (k : Key) :
    Inv (mapput m k).1 ∧
      sl (mapput m k).1.slots (mapput m k).2 = some (k, get m k) ∧
      Upd m.slots (mapput m k).1.slots k (get m k) ∧
      ((∃ w, Holds m.slots k w) → (mapput m k).1.len = m.len) ∧
      ((∀ w, ¬ Holds m.slots k w) → (mapput m k).1.len = m.len + 1) := by
  -- after the growth branch: a table `g` with the content and `len` of `m`, at most half full
  obtain ⟨hG, hl, hlen, hh⟩ := maybeGrow_spec hI
  rw [← get_congr hI hG (hh k), ← hl]
  simp only [Upd, ← hh]
  unfold mapput
  generalize maybeGrow m = g at *
  obtain ⟨i, hk, hh⟩ := keyindexS_home hG.hasEmpty k
  have hlt : i < g.slots.size := hG.size ▸ hh.lt
  have hk' : keyindex g k = some i := hk
  rcases hh.cases with h0 | ⟨w, hw⟩
  · have hT : mapputTail g k =
        ((⟨g.cap, g.len + 1, g.slots.setIfInBounds i (some (k, 0))⟩ : Map), i) := by
      unfold mapputTail; rw [hk']; simp only []; rw [getElem?_of_lt _ _ hlt, h0]
    obtain ⟨hR, hu, ho⟩ := set_home hG.rinv hh 0
    rw [if_pos h0] at ho
    have habs := hh.absent hG.rinv h0
    rw [hT, get_of_absent hG habs]
    refine ⟨Inv.of_rinv hG.pow2 hG.cap4 hR (ho ▸ congrArg (· + 1) hG.len_occ) (Nat.succ_le_succ hlen),
      ?_, hu, fun ⟨w, hw⟩ => (habs w hw).elim, fun _ => rfl⟩
    simp only; rw [sl_set _ _ _ _ hlt]; simp
  · have hT : mapputTail g k = (g, i) := by
      unfold mapputTail; rw [hk']; simp only []; rw [getElem?_of_lt _ _ hlt, hw]
    rw [hT, get_of_holds hG ⟨i, hw⟩]
    refine ⟨hG, hw, fun k' v' => ?_, fun _ => rfl, fun habs => (habs w ⟨i, hw⟩).elim⟩
    by_cases hkk : k' = k
    · subst hkk
      exact ⟨fun h => .inl ⟨rfl, holds_unique hG.rinv h ⟨i, hw⟩⟩,
        fun h => h.elim (fun e => e.2 ▸ ⟨i, hw⟩) (fun e => (e.1 rfl).elim)⟩
    · simp [hkk]

/-- Writing through the pointer returned by `mapput`. -/
theorem setVal_spec {m : Map} (hI : Inv m) {i k w} (v : Nat) (hi : sl m.slots i = some (k, w)) :
    Inv (setVal m i v) ∧ (setVal m i v).len = m.len ∧ Upd m.slots (setVal m i v).slots k v := by
  have hS : setVal m i v = { cap := m.cap, len := m.len, slots := m.slots.setIfInBounds i (some (k, v)) } := by
    unfold setVal; rw [getElem?_of_lt _ _ (lt_of_sl_some hi), hi]
  obtain ⟨hR, hu, ho⟩ := set_home hI.rinv (hI.rinv.home hi) v
  rw [hi, if_neg nofun] at ho
  rw [hS]
  exact ⟨Inv.of_rinv hI.pow2 hI.cap4 hR (ho ▸ hI.len_occ) hI.len_le, rfl, hu⟩

/-- `*mapput(h, k) = v`. -/
theorem put_spec {m : Map} (hI : Inv m) (k : Key) (v : Nat) :
    Inv (put m k v) ∧ Upd m.slots (put m k v).slots k v ∧
      ((∃ w, Holds m.slots k w) → (put m k v).len = m.len) ∧
      ((∀ w, ¬ Holds m.slots k w) → (put m k v).len = m.len + 1) := by
  obtain ⟨h1, h3, h4, h5, h6⟩ := mapput_spec hI k
  obtain ⟨g1, g2, g5⟩ := setVal_spec h1 v h3
  exact ⟨g1, h4.trans g5, fun h => g2.trans (h5 h), fun h => g2.trans (h6 h)⟩

theorem get_of_upd {m m' : Map} (hI : Inv m) (hI' : Inv m') {k v}
    (hu : Upd m.slots m'.slots k v) (k' : Key) : get m' k' = if k' = k then v else get m k' := by
  by_cases hk : k' = k
  · rw [if_pos hk, hk]; exact get_of_holds hI' ((hu k v).mpr (.inl ⟨rfl, rfl⟩))
  · rw [if_neg hk]; exact get_congr hI hI' fun v' => by simp [hu k' v', hk]

theorem get_put {m : Map} (hI : Inv m) (k : Key) (v : Nat) (k' : Key) :
    get (put m k v) k' = if k' = k then v else get m k' :=
  get_of_upd hI (put_spec hI k v).1 (put_spec hI k v).2.1 k'

theorem get_init {cap e : Nat} (hc : cap = 2 ^ e) (h4 : 4 ≤ cap) (k : Key) : get (init cap) k = 0 :=
  get_of_absent (init_inv hc h4) (not_holds_replicate cap k)

theorem putKeep_spec {m : Map} (hI : Inv m) (k : Key) (v : Nat) :
    Inv (putKeep m k v).1 ∧ (putKeep m k v).2 = (if get m k ≠ 0 then get m k else v) ∧
      Upd m.slots (putKeep m k v).1.slots k (putKeep m k v).2 := by
  obtain ⟨h1, h3, h4, _, _⟩ := mapput_spec hI k
  have hv : valAt (mapput m k).1 (mapput m k).2 = get m k := valAt_of_sl h3
  unfold putKeep
  simp only [hv]
  by_cases hz : get m k ≠ 0
  · simp only [hz, if_true, ne_eq, not_false_eq_true]
    exact ⟨h1, trivial, h4⟩
  · simp only [hz, if_false]
    obtain ⟨g1, _, g5⟩ := setVal_spec h1 v h3
    exact ⟨g1, trivial, h4.trans g5⟩

theorem put_len_pos {m : Map} (hI : Inv m) (k : Key) (v : Nat) : 0 < (put m k v).len := by
  obtain ⟨h1, h2, _, _⟩ := put_spec hI k v
  obtain ⟨p, hp⟩ := (h2 k v).mpr (.inl ⟨rfl, rfl⟩)
  rw [h1.len_occ, occ, Array.countP_pos_iff]
  exact ⟨_, Array.getElem_mem (lt_of_sl_some hp), by rw [← sl_of_lt, hp]; rfl⟩

def run (cap : Nat) (ops : List (Key × Nat)) : Map :=
  ops.foldl (fun m kv => put m kv.1 kv.2) (init cap)

def dict (ops : List (Key × Nat)) (k : Key) : Nat :=
  ((ops.reverse.find? (fun kv => decide (kv.1 = k))).map (·.2)).getD 0

def distinctKeys (ops : List (Key × Nat)) : List Key :=
  ops.foldl (fun acc kv => if kv.1 ∈ acc then acc else kv.1 :: acc) []

theorem snoc_induction {α : Type} {P : List α → Prop} (hnil : P [])
    (hsnoc : ∀ l a, P l → P (l ++ [a])) (l : List α) : P l := by
  have : ∀ r : List α, P r.reverse := by
    intro r
    induction r with
    | nil => exact hnil
    | cons a r ih => rw [List.reverse_cons]; exact hsnoc _ _ ih
  simpa using this l.reverse

theorem run_nil (cap : Nat) : run cap [] = init cap := rfl

theorem run_snoc (cap : Nat) (ops : List (Key × Nat)) (kv : Key × Nat) :
    run cap (ops ++ [kv]) = put (run cap ops) kv.1 kv.2 := by
  unfold run; rw [List.foldl_append]; rfl

theorem dict_nil (k : Key) : dict [] k = 0 := rfl

theorem dict_snoc (ops : List (Key × Nat)) (k : Key) (v : Nat) (k' : Key) :
    dict (ops ++ [(k, v)]) k' = if k' = k then v else dict ops k' := by
  unfold dict
  rw [List.reverse_append, List.reverse_singleton, List.singleton_append, List.find?_cons]
  by_cases h : k' = k
  · simp [h]
  · simp [h, Ne.symm h]

theorem distinctKeys_snoc (ops : List (Key × Nat)) (kv : Key × Nat) :
    distinctKeys (ops ++ [kv]) =
      if kv.1 ∈ distinctKeys ops then distinctKeys ops else kv.1 :: distinctKeys ops := by
  unfold distinctKeys; rw [List.foldl_append]; rfl

theorem run_spec {cap e : Nat} (hc : cap = 2 ^ e) (h4 : 4 ≤ cap) (ops : List (Key × Nat)) :
    Inv (run cap ops) ∧ (∀ k, get (run cap ops) k = dict ops k) ∧
      (run cap ops).len = (distinctKeys ops).length ∧
      ∀ k, (∃ w, Holds (run cap ops).slots k w) ↔ k ∈ distinctKeys ops := by
  induction ops using snoc_induction with
  | hnil =>
    refine ⟨init_inv hc h4, get_init hc h4, rfl, fun k => ?_⟩
    simp only [distinctKeys, List.foldl_nil, List.not_mem_nil, iff_false]
    exact fun ⟨w, hw⟩ => not_holds_replicate cap k w hw
  | hsnoc l a ih =>
    obtain ⟨hI, hget, hlen, hmem⟩ := ih
    obtain ⟨hI', hu, hl1, hl2⟩ := put_spec hI a.1 a.2
    rw [run_snoc, distinctKeys_snoc]
    refine ⟨hI', fun k => by rw [get_put hI, dict_snoc, hget], ?_, fun k => ?_⟩
    · split
      · rw [hl1 ((hmem _).mpr ‹_›), hlen]
      · rw [hl2 (fun w hw => ‹¬ _› ((hmem _).mp ⟨w, hw⟩)), hlen]; rfl
    · rw [hu.exists_iff, hmem]
      split
      · exact ⟨fun h => h.elim (· ▸ ‹_›) id, .inr⟩
      · exact List.mem_cons.symm

def rekey (f : List Nat → Nat) (k : Key) : Key := { hash := f k.bytes, bytes := k.bytes }

/-- True for any real hash function. -/
def HashConsistent (ks : List Key) : Prop :=
  ∀ k1, k1 ∈ ks → ∀ k2, k2 ∈ ks → k1.bytes = k2.bytes → k1.hash = k2.hash

theorem rekey_eq_iff {f : List Nat → Nat} {k1 k2 : Key} (h : k1.bytes = k2.bytes → k1.hash = k2.hash) :
    rekey f k1 = rekey f k2 ↔ k1 = k2 := by
  refine ⟨fun he => ?_, fun e => e ▸ rfl⟩
  have hb : (rekey f k1).bytes = (rekey f k2).bytes := congrArg Key.bytes he
  cases k1; cases k2
  exact Key.mk.injEq .. ▸ ⟨h hb, hb⟩

theorem dict_rekey (f : List Nat → Nat) (ops : List (Key × Nat)) (k : Key)
    (hcons : HashConsistent (k :: ops.map (·.1))) :
    dict (ops.map (fun kv => (rekey f kv.1, kv.2))) (rekey f k) = dict ops k := by
  induction ops using snoc_induction with
  | hnil => rfl
  | hsnoc l a ih =>
    have sub : ∀ x, x ∈ k :: l.map (·.1) → x ∈ k :: (l ++ [a]).map (·.1) := fun x hx => by
      simp only [List.map_append, List.mem_cons, List.mem_append] at hx ⊢
      exact hx.elim .inl (fun h => .inr (.inl h))
    rw [List.map_append, List.map_cons, List.map_nil, dict_snoc, dict_snoc,
      ih fun k1 h1 k2 h2 => hcons k1 (sub _ h1) k2 (sub _ h2)]
    exact ite_congr (propext (rekey_eq_iff (hcons k (List.mem_cons_self ..) a.1 (List.mem_cons_of_mem _ (by simp)))))
      (fun _ => rfl) fun _ => rfl

end CprocVerif.Map
