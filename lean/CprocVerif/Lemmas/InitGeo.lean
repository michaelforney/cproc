import CprocVerif.Lemmas.InitPlace

/-!
# Geometry of the places of an object

The sub-objects reached by counting (`childAt … true`: a union has only its first member) form a
tree; under a C layout (`layOK`) a descendant lies within its ancestor (`walk_geo`) and the children
of one place follow each other without overlap (`sibling_disj`); so of two places one lies at or
below the other, or they are bit-disjoint (`walk_cases`).
-/

namespace CprocVerif.InitSim
open CprocVerif.Init CprocVerif.InitRef

def plo (q : Place) : Nat := 8 * q.off + q.before
def phi (q : Place) : Nat := 8 * (q.off + q.ty.size) - q.after

theorem csize_bounds (c : Nat) : 0 < csize c ∧ csize c ≤ 8 := by
  unfold csize; split <;> (try split) <;> (try split) <;> decide

/-- a place with a C layout (`nu`: and without unions) -/
structure PlGeo (nu : Bool) (q : Place) : Prop where
  wf : PlWf q
  lay : layOK q.ty = true
  bits : bitsOK q.ty q.before q.after = true
  nu : nu = true → noUnion q.ty = true

theorem bitsOK_zero {t : Ty} (h : layOK t = true) : bitsOK t 0 0 = true := by
  cases t with
  | scalar s k =>
    cases k with
    | int c sg =>
      simp only [layOK, beq_iff_eq] at h
      simp only [bitsOK, decide_eq_true_eq]
      have := (csize_bounds c).1
      omega
    | flt => rfl
    | ptr => rfl
  | array n e => rfl
  | agg u t s m => rfl

theorem PlGeo.nonscalar {nu : Bool} {q : Place} (h : PlGeo nu q) (hs : isScalarTy q.ty = false) :
    q.before = 0 ∧ q.after = 0 := h.wf.bits hs

theorem bits_le {t : Ty} {b a : Nat} (h : bitsOK t b a = true) : b + a ≤ 8 * t.size := by
  unfold bitsOK at h
  split at h
  · simp only [decide_eq_true_eq] at h
    exact Nat.le_of_lt h
  · simp only [Bool.and_eq_true, beq_iff_eq] at h
    omega

theorem msLay_cons {iu : Bool} {size lb : Nat} {n : Option String} {t : Ty} {o b a : Nat} {nx : Members}
    (h : msLay iu size lb (.cons n t o b a nx) = true) :
    o + t.size ≤ size ∧ layOK t = true ∧ bitsOK t b a = true ∧ (iu = false → lb ≤ 8 * o + b) ∧
      msLay iu size (8 * (o + t.size) - a) nx = true := by
  simp only [msLay, Bool.and_eq_true, decide_eq_true_eq, Bool.or_eq_true] at h
  refine ⟨h.1.1.1.1, h.1.1.1.2, h.1.1.2, ?_, h.2⟩
  intro hu
  rcases h.1.2 with h' | h'
  · rw [hu] at h'; cases h'
  · exact h'

theorem msLay_drop {iu : Bool} {size lb : Nat} {ms : Members} (h : msLay iu size lb ms = true) (p : Nat) :
    ∃ lb', (iu = false → lb ≤ lb') ∧ msLay iu size lb' (Members.drop ms p) = true := by
  refine drop_ind (P := fun ms' => ∃ lb', (iu = false → lb ≤ lb') ∧ msLay iu size lb' ms' = true) ?_ p
    ⟨lb, fun _ => Nat.le_refl _, h⟩
  rintro n t o b a nx ⟨lb', hle, hl⟩
  obtain ⟨_, _, hb, hlb, hr⟩ := msLay_cons hl
  refine ⟨_, fun hu => ?_, hr⟩
  refine Nat.le_trans (Nat.le_trans (hle hu) (hlb hu)) (Nat.le_sub_of_add_le ?_)
  rw [Nat.mul_add, Nat.add_assoc]
  exact Nat.add_le_add_left (bits_le hb) _

variable {nu : Bool} {q ch d : Place} {p : Nat} {ps : List Nat}

theorem elem_end_le (off s : Nat) {p n : Nat} (h : p < n) : off + p * s + s ≤ off + n * s := by
  rw [Nat.add_assoc, ← Nat.add_one_mul]
  exact Nat.add_le_add_left (Nat.mul_le_mul_right s h) off

structure Within (ch q : Place) : Prop where
  lo : q.off ≤ ch.off
  hi : ch.off + ch.ty.size ≤ q.off + q.ty.size
  blo : plo q ≤ plo ch
  bhi : phi ch ≤ phi q

theorem Within.refl (q : Place) : Within q q := ⟨Nat.le_refl _, Nat.le_refl _, Nat.le_refl _, Nat.le_refl _⟩

theorem Within.trans {a b c : Place} (h : Within a b) (h' : Within b c) : Within a c :=
  ⟨Nat.le_trans h'.lo h.lo, Nat.le_trans h.hi h'.hi, Nat.le_trans h'.blo h.blo, Nat.le_trans h.bhi h'.bhi⟩

/-- a non-scalar place has no bit positions: what is inside its bytes is inside its bits -/
theorem Within.of_bytes (hb : q.before = 0) (ha : q.after = 0) (h1 : q.off ≤ ch.off)
    (h2 : ch.off + ch.ty.size ≤ q.off + q.ty.size) : Within ch q :=
  ⟨h1, h2, by unfold plo; rw [hb, Nat.add_zero]; exact Nat.le_trans (Nat.mul_le_mul_left 8 h1) (Nat.le_add_right _ _),
    by unfold phi; rw [ha, Nat.sub_zero]; exact Nat.le_trans (Nat.sub_le _ _) (Nat.mul_le_mul_left 8 h2)⟩

theorem child_geo (hg : PlGeo nu q) (h : childAt q p true = some ch) :
    PlGeo nu ch ∧ Within ch q := by
  obtain ⟨hqb, hqa⟩ := hg.nonscalar (childAt_nonscalar h)
  have hwc : PlWf ch := childAt_wf hg.wf h
  rcases childAt_inv h with ⟨n, e, hty, hp, rfl⟩ | ⟨u, tag, size, ms, n, t, o, b, a, nx, hty, _, hd, rfl⟩
  · have hl : layOK e = true := by have := hg.lay; rw [hty] at this; exact this
    refine ⟨⟨hwc, hl, bitsOK_zero hl, fun hn => ?_⟩, .of_bytes hqb hqa (Nat.le_add_right _ _) ?_⟩
    · have := hg.nu hn; rw [hty] at this; exact this
    · rw [hty]
      exact elem_end_le _ _ (hp hg.wf.unb)
  · have hl : msLay u size 0 ms = true := by have := hg.lay; rw [hty] at this; exact this
    obtain ⟨lb', _, hl'⟩ := msLay_drop hl p
    rw [hd] at hl'
    obtain ⟨h1, h2, h3, _, _⟩ := msLay_cons hl'
    refine ⟨⟨hwc, h2, h3, fun hn => ?_⟩, .of_bytes hqb hqa (Nat.le_add_right _ _) (by rw [hty, Nat.add_assoc]; exact Nat.add_le_add_left h1 _)⟩
    have := hg.nu hn
    rw [hty] at this
    simp only [noUnion, Bool.and_eq_true] at this
    have := drop_ind (P := fun ms' => noUnionMs ms' = true)
      (fun _ _ _ _ _ _ h' => by simp only [noUnionMs, Bool.and_eq_true] at h'; exact h'.2) p this.2
    rw [hd] at this
    simp only [noUnionMs, Bool.and_eq_true] at this
    exact this.1

theorem sibling_disj {c1 c2 : Place} {a b : Nat} (hg : PlGeo nu q) (h1 : childAt q a true = some c1)
    (h2 : childAt q b true = some c2) (hab : a < b) : phi c1 ≤ plo c2 := by
  rcases childAt_inv h1 with ⟨n, e, hty, _, rfl⟩ | ⟨u, tag, size, ms, n1, t1, o1, b1, a1, nx1, hty, _, hd1, rfl⟩
  · obtain ⟨_, rfl⟩ := childAt_arr hty h2
    exact Nat.le_trans (Nat.sub_le _ _) (Nat.le_trans (Nat.mul_le_mul_left 8 (elem_end_le _ _ hab)) (Nat.le_add_right _ _))
  · obtain ⟨hu2, n2, t2, o2, b2, a2, nx2, hd2, rfl⟩ := childAt_mem hty h2
    cases u with
    | true => rw [hu2 rfl rfl] at hab; cases hab
    | false =>
      have hl : msLay false size 0 ms = true := by have := hg.lay; rw [hty] at this; exact this
      obtain ⟨_, _, hl1⟩ := msLay_drop hl a
      rw [hd1] at hl1
      -- member `b = a + d + 1` is member `d` of what follows member `a`
      obtain ⟨d, rfl⟩ := Nat.exists_eq_add_of_lt hab
      obtain ⟨lb', hle, hl2⟩ := msLay_drop (msLay_cons hl1).2.2.2.2 d
      have hb : Members.drop nx1 d = .cons n2 t2 o2 b2 a2 nx2 := by
        have := drop_drop a (d + 1) ms
        rw [hd1] at this
        exact this.trans hd2
      rw [hb] at hl2
      have hbits : 8 * (o1 + t1.size) - a1 ≤ 8 * o2 + b2 := Nat.le_trans (hle rfl) ((msLay_cons hl2).2.2.2.1 rfl)
      show 8 * (q.off + o1 + t1.size) - a1 ≤ 8 * (q.off + o2) + b2
      rw [Nat.add_assoc, Nat.mul_add, Nat.mul_add 8 q.off o2, Nat.add_assoc, Nat.sub_le_iff_le_add, Nat.add_assoc]
      exact Nat.add_le_add_left (Nat.sub_le_iff_le_add.1 hbits) _

theorem walk_geo : ∀ (ps : List Nat) {q d : Place}, PlGeo nu q → walk q ps = some d →
    PlGeo nu d ∧ Within d q
  | [], q, d, hg, h => by cases h; exact ⟨hg, Within.refl _⟩
  | p :: ps, q, d, hg, h => by
    obtain ⟨ch, hc, hw⟩ := walk_cons.1 h
    obtain ⟨hgc, w1⟩ := child_geo hg hc
    obtain ⟨hgd, w2⟩ := walk_geo ps hgc hw
    exact ⟨hgd, w2.trans w1⟩

theorem walk_cases : ∀ (p1 p2 : List Nat) {root d1 d2 : Place}, PlGeo nu root →
    walk root p1 = some d1 → walk root p2 = some d2 →
    (∃ r, walk d1 r = some d2) ∨ (∃ r, walk d2 r = some d1) ∨ phi d1 ≤ plo d2 ∨ phi d2 ≤ plo d1
  | [], p2, root, d1, d2, _, h1, h2 => by cases h1; exact .inl ⟨p2, h2⟩
  | a :: r1, [], root, d1, d2, _, h1, h2 => by cases h2; exact .inr (.inl ⟨a :: r1, h1⟩)
  | a :: r1, b :: r2, root, d1, d2, hg, h1, h2 => by
    obtain ⟨c1, hc1, hw1⟩ := walk_cons.1 h1
    obtain ⟨c2, hc2, hw2⟩ := walk_cons.1 h2
    have g1 := (child_geo hg hc1).1
    have g2 := (child_geo hg hc2).1
    rcases Nat.lt_trichotomy a b with hlt | rfl | hgt
    · exact .inr (.inr (.inl (Nat.le_trans (walk_geo r1 g1 hw1).2.bhi
        (Nat.le_trans (sibling_disj hg hc1 hc2 hlt) (walk_geo r2 g2 hw2).2.blo))))
    · cases hc1.symm.trans hc2
      exact walk_cases r1 r2 g1 hw1 hw2
    · exact .inr (.inr (.inr (Nat.le_trans (walk_geo r2 g2 hw2).2.bhi
        (Nat.le_trans (sibling_disj hg hc2 hc1 hgt) (walk_geo r1 g1 hw1).2.blo))))

end CprocVerif.InitSim
