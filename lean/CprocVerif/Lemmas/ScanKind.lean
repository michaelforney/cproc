import CprocVerif.Lemmas.ScanAdv

/-! `scankind` arm by arm: names for the arms that several files speak about, and the identifier and
pp-number arms deliver the longest lexeme of the reference (`Lexeme`). -/

namespace CprocVerif.Scan
open CprocVerif.Gen.TokenKinds
open CprocVerif.Spec.Lex

/-- the characters `scankind` handles by an explicit `case` before `'L'` -/
def isSpecial (c : UInt8) : Bool :=
  c = c! ' ' || c = c! '\t' || c = 0x0c || c = 0x0b || c = c! '!' || c = c! '"' || c = c! '#' ||
  c = c! '%' || c = c! '&' || c = c! '\'' || c = c! '*' || c = c! '+' || c = c! '-' ||
  c = c! '/' || c = c! '<' || c = c! '=' || c = c! '>' || c = c! '^' || c = c! '|' ||
  c = c! '\n' || c = c! '[' || c = c! ']' || c = c! '(' || c = c! ')' || c = c! '{' ||
  c = c! '}' || c = c! '.' || c = c! '~' || c = c! '?' || c = c! ':' || c = c! ';' || c = c! ','



def lift (s : S) (r : Except Err (Kind × S)) : Except Err (Kind × Loc × Nat × S) :=
  match r with
  | .error e => .error e
  | .ok r => .ok (r.1, s.loc, s.pos, r.2)

/-- where the `case 'L': case 'U': case 'u':` arm looks for a quote: behind the prefix letter,
and behind the `8` of `u8` -/
def afterPrefix (s : S) : S :=
  let s1 := { s with usebuf := true }.nextchar
  if s1.buf.head? = some (c! 'u') ∧ s1.chr = some (c! '8') then s1.nextchar else s1

/-- the `case 'L': case 'U': case 'u':` and `default:` arms -/
def scanTail (c : UInt8) (s : S) : Except Err (Kind × Loc × Nat × S) :=
  if c = c! 'L' ∨ c = c! 'U' ∨ c = c! 'u' then
    let s2 := afterPrefix s
    if s2.chr = some (c! '\'') then lift s (charconst s2)
    else if s2.chr = some (c! '"') then lift s (stringlit s2)
    else ret s (ident s2)
  else if isdigit c then ret s (number s)
  else if isalpha c ∨ c = c! '_' then ret s (ident s)
  else ret s (.TOTHER, { s with usebuf := true }.nextchar)

theorem scankind_tail (f : Nat) (s : S) (c : UInt8) (hc : s.chr = some c)
    (hns : isSpecial c = false) : scankind (f + 1) s = scanTail c s := by
  simp only [isSpecial, Bool.or_eq_false_iff, decide_eq_false_iff_not] at hns
  rw [scankind]
  simp only [hc]
  simp only [hns, if_false, or_self, scanTail, ret, lift]
  rfl

/-! At a literal first byte the `if` chain of `scankind` evaluates: `rw [scankind, hc]` leaves a
term that is definitionally the arm taken. -/

theorem scankind_slash (f : Nat) (s : S) (hc : s.chr = some (c! '/')) :
    scankind (f + 1) s = slashArm f s := by
  rw [scankind, hc]; rfl

theorem scankind_dot (f : Nat) (s : S) (hc : s.chr = some (c! '.')) :
    scankind (f + 1) s = dotArm s := by
  rw [scankind, hc]; rfl

/-- between two tokens: `scan` has emptied the buffer -/
def Ready (s : S) : Prop := s.buf = [] ∧ s.usebuf = false

def prefixedQuote (cs : List UInt8) : Bool :=
  [b!"L", b!"u", b!"U", b!"u8"].any fun p =>
    (p ++ [c! '\'']).isPrefixOf cs || (p ++ [c! '"']).isPrefixOf cs

theorem ident_moved (s : S) :
    Moved { s with usebuf := true } (ident s).2 (s.stream.takeWhile isIdentCont) := by
  have hfun : isidchar = isIdentCont := by
    funext c
    simp only [isidchar, isalnum, isalpha, isdigit, isIdentCont, isNondigit, isDigit]
    grind
  rw [ident_eq, ← hfun]
  exact moved_adv _ { s with usebuf := true } rfl (List.takeWhile_prefix _)

theorem number_moved (s : S) (c0 : UInt8) (r : List UInt8) (hs : s.stream = c0 :: r) :
    Moved { s with usebuf := true } (number s).2 (c0 :: r.take (ppTailLen r)) := by
  have := moved_adv (c0 :: r.take (ppTailLen r)) { s with usebuf := true } rfl
    (by show _ <+: s.stream; rw [hs]; exact List.cons_prefix_cons.mpr ⟨rfl, List.take_prefix _ _⟩)
  rw [List.length_cons, List.length_take, Nat.min_eq_left (ppTailLen_le r), Nat.add_comm] at this
  rw [number_eq s c0 r hs]
  exact this

def Lexeme (P : List UInt8 → Prop) (k : Kind) (s : S)
    (res : Except Err (Kind × Loc × Nat × S)) : Prop :=
  ∃ w s', res = .ok (k, s.loc, s.pos, s') ∧ s'.buf = w ∧ s'.usebuf = true ∧
    IsLongest P s.stream w ∧ s'.stream = s.stream.drop w.length ∧ s'.sawspace = s.sawspace

theorem Lexeme.of_moved {P : List UInt8 → Prop} {k : Kind} {s s' : S} {w : List UInt8}
    (hr : Ready s) (hm : Moved { s with usebuf := true } s' w) (hl : IsLongest P s.stream w) :
    Lexeme P k s (ret s (k, s')) := by
  have hs : s.stream = w ++ s'.stream := hm.2.1
  refine ⟨w, s', rfl, ?_, hm.2.2.1, hl, by rw [hs, List.drop_left], hm.2.2.2⟩
  rw [hm.1]; show s.buf ++ w = w; rw [hr.1]; rfl

theorem nondigit_facts : ∀ c : UInt8, isNondigit c = true → isSpecial c = false ∧
    isdigit c = false ∧ (isalpha c = true ∨ c = c! '_') ∧ isIdentCont c = true := by
  apply forall_uint8; decide +kernel

theorem digit_facts : ∀ c : UInt8, isDigit c = true → isSpecial c = false ∧
    isdigit c = true ∧ ¬ (c = c! 'L' ∨ c = c! 'U' ∨ c = c! 'u') := by
  apply forall_uint8; decide +kernel

theorem scanTail_prefix {c : UInt8} (s : S) (hL : c = c! 'L' ∨ c = c! 'U' ∨ c = c! 'u') :
    scanTail c s =
      if (afterPrefix s).chr = some (c! '\'') then lift s (charconst (afterPrefix s))
      else if (afterPrefix s).chr = some (c! '"') then lift s (stringlit (afterPrefix s))
      else ret s (ident (afterPrefix s)) := by
  rw [scanTail, if_pos hL]

theorem afterPrefix_moved {s : S} {c : UInt8} {r : List UInt8} (hs : s.stream = c :: r)
    (hr : Ready s) :
    Moved { s with usebuf := true } (afterPrefix s)
      (if c = c! 'u' ∧ r.head? = some (c! '8') then b!"u8" else [c]) := by
  have m1 := moved_nextchar { s with usebuf := true } c rfl (by rw [chr_eq]; exact hs ▸ rfl)
  unfold afterPrefix
  generalize ({ s with usebuf := true } : S).nextchar = s1 at *
  have h1s : s1.stream = r := List.cons.inj (hs.symm.trans m1.2.1) |>.2.symm
  have h1b : s1.buf = [c] := by rw [m1.1]; show s.buf ++ [c] = [c]; rw [hr.1]; rfl
  simp only [h1b, List.head?_cons, Option.some.injEq, chr_eq, h1s]
  split
  · rename_i h8
    rw [h8.1] at m1
    exact m1.trans (moved_nextchar s1 56 m1.2.2.1 (by rw [chr_eq, h1s]; exact h8.2))
  · exact m1

theorem prefixedQuote_of {p : List UInt8} {q : UInt8} (t : List UInt8)
    (hp : p = b!"L" ∨ p = b!"u" ∨ p = b!"U" ∨ p = b!"u8") (hq : q = c! '\'' ∨ q = c! '"') :
    prefixedQuote (p ++ q :: t) = true := by
  rcases hp with rfl | rfl | rfl | rfl <;> rcases hq with rfl | rfl <;> rfl

theorem scankind_ident (f : Nat) (s : S) (c : UInt8) (r : List UInt8)
    (hs : s.stream = c :: r) (hr : Ready s) (hc : isNondigit c = true)
    (hp : prefixedQuote (c :: r) = false) :
    Lexeme IsIdentifier .TIDENT s (scankind (f + 1) s) := by
  have hchr := chr_of_stream hs
  obtain ⟨hns, hd, ha, hic⟩ := nondigit_facts c hc
  have hl : IsLongest IsIdentifier s.stream ((c :: r).takeWhile isIdentCont) := by
    rw [List.takeWhile_cons, hic]; exact hs ▸ isLongest_ident c r hc
  rw [scankind_tail f s c hchr hns]
  by_cases hL : c = c! 'L' ∨ c = c! 'U' ∨ c = c! 'u'
  · have m := afterPrefix_moved hs hr
    rw [scanTail_prefix s hL]
    generalize afterPrefix s = s2 at m ⊢
    generalize hpe : (if c = c! 'u' ∧ r.head? = some (c! '8') then b!"u8" else [c]) = p at m
    have hmem : p = b!"L" ∨ p = b!"u" ∨ p = b!"U" ∨ p = b!"u8" := by
      rw [← hpe]
      split
      · exact .inr (.inr (.inr rfl))
      · rcases hL with rfl | rfl | rfl
        · exact .inl rfl
        · exact .inr (.inr (.inl rfl))
        · exact .inr (.inl rfl)
    have hst : c :: r = p ++ s2.stream := hs.symm.trans m.2.1
    have hq : ∀ q, q = c! '\'' ∨ q = c! '"' → s2.chr ≠ some q := fun q hq h => by
      obtain ⟨t', ht'⟩ := (chr_some_iff s2 q).mp h
      rw [hst, ht', prefixedQuote_of t' hmem hq] at hp
      cases hp
    rw [if_neg (hq _ (.inl rfl)), if_neg (hq _ (.inr rfl))]
    refine .of_moved hr (m.trans (ident_moved s2)) ?_
    rw [← List.takeWhile_append_of_pos, ← hst]
    · exact hl
    · rcases hmem with rfl | rfl | rfl | rfl <;> decide
  · rw [scanTail]
    simp only [hL, if_false, hd, Bool.false_eq_true, ha, if_true]
    exact .of_moved hr (hs ▸ ident_moved s) hl

theorem scankind_number (f : Nat) (s : S) (d : UInt8) (r : List UInt8)
    (hs : s.stream = d :: r ∨ s.stream = c! '.' :: d :: r) (hr : Ready s) (hd : isDigit d = true) :
    Lexeme PPNumber .TNUMBER s (scankind (f + 1) s) := by
  obtain ⟨hns, h1, hL⟩ := digit_facts d hd
  rcases hs with hs | hs
  · rw [scankind_tail f s d (chr_of_stream hs) hns, scanTail]
    simp only [hL, if_false, h1, if_true]
    exact .of_moved hr (number_moved s d r hs) (hs ▸ isLongest_ppNumber_digit d r hd)
  · obtain ⟨h1s, h1b, h1u, h1w⟩ := nextchar_nouse s _ _ hs hr.2
    rw [scankind_dot f s (chr_of_stream hs), dotArm]
    simp only [chr_eq, h1s, List.head?_cons, onChr, h1, if_true]
    have m := number_moved { s.nextchar with buf := s.nextchar.buf ++ [c! '.'] } d r h1s
    refine .of_moved (w := c! '.' :: d :: r.take (ppTailLen r)) hr ⟨?_, ?_, m.2.2.1, m.2.2.2.trans h1w⟩
      (hs ▸ isLongest_ppNumber_dot d r hd)
    · exact m.1.trans (by show (s.nextchar.buf ++ [46]) ++ _ = s.buf ++ _; rw [h1b, hr.1]; rfl)
    · exact hs.trans (congrArg (46 :: ·) (h1s.symm.trans m.2.1))

end CprocVerif.Scan
