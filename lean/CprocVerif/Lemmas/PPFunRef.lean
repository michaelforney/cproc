import CprocVerif.Lemmas.PPRefStep

/-! # One step of the reference on a function-like invocation

`expandH_func_stepP`: the name comes with an empty hide set and is followed by `(`, the macro is not variadic and
has at least one parameter, the number of arguments is right, and every argument that is used plainly has a complete
replacement `full i` (observed by `outE`).  `expandH_func_step` is its "simple" instance: the tokens up to the
matching `)` are not macro names, so their complete replacement is themselves (`expandH_plain`). -/

namespace CprocVerif.PP
open CprocVerif.Gen.TokenKinds
open CprocVerif.Spec.MacroRef (HTok Item PTok MacroDef RErr Flag Elem expandH hsadd union inter pendItems lookup
  matchParen splitTop actuals subst elems usedPlain paramIndex)
open CprocVerif.Spec

theorem expandH_plain (tbl : List MacroDef) : ∀ (l : List HTok) (K : Nat), l.length < K →
    (∀ t ∈ l, t.tok.kind ≠ .TIDENT ∨ lookup tbl (t.tok.lit.getD []) = none) →
    expandH false K tbl (l.map Item.tok) = (l, none, []) := by
  intro l
  induction l with
  | nil =>
    intro K hK _
    cases K with
    | zero => omega
    | succ k => simp [expandH]
  | cons t r ih =>
    intro K hK hp
    cases K with
    | zero => omega
    | succ k =>
      have hr := ih k (Nat.lt_of_succ_lt_succ hK) (fun x hx => hp x (List.mem_cons_of_mem _ hx))
      have keep : (t :: (expandH false k tbl (r.map .tok)).1, (expandH false k tbl (r.map .tok)).2.1,
          (expandH false k tbl (r.map .tok)).2.2) = (t :: r, none, []) := by rw [hr]
      rw [List.map_cons, expandH]
      by_cases hk : t.tok.kind ≠ .TIDENT ∨ t.painted = true
      · rw [if_pos hk]; exact keep
      · rw [if_neg hk, (hp t (List.mem_cons_self ..)).resolve_left fun h => hk (.inl h)]
        exact keep

theorem splitTop_sublist : ∀ (l : List HTok) (n d : Nat) (cur : List HTok),
    ∀ a ∈ splitTop n d l cur, a.Sublist (cur.reverse ++ l) := by
  intro l
  induction l with
  | nil =>
    intro n d cur a ha
    rw [splitTop, List.mem_singleton] at ha
    rw [ha, List.append_nil]
    exact List.Sublist.refl _
  | cons t r ih =>
    intro n d cur a ha
    have key : ∀ d', a ∈ splitTop n d' r (t :: cur) → a.Sublist (cur.reverse ++ t :: r) := fun d' ha' => by
      have := ih _ _ _ a ha'
      rwa [List.reverse_cons, List.append_assoc] at this
    rw [splitTop] at ha
    split at ha
    · rcases List.mem_cons.mp ha with rfl | ha
      · exact List.sublist_append_left _ _
      · exact ((ih _ _ _ a ha).trans (List.sublist_cons_self t r)).trans (List.sublist_append_right _ _)
    · split at ha
      · exact key _ ha
      · split at ha <;> exact key _ ha

theorem subst_congr (raw full full' : Nat → List HTok) : ∀ (es : List Elem) (p : Bool),
    (∀ i sp, Elem.param i sp ∈ es → full i = full' i) → subst raw full es p = subst raw full' es p := by
  intro es
  induction es with
  | nil => intro p _; rfl
  | cons e r ih =>
    intro p h
    have hr : ∀ i sp, Elem.param i sp ∈ r → full i = full' i := fun i sp hm => h i sp (List.mem_cons_of_mem _ hm)
    cases e with
    | tok t => simp only [subst, ih false hr]
    | str i sp => simp only [subst, ih false hr]
    | param i sp =>
      simp only [subst]
      rw [h i sp (List.mem_cons_self ..), ih _ hr]

theorem paramIndex_lt {m : MacroDef} {t : PTok} {i : Nat} (h : paramIndex m t = some i) :
    i < (if m.variadic then m.params ++ [MacroRef.vaName] else m.params).length := by
  unfold paramIndex at h
  generalize (if m.variadic = true then m.params ++ [MacroRef.vaName] else m.params) = ps at h ⊢
  split at h
  · dsimp only at h
    split at h
    · rename_i hlt; cases h; exact hlt
    · cases h
  · cases h

theorem elemOf_param {m : MacroDef} {t : PTok} {i : Nat} {sp : Bool} (h : MacroRef.elemOf m t = .param i sp) :
    i < (if m.variadic then m.params ++ [MacroRef.vaName] else m.params).length := by
  unfold MacroRef.elemOf at h
  split at h
  · rename_i j hj
    cases h
    split at hj
    · exact paramIndex_lt hj
    · cases hj
  · cases h

theorem elems_param_lt (m : MacroDef) : ∀ (l : List PTok) (i : Nat) (sp : Bool), Elem.param i sp ∈ elems m l →
    i < (if m.variadic then m.params ++ [MacroRef.vaName] else m.params).length
  | [], i, sp, h => by simp [elems] at h
  | [t], i, sp, h => by
    simp only [elems, List.mem_singleton] at h
    exact elemOf_param h.symm
  | t :: p :: r, i, sp, h => by
    rw [elems] at h
    split at h
    · split at h
      · rcases List.mem_cons.mp h with h | h
        · cases h
        · exact elems_param_lt m r i sp h
      · rcases List.mem_cons.mp h with h | h
        · cases h
        · exact elems_param_lt m (p :: r) i sp h
    · rcases List.mem_cons.mp h with h | h
      · exact elemOf_param h.symm
      · exact elems_param_lt m (p :: r) i sp h

theorem outKeys_flags (a : List HTok) (e : Option RErr) (f g : List Flag) : outKeys (a, e, f) = outKeys (a, e, g) := rfl

theorem usedPlain_iff (m : MacroDef) (i : Nat) : usedPlain m i = true ↔ ∃ sp, Elem.param i sp ∈ elems m m.body := by
  unfold usedPlain
  rw [List.any_eq_true]
  constructor
  · rintro ⟨el, hel, hmatch⟩
    cases el with
    | tok _ => simp at hmatch
    | str _ _ => simp at hmatch
    | param j sp =>
      have hj : j = i := by simpa using hmatch
      exact ⟨sp, hj ▸ hel⟩
  · rintro ⟨sp, h⟩
    exact ⟨_, h, by simp⟩

/-- the source after an invocation of `m` with the arguments `raw` (complete replacements `full`) in front of `X` has been
replaced: `replaced` for a function-like macro -/
def replacedCall (m : MacroDef) (raw full : Nat → List HTok) (sp : Bool) (X : List Item) : List Item :=
  pushFront (hsadd [m.name] (subst raw full (elems m m.body) false)) sp X

/-- the list `expandH` makes of the arguments' complete replacements (`f i`: its run on argument `i`): none is an error,
and the `i`-th, hide sets dropped, is `full i` -/
theorem fulls_ok {m : MacroDef} {n : Nat} {f : Nat → List HTok × Option RErr × List Flag} {full : Nat → List HTok}
    (h : ∀ i, i < n → usedPlain m i = true → outE (f i) = (full i, none)) :
    ((List.range n).map fun i => if usedPlain m i = true then f i else ([], none, [])).findSome? (·.2.1) = none ∧
    ∀ i, i < n → usedPlain m i = true →
      (((List.range n).map fun i => if usedPlain m i = true then f i else ([], none, [])).getD i default).1.map
        (fun t : HTok => { t with hs := [] }) = full i := by
  refine ⟨List.findSome?_eq_none_iff.mpr fun x hx => ?_, fun i hi hu => ?_⟩
  · obtain ⟨i, hi, rfl⟩ := List.mem_map.mp hx
    split
    · exact congrArg Prod.snd (h i (List.mem_range.mp hi) ‹_›)
    · rfl
  · simp only [List.getD_eq_getElem?_getD, List.getElem?_map, List.getElem?_range hi, Option.map_some, Option.getD_some, hu,
      if_true]
    exact congrArg Prod.fst (h i hi hu)

theorem expandH_func_stepP (tbl : List MacroDef) (m : MacroDef) (T L rp : HTok) (seg : List HTok) (X : List Item)
    (K : Nat) (full : Nat → List HTok) (hT : T.tok.kind = .TIDENT) (hTp : T.painted = false) (hThs : T.hs = [])
    (hl : lookup tbl (T.tok.lit.getD []) = some m) (hf : m.func = true) (hnv : m.variadic = false)
    (hnp : 0 < m.params.length) (hL : L.tok.kind = .TLPAREN)
    (hmp : matchParen (seg.map Item.tok ++ Item.tok rp :: X) 0 [] = some (seg, rp, X, false))
    (hcount : (splitTop (seg.length + 1) 0 seg []).length = m.params.length)
    (hfull : ∀ i, i < m.params.length → usedPlain m i = true →
      outE (expandH false K tbl (((splitTop (seg.length + 1) 0 seg []).getD i []).map Item.tok)) = (full i, none)) :
    outE (expandH false (K + 1) tbl (.tok T :: .tok L :: (seg.map Item.tok ++ Item.tok rp :: X))) =
      outE (expandH false K tbl
        (replacedCall m (fun i => (splitTop (seg.length + 1) 0 seg []).getD i []) full T.tok.space X)) := by
  rw [expandH]
  have hc : T.hs.contains m.name = false := by rw [hThs]; rfl
  have hact : actuals m seg = some (splitTop (seg.length + 1) 0 seg []) := by
    unfold actuals
    have : m.params.length ≠ 0 := by omega
    simp [hnv, this, hcount]
  obtain ⟨hnone, hget⟩ := fulls_ok (hcount ▸ hfull)
  simp only [hT, ne_eq, not_true_eq_false, hTp, Bool.false_eq_true, or_self, ↓reduceIte, hl, hc, hf, hL, hmp, hact, hnone]
  rw [show union (inter T.hs rp.hs) [m.name] = [m.name] by simp [hThs, inter, union],
    subst_congr _ _ full _ _ fun i sp hmem => hget i ?_ ((usedPlain_iff m i).mpr ⟨sp, hmem⟩)]
  · rfl
  · have := elems_param_lt m m.body i sp hmem
    simp only [hnv, Bool.false_eq_true, ↓reduceIte] at this
    omega

theorem map_eraseHs_of_nil {l : List HTok} (h : ∀ t ∈ l, t.hs = []) : l.map eraseHs = l :=
  (List.map_congr_left fun t ht => by
    obtain ⟨tok, hs, p⟩ := t
    obtain rfl : hs = [] := h _ ht
    rfl).trans (List.map_id _)

theorem expandH_func_step (tbl : List MacroDef) (m : MacroDef) (T L rp : HTok) (seg : List HTok) (X : List Item)
    (K : Nat) (hT : T.tok.kind = .TIDENT) (hTp : T.painted = false) (hThs : T.hs = [])
    (hl : lookup tbl (T.tok.lit.getD []) = some m) (hf : m.func = true) (hnv : m.variadic = false)
    (hnp : 0 < m.params.length) (hL : L.tok.kind = .TLPAREN)
    (hmp : matchParen (seg.map Item.tok ++ Item.tok rp :: X) 0 [] = some (seg, rp, X, false))
    (hcount : (splitTop (seg.length + 1) 0 seg []).length = m.params.length)
    (hplain : ∀ t ∈ seg, (t.tok.kind ≠ .TIDENT ∨ lookup tbl (t.tok.lit.getD []) = none) ∧ t.hs = [])
    (hK : seg.length < K) :
    outKeys (expandH false (K + 1) tbl (.tok T :: .tok L :: (seg.map Item.tok ++ Item.tok rp :: X))) =
      outKeys (expandH false K tbl
        (replacedCall m (fun i => (splitTop (seg.length + 1) 0 seg []).getD i [])
          (fun i => (splitTop (seg.length + 1) 0 seg []).getD i []) T.tok.space X)) := by
  rw [outKeys_of_outE, outKeys_of_outE]
  refine congrArg keysE (expandH_func_stepP tbl m T L rp seg X K _ hT hTp hThs hl hf hnv hnp hL hmp hcount fun i hi _ => ?_)
  -- an argument without macro names is its own complete replacement
  have hmem : (splitTop (seg.length + 1) 0 seg []).getD i [] ∈ splitTop (seg.length + 1) 0 seg [] := by
    rw [List.getD_eq_getElem?_getD, List.getElem?_eq_getElem (hcount ▸ hi)]; exact List.getElem_mem _
  have hsub := splitTop_sublist seg _ _ [] _ hmem
  have hin : ∀ t ∈ (splitTop (seg.length + 1) 0 seg []).getD i [], t ∈ seg := fun t ht => by simpa using hsub.subset ht
  rw [expandH_plain tbl _ K (Nat.lt_of_le_of_lt hsub.length_le hK) fun t ht => (hplain t (hin t ht)).1]
  exact congrArg (·, none) (map_eraseHs_of_nil fun t ht => (hplain t (hin t ht)).2)

end CprocVerif.PP
