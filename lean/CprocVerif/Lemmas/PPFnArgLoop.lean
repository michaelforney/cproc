import CprocVerif.Lemmas.PPFnArgs
import CprocVerif.Lemmas.PPSimLoop

/-! # The argument loop of `expandfunc`, one iteration at a time

The loop is followed forwards.  `LoopAt` is its state whenever it stands at invocation level in front of the
text still to be read; each lemma says that from one such state the loop gets to a later one (`Leads`: whatever
the later call completes with, the earlier one completes with), and `LoopOK` (`PPFnCall`) is the statement that
from any of them it completes. -/

namespace CprocVerif.PP
open CprocVerif.Gen.TokenKinds
open CprocVerif.Spec.MacroRef (HTok Item PTok MacroDef RErr Flag expandH hsadd union pendItems lookup)
open CprocVerif.Spec

theorem flatG_length {β : Type} (g : List Name → Tok → β) (ms : List Macro) :
    ∀ ctx : List Frame, (flatG g ms ctx).length = (flat ms ctx).length
  | [] => rfl
  | f :: rest => by simp [flatG, flat, flatG_length g ms rest]

theorem absX_nil_ctx (ms0 : List Macro) (st : St) (Y : List Item) (h : st.ctx = []) : absX ms0 st Y = Y := by
  simp [absX, h, flatG]

theorem absX_append (ms0 : List Macro) (st : St) (Y : List Item) : absX ms0 st [] ++ Y = absX ms0 st Y := by
  simp [absX]

theorem absX_congr (ms0 : List Macro) {a b : St} (Y : List Item) (h1 : a.ctx = b.ctx) (h2 : a.macros = b.macros) :
    absX ms0 a Y = absX ms0 b Y := by
  simp [absX, h1, h2]

theorem absX_ne_nil (ms0 : List Macro) (st : St) (h : flat st.macros st.ctx ≠ []) : absX ms0 st [] ≠ [] := by
  intro hh
  simp only [absX, List.append_nil, List.map_eq_nil_iff] at hh
  have := flatG_length (annHp ms0) st.macros st.ctx
  rw [hh] at this
  exact h (List.length_eq_zero_iff.mp this.symm)

theorem take_consumed {P : Tok → Prop} {t : Tok} {r rest : List Tok}
    (h : ∀ x ∈ (t :: r).take ((t :: r).length - rest.length), P x) (hl : rest.length < r.length) :
    P t ∧ (∀ x ∈ r.take (r.length - rest.length), P x) ∧ (∀ t' r', r = t' :: r' → P t') := by
  have hk : ∀ {l : List Tok}, rest.length ≤ l.length → ∀ a : Tok,
      (a :: l).take ((a :: l).length - rest.length) = a :: l.take (l.length - rest.length) := fun hle a => by
    rw [List.length_cons, Nat.sub_add_comm hle, List.take_succ_cons]
  rw [hk (Nat.le_of_lt hl)] at h
  refine ⟨h t (List.mem_cons_self ..), fun x hx => h x (List.mem_cons_of_mem _ hx), fun t' r' hr => ?_⟩
  subst hr
  refine h t' (List.mem_cons_of_mem _ ?_)
  rw [hk (Nat.le_of_lt_succ hl)]
  exact List.mem_cons_self ..

theorem level_after {ms0 : List Macro} {st' st2 : St} (hc : st'.ctx = []) (hR : RawP ms0 st' st2) (hne : st'.raw ≠ []) :
    st2.ctx = [] ∧ st'.raw = st2.rt :: st2.raw := by
  cases hR with
  | ctx c1 c2 c3 c4 c5 => simp [hc, flatG] at c1
  | raw c1 c2 c3 => exact ⟨c2, c1⟩
  | eof c1 c2 c3 c4 c5 => exact absurd c2 hne

/-- the complete replacement of the tokens `CURraw` (last first) read for the current argument
delivers the tokens `cur` (last first) stored so far and goes on with `pend`, whatever follows -/
structure CurLink (ms0 : List Macro) (CURraw cur : List Tok) (pend : List Item) : Prop where
  link : ∀ Y, LinkE (tblF ms0) (CURraw.reverse.map (iP ms0) ++ Y) (cur.reverse.map (mkHp ms0 [])) (pend ++ Y)
  ne : CURraw ≠ [] → cur ≠ [] ∨ pend ≠ []
  flat : ∀ x ∈ cur, FlatP ms0 x

theorem CurLink.nil (ms0 : List Macro) : CurLink ms0 [] [] [] :=
  ⟨fun _ => LinkE.refl _ _, fun h => absurd rfl h, fun _ hx => by cases hx⟩

theorem CurLink.read {ms0 : List Macro} {CURraw cur : List Tok} (h : CurLink ms0 CURraw cur []) {st : St}
    (hctx : st.ctx = []) (t : Tok) :
    CurLink ms0 (t :: CURraw) cur (.tok (mkHp ms0 (hsOf st.ctx) t) :: absX ms0 st []) := by
  refine ⟨fun Y => ?_, fun _ => .inr (by simp), h.flat⟩
  have := h.link (iP ms0 t :: Y)
  simpa [hctx, hsOf, liveNames, absX_nil_ctx ms0 st _ hctx, iP] using this

theorem CurLink.step {ms0 : List Macro} {CURraw cur : List Tok} {st sx : St} {t : Tok}
    (h : CurLink ms0 CURraw cur (.tok (mkHp ms0 (hsOf st.ctx) t) :: absX ms0 st [])) (hx : ExpandP ms0 t st sx)
    (ht : FlatP ms0 t) : CurLink ms0 CURraw (if sx.rb = true then cur else sx.rt :: cur) (absX ms0 sx []) := by
  have hl : ∀ Y, LinkE (tblF ms0) (CURraw.reverse.map (iP ms0) ++ Y) (cur.reverse.map (mkHp ms0 []))
      (.tok (mkHp ms0 (hsOf st.ctx) t) :: absX ms0 st Y) := fun Y => by
    have := h.link Y
    rwa [List.cons_append, absX_append] at this
  cases hx with
  | push rb ne _ sim =>
    refine ⟨fun Y => ?_, fun _ => .inr (absX_ne_nil ms0 sx ne), by simpa [rb] using h.flat⟩
    have := (hl Y).trans (LinkE.of_eq 0 (fun K _ => sim Y K))
    simpa [rb, absX_append] using this
  | pass rb ctx macros kind lit sim =>
    refine ⟨fun Y => ?_, fun _ => .inl (by simp [rb]), fun x hx => ?_⟩
    · have := (hl Y).trans (LinkE.of_out _ (sim Y))
      rw [absX_append, absX_congr ms0 Y ctx macros]
      simpa [rb, eraseHs_mkHp] using this
    · simp only [rb, Bool.false_eq_true, ↓reduceIte, List.mem_cons] at hx
      rcases hx with rfl | hx
      · exact flatP_of_kl kind lit ht
      · exact h.flat x hx

/-- the state of the current argument at invocation level -/
structure CurOK (ms0 : List Macro) (p : Param) (CURraw cur : List Tok) (str : List UInt8) : Prop where
  tok : p.ftok = true → CurLink ms0 CURraw cur []
  skip : p.ftok = false → cur = []
  str : p.ftok = false → p.fstr = true → str = CURraw.reverse.foldl stringize [c! '"']

theorem CurOK.nil (ms0 : List Macro) (p : Param) : CurOK ms0 p [] [] [c! '"'] :=
  ⟨fun _ => .nil ms0, fun _ => rfl, fun _ _ => rfl⟩

theorem CurOK.argRel {ms0 : List Macro} {e : EF} {CURraw : List Tok}
    (h : CurOK ms0 (e.m.params.getD e.i default) CURraw e.cur e.str) (hne : CURraw ≠ []) :
    ArgRel ms0 (e.m.params.getD e.i default).eff CURraw.reverse (curArg e) := by
  refine ⟨fun hft => ?_, fun hfs' => ?_⟩
  · obtain ⟨h1, h2, h3⟩ := h.tok hft
    refine ⟨by simpa [curArg] using h1 [], ?_, by simpa [curArg] using h3⟩
    rcases h2 hne with h | h
    · simpa [curArg] using h
    · exact absurd rfl h
  · obtain ⟨hfs, hnt⟩ : (e.m.params.getD e.i default).fstr = true ∧ (e.m.params.getD e.i default).ftok = false := by
      simpa [Param.eff] using hfs'
    show (curArg e).str = _
    unfold curArg
    simp only [hfs, ↓reduceIte, h.str hnt hfs, stringizeAll]

theorem CurOK.pass {ms0 : List Macro} {e : EF} {CURraw : List Tok}
    (h : CurOK ms0 (e.m.params.getD e.i default) CURraw e.cur e.str)
    (hp : (e.m.params.getD e.i default).ftok = false) :
    CurOK ms0 (e.m.params.getD e.i default) (e.t :: CURraw) e.cur (nextStr e) := by
  refine ⟨fun hf => (by rw [hp] at hf; cases hf), h.skip, fun _ hf => ?_⟩
  unfold nextStr
  rw [hf, if_pos rfl, h.str hp hf]
  simp [List.foldl_append]

/-- the inner loop of `expandfunc` for `m` stands at invocation level in front of the text `R`: it collects the
argument for parameter `i` with `p` open parentheses, has read `CURraw` (last first) for it and stored `done` -/
structure LoopAt (ms0 : List Macro) (m : Macro) (i p : Nat) (done : List Arg) (CURraw R : List Tok) (e : EF) (st : St) :
    Prop where
  mac : e.m = m
  idx : e.i = i
  paren : e.paren = p
  depth : e.depth = 0
  stored : e.done = done
  cur : CurOK ms0 (m.params.getD i default) CURraw e.cur e.str
  good : FnState ms0 st
  ctx : st.ctx = []
  text : R = e.t :: st.raw

/-- the loop gets back to invocation level through the replacement lists on the stack, and the potential pays:
induction on a bound `m` of `potW` (here `m` is a number, not a macro) -/
theorem efLoop_tail (ms0 : List Macro) (hTb : FnTable ms0) (CURraw R : List Tok) (hhead : HeadOK R) :
    ∀ (m : Nat) (e : EF) (sp : St), potW ms0 sp ≤ m → e.depth = 0 → (e.m.params.getD e.i default).ftok = true →
    FnState ms0 sp → Live sp → sp.raw = R → CurLink ms0 CURraw e.cur (absX ms0 sp []) →
    ∃ st2, exec (ctxSize sp.ctx + 4) (.argLoop false) sp = .ok st2 ∧
      ∃ cur t' st', FnState ms0 st' ∧ st'.ctx = [] ∧ R = t' :: st'.raw ∧ CurLink ms0 CURraw cur [] ∧
        Leads (.efLoop { e with t := st2.rt }) st2 (.efLoop { e with cur := cur, t := t' }) st' := by
  intro m
  induction m using Nat.strongRecOn with
  | _ m ih =>
    intro e sp hm hd0 hp g hlv hraw hlink
    obtain ⟨st2, ha, g2, hl2, hR⟩ := argLoop_fnState ms0 sp g (by rw [hraw]; exact hhead)
    refine ⟨st2, ha, ?_⟩
    cases hR with
    | raw c1 c2 c3 =>
      exact ⟨e.cur, st2.rt, st2, g2, c2, by rw [← hraw]; exact c1, by simpa [absX, c3] using hlink, .refl _ _⟩
    | eof c1 c2 c3 c4 c5 => rw [hraw] at c2; exact absurd c2 hhead.ne_nil
    | ctx c1 c2 c3 c4 c5 =>
      -- the token came off the stack, a macro frame is live at or below it (`Live`), so `macrodepth > 0 = e.depth`
      -- and the loop takes it for no `,` `(` `)` of the invocation
      have hdep : ¬ st2.depth ≤ ({ e with t := st2.rt } : EF).depth := by
        show ¬ st2.depth ≤ e.depth
        rw [g2.inv.depth, hd0]
        cases hh : liveNames st2.ctx with
        | nil => exact absurd hh (c4 hlv)
        | cons a r => simp
      obtain ⟨gx, hrawx, hE⟩ := expandObj_simP ms0 hTb st2 st2.rt g2 c2
      have hsb := pushEv_same { e with t := st2.rt } st2 (expandObj st2.rt st2)
      have hpot : potW ms0 (pushEv { e with t := st2.rt } st2 (expandObj st2.rt st2)) < m := by
        rw [potW_congr ms0 hsb.ctx hsb.macros]
        have hw := W_pos (tblF ms0) (liveNames st2.ctx) st2.rt
        cases hE with
        | push _ _ pot _ => omega
        | pass _ ctx macros _ _ _ => rw [potW_congr ms0 ctx macros]; omega
      have hlink' := (show CurLink ms0 CURraw e.cur (.tok (mkHp ms0 (hsOf st2.ctx) st2.rt) :: absX ms0 st2 []) by
        have := hlink; simp only [absX, c1, List.map_cons, List.append_nil, annHp_liveNames] at this ⊢; exact this).step hE c2
      obtain ⟨st3, ha3, cur, t', st', g', hc', hr', hl', hlead⟩ := ih _ hpot
        { e with t := st2.rt, cur := if (expandObj st2.rt st2).rb = true then e.cur else (expandObj st2.rt st2).rt :: e.cur }
        _ (Nat.le_refl _) hd0 hp (gx.sameBut hsb) ((expandObj_live (hl2 hlv) _).sameBut hsb) (by rw [hsb.raw, hrawx, c3, hraw])
        (by rw [absX_congr ms0 [] hsb.ctx hsb.macros]; exact hlink')
      refine ⟨cur, t', st', g', hc', hr', hl', (leads_of_body
        (max 1 (ctxSize (pushEv { e with t := st2.rt } st2 (expandObj st2.rt st2)).ctx + 4)) fun n hn => ?_).trans hlead⟩
      show efLoopBody (exec n) _ st2 = _
      rw [efLoop_go (exec n) _ st2 c2.2.1 (fun hh => hdep hh.1) hp _ st3 (liftOk (expand_flatP g2 c2 0) (by omega))
        (liftOk ha3 (by omega))]
      simp only [hdep, ↓reduceIte, false_and]

/-- `hx` is a hypothesis: `expand` has completed on the current token, or on the invocation it starts (`loopOK_of_fnArgs`
uses both) -/
theorem go_leads (ms0 : List Macro) (hTb : FnTable ms0) (CURraw R : List Tok) (hhead : HeadOK R)
    (e : EF) (st sx : St) (n1 : Nat) (g : FnState ms0 st) (hctx : st.ctx = []) (hd0 : e.depth = 0) (hne : e.t.kind ≠ .TEOF)
    (hc : ¬ breakCond e) (hp : (e.m.params.getD e.i default).ftok = true)
    (hx : exec n1 (.expand e.t) st = .ok sx) (gx : FnState ms0 sx) (lx : Live sx) (hraw : sx.raw = R)
    (hlink : CurLink ms0 CURraw (if sx.rb = true then e.cur else sx.rt :: e.cur) (absX ms0 sx [])) :
    ∃ e' st', LoopAt ms0 e.m e.i (nextParen e) e.done CURraw R e' st' ∧ Leads (.efLoop e) st (.efLoop e') st' := by
  have hdep : st.depth = 0 := g.depth_zero hctx
  have hl : st.depth ≤ e.depth := by omega
  have hsb := pushEv_same e st sx
  obtain ⟨st2, ha, cur, t', st', g', hc', hr', hl', hlead⟩ := efLoop_tail ms0 hTb CURraw R hhead _
    { e with depth := st.depth, paren := nextParen e,
             str := if (e.m.params.getD e.i default).fstr = true then stringize e.str e.t else e.str,
             cur := if sx.rb = true then e.cur else sx.rt :: e.cur }
    (pushEv e st sx) (Nat.le_refl _) hdep hp (gx.sameBut hsb) (lx.sameBut hsb) (hsb.raw.trans hraw)
    (by rw [absX_congr ms0 [] hsb.ctx hsb.macros]; exact hlink)
  refine ⟨{ e with depth := st.depth, paren := nextParen e, str := (if (e.m.params.getD e.i default).fstr = true then stringize e.str e.t else e.str), cur := cur, t := t' }, st', ⟨rfl, rfl, rfl, hdep, rfl,
    ⟨fun _ => hl', fun hf => (by rw [hp] at hf; cases hf), fun hf => (by rw [hp] at hf; cases hf)⟩, g', hc', hr'⟩,
    (leads_of_body (max n1 (ctxSize (pushEv e st sx).ctx + 4)) fun n hn => ?_).trans hlead⟩
  show efLoopBody (exec n) e st = _
  rw [efLoop_go (exec n) e st hne (fun hh => hc hh.2) hp sx st2 (liftOk hx (by omega)) (liftOk ha (by omega))]
  simp only [hl, ↓reduceIte, true_and]

theorem skip_one (ms0 : List Macro) {m : Macro} {i p : Nat} {done : List Arg} {CURraw R : List Tok} {e : EF} {st : St}
    (h : LoopAt ms0 m i p done CURraw R e st) (hne : e.t.kind ≠ .TEOF) (hc : ¬ breakCond e)
    (hp : (m.params.getD i default).ftok = false) (hhead : HeadOK st.raw) :
    ∃ e' st', LoopAt ms0 m i (nextParen e) done (e.t :: CURraw) st.raw e' st' ∧ Leads (.efLoop e) st (.efLoop e') st' := by
  obtain ⟨rfl, rfl, rfl, hd0, rfl, hcur, g, hctx, _⟩ := h
  have hdep := g.depth_zero hctx
  have hl : st.depth ≤ e.depth := by rw [hdep]; exact Nat.zero_le _
  obtain ⟨st2, ha, g2, -, hR⟩ := argLoop_fnState ms0 st g hhead
  obtain ⟨h1, h2⟩ := level_after hctx hR hhead.ne_nil
  exact ⟨{ e with depth := st.depth, paren := nextParen e, str := nextStr e, t := st2.rt }, st2,
    ⟨rfl, rfl, rfl, hdep, rfl, hcur.pass hp, g2, h1, h2⟩,
    leads_of_body (ctxSize st.ctx + 4) fun n hn => efLoop_skip (exec n) e st hne hl hc hp st2 (liftOk ha hn)⟩

theorem skip_passes (ms0 : List Macro) (R : List Tok) (hheadR : HeadOK R) (m : Macro) (i : Nat)
    (done : List Arg) (hp : (m.params.getD i default).ftok = false) {p q : Nat} {pre : List Tok}
    (h : Passes m.params i p pre q) : (∀ x ∈ pre, FnTok ms0 x) → ∀ (CURraw : List Tok) (e : EF) (st : St),
    LoopAt ms0 m i p done CURraw (pre ++ R) e st →
    ∃ e' st', LoopAt ms0 m i q done (pre.reverse ++ CURraw) R e' st' ∧ Leads (.efLoop e) st (.efLoop e') st' := by
  induction h with
  | nil p => exact fun _ _ e st h => ⟨e, st, h, .refl _ _⟩
  | @cons p q t r hc _ ih =>
    intro hraw CURraw e st hat
    obtain ⟨het, hsr⟩ : t = e.t ∧ r ++ R = st.raw := List.cons.inj hat.text
    have hrr : ∀ x ∈ r, FnTok ms0 x := fun x hx => hraw x (List.mem_cons_of_mem _ hx)
    obtain ⟨e1, st1, h1, l1⟩ := skip_one ms0 hat (het ▸ (hraw _ (List.mem_cons_self ..)).eof)
      (by have := hat.mac; have := hat.idx; have := hat.paren; subst_vars; exact hc) hp
      (by rw [← hsr]; exact headOK_append hrr fun _ => hheadR)
    obtain ⟨e2, st2, h2, l2⟩ := ih hrr (t :: CURraw) e1 st1 (by
      have := hat.paren; subst_vars; rw [hsr]; exact h1)
    exact ⟨e2, st2, by simpa using h2, l1.trans l2⟩

end CprocVerif.PP
