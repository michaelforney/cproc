import CprocVerif.Lemmas.AbiDesc

/-! Lemmas for C08, member lists: QBE's natural layout of the emitted (collapsed) member list reproduces the C offsets,
provided no member starts a whole alignment unit after the cursor (`TightB`): `struct_place`/`union_place`. -/

namespace CprocVerif.AbiDesc
open CprocVerif.Layout CprocVerif.Abi CprocVerif.QbeLayout

theorem shift_zero (fs : List Fld) : shift 0 fs = fs := by
  unfold shift
  conv => rhs; rw [← List.map_id fs]
  apply List.map_congr_left
  intro f _
  cases f; rfl

theorem shift_nil (d : Nat) : shift d [] = [] := rfl

theorem shift_append (d : Nat) (a b : List Fld) : shift d (a ++ b) = shift d a ++ shift d b := by
  unfold shift; rw [List.map_append]

theorem shift_shift (a b : Nat) (fs : List Fld) : shift a (shift b fs) = shift (b + a) fs := by
  unfold shift
  rw [List.map_map]
  apply List.map_congr_left
  intro f _
  simp only [Function.comp, Nat.add_assoc]

theorem shift_cons (d : Nat) (f : Fld) (fs : List Fld) :
    shift d (f :: fs) = ⟨f.off + d, f.size, f.kind⟩ :: shift d fs := rfl

theorem rep_zero (s : Nat) (F : List Fld) : rep 0 s F = [] := rfl

theorem rep_succ (n s : Nat) (F : List Fld) : rep (n + 1) s F = F ++ shift s (rep n s F) := rfl

theorem rep_one (s : Nat) (F : List Fld) : rep 1 s F = F := by
  rw [rep_succ, rep_zero, shift_nil, List.append_nil]

theorem shift_rep (d : Nat) : ∀ (n s : Nat) (F : List Fld), shift d (rep n s F) = rep n s (shift d F)
  | 0, _, _ => rfl
  | n + 1, s, F => by
    rw [rep_succ, rep_succ, shift_append, shift_shift, ← shift_rep d n s F, shift_shift, Nat.add_comm]

theorem rep_add : ∀ (a b s : Nat) (F : List Fld),
    rep (a + b) s F = rep a s F ++ shift (a * s) (rep b s F)
  | 0, b, s, F => by rw [Nat.zero_add, Nat.zero_mul, shift_zero, rep_zero, List.nil_append]
  | a + 1, b, s, F => by
    have e : a + 1 + b = (a + b) + 1 := by omega
    rw [e, rep_succ, rep_add a b s F, rep_succ, shift_append, shift_shift, List.append_assoc]
    congr 3
    rw [Nat.add_mul, Nat.one_mul]

theorem rep_mul : ∀ (n k s : Nat) (F : List Fld), rep (n * k) s F = rep n (k * s) (rep k s F)
  | 0, k, s, F => by rw [Nat.zero_mul]; rfl
  | n + 1, k, s, F => by
    have e : (n + 1) * k = k + n * k := by rw [Nat.add_mul, Nat.one_mul, Nat.add_comm]
    rw [e, rep_add, rep_mul n k s F, rep_succ]

inductive All2 {α β : Type} (R : α → β → Prop) : List α → List β → Prop
  | nil : All2 R [] []
  | cons {a b as bs} : R a b → All2 R as bs → All2 R (a :: as) (b :: bs)

/-- no member starts a whole alignment unit after the end of its predecessor (of its storage unit, for a bit-field):
the byte cursor `q` is where QBE stands.  (`B`: in bytes; `placeStruct_ok` has the same in bits.  Not a `Bool`, unlike
`pairwiseB` and its kin in `Spec/QbeLayout.lean`.) -/
def TightB : Nat → List Member → Prop
  | _, [] => True
  | q, m :: rest => m.offset < q + m.talign ∧ TightB (m.offset + m.tsize) rest

structure DeclMem (d : Decl) (m : Member) : Prop where
  tsize : m.tsize = d.ty.size
  talign : m.talign = d.ty.align
  width : m.width = d.width
  aligned : m.talign ∣ m.offset
  pow : Pow2 m.talign
  bf : m.width.isSome → m.tsize = m.talign
  pos : 0 < m.talign

/-- the data class of an integer type of the given size (`qbetype`) -/
def intBase (n : Nat) : Base := if n = 1 then .b else if n = 2 then .h else if n = 4 then .w else .l

def itCount (it : It) : Nat := if it.size > it.subSize then it.size / it.subSize else 1

/-- the entry `emittype` prints for a member describes the member -/
structure ItOk (m : Member) (it : It) (im : Option (List Fld)) : Prop where
  size : it.size = m.tsize
  pos : 0 < m.tsize
  align : (info it.item).align = m.talign
  total : itCount it * (info it.item).size = m.tsize
  plain : ∀ img, im = some img → m.width = none ∧ rep (itCount it) (info it.item).size (info it.item).flds = img
  bf : im = none → m.width.isSome ∧ itCount it = 1 ∧ (info it.item).flds = [⟨0, m.tsize, .int⟩]
  bfitem : m.width.isSome → it.item = .base (intBase m.tsize) ∧ it.subSize = m.tsize

/-- the C image of a member-producing field: `some` the flattened member type, `none` a bit-field -/
def imgOf (ty : AType) : Option Nat → Option (List Fld)
  | none => some (flattenC x86_64 true ty)
  | some _ => none

inductive FIt : AFields → List Member → List It → Prop
  | nil : FIt .nil [] []
  | cons {name ty al w rest m ms it its} : (name.isSome || w.isNone) = true → ItOk m it (imgOf ty w) → FIt rest ms its →
      FIt (.cons name ty al w rest) (m :: ms) (it :: its)

def lastEnd : Nat → List Member → Nat
  | q, [] => q
  | _, m :: rest => lastEnd (m.offset + m.tsize) rest

def alignOf : List Member → Nat
  | [] => 1
  | m :: rest => max m.talign (alignOf rest)

structure MemFacts (m : Member) : Prop where
  aligned : m.talign ∣ m.offset
  apos : 0 < m.talign
  bfal : m.width.isSome → m.tsize = m.talign
  fin : m.bitEnd ≤ 8 * (m.offset + m.tsize)

def openUnit (m : Member) : Option (Nat × Nat) := if m.width.isSome then some (m.offset, m.tsize) else none

def InUnit (last : Option (Nat × Nat)) (m : Member) : Prop :=
  ∃ o z, last = some (o, z) ∧ m.width.isSome ∧ m.offset = o ∧ m.tsize = z

/-- what the collapse state `lo` and the spec's `last` know about the QBE cursor `q` -/
def CursorInv (lo : Option Nat) (last : Option (Nat × Nat)) (q : Nat) (ms : List Member) : Prop :=
  (∀ o z, last = some (o, z) → lo = some o ∧ q = o + z) ∧
  ∀ m ∈ ms, InUnit last m ∨ (q ≤ m.offset ∧ lo ≠ some m.offset)

theorem unitRel_iff {a b : Member} : unitRel a b = true ↔
    (a.width.isSome ∧ b.width.isSome ∧ a.offset = b.offset ∧ a.tsize = b.tsize) ∨ a.offset + a.tsize ≤ b.offset := by
  simp only [unitRel, sameUnit, Bool.or_eq_true, Bool.and_eq_true, beq_iff_eq, decide_eq_true_eq, and_assoc]

theorem mkDMs_cons (m : Member) (ms : List Member) (i : It) (is : List It) :
    mkDMs (m :: ms) (i :: is) = ⟨m.offset, i.size, i.item, i.subSize⟩ :: mkDMs ms is := rfl

theorem flattenFields_new {name : Option String} {ty : AType} {al : Nat} {w : Option Nat} {rest : AFields} {m : Member} {it : It}
    (hprod : (name.isSome || w.isNone) = true) (hit : ItOk m it (imgOf ty w)) (mg : Bool) (ms : List Member)
    {last : Option (Nat × Nat)} (hns : mg = true → ¬ InUnit last m) :
    flattenFields x86_64 true mg (.cons name ty al w rest) (m :: ms) last =
      shift m.offset (rep (itCount it) (info it.item).size (info it.item).flds) ++
        flattenFields x86_64 true mg rest ms (openUnit m) := by
  cases w with
  | none =>
    obtain ⟨pw, pimg⟩ := hit.plain _ rfl
    simp only [flattenFields, hprod, ↓reduceIte, pimg, openUnit, pw, Option.isSome_none, Bool.false_eq_true]
  | some w' =>
    obtain ⟨bw, bc, bfl⟩ := hit.bf rfl
    have hne : (mg && last == some (m.offset, m.tsize)) = false := by
      cases mg
      · rfl
      · exact beq_false_of_ne fun he => hns rfl ⟨_, _, he, bw, rfl, rfl⟩
    simp only [flattenFields, hprod, ↓reduceIte, hne, Bool.false_eq_true, bc, rep_one, bfl, shift_cons, shift_nil,
      Nat.zero_add, openUnit, bw]

/-- the size of the storage unit emitted last (0: none), which is its alignment (`MemFacts.bfal`).  Further bit-fields of that unit
get no entry of their own (`collapse`), so what `struct_place` places has the alignment of the members only up to this. -/
def unitAl (last : Option (Nat × Nat)) : Nat := (last.map (·.2)).getD 0

theorem unitAl_none : unitAl none = 0 := rfl

theorem InUnit.unitAl {last : Option (Nat × Nat)} {m : Member} (h : InUnit last m) (mf : MemFacts m) :
    unitAl last = m.talign := by
  obtain ⟨o, z, hl, hw, _, hz⟩ := h
  rw [hl, ← mf.bfal hw, hz]; rfl

theorem unitAl_openUnit {m : Member} (mf : MemFacts m) :
    unitAl (openUnit m) = m.talign ∨ unitAl (openUnit m) = 0 := by
  unfold openUnit
  split
  · exact Or.inl (mf.bfal ‹_›)
  · exact Or.inr rfl

theorem struct_place : ∀ (ms : List Member) (its : List It) (fs : AFields)
    (lo : Option Nat) (last : Option (Nat × Nat)) (q : Nat),
    FIt fs ms its → TightB q ms → (∀ m ∈ ms, MemFacts m) →
    List.Pairwise (fun a b => unitRel a b = true) ms → CursorInv lo last q ms →
    (place (collapse lo (mkDMs ms its)) q).flds = flattenFields x86_64 true true fs ms last ∧
    (place (collapse lo (mkDMs ms its)) q).cur = lastEnd q ms ∧
    max (place (collapse lo (mkDMs ms its)) q).align (unitAl last) = max (alignOf ms) (unitAl last)
  | [], _, _, lo, last, q, h3, _, _, _, _ => by
    cases h3
    simp [mkDMs, collapse, place, flattenFields, lastEnd, alignOf]
  | m :: ms, _, _, lo, last, q, h3, ht, hf, hp, hinv => by
    cases h3 with
    | @cons name ty al w rest _ _ it its hprod hit hrest =>
    obtain ⟨t2, t3⟩ := ht
    have mf := hf m (List.mem_cons_self ..)
    have hf' : ∀ x ∈ ms, MemFacts x := fun x hx => hf x (List.mem_cons_of_mem _ hx)
    have hp' := (List.pairwise_cons.1 hp).2
    have hrel := (List.pairwise_cons.1 hp).1
    rw [mkDMs_cons]
    by_cases hsame : InUnit last m
    · -- another bit-field of the unit emitted last: no new entry, and its alignment is the unit's
      have hu := hsame.unitAl mf
      obtain ⟨o, z, hl, hw, ho, hz⟩ := hsame
      obtain ⟨i1, i2⟩ := hinv.1 o z hl
      obtain ⟨r1, r2, r3⟩ := struct_place ms its rest lo last q hrest (by rw [i2, ← ho, ← hz]; exact t3) hf' hp'
        ⟨hinv.1, fun x hx => hinv.2 x (List.mem_cons_of_mem _ hx)⟩
      rw [collapse_same _ (by rw [i1, ho])]
      refine ⟨?_, ?_, ?_⟩
      · cases w with
        | none => have := (hit.plain _ rfl).1; rw [this] at hw; cases hw
        | some w' =>
          rw [r1, hl]
          simp only [flattenFields, hprod, ho, hz, beq_self_eq_true, Bool.and_self, ↓reduceIte, List.nil_append]
      · rw [r2]; simp only [lastEnd]; rw [ho, hz, ← i2]
      · rw [r3, alignOf, hu, Nat.max_comm m.talign, Nat.max_assoc, Nat.max_self]
    · obtain ⟨hq, hlo⟩ := (hinv.2 m (List.mem_cons_self ..)).resolve_left hsame
      have hoff : roundUp q m.talign = m.offset := roundUp_unique mf.apos mf.aligned hq t2
      have hcount : (⟨m.offset, it.size, it.item, it.subSize⟩ : DM).count = itCount it := rfl
      have hpos := hit.pos
      have hinv' : CursorInv (some m.offset) (openUnit m) (m.offset + m.tsize) ms := by
        refine ⟨fun o z h => ?_, fun x hx => ?_⟩
        · unfold openUnit at h
          split at h
          · cases h; exact ⟨rfl, rfl⟩
          · cases h
        · rcases unitRel_iff.1 (hrel x hx) with ⟨h1, h2, h3, h4⟩ | h
          · exact Or.inl ⟨_, _, by rw [openUnit, if_pos h1], h2, h3.symm, h4.symm⟩
          · exact Or.inr ⟨h, fun he => by have := Option.some.inj he; omega⟩
      obtain ⟨r1, r2, r3⟩ := struct_place ms its rest (some m.offset) (openUnit m) (m.offset + m.tsize)
        hrest t3 hf' hp' hinv'
      rw [collapse_new _ hlo]
      simp only [place, hcount, hit.align, hoff, hit.total, r1, r2, flattenFields_new hprod hit true ms (fun _ => hsame), lastEnd, alignOf,
        true_and]
      refine congrArg (max · _) ?_
      rcases unitAl_openUnit mf with hu | hu <;> rw [hu] at r3
      · rw [Nat.max_comm, r3, Nat.max_comm]
      · rw [Nat.max_zero, Nat.max_zero] at r3; rw [r3]

def maxSize : List Member → Nat
  | [] => 0
  | m :: rest => max m.tsize (maxSize rest)

theorem alignOf_pos : ∀ (ms : List Member), 1 ≤ alignOf ms
  | [] => Nat.le_refl _
  | _ :: ms => Nat.le_trans (alignOf_pos ms) (Nat.le_max_right ..)

theorem union_place : ∀ (ms : List Member) (its : List It) (fs : AFields)
    (last : Option (Nat × Nat)),
    FIt fs ms its → (∀ m ∈ ms, m.offset = 0) →
    (alts (emitUnion (mkDMs ms its))).flds = flattenFields x86_64 true false fs ms last ∧
    (alts (emitUnion (mkDMs ms its))).cur = maxSize ms ∧
    (alts (emitUnion (mkDMs ms its))).align = alignOf ms
  | [], _, _, last, h3, _ => by
    cases h3
    simp [mkDMs, emitUnion, alts, flattenFields, maxSize, alignOf]
  | m :: ms, _, _, last, h3, h0 => by
    cases h3 with
    | @cons name ty al w rest _ _ it its hprod hit hrest =>
    have hm0 := h0 m (List.mem_cons_self ..)
    have hpos := alignOf_pos ms
    have hcount : ∀ o, (⟨o, it.size, it.item, it.subSize⟩ : DM).count = itCount it := fun _ => rfl
    obtain ⟨r1, r2, r3⟩ := union_place ms its rest (openUnit m) hrest (fun x hx => h0 x (List.mem_cons_of_mem _ hx))
    rw [mkDMs_cons]
    simp only [emitUnion, alts, place, hcount, roundUp_zero, hit.total, Nat.zero_add, List.append_nil, r1, r2, r3,
      flattenFields_new hprod hit false ms (fun h => nomatch h), hm0, shift_zero, maxSize, alignOf, hit.align, true_and]
    rw [Nat.max_assoc, Nat.max_eq_right hpos]

theorem declOk_hasMember {d : Decl} (hok : declOk d = true) : d.hasMember = true := by
  simp only [declOk, Bool.and_eq_true] at hok; exact hok.1

theorem declOk_named {d : Decl} {w : Nat} (hok : declOk d = true) (hwd : d.width = some w) : d.named = true := by
  simpa [Decl.hasMember, hwd] using declOk_hasMember hok

theorem alignContrib_ok {d : Decl} (hok : declOk d = true) : alignContrib x86_64 false d = d.ty.align := by
  cases hwd : d.width with
  | none =>
    simp only [declOk, Bool.and_eq_true, decide_eq_true_eq] at hok
    simp only [alignContrib, hwd, effAlign, Bool.false_eq_true, ↓reduceIte]; omega
  | some w => simp only [alignContrib, hwd, declOk_named hok hwd, Bool.true_or, ↓reduceIte]

theorem unionMembers_declmem : ∀ (ds : List Decl), WfDecls true false ds → ds.all declOk = true →
    All2 DeclMem ds (unionMembers false ds) ∧ ∀ m ∈ unionMembers false ds, m.offset = 0
  | [], _, _ => ⟨All2.nil, fun _ h => nomatch h⟩
  | d :: ds, hwf, hok => by
    simp only [List.all_cons, Bool.and_eq_true] at hok
    obtain ⟨i1, i2⟩ := unionMembers_declmem ds hwf.2.2 hok.2
    obtain ⟨m, hm⟩ := Option.isSome_iff_exists.1 (unionMember_isSome.trans (declOk_hasMember hok.1))
    obtain ⟨ok, hts, hta, hw⟩ := unionMember_ok hwf.1 hm
    rw [alignContrib_ok hok.1] at hta
    have hbf : m.width.isSome → m.tsize = m.talign := fun h => by
      obtain ⟨w, hw⟩ := Option.isSome_iff_exists.1 h
      exact (ok.bf w hw).2.2.2
    simp only [unionMembers, hm, Option.toList, List.singleton_append]
    refine ⟨All2.cons ⟨hts, hta, hw, ok.off ▸ Nat.dvd_zero _, ok.pow, hbf, ok.pow.pos⟩ i1, fun x hx => ?_⟩
    rcases List.mem_cons.1 hx with rfl | hx
    · exact ok.off
    · exact i2 x hx

theorem placeStruct_tight {c : Nat} {d : Decl} (hwf : WfDecl false false d) (hok : declOk d = true) :
    ∃ m, placeStruct false c d = (m.bitEnd, some m) ∧ DeclMem d m ∧ MemFacts m ∧
      8 * m.offset < c + 8 * m.talign ∧ (m.width = none → 8 * (m.offset + m.tsize) ≤ m.bitEnd) := by
  obtain ⟨m, hm⟩ := Option.isSome_iff_exists.1
    ((placeStruct_isSome (c := c) hwf).trans (declOk_hasMember hok))
  obtain ⟨ok, hcur, htight, hts, hta, hw⟩ := (placeStruct_ok hwf).2.2 m hm
  rw [alignContrib_ok hok] at hta
  exact ⟨m, Prod.ext hcur hm, ⟨hts, hta, hw, ok.aligned, ok.pow, fun h => (ok.unit h).2, ok.pow.pos⟩,
    ⟨ok.aligned, ok.pow.pos, fun h => (ok.unit h).2, ok.span.1⟩, htight, ok.span.2⟩

/-- `q`: QBE's byte cursor, at or after the bit cursor `c` -/
theorem structGo_tight : ∀ (ds : List Decl) (c q : Nat), WfDecls false false ds → ds.all declOk = true → c ≤ 8 * q →
    All2 DeclMem ds (structGo false c ds).2 ∧ TightB q (structGo false c ds).2 ∧
    (structGo false c ds).1 ≤ 8 * lastEnd q (structGo false c ds).2 ∧
    ∀ m ∈ (structGo false c ds).2, MemFacts m ∧ (m.width = none → 8 * (m.offset + m.tsize) ≤ m.bitEnd)
  | [], _, _, _, _, h => ⟨All2.nil, trivial, h, fun _ h => nomatch h⟩
  | d :: ds, c, q, hwf, hok, h => by
    simp only [List.all_cons, Bool.and_eq_true] at hok
    obtain ⟨m, e, dm, mf, t2, t3⟩ := placeStruct_tight (c := c) hwf.1 hok.1
    obtain ⟨i1, i2, i3, i4⟩ := structGo_tight ds m.bitEnd (m.offset + m.tsize) hwf.2.2 hok.2 mf.fin
    simp only [structGo, e, Option.toList, List.singleton_append, lastEnd]
    refine ⟨All2.cons dm i1, ⟨by omega, i2⟩, i3, fun x hx => ?_⟩
    rcases List.mem_cons.1 hx with rfl | hx
    · exact ⟨mf, t3⟩
    · exact i4 x hx

theorem alignOf_agg (ds : List Decl) (ms : List Member) (h : All2 DeclMem ds ms) (hok : ds.all declOk = true) :
    alignOf ms = max (aggAlign x86_64 false ds) 1 := by
  induction h with
  | nil => rfl
  | cons h _ ih =>
    simp only [List.all_cons, Bool.and_eq_true] at hok
    simp only [alignOf, aggAlign, alignContrib_ok hok.1, ih hok.2, h.talign, Nat.max_assoc]

theorem maxSize_union (ds : List Decl) (ms : List Member) (h : All2 DeclMem ds ms) (hok : ds.all declOk = true) :
    maxSize ms = unionTypeMax ds := by
  induction h with
  | nil => rfl
  | cons h _ ih =>
    simp only [List.all_cons, Bool.and_eq_true] at hok
    simp only [maxSize, unionTypeMax, unionGrow, declOk_hasMember hok.1, ↓reduceIte, ih hok.2, h.tsize]

theorem pairwiseB_pairwise {α : Type} (r : α → α → Bool) : ∀ (l : List α), pairwiseB r l = true →
    List.Pairwise (fun a b => r a b = true) l
  | [], _ => List.Pairwise.nil
  | a :: as, h => by
    simp only [pairwiseB, Bool.and_eq_true, List.all_eq_true] at h
    exact List.pairwise_cons.2 ⟨h.1, pairwiseB_pairwise r as h.2⟩

theorem lastEnd_le {S : Nat} : ∀ (ms : List Member) (q : Nat), (∀ m ∈ ms, m.offset + m.tsize ≤ S) → q ≤ S →
    lastEnd q ms ≤ S
  | [], _, _, h => h
  | m :: ms, _, h, _ =>
    lastEnd_le ms _ (fun x hx => h x (List.mem_cons_of_mem _ hx)) (h m (List.mem_cons_self ..))

theorem mkDMs_rel {S : Nat} {ms : List Member} {its : List It} {fs : AFields}
    (h : FIt fs ms its) : List.Pairwise (fun a b => unitRel a b = true) ms →
    (∀ m ∈ ms, m.offset + m.tsize ≤ S) →
    List.Pairwise DMRel (mkDMs ms its) ∧
    (∀ x ∈ mkDMs ms its, 0 < x.size ∧ x.offset + x.size ≤ S) ∧
    ∀ m0 : Member, ∀ it0 : It, (m0.width.isSome → it0.item = .base (intBase m0.tsize) ∧ it0.subSize = m0.tsize) →
      it0.size = m0.tsize → (∀ b ∈ ms, unitRel m0 b = true) →
      ∀ x ∈ mkDMs ms its, DMRel ⟨m0.offset, it0.size, it0.item, it0.subSize⟩ x := by
  induction h with
  | nil => intro _ _; simp [mkDMs]
  | @cons _ _ _ _ _ m ms it its _ hit _ ih =>
    intro hp hb
    obtain ⟨i1, i3, i4⟩ := ih (List.pairwise_cons.1 hp).2 (fun x hx => hb x (List.mem_cons_of_mem _ hx))
    have hm := hb m (List.mem_cons_self ..)
    rw [mkDMs_cons]
    refine ⟨List.pairwise_cons.2 ⟨?_, i1⟩, ?_, ?_⟩
    · exact i4 m it hit.bfitem hit.size (List.pairwise_cons.1 hp).1
    · intro x hx
      rcases List.mem_cons.1 hx with rfl | hx
      · exact ⟨by rw [hit.size]; exact hit.pos, by rw [hit.size]; exact hm⟩
      · exact i3 x hx
    · intro m0 it0 h0 hs0 hrel x hx
      rcases List.mem_cons.1 hx with rfl | hx
      · rcases unitRel_iff.1 (hrel m (List.mem_cons_self ..)) with ⟨w0, w1, ho, hz⟩ | h
        · left
          obtain ⟨a1, a2⟩ := h0 w0
          obtain ⟨b1, b2⟩ := hit.bfitem w1
          rw [ho, hit.size, hs0, hz, a1, b1, a2, b2, hz]
        · right; rw [hs0]; exact h
      · exact i4 m0 it0 h0 hs0 (fun b hb' => hrel b (List.mem_cons_of_mem _ hb')) x hx

theorem FIt.head_pos {m : Member} {ms : List Member} {its : List It} {fs : AFields} :
    FIt fs (m :: ms) its → 0 < m.tsize
  | .cons _ hit _ => hit.pos

theorem struct_desc {ds : List Decl} {l : List It} {fs : AFields} (hwf : Wf false false ds)
    (hok : ds.all declOk = true) (hch : pairwiseB unitRel (Abi.layout x86_64 false false ds).members = true)
    (hfit : ∀ ms, All2 DeclMem ds ms → FIt fs ms l) :
    0 < (Abi.layout x86_64 false false ds).size ∧
    info (.struct (emitStruct (mkDMs (Abi.layout x86_64 false false ds).members l))) =
      ⟨(Abi.layout x86_64 false false ds).size, (Abi.layout x86_64 false false ds).align,
        flattenFields x86_64 true true fs (Abi.layout x86_64 false false ds).members none⟩ := by
  obtain ⟨hpal, a2⟩ := aggAlign_pow2 (T := x86_64) hwf
  obtain ⟨sf1, _, _, _⟩ := struct_facts hwf
  have hle := structGo_le (pack := false) ds 0 hwf.1
  obtain ⟨t1, t2, hfin, t3⟩ := structGo_tight ds 0 0 hwf.1 hok (Nat.le_refl _)
  have hne := structGo_isEmpty (c := 0) hwf.1
  simp only [Abi.layout, Bool.false_eq_true, ↓reduceIte] at sf1 hch ⊢
  generalize (structGo false 0 ds).2 = ms at *
  have hfit := hfit ms t1
  have hpw := pairwiseB_pairwise unitRel _ hch
  have hrl := roundUp_lt (((structGo false 0 ds).1 + 7) / 8) hpal.pos
  have hLlt : roundUp (((structGo false 0 ds).1 + 7) / 8) (aggAlign x86_64 false ds) < 2 ^ 63 := by
    have := hwf.2.2
    omega
  have hmb : ∀ m ∈ ms, m.offset + m.tsize ≤ roundUp (((structGo false 0 ds).1 + 7) / 8) (aggAlign x86_64 false ds) := by
    intro m hm
    have pl := sf1 m hm
    cases hw : m.width with
    | none => exact Nat.le_of_mul_le_mul_left (Nat.le_trans ((t3 m hm).2 hw) pl.inside) (by decide)
    | some w => exact (pl.unit w hw).2.1
  obtain ⟨d1, d3, _⟩ := mkDMs_rel hfit hpw hmb
  obtain ⟨r1, r2, r3⟩ := struct_place ms l fs none none 0 hfit t2 (fun m hm => (t3 m hm).1) hpw
    ⟨fun _ _ h => (nomatch h), fun m _ => Or.inr ⟨Nat.zero_le _, fun h => (nomatch h)⟩⟩
  have hle := lastEnd_le ms 0 hmb (Nat.zero_le _)
  rw [unitAl_none, Nat.max_zero, Nat.max_zero] at r3
  have hra : (place (collapse none (mkDMs ms l)) 0).align = aggAlign x86_64 false ds :=
    r3.trans ((alignOf_agg ds ms t1 hok).trans (Nat.max_eq_left hpal.pos))
  have hrs : roundUp (lastEnd 0 ms) (aggAlign x86_64 false ds) =
      roundUp (((structGo false 0 ds).1 + 7) / 8) (aggAlign x86_64 false ds) :=
    roundUp_unique hpal.pos (roundUp_dvd ..) hle (by omega)
  rw [emitStruct, emitStructF_collapse _ _ (Nat.le_refl _) d1
    (fun x hx => ⟨(d3 x hx).1, Nat.lt_of_le_of_lt (d3 x hx).2 hLlt⟩)]
  refine ⟨?_, by simp only [info, r1, r2, hra, hrs]⟩
  cases ms with
  | nil => rw [hwf.2.1] at hne; cases hne
  | cons m ms' =>
    exact Nat.lt_of_lt_of_le hfit.head_pos
      (Nat.le_trans (Nat.le_add_left ..) (hmb m (List.mem_cons_self ..)))

theorem union_desc {ds : List Decl} {l : List It} {fs : AFields} (hwf : Wf true false ds)
    (hok : ds.all declOk = true) (hfit : ∀ ms, All2 DeclMem ds ms → FIt fs ms l) :
    0 < (Abi.layout x86_64 true false ds).size ∧
    info (.union (emitUnion (mkDMs (Abi.layout x86_64 true false ds).members l))) =
      ⟨(Abi.layout x86_64 true false ds).size, (Abi.layout x86_64 true false ds).align,
        flattenFields x86_64 true false fs (Abi.layout x86_64 true false ds).members none⟩ := by
  obtain ⟨hpal, _⟩ := aggAlign_pow2 (T := x86_64) hwf
  have us := (union_facts hwf).2.2.2
  obtain ⟨m1, m2⟩ := unionMembers_declmem ds hwf.1 hok
  have hne := unionMembers_isEmpty (pack := false) (ds := ds)
  simp only [Abi.layout, ↓reduceIte] at us ⊢
  generalize unionMembers false ds = ms at *
  have hfit := hfit ms m1
  obtain ⟨r1, r2, r3⟩ := union_place ms l fs none hfit m2
  have h1 := alignOf_agg ds ms m1 hok
  have h2 := maxSize_union ds ms m1 hok
  have hp := hpal.pos
  refine ⟨?_, by simp only [info, r1, r2, r3, h1, h2, us, Nat.max_eq_left hp]⟩
  cases ms with
  | nil => rw [hwf.2.1] at hne; cases hne
  | cons m ms' =>
    rw [us, ← h2]
    have h5 := le_roundUp (maxSize (m :: ms')) hp
    have h6 := hfit.head_pos
    simp only [maxSize] at h5 ⊢
    omega

end CprocVerif.AbiDesc
