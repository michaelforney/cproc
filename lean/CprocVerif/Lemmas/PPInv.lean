import CprocVerif.Model.PP

/-! # The hide flag marks exactly the macros with a live frame

`InvC ctx ms d` (the statements all say `InvC st.ctx st.macros st.depth`) is preserved, for every table, by `popDone`
(the loop at the head of `ctxnext`, `macrodone` included) and by the push at the tail of `expand`; that whole calls
preserve it is a field of the invariants of the simulations (`Good.inv`, `GoodF.inv`, `GoodP.inv`). -/

namespace CprocVerif.PP
open CprocVerif.Gen.TokenKinds

def liveNames (ctx : List Frame) : List Name := ctx.filterMap (·.mac)

structure InvC (ctx : List Frame) (ms : List Macro) (d : Nat) : Prop where
  names : (ms.map (·.name)).Nodup
  liveNodup : (liveNames ctx).Nodup
  hideIff : ∀ m ∈ ms, (m.hide = true ↔ m.name ∈ liveNames ctx)
  depth : d = (liveNames ctx).length

def Inv (st : St) : Prop := InvC st.ctx st.macros st.depth

theorem map_setHide {β : Type} (f : Macro → β) (hf : ∀ m b, f { m with hide := b } = f m) (ms : List Macro) (n : Name)
    (b : Bool) : (setHide ms n b).map f = ms.map f := by
  unfold setHide
  rw [List.map_map]
  apply List.map_congr_left
  intro m _
  simp only [Function.comp]
  split
  · exact hf m b
  · rfl

theorem map_eq_of_factor {α β γ : Type} {f : α → β} {k : α → γ} (g : β → γ) (hk : ∀ a, k a = g (f a)) {l l' : List α}
    (h : l.map f = l'.map f) : l.map k = l'.map k := by
  have e : ∀ x : List α, x.map k = (x.map f).map g := fun x => by rw [List.map_map, funext hk]; rfl
  rw [e, e, h]

theorem setHide_names (ms : List Macro) (n : Name) (b : Bool) : (setHide ms n b).map (·.name) = ms.map (·.name) :=
  map_setHide _ (fun _ _ => rfl) ms n b

theorem mem_setHide {ms : List Macro} {n : Name} {b : Bool} {x : Macro} (h : x ∈ setHide ms n b) :
    ∃ m ∈ ms, x = (if m.name = n then { m with hide := b } else m) := by
  unfold setHide at h
  obtain ⟨m, hm, rfl⟩ := List.mem_map.mp h
  exact ⟨m, hm, rfl⟩

theorem setHide_forall {ms : List Macro} {P : Macro → Prop} (hP : ∀ m b, P m → P { m with hide := b })
    (h : ∀ m ∈ ms, P m) (n : Name) (b : Bool) : ∀ m ∈ setHide ms n b, P m := by
  intro x hx
  obtain ⟨m, hm, rfl⟩ := mem_setHide hx
  split
  · exact hP m b (h m hm)
  · exact h m hm

theorem liveNames_cons_some (f : Frame) (rest : List Frame) (n : Name) (h : f.mac = some n) :
    liveNames (f :: rest) = n :: liveNames rest := by
  simp [liveNames, h]

theorem liveNames_cons_none (f : Frame) (rest : List Frame) (h : f.mac = none) :
    liveNames (f :: rest) = liveNames rest := by
  simp [liveNames, h]

theorem InvC.setHide {ctx ctx' : List Frame} {ms : List Macro} {d d' : Nat} (h : InvC ctx ms d) (n : Name) (b : Bool)
    (hnd : (liveNames ctx').Nodup) (hn : b = true ↔ n ∈ liveNames ctx')
    (hL : ∀ x, x ≠ n → (x ∈ liveNames ctx ↔ x ∈ liveNames ctx')) (hd : d' = (liveNames ctx').length) :
    InvC ctx' (setHide ms n b) d' := by
  refine ⟨by rw [setHide_names]; exact h.names, hnd, fun x hx => ?_, hd⟩
  obtain ⟨m, hm, rfl⟩ := mem_setHide hx
  split
  · rename_i hmn
    rw [hmn]; exact hn
  · rename_i hmn
    rw [h.hideIff m hm]; exact hL _ hmn

/-- one pop of the loop at the head of `ctxnext`, with its `macrodone` -/
theorem invC_pop {f : Frame} {rest : List Frame} {ms : List Macro} {d : Nat} {n : Name}
    (hf : f.mac = some n) (h : InvC (f :: rest) ms d) : InvC rest (setHide ms n false) (d - 1) := by
  have hl := liveNames_cons_some f rest n hf
  have hnd := List.nodup_cons.mp (hl ▸ h.liveNodup)
  refine h.setHide n false hnd.2 (by simp only [Bool.false_eq_true, false_iff]; exact hnd.1)
    (fun x hx => by rw [hl, List.mem_cons]; exact or_iff_right hx) ?_
  have := h.depth
  rw [hl, List.length_cons] at this
  omega

theorem invC_of_liveNames {ctx ctx' : List Frame} {ms : List Macro} {d : Nat} (h : InvC ctx ms d)
    (hl : liveNames ctx' = liveNames ctx) : InvC ctx' ms d :=
  ⟨h.names, by rw [hl]; exact h.liveNodup, by intro m hm; rw [hl]; exact h.hideIff m hm, by rw [hl]; exact h.depth⟩

theorem popDone_rec {motive : List Frame → List Macro → Nat → Prop}
    (hsome : ∀ {f rest ms d n}, f.toks = [] → f.mac = some n → motive (f :: rest) ms d →
      motive rest (setHide ms n false) (d - 1))
    (hnone : ∀ {f rest ms d}, f.toks = [] → f.mac = none → motive (f :: rest) ms d → motive rest ms d)
    (ctx : List Frame) (ms : List Macro) (d : Nat) (h0 : motive ctx ms d) :
    motive (popDone ctx ms d).1 (popDone ctx ms d).2.1 (popDone ctx ms d).2.2 := by
  fun_induction popDone ctx ms d
  case case1 => exact h0
  case case2 he n hn ih => exact ih (hsome (List.isEmpty_iff.mp he) hn h0)
  case case3 he hn ih => exact ih (hnone (List.isEmpty_iff.mp he) hn h0)
  case case4 => exact h0

theorem popDone_map {β : Type} (f : Macro → β) (hf : ∀ m b, f { m with hide := b } = f m) (ctx : List Frame)
    (ms : List Macro) (d : Nat) : (popDone ctx ms d).2.1.map f = ms.map f :=
  popDone_rec (motive := fun _ ms' _ => ms'.map f = ms.map f) (fun _ _ h => (map_setHide f hf _ _ false).trans h)
    (fun _ _ h => h) ctx ms d rfl

theorem popDone_top (ctx : List Frame) (ms : List Macro) (d : Nat) (f : Frame) (rest : List Frame)
    (h : (popDone ctx ms d).1 = f :: rest) : f.toks ≠ [] := by
  fun_induction popDone ctx ms d
  case case1 => cases h
  case case2 ih => exact ih h
  case case3 ih => exact ih h
  case case4 he => cases h; exact fun h => he (List.isEmpty_iff.mpr h)

theorem popDone_inv (ctx : List Frame) (ms : List Macro) (d : Nat) (h : InvC ctx ms d) :
    InvC (popDone ctx ms d).1 (popDone ctx ms d).2.1 (popDone ctx ms d).2.2 ∧
    (∀ f rest, (popDone ctx ms d).1 = f :: rest → f.toks ≠ []) :=
  ⟨popDone_rec (fun _ hn => invC_pop hn) (fun _ hn h => invC_of_liveNames h (liveNames_cons_none _ _ hn).symm) ctx ms d h, popDone_top ctx ms d⟩

theorem popDone_bodies (ctx : List Frame) (ms : List Macro) (d : Nat) (P : Macro → Prop)
    (hP : ∀ m b, P m → P { m with hide := b }) (h : ∀ m ∈ ms, P m) : ∀ m ∈ (popDone ctx ms d).2.1, P m :=
  popDone_rec (motive := fun _ ms' _ => ∀ m ∈ ms', P m) (fun _ _ h' => setHide_forall hP h' _ false) (fun _ _ h' => h')
    ctx ms d h

/-- the push at the tail of `expand` -/
theorem invC_push {ctx : List Frame} {ms : List Macro} {d : Nat} {m : Macro} (toks : List Tok)
    (h : InvC ctx ms d) (hm : m ∈ ms) (hh : m.hide = false) :
    InvC (⟨toks, some m.name⟩ :: ctx) (setHide ms m.name true) (d + 1) := by
  have hl : liveNames (⟨toks, some m.name⟩ :: ctx) = m.name :: liveNames ctx := liveNames_cons_some _ _ _ rfl
  have hnot : m.name ∉ liveNames ctx := fun hin => by
    have := (h.hideIff m hm).mpr hin
    rw [hh] at this; cases this
  refine h.setHide m.name true (by rw [hl]; exact List.nodup_cons.mpr ⟨hnot, h.liveNodup⟩)
    (by rw [hl]; simp) (fun x hx => by rw [hl, List.mem_cons]; exact (or_iff_right hx).symm) (by rw [hl, h.depth]; rfl)

end CprocVerif.PP
