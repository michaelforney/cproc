import CprocVerif.Lemmas.ScanArm
import CprocVerif.Lemmas.ScanRel

/-! From `scankind` to `scan`.  Termination side of the model: every `scankind` call that does not return
`TEOF` consumes at least one character, and the fuel handed to the loops is never exhausted (`Progress`,
read off `Arm`); the same for `scan` and the token loop. -/

namespace CprocVerif.Scan
open CprocVerif.Gen.TokenKinds CprocVerif.PPLine

def NoFuel {α : Type} (P : α → Prop) : Except Err α → Prop
  | .error e => e.kind ≠ .fuel
  | .ok a => P a

theorem comment_none (s : S) (h : comment s = .ok none) : True := trivial

def Progress (s : S) : Except Err (Kind × Loc × Nat × S) → Prop :=
  NoFuel fun r => r.2.2.2.len < s.len ∨ (r.1 = .TEOF ∧ r.2.2.2.len = 0)

theorem len_pushbackDot (s : S) (l : Loc) : (pushbackDot s l).len = s.len + 1 := by
  unfold pushbackDot S.len; split <;> simp_all

theorem Arm.progress {f : Nat} {s : S} {r : Except Err (Kind × Loc × Nat × S)}
    (ih : ∀ s1 : S, s1.len < f → Progress s1 (scankind f s1)) (hf : s.len < f + 1)
    (h : Arm f s r) : Progress s r := by
  cases h with
  | eof hc => exact .inr ⟨rfl, by rw [len_eq_stream, (chr_none_iff s).mp hc]; rfl⟩
  | @skip n s1 _ h0 ht =>
    have hl := ht.len
    have := ih s1 (by omega)
    generalize scankind f s1 = r at this
    cases r with
    | error _ => exact this
    | ok a => exact Or.imp_left (fun (h' : a.2.2.2.len < s1.len) => show a.2.2.2.len < s.len by omega) this
  | @tok k n s' _ _ h0 ht =>
    have hl := ht.len
    exact .inl (show s'.len < _ by omega)
  | dots _ h1 h2 =>
    have := len_pos_of_chr h2
    rw [len_nextchar] at this
    exact .inl (show S.len _ < _ by rw [len_pushbackDot, len_adv]; omega)
  | err hk _ => exact hk
  | errEof hk _ => exact hk

theorem scankind_progress : ∀ (fuel : Nat) (s : S), s.len < fuel → Progress s (scankind fuel s)
  | 0, _, h => by omega
  | f + 1, s, h => (scankind_arm f s).progress (scankind_progress f) h

end CprocVerif.Scan

-- for the `decide`d examples and tables of `Props/C13` (`first cs = .ok …`)
deriving instance DecidableEq for Except

namespace CprocVerif.Scan
open CprocVerif.Gen.TokenKinds
open CprocVerif.Spec.Lex

/-- a scanner positioned at the start of the phase-2 text `cs` (no backslash-newline pairs
left), between two tokens; location and byte offset are arbitrary -/
def ofStream (cs : List UInt8) : S :=
  { inp := cs.map fun c => (0, c), trail := 0, loc := ⟨1, 1⟩, skipped := 0, pos := 1,
    buf := [], usebuf := false, sawspace := false }

@[simp] theorem stream_ofStream (cs : List UInt8) : (ofStream cs).stream = cs := by
  simp [ofStream, S.stream, Function.comp_def]

theorem ready_ofStream (cs : List UInt8) : Ready (ofStream cs) := ⟨rfl, rfl⟩

/-- the first token of the phase-2 text `cs`, without location, and the text that remains -/
def first (cs : List UInt8) : Except ErrKind (Tok × List UInt8) :=
  match scan (ofStream cs) with
  | .error e => .error e.kind
  | .ok (t, s) => .ok (t.erase, s.stream)

theorem first_eq (cs : List UInt8) :
    first cs = match scankind (cs.length + 2) (ofStream cs) with
      | .error e => .error e.kind
      | .ok (k, _, _, s') =>
        .ok (⟨k, if s'.usebuf then some s'.buf else none, s'.sawspace⟩, s'.stream) := by
  have hl : (ofStream cs).inp.length = cs.length := by simp [ofStream]
  unfold first scan
  rw [show ({ ofStream cs with sawspace := false } : S) = ofStream cs from rfl, hl]
  cases scankind (cs.length + 2) (ofStream cs) with
  | error e => rfl
  | ok r =>
    obtain ⟨k, l, p, s'⟩ := r
    dsimp only
    cases s'.usebuf <;> rfl

theorem first_of_scankind (cs : List UInt8) (k : Kind) (l : Loc) (p : Nat) (s' : S)
    (h : scankind (cs.length + 2) (ofStream cs) = .ok (k, l, p, s')) :
    first cs = .ok (⟨k, if s'.usebuf then some s'.buf else none, s'.sawspace⟩, s'.stream) := by
  rw [first_eq, h]

theorem first_of_scankind_error (cs : List UInt8) (e : Err)
    (h : scankind (cs.length + 2) (ofStream cs) = .error e) : first cs = .error e.kind := by
  rw [first_eq, h]

theorem first_of_lexeme {P : List UInt8 → Prop} {k : Kind} {cs : List UInt8}
    (h : Lexeme P k (ofStream cs) (scankind (cs.length + 2) (ofStream cs))) :
    ∃ w, first cs = .ok (⟨k, some w, false⟩, cs.drop w.length) ∧ IsLongest P cs w := by
  obtain ⟨w, s', h1, h2, h3, h4, h5, h6⟩ := h
  rw [stream_ofStream] at h4 h5
  exact ⟨w, by rw [first_of_scankind cs k _ _ s' h1, h3, h2, h5, h6]; rfl, h4⟩

theorem scan_cases (s : S) :
    (∃ e, scan s = .error e ∧ e.kind ≠ .fuel) ∨
    (∃ t s', scan s = .ok (t, s') ∧ (s'.len < s.len ∨ (t.kind = .TEOF ∧ s'.len = 0))) := by
  have h := scankind_progress (s.inp.length + 2) ({ s with sawspace := false } : S)
    (by show s.inp.length < _; omega)
  unfold scan
  generalize scankind (s.inp.length + 2) ({ s with sawspace := false } : S) = r at h
  cases r with
  | error e => exact .inl ⟨e, rfl, h⟩
  | ok r =>
    obtain ⟨k, l, p, s1⟩ := r
    have h' : s1.len < s.len ∨ (k = .TEOF ∧ s1.len = 0) := h
    refine .inr ?_
    dsimp only
    split
    · exact ⟨_, _, rfl, h'⟩
    · exact ⟨_, _, rfl, h'⟩

theorem tokensLoop_end : ∀ (n : Nat) (s : S), s.len < n →
    (∃ e, (tokensLoop n s).2 = some e ∧ e.kind ≠ .fuel) ∨
    ((tokensLoop n s).2 = none ∧
      ∃ ts t, (tokensLoop n s).1 = ts ++ [t] ∧ t.kind = .TEOF ∧ ∀ x ∈ ts, x.kind ≠ .TEOF) := by
  intro n
  induction n with
  | zero => intro s h; omega
  | succ n ih =>
    intro s hn
    rw [tokensLoop]
    rcases scan_cases s with ⟨e, he, hek⟩ | ⟨t, s', hs, hp⟩
    · rw [he]
      exact Or.inl ⟨e, rfl, hek⟩
    · rw [hs]
      simp only []
      by_cases hk : t.kind = .TEOF
      · simp only [hk, if_true]
        exact Or.inr ⟨trivial, [], t, rfl, hk, fun _ h => nomatch h⟩
      · simp only [hk, if_false]
        have := hp.resolve_right fun hp => hk hp.1
        rcases ih s' (by omega) with ⟨e, he, hek⟩ | ⟨hnone, ts, tl, h1, h2, h3⟩
        · exact Or.inl ⟨e, he, hek⟩
        · exact Or.inr ⟨hnone, t :: ts, tl, by rw [h1]; rfl, h2,
            List.forall_mem_cons.mpr ⟨hk, h3⟩⟩

theorem tokens_cases (text : List UInt8) :
    (∃ e, tokens text = .error e ∧ e.kind ≠ .fuel) ∨
    (∃ ts t, tokens text = .ok (ts ++ [t]) ∧ t.kind = .TEOF ∧ ∀ x ∈ ts, x.kind ≠ .TEOF) := by
  have h := tokensLoop_end ((S.init text).inp.length + 1) (S.init text) (Nat.lt_succ_self _)
  unfold tokens tokensP
  generalize tokensLoop ((S.init text).inp.length + 1) (S.init text) = r at h ⊢
  obtain ⟨l, o⟩ := r
  rcases h with ⟨e, rfl, h2⟩ | ⟨rfl, ts, t, rfl, h3, h4⟩
  · exact .inl ⟨e, rfl, h2⟩
  · exact .inr ⟨ts, t, rfl, h3, h4⟩

end CprocVerif.Scan
