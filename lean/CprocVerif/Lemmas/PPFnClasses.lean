import CprocVerif.Lemmas.PPFnText

/-! # The two classes of the statements as instances (`toFn`) of the classes the development works with

The simple class (`SimpleFun`, `TblOK`, `GoodF`, `PlainFor`, `TextOK`, `absF`) next to the class with `#` and macro names in
arguments (`SimpleFunS`, `TblOKS`, `GoodP`, `ArgsOK`, `TextP`, `absP`), row by row.  `SimpleFunS`: the replacement list may hold
`# parameter` as `define` accepts it (`HashFollowed`), but no parameter is used both with `#` and outside (the recorded
finding stringize-nested-call lives there).  On the simple class the abstraction does not depend on paint marks (`absP_eq_absF`). -/

namespace CprocVerif.PP
open CprocVerif.Gen.TokenKinds
open CprocVerif.Spec.MacroRef (HTok Item PTok MacroDef RErr Flag Elem expandH hsadd union pendItems lookup
  subst elems paramIndex)
open CprocVerif.Spec

structure SimpleFunS (F : Macro) : Prop where
  func : F.func = true
  nonempty : 0 < F.params.length
  novar : ∀ p ∈ F.params, p.fvar = false
  hashF : HashFollowed F.params F.body
  ftok : ∀ i, (i, false) ∈ uses F.params F.body → (F.params.getD i default).ftok = true
  fstr : ∀ i, (i, true) ∈ uses F.params F.body → (F.params.getD i default).fstr = true
  excl : ∀ p ∈ F.params, ¬ (p.ftok = true ∧ p.fstr = true)

theorem SimpleFun.toFn {F : Macro} (h : SimpleFun F) : FnMacro F :=
  ⟨h.func, h.nonempty, h.novar, hashFollowed_of_nohash _ _ h.nohash,
   fun i hi => let ⟨_, t, ht, hp⟩ := uses_of_nohash _ _ h.nohash _ hi; h.ftok t ht i hp,
   fun i hi => Bool.noConfusion (uses_of_nohash _ _ h.nohash _ hi).1,
   fun i hi => Bool.noConfusion (uses_of_nohash _ _ h.nohash _ hi).1⟩

theorem SimpleFunS.toFn {F : Macro} (h : SimpleFunS F) : FnMacro F :=
  ⟨h.func, h.nonempty, h.novar, h.hashF, h.ftok, h.fstr, fun i hi =>
    Bool.eq_false_iff.mpr fun hf => h.excl _ (by
      rw [List.getD_eq_getElem?_getD, List.getElem?_eq_getElem (use_lt_of_flags h.ftok h.fstr hi)]; exact List.getElem_mem _) ⟨hf, h.fstr i hi⟩⟩

structure TblOK (ms0 : List Macro) : Prop where
  names : (ms0.map (·.name)).Nodup
  bodyNe : ∀ m ∈ ms0, m.body ≠ []
  bodyOk : ∀ m ∈ ms0, ∀ t ∈ m.body, okKind t ∧ ¬ IsFunName ms0 t
  func : ∀ m ∈ ms0, m.func = true → SimpleFun m

structure TblOKS (ms0 : List Macro) : Prop where
  names : (ms0.map (·.name)).Nodup
  bodyNe : ∀ m ∈ ms0, m.body ≠ []
  bodyOk : ∀ m ∈ ms0, ∀ t ∈ m.body, okKind t ∧ ¬ IsFunName ms0 t
  func : ∀ m ∈ ms0, m.func = true → SimpleFunS m

theorem TblOK.toFn {ms0 : List Macro} (h : TblOK ms0) : FnTable ms0 :=
  ⟨h.names, h.bodyNe, h.bodyOk, fun m hm hf => (h.func m hm hf).toFn⟩

theorem TblOKS.toFn {ms0 : List Macro} (h : TblOKS ms0) : FnTable ms0 :=
  ⟨h.names, h.bodyNe, h.bodyOk, fun m hm hf => (h.func m hm hf).toFn⟩

theorem TblOK.noStr {ms0 : List Macro} (h : TblOK ms0) : ¬ HasStr ms0 := by
  rintro ⟨F, hF, hfun, i, hi⟩
  exact Bool.noConfusion (uses_of_nohash _ _ (h.func F hF hfun).nohash _ hi).1

/-- by the last clause a hidden identifier on the context stack names no macro (arguments hold no macro
names), so the reference's token never needs a paint mark (`absP_eq_absF`) -/
def FlatOK (ms0 : List Macro) (t : Tok) : Prop :=
  t.kind ≠ .TNEWLINE ∧ t.kind ≠ .TEOF ∧ ¬ IsFunName ms0 t ∧
  (t.hide = true → t.kind = .TIDENT → macroget ms0 (t.lit.getD []) = none)

/-- the text is kept apart: `TextOK ms0 st.raw` -/
structure GoodF (ms0 : List Macro) (st : St) : Prop where
  stat : st.macros.map stat = ms0.map stat
  inv : InvC st.ctx st.macros st.depth
  wf : CtxWF st.macros st.ctx
  flatOk : ∀ t ∈ flat st.macros st.ctx, FlatOK ms0 t
  prag : st.prag = false
  ppnl : st.ppnl = false

structure GoodP (ms0 : List Macro) (st : St) : Prop where
  stat : st.macros.map stat = ms0.map stat
  inv : InvC st.ctx st.macros st.depth
  wf : CtxWF st.macros st.ctx
  flatOk : ∀ t ∈ flat st.macros st.ctx, FlatP ms0 t
  /-- `Live st` -/
  live : ∀ L ∈ flatG (fun L _ => L) st.macros st.ctx, L ≠ []
  prag : st.prag = false
  ppnl : st.ppnl = false

theorem GoodF.toFn {ms0 : List Macro} {st : St} (g : GoodF ms0 st) : FnState ms0 st :=
  ⟨g.stat, g.inv, g.wf, fun t ht => let h := g.flatOk t ht; ⟨h.1, h.2.1, h.2.2.1⟩, g.prag, g.ppnl⟩

theorem GoodP.toFn {ms0 : List Macro} {st : St} (g : GoodP ms0 st) : FnState ms0 st :=
  ⟨g.stat, g.inv, g.wf, g.flatOk, g.prag, g.ppnl⟩

theorem goodF_init (ms0 : List Macro) (raw : List Tok) (hnd : (ms0.map (·.name)).Nodup) (hhide : ∀ m ∈ ms0, m.hide = false) :
    GoodF ms0 { raw := raw, macros := ms0 } :=
  ⟨rfl, ⟨hnd, List.nodup_nil, (by intro m hm; simp [liveNames, hhide m hm]), rfl⟩,
   (by intro f hf; cases hf), (by intro t ht; cases ht), rfl, rfl⟩

theorem goodP_init (ms0 : List Macro) (raw : List Tok) (hnd : (ms0.map (·.name)).Nodup) (hhide : ∀ m ∈ ms0, m.hide = false) :
    GoodP ms0 { raw := raw, macros := ms0 } :=
  ⟨rfl, ⟨hnd, List.nodup_nil, (by intro m hm; simp [liveNames, hhide m hm]), rfl⟩,
   (by intro f hf; cases hf), (by intro t ht; cases ht), (by intro L hL; cases hL), rfl, rfl⟩

def ArgTokOK (ms0 : List Macro) (t : Tok) : Prop :=
  t.kind ≠ .TNEWLINE ∧ t.kind ≠ .THASH ∧ t.kind ≠ .TNONE ∧ t.kind ≠ .TEOF ∧ ¬ IsFunName ms0 t ∧ t.hide = false

/-- the argument texts of `TextP` -/
inductive ArgsOK (ms0 : List Macro) : List Tok → List Tok → Prop where
  | done (rest : List Tok) : ArgsOK ms0 rest rest
  | tok (t : Tok) (L rest : List Tok) (h : ArgTokOK ms0 t) (hs : Spellable t) (more : ArgsOK ms0 L rest) :
      ArgsOK ms0 (t :: L) rest
  | call (G lp : Tok) (r'' : List Tok) (FG : Macro) (argsG : List (List Tok)) (rest'' rest : List Tok)
      (h1 : G.kind = .TIDENT) (h2 : G.hide = false) (h3 : macroget ms0 (G.lit.getD []) = some FG)
      (h4 : FG.func = true) (h5 : lp.kind = .TLPAREN) (h5' : lp.hide = false)
      (h6 : collect FG.params 0 0 [] [] r'' = .ok (argsG, rest''))
      (h7 : ArgsOK ms0 r'' rest'') (h8 : ∀ a ∈ argsG, a ≠ []) (hs : Spellable G ∧ Spellable lp)
      (more : ArgsOK ms0 rest'' rest) : ArgsOK ms0 (G :: lp :: r'') rest

theorem ArgsOK.toFn {ms0 : List Macro} {L rest : List Tok} (h : ArgsOK ms0 L rest) : FnArgs ms0 L rest := by
  induction h with
  | done rest => exact .done rest
  | tok t L rest h hs _ ih =>
    exact .tok t L rest ⟨⟨h.1, h.2.1, h.2.2.1, h.2.2.2.1, .of_hide h.2.2.2.2.2⟩, h.2.2.2.2.1⟩ (fun _ => hs) ih
  | call G lp r'' FG argsG rest'' rest h1 h2 h3 h4 h5 _ h6 _ h8 hs _ ih1 ih2 =>
    exact .call ⟨h1, h2, h3, h4, h5, h6, h8⟩ ih1 (fun _ => hs) ih2

theorem ArgsOK.suffix {ms0 : List Macro} {a b : List Tok} (h : ArgsOK ms0 a b) : ∃ pre, a = pre ++ b :=
  let ⟨pre, hp, _⟩ := h.toFn.consumed; ⟨pre, hp⟩

theorem NoPaint.of_noMac {ms0 : List Macro} {t : Tok}
    (h : t.hide = true → t.kind = .TIDENT → macroget ms0 (t.lit.getD []) = none) : NoPaint ms0 t := by
  unfold NoPaint isMac
  by_cases hh : t.hide = true
  · by_cases hk : t.kind = .TIDENT
    · simp [h hh hk]
    · simp [hk]
  · simp [hh]

theorem PlainTok.fnArgTok {ms0 : List Macro} {x : Tok} (h : PlainTok ms0 x) : FnArgTok ms0 x :=
  ⟨⟨h.1, h.2.1, h.2.2.1, h.2.2.2.1, .of_noMac fun _ => h.2.2.2.2⟩, fun ⟨hk, F, hF, _⟩ => by
    rw [h.2.2.2.2 hk] at hF; cases hF⟩

theorem fnArgs_of_plain {ms0 : List Macro} (hn : ¬ HasStr ms0) (rest : List Tok) :
    ∀ pre : List Tok, (∀ x ∈ pre, PlainTok ms0 x) → FnArgs ms0 (pre ++ rest) rest
  | [], _ => .done rest
  | x :: pre, h =>
    .tok x _ rest (h x (List.mem_cons_self ..)).fnArgTok (fun hh => absurd hh hn)
      (fnArgs_of_plain hn rest pre fun y hy => h y (List.mem_cons_of_mem _ hy))

/-- `plain.h2`: no directive; `call.h7`: the arguments hold no macro names, new-lines or `#`, as far as
`collect` reads; `eof`: the scanner's list may end with the end-of-file token -/
inductive TextOK (ms0 : List Macro) : List Tok → Prop where
  | nil : TextOK ms0 []
  | plain (t : Tok) (r : List Tok) (h1 : ¬ IsFunName ms0 t) (h2 : t.kind ≠ .THASH) (h3 : t.kind ≠ .TNONE)
      (h4 : t.kind ≠ .TEOF) (h5 : t.hide = false) (h6 : TextOK ms0 r) : TextOK ms0 (t :: r)
  | call (T lp : Tok) (r' : List Tok) (F : Macro) (args : List (List Tok)) (rest : List Tok)
      (h1 : T.kind = .TIDENT) (h2 : T.hide = false) (h3 : macroget ms0 (T.lit.getD []) = some F)
      (h4 : F.func = true) (h5 : lp.kind = .TLPAREN)
      (h6 : collect F.params 0 0 [] [] r' = .ok (args, rest))
      (h7 : PlainFor ms0 r' (collect F.params 0 0 [] [] r')) (h8 : ∀ a ∈ args, a ≠ [])
      (h9 : TextOK ms0 rest) : TextOK ms0 (T :: lp :: r')
  | eof (t : Tok) (h : t.kind = .TEOF) : TextOK ms0 [t]

/-- as `TextOK`, but the tokens between the parentheses of an invocation may name object-like macros and hold
complete invocations of function-like macros (`ArgsOK`) -/
inductive TextP (ms0 : List Macro) : List Tok → Prop where
  | nil : TextP ms0 []
  | plain (t : Tok) (r : List Tok) (h1 : ¬ IsFunName ms0 t) (h2 : t.kind ≠ .THASH) (h3 : t.kind ≠ .TNONE)
      (h4 : t.kind ≠ .TEOF) (h5 : t.hide = false) (h6 : TextP ms0 r) : TextP ms0 (t :: r)
  | call (T lp : Tok) (r' : List Tok) (F : Macro) (args : List (List Tok)) (rest : List Tok)
      (h1 : T.kind = .TIDENT) (h2 : T.hide = false) (h3 : macroget ms0 (T.lit.getD []) = some F)
      (h4 : F.func = true) (h5 : lp.kind = .TLPAREN) (h5' : lp.hide = false)
      (h6 : collect F.params 0 0 [] [] r' = .ok (args, rest))
      (h7 : ArgsOK ms0 r' rest) (h8 : ∀ a ∈ args, a ≠ [])
      (h9 : TextP ms0 rest) : TextP ms0 (T :: lp :: r')
  | eof (t : Tok) (h : t.kind = .TEOF) : TextP ms0 [t]

theorem TextOK.toFn {ms0 : List Macro} (hn : ¬ HasStr ms0) {l : List Tok} (h : TextOK ms0 l) : FnText ms0 l := by
  induction h with
  | nil => exact .nil
  | plain t r h1 h2 h3 h4 h5 _ ih => exact .plain t r h1 h2 h3 h4 h5 ih
  | call T lp r' F args rest h1 h2 h3 h4 h5 h6 h7 h8 _ ih =>
    obtain ⟨pre, rfl, -⟩ := collect_consumed _ _ _ _ _ _ _ _ h6
    refine .call ⟨h1, h2, h3, h4, h5, h6, h8⟩ (fnArgs_of_plain hn rest pre fun x hx => ?_) ih
    rw [h6] at h7
    exact h7 x (by rw [List.length_append, Nat.add_sub_cancel, List.take_left' rfl]; exact hx)
  | eof t h => exact .eof t h

theorem TextP.toFn {ms0 : List Macro} {l : List Tok} (h : TextP ms0 l) : FnText ms0 l := by
  induction h with
  | nil => exact .nil
  | plain t r h1 h2 h3 h4 h5 _ ih => exact .plain t r h1 h2 h3 h4 h5 ih
  | call T lp r' F args rest h1 h2 h3 h4 h5 _ h6 h7 h8 _ ih => exact .call ⟨h1, h2, h3, h4, h5, h6, h8⟩ h7.toFn ih
  | eof t h => exact .eof t h

/-- the annotation of a stack token: a reference token whose hide set is the macros with a live
frame at or below it, oldest first -/
def annH (L : List Name) (t : Tok) : HTok := mkH L.reverse t

/-- the text as the reference sees it: up to the scanner's end-of-file token, new-lines dropped (`absRaw`) -/
def absRawF (raw : List Tok) : List HTok := absRaw (raw.takeWhile (fun t => t.kind ≠ .TEOF))

theorem absRawF_nil : absRawF [] = [] := rfl

def absF (st : St) : List Item := (flatG annH st.macros st.ctx ++ absRawF st.raw).map Item.tok

theorem absF_setrt (st : St) (b : Bool) (t : Tok) : absF { st with rb := b, rt := t } = absF st := rfl

theorem FnText.noPaint {ms0 : List Macro} {raw : List Tok} (h : FnText ms0 raw) : ∀ t ∈ raw, NoPaint ms0 t := by
  induction h with
  | nil => exact fun _ h => nomatch h
  | eof t h => exact fun x hx => by cases List.mem_singleton.mp hx; exact .of_kind (by rw [h]; decide)
  | plain t r _ _ _ _ h5 _ ih => exact fun x hx => (List.mem_cons.mp hx).elim (fun e => e ▸ .of_hide h5) (ih x)
  | call hc h7 _ ih =>
    obtain ⟨pre, rfl, hp⟩ := h7.consumed
    intro x hx
    simp only [List.mem_cons, List.mem_append] at hx
    rcases hx with rfl | rfl | hx | hx
    · exact .of_hide hc.nohide
    · exact .of_kind (by rw [hc.lparen]; decide)
    · exact (hp x hx).1.paint
    · exact ih x hx

theorem absRawP_eq {ms0 : List Macro} {raw : List Tok} (h : FnText ms0 raw) : absRawP ms0 raw = absRawF raw :=
  List.map_congr_left fun t ht =>
    (h.noPaint t ((List.takeWhile_sublist _).subset (List.mem_filter.mp ht).1)).mkHp []

theorem absP_init {ms0 : List Macro} {raw : List Tok} (h : FnText ms0 raw) :
    absP ms0 { raw := raw, macros := ms0 } = (absRawF raw).map .tok := by
  show absX ms0 _ _ = _
  rw [absX_nil_ctx ms0 _ _ rfl]
  show (absRawP ms0 raw).map _ = _
  rw [absRawP_eq h]

theorem flatG_congr {β : Type} {g g' : List Name → Tok → β} (ms : List Macro) :
    ∀ ctx : List Frame, (∀ t ∈ flat ms ctx, ∀ L, g L t = g' L t) → flatG g ms ctx = flatG g' ms ctx
  | [], _ => rfl
  | f :: rest, h => by
    have h1 : ∀ t ∈ frameToks ms f, ∀ L, g L t = g' L t := fun t ht => h t (List.mem_append_left _ ht)
    rw [flatG, flatG, flatG_congr ms rest fun t ht => h t (List.mem_append_right _ ht)]
    exact congrArg (· ++ _) (List.map_congr_left fun t ht => h1 t ht _)

theorem absP_eq_absF {ms0 : List Macro} {st : St} (g : GoodF ms0 st) (ht : FnText ms0 st.raw) : absP ms0 st = absF st := by
  have hfl : flatG (annHp ms0) st.macros st.ctx = flatG annH st.macros st.ctx :=
    flatG_congr _ _ fun t htf L => (NoPaint.of_noMac (g.flatOk t htf).2.2.2).mkHp _
  simp only [absP, absX, absF, hfl, absRawP_eq ht, List.map_append]

theorem run_simF (ms0 : List Macro) (hTb : TblOK ms0) (n : Nat) (st : St) (g : GoodF ms0 st) (ht : TextOK ms0 st.raw)
    (h : (run n st).2 = none) :
    ∃ J, ∀ K, J ≤ K → (expandH false K (tblF ms0) (absF st)).2.1 = none ∧
      (expandH false K (tblF ms0) (absF st)).1.map (fun t => kwKey t.tok.key) = runKeys (run n st).1 :=
  absP_eq_absF g (ht.toFn hTb.noStr) ▸ run_sims ms0 hTb.toFn st g.toFn (ht.toFn hTb.noStr) h

end CprocVerif.PP
