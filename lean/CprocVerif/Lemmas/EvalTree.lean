import CprocVerif.Lemmas.Eval

/-!
From single operations to expression trees: everything a binary node of `eval` can return (`BinStep`), the invariant
`Canon` on the constants of a tree, the C semantics `evalC` of the integer fragment, and the inductions over `eval`.
-/

namespace CprocVerif.Eval
open CprocVerif.CInt

variable {F : Type} (ops : FloatOps F)

theorem tyOf_isInt (t : IntTy) : (tyOf t).isInt = true := by
  simp only [tyOf]; split <;> rfl

theorem tyOf_isFlt (t : IntTy) : (tyOf t).isFlt = false := by
  simp only [tyOf]; split <;> rfl

theorem castConst_bool (lty : Ty) (l : Nat) :
    castConst ops lty .bool l = .const .bool (b2n (istrue ops lty l)) := by
  simp only [castConst, if_true]; cases istrue ops lty l <;> rfl

theorem castConst_int {lty : Ty} (hl : lty.isInt = true) (tsz : Nat) (ts : Bool) (l : Nat) :
    castConst ops lty (.int tsz ts) l = .const (.int tsz ts) (castInt tsz ts l) := by
  cases lty <;> first | rfl | cases hl

theorem istrue_int {t : IntTy} (h : t.Valid) {a : Int} (ha : InRange t a) :
    istrue ops (tyOf t) (repr64 t a) = decide (a ≠ 0) := by
  simp only [istrue, tyOf_isFlt, Bool.false_eq_true, if_false, ne_eq, repr64_eq_zero h ha]

theorem cast_correct {f t : IntTy} (hf : f.Valid) (ht : t.Valid) {v : Int} (hv : InRange f v) :
    castConst ops (tyOf f) (tyOf t) (repr64 f v) = .const (tyOf t) (repr64 t (wrap t v)) := by
  rcases ht with rfl | ht
  · have hw : wrap IntTy.bool v = b2i (decide (v ≠ 0)) := by
      by_cases h : v = 0 <;> simp [wrap_bool, b2i, h]
    rw [hw, repr64_b2i, ← istrue_int ops hf hv]; exact castConst_bool ops _ _
  · rw [tyOf_arith ht, castConst_int ops (tyOf_isInt f), ← castInt_ofI ht v]; rfl

/-- the sign test of `intconstexpr`: `u.constant.u >> 63` on a signed type. -/
theorem isSigned_and_top_bit {t : IntTy} (ht : t.Valid) {v : Int} (hv : InRange t v) :
    ((tyOf t).isSigned && decide (repr64 t v >>> 63 ≠ 0)) = decide (v < 0) := by
  rcases ht with rfl | ht
  · have := inRange_bool.1 hv
    exact (decide_eq_false (by omega)).symm
  · rw [tyOf_arith ht, Ty.isSigned]
    cases hs : t.signed
    · have := (inRange_64 ht hv).2 hs
      exact (decide_eq_false (by omega)).symm
    · have := (inRange_64 ht hv).1 hs
      rw [Bool.true_and, decide_eq_decide, Nat.shiftRight_eq_div_pow]
      simp only [repr64]; omega

theorem castInt_8 (sg : Bool) {x : Nat} (hx : x < W) : castInt 8 sg x = x := by
  have h : (IntTy.mk 64 sg).Arith := Or.inr (Or.inr (Or.inr rfl))
  have := castInt_nat h x
  simp only [Nat.reduceDiv] at this
  rw [this, repr64, wrap_emod (bits_ne_one h)]
  exact ofI_natCast hx

theorem isNone_ite {α : Type} (c : Prop) [Decidable c] (x : α) :
    (if c then none else some x).isNone = decide c := by
  split <;> simp [*]

/-- The guard of `eval` is exactly the set of operands on which the host `/`, `%` is undefined, and no other operator
is undefined on the host. -/
theorem foldBin_int (op : BinOp) (hop : op ≠ .lor ∧ op ≠ .land) (sz : Nat) (sg : Bool) (l r : Nat)
    (ty : Ty) :
    foldBin ops op (.int sz sg) l r ty =
      match binaryRaw ops op (.int sz sg) l r with
      | some x => .folded (cast ops ty x)
      | none => .unfolded := by
  by_cases hd : op = .div ∨ op = .mod
  · have hg : divGuard (.int sz sg) l r = (binaryRaw ops op (.int sz sg) l r).isNone := by
      rcases hd with rfl | rfl <;> cases sg <;>
        simp only [divGuard, binaryRaw, Ty.isInt, Ty.isSigned, isNone_ite, Bool.true_and,
          Bool.false_and, Bool.or_false, Bool.false_eq_true, if_false, if_true, Bool.decide_or,
          Bool.decide_and, Bool.and_comm]
    simp only [foldBin, binary, hd, true_and, hg]
    cases binaryRaw ops op (.int sz sg) l r <;> rfl
  · obtain ⟨x, hx⟩ : ∃ x, binaryRaw ops op (.int sz sg) l r = some x := by
      cases op <;> first | exact ⟨_, rfl⟩ | (cases sg <;> exact ⟨_, rfl⟩) | skip
      · exact absurd (Or.inl rfl) hd
      · exact absurd (Or.inr rfl) hd
      · exact absurd rfl hop.1
      · exact absurd rfl hop.2
    simp only [foldBin, binary, hd, false_and, if_false, hx, Option.map_some]

theorem foldBin_no_hostUB (op : BinOp) (hop : op ≠ .lor ∧ op ≠ .land) {lty : Ty}
    (hl : lty.isInt = true) (l r : Nat) (ty : Ty) : foldBin ops op lty l r ty ≠ .hostUB := by
  -- `binaryRaw` and `divGuard` see of an integer type only its signedness
  have key : ∀ sz sg, foldBin ops op (.int sz sg) l r ty ≠ .hostUB := fun sz sg => by
    rw [foldBin_int ops op hop]; split <;> nofun
  cases lty with
  | int sz sg => exact key sz sg
  | bool => exact key 1 false
  | _ => cases hl

theorem foldBin_of_binary {op : BinOp} (hop : op ≠ .div ∧ op ≠ .mod) {lty ty : Ty} {l r u : Nat}
    (h : binary ops op lty l r ty = some u) : foldBin ops op lty l r ty = .folded u := by
  rw [foldBin, if_neg fun hg => hg.1.elim hop.1 hop.2, h]

/-- `~e` is compiled as `e ^ mkconstexpr(e->type, -1)`: the right operand carries 64 one bits
whatever the type is (not canonical for `unsigned int`); the final `cast` repairs it. -/
theorem bnot_correct {t : IntTy} (ht : t.Arith) {a v : Int} (h : un .bnot t a = some v) :
    foldBin ops .bxor (tyOf t) (repr64 t a) (W - 1) (tyOf t) = .folded (repr64 t (wrap t v)) := by
  simp only [un] at h; cases h
  have hb := binary_bitop ops ht (· ^^^ ·) (fun _ _ => Nat.xor_mod_two_pow)
    (fun _ _ => Nat.xor_lt_two_pow) a (-1) (op := .bxor) (fun _ _ => rfl)
  have hlt : toBits t a < 2 ^ t.bits := repr64_mod_bits ht a ▸ Nat.mod_lt _ (Nat.two_pow_pos _)
  have hm : toBits t (-1) = 2 ^ t.bits - 1 := by
    rw [← repr64_mod_bits ht, repr64]; rcases ht with h | h | h | h <;> rw [h] <;> decide
  rw [hm, xor_two_pow_sub_one hlt] at hb
  exact foldBin_of_binary ops (by decide) hb

theorem foldBin_correct {t tr : IntTy} (ht : t.Arith) (htr : tr.Arith) (op : BinOp)
    (hop : op ≠ .lor ∧ op ≠ .land) (hty : op.isShift = false → tr = t)
    {a b v : Int} (ha : InRange t a) (hb : InRange tr b) (h : bin op t a b = some v) :
    foldBin ops op (tyOf t) (repr64 t a) (repr64 tr b) (tyOf (binResTy op t))
      = .folded (repr64 (binResTy op t) v) := by
  have hbin := binary_correct ops ht htr op hop hty ha hb h
  have hres : (binResTy op t).Valid := by
    simp only [binResTy]; split
    · exact Or.inr int_arith
    · exact Or.inr ht
  rw [wrap_of_inRange hres (bin_inRange ht op ha (fun hs => hty hs ▸ hb) h)] at hbin
  obtain ⟨x, hx, hc⟩ := Option.map_eq_some_iff.1 hbin
  rw [tyOf_arith ht] at hx ⊢
  rw [foldBin_int ops op hop, hx]; exact congrArg Fold.folded hc

theorem isFail_const (t : Ty) (u : Nat) : (Expr.const t u).isFail = false := rfl

theorem eval_neg_const {b : Expr} {lty : Ty} {u : Nat} (h : eval ops b = .const lty u) (t : Ty) :
    eval ops (.unary .neg t b) = .const t (unaryNeg ops lty t u) := by
  unfold eval
  simp only [h, isFail_const, Bool.false_eq_true, if_false]

theorem eval_cast_const {b : Expr} {lty : Ty} {u : Nat} (h : eval ops b = .const lty u) (t : Ty) :
    eval ops (.cast t b) = castConst ops lty t u := by
  unfold eval
  simp only [h, isFail_const, Bool.false_eq_true, if_false]

theorem binary_of_foldBin {op : BinOp} {lty ty : Ty} {l r u : Nat}
    (h : foldBin ops op lty l r ty = .folded u) : binary ops op lty l r ty = some u := by
  simp only [foldBin] at h
  split at h
  · cases h
  · split at h
    · cases h; assumption
    · cases h

theorem eval_binary_const {op : BinOp} {a b : Expr} {lty rty : Ty} {lu ru u : Nat} (t : Ty)
    (hop : op ≠ .lor ∧ op ≠ .land) (ha : eval ops a = .const lty lu)
    (hb : eval ops b = .const rty ru) (hf : foldBin ops op lty lu ru t = .folded u) :
    eval ops (.binary op t a b) = .const t u := by
  unfold eval
  simp only [ha, hb, isFail_const, Bool.false_eq_true, if_false]
  cases op
  case lor => exact absurd rfl hop.1
  case land => exact absurd rfl hop.2
  case add | sub => simp only [evalAddSub, Expr.isBinary, Bool.false_eq_true, and_false, if_false,
    binary_of_foldBin ops hf]
  all_goals simp only [hf]

theorem eval_lor_land_decided {op : BinOp} {a b : Expr} {lty : Ty} {lu : Nat} (t : Ty)
    (hop : op = .lor ∨ op = .land) (ha : eval ops a = .const lty lu)
    (hb : (eval ops b).isFail = false) (hd : istrue ops lty lu = (op == .lor)) :
    eval ops (.binary op t a b) = .const t (b2n (op == .lor)) := by
  rcases hop with rfl | rfl <;> unfold eval <;>
    simp only [ha, hb, hd, isFail_const, Bool.false_eq_true, if_false, bne_self_eq_false]

theorem eval_lor_land_right {op : BinOp} {a b : Expr} {lty rty : Ty} {lu ru : Nat} (t : Ty)
    (hop : op = .lor ∨ op = .land) (ha : eval ops a = .const lty lu)
    (hb : eval ops b = .const rty ru) (hd : istrue ops lty lu = !(op == .lor)) :
    eval ops (.binary op t a b) = .const t (b2n (istrue ops rty ru)) := by
  rcases hop with rfl | rfl <;> unfold eval <;>
    simp only [ha, hb, hd, isFail_const, Bool.false_eq_true, if_false, Bool.not_bne_self,
      if_true]

/-- the operands of a `+`/`-` node as `eval` orders them: `C + (P + C1)` is turned round. -/
def Ordered (op : BinOp) (l r l1 r1 : Expr) : Prop :=
  (l1 = l ∧ r1 = r) ∨ (op = .add ∧ r.isBinary = true ∧ l1 = r ∧ r1 = l)

/-- What one binary node of `eval` can return, `l` and `r` being the evaluated operands: an operand
that failed; 0 or 1 for `||`/`&&`; the node itself, operands possibly turned round; the folded
constant; `P + (C1 ± C2)` for `(P + C1) ± C2`; `.bad` where `binary` would run into host UB. -/
inductive BinStep (op : BinOp) (t : Ty) (l r : Expr) : Expr → Prop
  | failL : l.isFail = true → BinStep op t l r l
  | failR : l.isFail = false → r.isFail = true → BinStep op t l r r
  | logic (c : Bool) : op = .lor ∨ op = .land → BinStep op t l r (.const t (b2n c))
  | keep {l1 r1} : l.isFail = false → r.isFail = false → Ordered op l r l1 r1 →
      BinStep op t l r (.binary op t l1 r1)
  | fold {lty rty lu ru u} : l = .const lty lu → r = .const rty ru → op ≠ .lor ∧ op ≠ .land →
      binary ops op lty lu ru t = some u → BinStep op t l r (.const t u)
  | ptrFold {l1 r1 ll c1ty c1 rty ru u} : l.isFail = false → r.isFail = false →
      op = .add ∨ op = .sub → Ordered op l r l1 r1 →
      l1 = .binary .add .ptr ll (.const c1ty c1) → r1 = .const rty ru →
      binary ops op c1ty c1 ru rty = some u → BinStep op t l r (.binary .add t ll (.const rty u))
  | hostUB {lty rty lu ru} : l = .const lty lu → r = .const rty ru → op ≠ .lor ∧ op ≠ .land →
      foldBin ops op lty lu ru t = .hostUB → BinStep op t l r .bad

theorem Ordered.both {P : Expr → Prop} {op : BinOp} {l r l1 r1 : Expr} (h : Ordered op l r l1 r1)
    (hl : P l) (hr : P r) : P l1 ∧ P r1 := by
  rcases h with ⟨rfl, rfl⟩ | ⟨-, -, rfl, rfl⟩
  · exact ⟨hl, hr⟩
  · exact ⟨hr, hl⟩

theorem add_sub_defined {op : BinOp} (hop : op = .add ∨ op = .sub) (lty ty : Ty) (l r : Nat) :
    ∃ u, binary ops op lty l r ty = some u := by
  cases lty <;> rcases hop with rfl | rfl <;> exact ⟨_, rfl⟩

theorem evalAddSub_step {op : BinOp} (hop : op = .add ∨ op = .sub) (t : Ty) {l r : Expr}
    (hl : l.isFail = false) (hr : r.isFail = false) :
    BinStep ops op t l r (evalAddSub ops op t l r) := by
  have hop' : op ≠ .lor ∧ op ≠ .land := by rcases hop with rfl | rfl <;> decide
  unfold evalAddSub
  simp only
  generalize hl1 : (if op = .add ∧ r.isBinary = true then r else l) = l1
  generalize hr1 : (if op = .add ∧ r.isBinary = true then l else r) = r1
  have ho : Ordered op l r l1 r1 := by
    by_cases hs : op = .add ∧ r.isBinary = true
    · rw [if_pos hs] at hl1 hr1; exact Or.inr ⟨hs.1, hs.2, hl1.symm, hr1.symm⟩
    · rw [if_neg hs] at hl1 hr1; exact Or.inl ⟨hl1.symm, hr1.symm⟩
  split
  · rename_i rty ru
    split
    · rename_i lty lu
      obtain ⟨u, hu⟩ := add_sub_defined ops hop lty t lu ru
      rw [hu]
      rcases ho with ⟨rfl, rfl⟩ | ⟨-, hb, rfl, -⟩
      · exact .fold rfl rfl hop' hu
      · cases hb
    · rename_i ll c1ty c1
      obtain ⟨u, hu⟩ := add_sub_defined ops hop c1ty rty c1 ru
      rw [hu]; exact .ptrFold hl hr hop ho rfl rfl hu
    · exact .keep hl hr ho
  · exact .keep hl hr ho

theorem eval_binary_step (op : BinOp) (t : Ty) (a b : Expr) :
    BinStep ops op t (eval ops a) (eval ops b) (eval ops (.binary op t a b)) := by
  simp only [eval]
  split
  · exact .failL ‹_›
  have hl : (eval ops a).isFail = false := Bool.eq_false_iff.2 ‹_›
  split
  · exact .failR hl ‹_›
  have hr : (eval ops b).isFail = false := Bool.eq_false_iff.2 ‹_›
  split
  case h_1 => exact evalAddSub_step ops (Or.inl rfl) t hl hr
  case h_2 => exact evalAddSub_step ops (Or.inr rfl) t hl hr
  case h_3 | h_4 =>
    split
    · rename_i hla
      rw [hla] at hl ⊢
      split
      · split
        · exact .logic _ (by simp)
        · exact .keep hl hr (Or.inl ⟨rfl, rfl⟩)
      · exact .logic _ (by simp)
    · exact .keep hl hr (Or.inl ⟨rfl, rfl⟩)
  case h_5 =>
    rename_i h1 h2 h3 h4
    split
    · rename_i hla hrb
      split
      · exact .fold hla hrb ⟨h3, h4⟩ (binary_of_foldBin ops ‹_›)
      · rw [hla, hrb]; exact .keep rfl rfl (Or.inl ⟨rfl, rfl⟩)
      · exact .hostUB hla hrb ⟨h3, h4⟩ ‹_›
    · exact .keep hl hr (Or.inl ⟨rfl, rfl⟩)

def Ty.Wf : Ty → Prop
  | .int sz _ => sz = 1 ∨ sz = 2 ∨ sz = 4 ∨ sz = 8
  | _ => True

def ityOf (sz : Nat) (sg : Bool) : IntTy := ⟨sz * 8, sg⟩

def Ty.ity? : Ty → Option IntTy
  | .int sz sg => some (ityOf sz sg)
  | .bool => some IntTy.bool
  | _ => none

/-- For `_Bool` the storage invariant of eval.c is the one of an 8-bit unsigned type (`cast` masks to 8 bits), although
`Ty.ity?` reads the type as `IntTy.bool`.  That the constants are 0 or 1 is not part of the invariant:
for the leaves the parser produces it is a hypothesis of `eval_correct` (`leafVal` is `none`
otherwise), for a conversion TO `_Bool` it is in its conclusion. -/
def IsCanon : Ty → Nat → Prop
  | .int sz sg, u => ∃ v, InRange (ityOf sz sg) v ∧ u = repr64 (ityOf sz sg) v
  | .bool, u => ∃ v, InRange IntTy.uchar v ∧ u = repr64 IntTy.uchar v
  | _, _ => True

/-- the all-ones constant that `unaryexpr` creates for `~e` (`mkconstexpr(e->type, -1)`). -/
def MaskLeaf (e : Expr) : Prop := ∃ t, e = .const t (W - 1)

/-- The one exception to `IsCanon` on constant nodes: the right operand of `^` may be the all-ones mask of `~`
(`bnot_correct`).  `Expr.bad` (internal error / host UB) never satisfies the invariant. -/
def Canon : Expr → Prop
  | .const t u => t.Wf ∧ IsCanon t u
  | .enumc t u => t.Wf ∧ IsCanon t u
  | .obj _ _ | .str _ _ | .compound _ _ _ | .opaque _ _ => True
  | .unary _ t b => t.Wf ∧ Canon b
  | .cast t b => t.Wf ∧ Canon b
  | .binary op t l r => t.Wf ∧ Canon l ∧ (Canon r ∨ (op = .bxor ∧ MaskLeaf r))
  | .cond t c a b => t.Wf ∧ Canon c ∧ Canon a ∧ Canon b
  | .error => True
  | .bad => False

theorem ityOf_arith {sz : Nat} {sg : Bool} (h : (Ty.int sz sg).Wf) : (ityOf sz sg).Arith := by
  rcases h with rfl | rfl | rfl | rfl <;> simp only [IntTy.Arith, ityOf] <;> decide

theorem tyOf_ityOf {sz : Nat} {sg : Bool} (h : (Ty.int sz sg).Wf) : tyOf (ityOf sz sg) = .int sz sg := by
  rw [tyOf_arith (ityOf_arith h)]; exact congrArg (Ty.int · sg) (Nat.mul_div_cancel sz (by decide))

theorem cast_isCanon {t : Ty} (h : t.Wf) (x : Nat) : IsCanon t (cast ops t x) := by
  cases t with
  | int sz sg =>
    have ha := ityOf_arith h
    refine ⟨wrap (ityOf sz sg) (x : Int), wrap_inRange (Or.inr ha) _, ?_⟩
    have := castInt_nat ha x
    rwa [show (ityOf sz sg).bits / 8 = sz from Nat.mul_div_cancel sz (by decide)] at this
  | bool =>
    exact ⟨wrap IntTy.uchar (x : Int), wrap_inRange (Or.inr (by decide)) _,
      castInt_nat (t := IntTy.uchar) (by decide) x⟩
  | _ => trivial

theorem isCanon_b2n {t : Ty} (h : t.Wf) (c : Bool) : IsCanon t (b2n c) := by
  cases t with
  | int sz sg => exact ⟨b2i c, inRange_b2i (ityOf_arith h) c, (repr64_b2i _ c).symm⟩
  | bool => exact ⟨b2i c, inRange_b2i (t := IntTy.uchar) (by decide) c, (repr64_b2i _ c).symm⟩
  | _ => trivial

theorem canon_ite {c : Prop} [Decidable c] {a b : Expr} (ha : Canon a) (hb : Canon b) :
    Canon (if c then a else b) := by
  split <;> assumption

/-- every branch of `castConst` ends in `cast`, or is the range error. -/
theorem castConst_canon {lty t : Ty} (h : t.Wf) (l : Nat) : Canon (castConst ops lty t l) :=
  have k (x : Nat) : Canon (.const t (cast ops t x)) := ⟨h, cast_isCanon ops h x⟩
  canon_ite (k _) <| canon_ite (k _) <| canon_ite
    (canon_ite (canon_ite (k _) trivial) (canon_ite (k _) trivial)) (k _)

theorem binary_isCanon {op : BinOp} {lty ty : Ty} {l r u : Nat} (h : ty.Wf)
    (hb : binary ops op lty l r ty = some u) : IsCanon ty u := by
  obtain ⟨x, -, rfl⟩ := Option.map_eq_some_iff.1 hb
  exact cast_isCanon ops h x

theorem ne_bad_of_isFail {e : Expr} (h : e.isFail = false) : e ≠ .bad := fun hb => by
  rw [hb] at h; cases h

theorem canon_guard {l e : Expr} (ih : l = .bad ∨ Canon l)
    (h : Canon l → e = .bad ∨ Canon e) :
    (if l.isFail = true then l else e) = .bad ∨ Canon (if l.isFail = true then l else e) := by
  split
  · exact ih
  · rcases ih with rfl | ih
    · contradiction
    · exact h ih

theorem eval_canon (e : Expr) : Canon e → eval ops e = .bad ∨ Canon (eval ops e) := by
  induction e with
  | compound t st i => intro _; refine Or.inr ?_; simp only [eval]; split <;> trivial
  | bad => exact False.elim
  | unary op t base ih =>
    rintro ⟨ht, hb⟩
    simp only [eval]
    refine canon_guard (ih hb) fun ihb => ?_
    cases op <;> dsimp only
    · split
      · rename_i b hl; rw [hl] at ihb; exact Or.inr ihb.2
      · exact Or.inr ⟨ht, trivial⟩
      · exact Or.inr ⟨ht, ihb⟩
    · exact Or.inr ⟨ht, ihb⟩
    · split
      · exact Or.inr ⟨ht, cast_isCanon ops ht _⟩
      · exact Or.inr ⟨ht, ihb⟩
  | cast t base ih =>
    rintro ⟨ht, hb⟩
    simp only [eval]
    refine canon_guard (ih hb) fun ihb => ?_
    split
    · exact Or.inr (castConst_canon ops ht _)
    · split
      · exact Or.inr ihb
      · exact Or.inr ⟨ht, ihb⟩
  | binary op t a b iha ihb =>
    rintro ⟨ht, ha, hb⟩
    have iha := iha ha
    -- the right operand is canonical, or the mask of `~`, which `eval` leaves alone
    have ihb : eval ops b = .bad ∨ Canon (eval ops b) ∨ (op = .bxor ∧ MaskLeaf (eval ops b)) := by
      rcases hb with hb | ⟨ho, t', rfl⟩
      · exact (ihb hb).imp id Or.inl
      · exact Or.inr (Or.inr ⟨ho, t', rfl⟩)
    -- past the failure tests neither operand is `.bad`
    have hca (hl : (eval ops a).isFail = false) := iha.resolve_left (ne_bad_of_isFail hl)
    have hcb (hr : (eval ops b).isFail = false) := ihb.resolve_left (ne_bad_of_isFail hr)
    have hs := eval_binary_step ops op t a b
    generalize eval ops (.binary op t a b) = e at hs ⊢
    cases hs with
    | failL => exact iha
    | failR _ hf =>
      rcases ihb with h | h | ⟨-, t', h⟩
      · exact Or.inl h
      · exact Or.inr h
      · rw [h] at hf; cases hf
    | logic c => exact Or.inr ⟨ht, isCanon_b2n ht c⟩
    | keep hl hr ho =>
      rcases ho with ⟨rfl, rfl⟩ | ⟨rfl, -, rfl, rfl⟩
      · exact Or.inr ⟨ht, hca hl, hcb hr⟩
      · exact Or.inr ⟨ht, (hcb hr).resolve_right (fun h => nomatch h.1), Or.inl (hca hl)⟩
    | fold _ _ _ hb => exact Or.inr ⟨ht, binary_isCanon ops ht hb⟩
    | ptrFold hl hr hop ho h1 h2 hb =>
      have hcr := (hcb hr).resolve_right fun h => by rcases hop with rfl | rfl <;> cases h.1
      obtain ⟨hc1, hc2⟩ := ho.both (hca hl) hcr
      rw [h1] at hc1; rw [h2] at hc2
      exact Or.inr ⟨ht, hc1.2.1, Or.inl ⟨hc2.1, binary_isCanon ops hc2.1 hb⟩⟩
    | hostUB => exact Or.inl rfl
  | _ => exact Or.inr

def IntFrag : Expr → Prop
  | .const t _ => t.isInt = true
  | .enumc t _ => t.isInt = true
  | .unary op t b => op = .neg ∧ t.isInt = true ∧ IntFrag b
  | .cast t b => t.isInt = true ∧ IntFrag b
  | .binary _ t l r => t.isInt = true ∧ IntFrag l ∧ IntFrag r
  | _ => False

/-- value of a constant leaf: `_Bool` leaves (`true`, `false`) carry 0 or 1. -/
def leafVal (t : Ty) (u : Nat) : Option Int :=
  match t with
  | .int _ sg => some (valOf sg u)
  | .bool => if u ≤ 1 then some (u : Int) else none
  | _ => none

/-- C11 value of an expression of the integer fragment (`none`: undefined behaviour, or not
typed the way `mkbinaryexpr`/`unaryexpr` type their nodes: both operands of an arithmetic or
comparison operator have the common (promoted, hence non-`_Bool`) type, the result of a
comparison or logical operator is `int`, the result of a shift has the type of the promoted left
operand; the operands of `||`/`&&` and of a cast have any integer type). -/
def evalC : Expr → Option Int
  | .const t u => leafVal t u
  | .enumc t u => leafVal t u
  | .unary .neg (.int sz sg) b =>
    if b.ty = .int sz sg then (evalC b).bind (un .neg (ityOf sz sg)) else none
  | .cast t b =>
    match t.ity?, b.ty.ity? with
    | some ti, some _ => (evalC b).map (wrap ti)
    | _, _ => none
  | .binary op (.int sz sg) l r =>
    if op = .lor ∨ op = .land then
      match l.ty.ity?, r.ty.ity? with
      | some _, some _ =>
        (if sz = 4 ∧ sg = true then
          (evalC l).bind fun a => if op = .lor then lorSC a (evalC r) else landSC a (evalC r)
         else none)
      | _, _ => none
    else
      match l.ty, r.ty with
      | .int lsz lsg, .int rsz rsg =>
        if (op.isShift = true ∨ (rsz = lsz ∧ rsg = lsg)) ∧
            Ty.int sz sg = tyOf (binResTy op (ityOf lsz lsg)) then
          (if op = .bxor ∧ r = .const (.int rsz rsg) (W - 1) then
            (evalC l).bind (un .bnot (ityOf lsz lsg))        -- `~l`, as `unaryexpr` builds it
           else (evalC l).bind fun a => (evalC r).bind fun b => bin op (ityOf lsz lsg) a b)
        else none
      | _, _ => none
  | _ => none

theorem canon_ty_wf {e : Expr} (hc : Canon e) (hi : IntFrag e) : e.ty.Wf := by
  cases e <;> first | exact hc.1 | exact hi.elim

theorem ity?_isSome_of_isInt {t : Ty} (h : t.isInt = true) : ∃ ti, t.ity? = some ti := by
  cases t <;> first | exact ⟨_, rfl⟩ | cases h

theorem isInt_of_ity? {t : Ty} {ti : IntTy} (h : t.ity? = some ti) : t.isInt = true := by
  cases t <;> first | rfl | cases h

theorem ity?_valid {t : Ty} {ti : IntTy} (hw : t.Wf) (h : t.ity? = some ti) : ti.Valid := by
  cases t <;> cases h
  · exact Or.inr (ityOf_arith hw)
  · exact Or.inl rfl

theorem tyOf_ity? {t : Ty} {ti : IntTy} (hw : t.Wf) (h : t.ity? = some ti) : tyOf ti = t := by
  cases t <;> cases h
  · exact tyOf_ityOf hw
  · rfl

theorem castConst_intFrag {lty t : Ty} (hl : lty.isInt = true) (ht : t.isInt = true) (l : Nat) :
    IntFrag (castConst ops lty t l) ∧ (castConst ops lty t l).ty = t := by
  cases t <;> first | cases ht | skip
  · rw [castConst_int ops hl]; exact ⟨rfl, rfl⟩
  · rw [castConst_bool]; exact ⟨rfl, rfl⟩

theorem intFrag_isInt {e : Expr} (h : IntFrag e) : e.ty.isInt = true := by
  cases e <;> first | exact h | exact h.1 | exact h.2.1 | exact h.elim

theorem not_isFail_of_intFrag {e : Expr} (h : IntFrag e) : e.isFail = false := by
  cases e <;> first | rfl | exact h.elim

theorem eval_intFrag (e : Expr) : IntFrag e → IntFrag (eval ops e) ∧ (eval ops e).ty = e.ty := by
  induction e with
  | const t u | enumc t u => exact fun h => ⟨h, rfl⟩
  | unary op t base ih =>
    rintro ⟨rfl, ht, hb⟩
    obtain ⟨ih1, -⟩ := ih hb
    simp only [eval, not_isFail_of_intFrag ih1, Bool.false_eq_true, if_false]
    split
    · exact ⟨ht, rfl⟩
    · exact ⟨⟨rfl, ht, ih1⟩, rfl⟩
  | cast t base ih =>
    rintro ⟨ht, hb⟩
    obtain ⟨ih1, -⟩ := ih hb
    simp only [eval, not_isFail_of_intFrag ih1, Bool.false_eq_true, if_false]
    split
    · rename_i lty u hl
      rw [hl] at ih1
      exact castConst_intFrag ops ih1 ht u
    · split
      · rename_i hp
        have := intFrag_isInt ih1
        rw [hp.1] at this; cases this
      · exact ⟨⟨ht, ih1⟩, rfl⟩
  | binary op t a b iha ihb =>
    rintro ⟨ht, ha, hb⟩
    obtain ⟨iha1, -⟩ := iha ha
    obtain ⟨ihb1, -⟩ := ihb hb
    have hs := eval_binary_step ops op t a b
    generalize eval ops (.binary op t a b) = e at hs ⊢
    cases hs with
    | failL hf => rw [not_isFail_of_intFrag iha1] at hf; cases hf
    | failR _ hf => rw [not_isFail_of_intFrag ihb1] at hf; cases hf
    | logic c => exact ⟨ht, rfl⟩
    | keep _ _ ho => exact ⟨⟨ht, ho.both iha1 ihb1⟩, rfl⟩
    | fold => exact ⟨ht, rfl⟩
    | ptrFold _ _ _ ho h1 => have := (ho.both iha1 ihb1).1; rw [h1] at this; exact nomatch this.1
    | hostUB hl _ ho hf =>
      rw [hl] at iha1; exact absurd hf (foldBin_no_hostUB ops op ho iha1 _ _ t)
  | _ => exact False.elim

def FoldsTo (e : Expr) (v : Int) : Prop :=
  ∃ t, e.ty.ity? = some t ∧ InRange t v ∧ eval ops e = .const e.ty (repr64 t v)

theorem ityOf_int : ityOf 4 true = IntTy.int := rfl

theorem ity?_int (sz : Nat) (sg : Bool) : (Ty.int sz sg).ity? = some (ityOf sz sg) := rfl

theorem leaf_correct {t : Ty} {u : Nat} {v : Int} (hw : t.Wf) (hc : IsCanon t u)
    (hv : leafVal t u = some v) : FoldsTo ops (.const t u) v := by
  cases t with
  | int sz sg =>
    obtain ⟨v', hr, rfl⟩ := hc
    cases hv.symm.trans (congrArg some (valOf_repr64 (ityOf_arith hw) hr))
    exact ⟨_, rfl, hr, rfl⟩
  | bool =>
    simp only [leafVal] at hv
    split at hv
    · cases hv
      exact ⟨IntTy.bool, rfl, inRange_bool.2 (by omega), congrArg (Expr.const _) (by simp only [repr64]; omega)⟩
    · cases hv
  | _ => cases hv

theorem istrue_of_ity? {e : Expr} (hi : IntFrag e) (hc : Canon e) {t : IntTy} {a : Int}
    (ht : e.ty.ity? = some t) (hr : InRange t a) :
    istrue ops e.ty (repr64 t a) = decide (a ≠ 0) := by
  have hw := canon_ty_wf hc hi
  have := istrue_int ops (ity?_valid hw ht) hr
  rwa [tyOf_ity? hw ht] at this

theorem eval_correct (e : Expr) : IntFrag e → Canon e → ∀ v, evalC e = some v → FoldsTo ops e v := by
  induction e with
  -- `leaf_correct` speaks of `.const t u`; it closes `.enumc t u` too, since `eval`, `evalC`, `Canon` and `Expr.ty` reduce
  -- an `enumc` leaf to the `const` one
  | const t u | enumc t u => exact fun _ hc v hv => leaf_correct ops hc.1 hc.2 hv
  | unary op t base ih =>
    rintro ⟨rfl, hi, hb⟩ ⟨hw, hcb⟩ v hv
    cases t with
    | int sz sg =>
      simp only [evalC] at hv
      split at hv
      · rename_i hty
        obtain ⟨a, hev, hv⟩ := Option.bind_eq_some_iff.1 hv
        obtain ⟨tb, htb, hra, he⟩ := ih hb hcb a hev
        rw [hty] at htb he; cases htb
        have har := ityOf_arith hw
        have hvr : InRange (ityOf sz sg) v := arith_inRange (Or.inr har) hv
        have := unaryNeg_correct ops har hv
        rw [tyOf_ityOf hw, wrap_of_inRange (Or.inr har) hvr] at this
        exact ⟨_, rfl, hvr, (eval_neg_const ops he _).trans (congrArg _ this)⟩
      · cases hv
    | _ => simp [evalC] at hv
  | cast t base ih =>
    rintro ⟨hi, hb⟩ ⟨hw, hcb⟩ v hv
    simp only [evalC] at hv
    split at hv
    case h_2 => cases hv
    rename_i ti tb' hti htb'
    obtain ⟨a, hev, rfl⟩ := Option.map_eq_some_iff.1 hv
    obtain ⟨tb, htb, hra, he⟩ := ih hb hcb a hev
    have hbw := canon_ty_wf hcb hb
    have hvt := ity?_valid hw hti
    have hc := cast_correct ops (ity?_valid hbw htb) hvt hra
    rw [tyOf_ity? hbw htb, tyOf_ity? hw hti] at hc
    exact ⟨ti, hti, wrap_inRange hvt a, (eval_cast_const ops he t).trans hc⟩
  | binary op t l r ihl ihr =>
    rintro ⟨hi, hil, hir⟩ ⟨hw, hcl, hcr⟩ v hv
    cases t with
    | int sz sg =>
    simp only [evalC] at hv
    split at hv
    · rename_i hop
      have hcr : Canon r := hcr.resolve_right fun h => by rcases hop with rfl | rfl <;> cases h.1
      split at hv
      case h_2 => cases hv
      split at hv
      case isFalse => cases hv
      rename_i hty
      obtain ⟨rfl, rfl⟩ := hty
      obtain ⟨a, hel, hv⟩ := Option.bind_eq_some_iff.1 hv
      obtain ⟨tl, htl, hra, he⟩ := ihl hil hcl a hel
      have hist := istrue_of_ity? ops hil hcl htl hra
      rw [lorSC_landSC hop] at hv
      split at hv
      · rename_i hd
        cases hv
        refine ⟨IntTy.int, rfl, inRange_b2i_int _, ?_⟩
        rw [repr64_b2i]
        exact eval_lor_land_decided ops _ hop he
          (not_isFail_of_intFrag (eval_intFrag ops r hir).1) (hist.trans hd)
      · rename_i hd
        obtain ⟨b, her, rfl⟩ := Option.map_eq_some_iff.1 hv
        obtain ⟨tr, htr, hrb, her'⟩ := ihr hir hcr b her
        refine ⟨IntTy.int, rfl, inRange_b2i_int _, ?_⟩
        rw [repr64_b2i, ← istrue_of_ity? ops hir hcr htr hrb]
        exact eval_lor_land_right ops _ hop he her' (hist.trans (Bool.eq_not.2 hd))
    · rename_i hop
      have hop' : op ≠ .lor ∧ op ≠ .land := not_or.1 hop
      split at hv
      case h_2 => cases hv
      rename_i lsz lsg rsz rsg hlty hrty
      have hlw : (Ty.int lsz lsg).Wf := hlty ▸ canon_ty_wf hcl hil
      have hla := ityOf_arith hlw
      split at hv
      case isFalse => cases hv
      rename_i htyp
      obtain ⟨hshape, hres⟩ := htyp
      have hrt : binResTy op (ityOf lsz lsg) = ityOf sz sg := by
        cases hc : op.isCmp
        · rw [binResTy_ncmp hc, tyOf_ityOf hlw] at hres; cases hres; exact binResTy_ncmp hc _
        · rw [binResTy_cmp hc] at hres; cases hres; exact binResTy_cmp hc _
      split at hv
      · rename_i hmask
        obtain ⟨rfl, rfl⟩ := hmask
        cases hres.trans (tyOf_ityOf hlw)
        obtain ⟨a, hel, hv⟩ := Option.bind_eq_some_iff.1 hv
        obtain ⟨tl, htl, hra, he⟩ := ihl hil hcl a hel
        rw [hlty] at htl he; cases htl
        have hvr : InRange (ityOf sz sg) v := by cases hv; exact wrap_inRange (Or.inr hla) _
        have := bnot_correct ops hla hv
        rw [tyOf_ityOf hlw, wrap_of_inRange (Or.inr hla) hvr] at this
        exact ⟨_, rfl, hvr, eval_binary_const ops _ hop' he rfl this⟩
      · rename_i hnmask
        have hcr : Canon r := hcr.resolve_right fun ⟨ho, t', hr'⟩ => by
          subst hr'; cases hrty; exact hnmask ⟨ho, rfl⟩
        have hra' := ityOf_arith (hrty ▸ canon_ty_wf hcr hir)
        obtain ⟨a, hel, hv⟩ := Option.bind_eq_some_iff.1 hv
        obtain ⟨b, her, hv⟩ := Option.bind_eq_some_iff.1 hv
        obtain ⟨tl, htl, hra, he⟩ := ihl hil hcl a hel
        rw [hlty] at htl he; cases htl
        obtain ⟨tr, htr, hrb, her'⟩ := ihr hir hcr b her
        rw [hrty] at htr her'; cases htr
        have hty : op.isShift = false → ityOf rsz rsg = ityOf lsz lsg := fun hs => by
          rcases hshape with h | ⟨h1, h2⟩
          · rw [hs] at h; cases h
          · rw [h1, h2]
        have hf := foldBin_correct ops hla hra' op hop' hty hra hrb hv
        have hvr := bin_inRange hla op hra (fun hs => hty hs ▸ hrb) hv
        rw [tyOf_ityOf hlw, ← hres, hrt] at hf
        exact ⟨_, rfl, hrt ▸ hvr, eval_binary_const ops _ hop' he her' hf⟩
    | _ => simp [evalC] at hv
  | _ => exact False.elim

end CprocVerif.Eval
