import CprocVerif.Model.Init
import CprocVerif.Spec.InitClass

/-!
# The cursor machine of `parseinit` alone: what its operations do on success

The successful runs of the primitives (`subobj`, `focus`, `findmember`, one designator, one round of `advance`) are analysed
here once.  Every one of them ends in pushes (`Push`), so an invariant needs a rule for a push, one for leaving slots, and these
case analyses.  `parseItem` is cut by equations at `preStep` (`itemBody`), at the opening brace (`entered`, `listTail`), at the
items of the list (`openSt`, `Run`) and at the closing brace.  Nothing here mentions the reference.
-/

namespace CprocVerif.Init

def Push (st : St) (u : U) (t : Ty) (off : Nat) (st' : St) : Prop :=
  subobj (st.setSlot st.sub { st.obj st.sub with u := u }) t off = .ok st'

theorem subobj_eq {st st' : St} {t : Ty} {off : Nat} (e : subobj st t off = .ok st') :
    st.sub + 1 ≠ 32 ∧ st' = { st with sub := st.sub + 1, obj := fun j =>
      if j = st.sub + 1 then { st.obj (st.sub + 1) with ty := t, offset := off + (st.obj st.sub).offset, iscur := false }
      else (st.obj j) } := by
  unfold subobj at e
  split at e
  · cases e
  · rename_i hne
    cases e
    exact ⟨hne, rfl⟩

theorem push_ok {st st' : St} {u : U} {t : Ty} {off : Nat} (e : Push st u t off st') :
    st.sub + 1 ≠ 32 ∧ st' = { st with sub := st.sub + 1, obj := fun j =>
      if j = st.sub + 1 then { st.obj (st.sub + 1) with ty := t, offset := off + (st.obj st.sub).offset, iscur := false }
      else if j = st.sub then { st.obj st.sub with u := u } else st.obj j } := by
  obtain ⟨hne, rfl⟩ := subobj_eq e
  refine ⟨hne, ?_⟩
  simp only [St.setSlot]
  congr 1
  funext j
  by_cases h1 : j = st.sub + 1
  · subst h1; simp
  · by_cases h2 : j = st.sub
    · subst h2; simp
    · simp [h1, h2]

theorem focus_ok {st st' : St} (e : focus st = .ok st') :
    (∃ n el, (st.obj st.sub).ty = .array n el ∧
      Push (if st.tinc st.sub then { st with top := el.size } else st) (.idx 0) el 0 st') ∨
    (∃ iu tag size nm ty off b a next, (st.obj st.sub).ty = .agg iu tag size (.cons nm ty off b a next) ∧
      Push st (.mem (.cons nm ty off b a next)) ty off st') := by
  unfold focus at e
  dsimp only [] at e
  split at e
  · rename_i n el hty
    refine .inl ⟨n, el, hty, ?_⟩
    cases hc : st.tinc st.sub <;> rw [hc] at e <;> exact e
  · rename_i iu tag size nm ty off b a next hty
    exact .inr ⟨iu, tag, size, nm, ty, off, b, a, next, hty, e⟩
  · cases e
  · cases e

/-- the successful runs of `findMs name ms st` -/
inductive FindMs (name : String) : Members → St → St → Prop
  | here {ty off b a next st st'} : Push st (.mem (.cons (some name) ty off b a next)) ty off st' →
      FindMs name (.cons (some name) ty off b a next) st st'
  | skip {n ty off b a next st st'} : n ≠ name → FindMs name next st st' →
      FindMs name (.cons (some n) ty off b a next) st st'
  | inside {iu tag size ms off b a next st st1 st2} :
      Push st (.mem (.cons none (.agg iu tag size ms) off b a next)) (.agg iu tag size ms) off st1 →
      FindMs name ms st1 st2 → FindMs name (.cons none (.agg iu tag size ms) off b a next) st { st2 with anon := true }
  | pass {ty off b a next st st1 st'} : Push st (.mem (.cons none ty off b a next)) ty off st1 →
      findTy name ty st1 = .ok none → FindMs name next { st1 with sub := st1.sub - 1 } st' →
      FindMs name (.cons none ty off b a next) st st'

mutual
  theorem findTy_found (name : String) : ∀ (t : Ty) (st st' : St), findTy name t st = .ok (some st') →
      ∃ iu tag size ms, t = .agg iu tag size ms ∧ FindMs name ms st st'
    | .agg iu tag size ms, st, st', e => by
      rw [findTy] at e; exact ⟨iu, tag, size, ms, rfl, findMs_found name ms st st' e⟩
    | .scalar _ _, _, _, e => by simp [findTy] at e
    | .array _ _, _, _, e => by simp [findTy] at e
  theorem findMs_found (name : String) : ∀ (ms : Members) (st st' : St), findMs name ms st = .ok (some st') →
      FindMs name ms st st'
    | .nil, _, _, e => by rw [findMs] at e; cases e
    | .cons (some n) ty off b a next, st, st', e => by
      rw [findMs] at e
      split at e
      · rename_i hn
        subst hn
        dsimp only [] at e
        split at e
        · rename_i st1 hs; cases e; exact .here hs
        · cases e
      · exact .skip ‹_› (findMs_found name next st st' e)
    | .cons none ty off b a next, st, st', e => by
      rw [findMs] at e
      split at e
      · cases e
      · rename_i st1 hs
        split at e
        · cases e
        · rename_i st2 h2
          cases e
          obtain ⟨iu, tag, size, ms, rfl, hf⟩ := findTy_found name ty st1 st2 h2
          exact .inside hs hf
        · rename_i h2
          exact .pass hs h2 (findMs_found name next _ st' e)
end

theorem desigStep_ok {st st' : St} {d : Desig} (e : desigStep st d = .ok st') :
    (∃ k n el, d = .idx k ∧ (st.obj st.sub).ty = .array n el ∧
      ((k * el.size < st.tsize st.sub ∧ Push st (.idx (k * el.size)) el (k * el.size) st') ∨
       (st.tsize st.sub ≤ k * el.size ∧ st.tinc st.sub = true ∧
         Push { st with top := k * el.size + el.size } (.idx (k * el.size)) el (k * el.size) st'))) ∨
    (∃ name iu tag size ms, d = .fld name ∧ (st.obj st.sub).ty = .agg iu tag size ms ∧
      FindMs name ms st st') := by
  unfold desigStep at e
  dsimp only [] at e
  split at e
  · rename_i k n el hty
    refine .inl ⟨k, n, el, rfl, hty, ?_⟩
    split at e
    · rename_i hge
      split at e
      · cases e
      · rename_i hti; exact .inr ⟨hge, by simpa using hti, e⟩
    · rename_i hlt; exact .inl ⟨Nat.lt_of_not_le hlt, e⟩
  · cases e
  · rename_i name iu tag size ms hty
    split at e
    · cases e
    · rename_i st1 hf; cases e; exact .inr ⟨name, iu, tag, size, ms, rfl, hty, findMs_found name ms st st' hf⟩
    · cases e
  · cases e

/-- slot `k` has no further sub-object; `advance` leaves `u'` in it -/
inductive Used (st : St) (k : Nat) : U → Prop
  | array {n e i} : (st.obj k).ty = .array n e → (st.obj k).u = .idx i → i + e.size = st.tsize k → st.tinc k = false →
      Used st k (.idx (i + e.size))
  | struct {tag size ms nm t o b a} : (st.obj k).ty = .agg false tag size ms →
      (st.obj k).u = .mem (.cons nm t o b a .nil) → Used st k (.mem .nil)

/-- one round of a successful `advance`; `R` is what the remaining rounds do -/
inductive AdvStep (R : St → St → Prop) : St → St → Prop
  | elem {st st' n e i} : st.sub ≠ 0 → (st.obj (st.sub - 1)).ty = .array n e → (st.obj (st.sub - 1)).u = .idx i →
      i + e.size ≠ st.tsize (st.sub - 1) →
      Push { st with sub := st.sub - 1 } (.idx (i + e.size)) e (i + e.size) st' → AdvStep R st st'
  | grow {st st' n e i} : st.sub ≠ 0 → (st.obj (st.sub - 1)).ty = .array n e → (st.obj (st.sub - 1)).u = .idx i →
      i + e.size = st.tsize (st.sub - 1) → st.tinc (st.sub - 1) = true →
      Push { st with sub := st.sub - 1, top := st.top + e.size } (.idx (i + e.size)) e (i + e.size) st' → AdvStep R st st'
  | mem {st st' tag size ms nm0 t0 o0 b0 a0 nm t o b a nx} : st.sub ≠ 0 →
      (st.obj (st.sub - 1)).ty = .agg false tag size ms →
      (st.obj (st.sub - 1)).u = .mem (.cons nm0 t0 o0 b0 a0 (.cons nm t o b a nx)) →
      Push { st with sub := st.sub - 1 } (.mem (.cons nm t o b a nx)) t o st' → AdvStep R st st'
  | up {st st' u'} : st.sub ≠ 0 → some (st.sub - 1) ≠ st.cur → Used st (st.sub - 1) u' →
      R (({ st with sub := st.sub - 1 } : St).setSlot (st.sub - 1) { st.obj (st.sub - 1) with u := u' }) st' → AdvStep R st st'
  | over {st st'} : st.sub ≠ 0 → some (st.sub - 1) ≠ st.cur → (∀ n e, (st.obj (st.sub - 1)).ty ≠ .array n e) →
      (∀ tag size ms, (st.obj (st.sub - 1)).ty ≠ .agg false tag size ms) → R { st with sub := st.sub - 1 } st' → AdvStep R st st'

theorem advance_round {fuel : Nat} {st st' : St} (e : advance (fuel + 1) st = .ok st') :
    AdvStep (fun a b => advance fuel a = .ok b) st st' := by
  rw [advance] at e
  split at e
  · cases e
  · rename_i hs0
    dsimp only [] at e
    split at e
    · rename_i n es hty
      split at e
      · rename_i i hu
        split at e
        · rename_i heq
          split at e
          · rename_i hti
            split at e
            · cases e
            · rename_i hne
              exact .up hs0 hne (.array hty hu heq (show ({ st with sub := st.sub - 1 } : St).tinc _ = false by simpa using hti)) e
          · rename_i hti
            exact .grow hs0 hty hu heq (show ({ st with sub := st.sub - 1 } : St).tinc _ = true by simpa using hti) e
        · rename_i hne; exact .elem hs0 hty hu hne e
      · cases e
    · rename_i tag size ms hty
      split at e
      · rename_i n0 t0 o0 b0 a0 next hu
        split at e
        · exact .mem hs0 hty hu e
        · split at e
          · cases e
          · rename_i hne; exact .up hs0 hne (.struct hty hu) e
      · cases e
    · rename_i hna hns
      split at e
      · cases e
      · rename_i hne; exact .over hs0 hne (fun n e h => hna n e h) (fun t s m h => hns t s m h) e

theorem hit_state {st st1 : St} {e : Expr} {r : Hit} (he : hit st e = .ok (r, st1)) :
    st1 = st ∨ (st.tinc st.sub = true ∧ ∃ T, st1 = { st with top := T }) := by
  unfold hit at he
  repeat' (split at he)
  all_goals first
    | (cases he; done)
    | (cases he; exact .inl rfl)
    | (cases he; exact .inr ⟨‹_›, _, rfl⟩)

theorem closeBrace_flat {st : St} (hp : st.tinc (st.cur.getD 0) = false) :
    closeBrace st = { st with sub := st.cur.getD 0, cur := prevCur st (st.cur.getD 0) } := by
  unfold closeBrace
  have : ({ st with sub := st.cur.getD 0, cur := prevCur st (st.cur.getD 0) } : St).tinc (st.cur.getD 0) = false := hp
  simp only [this]
  rfl

theorem prevCur_lt (st : St) : ∀ (c k : Nat), prevCur st c = some k → k < c := by
  intro c
  induction c with
  | zero => intro k h; cases h
  | succ c ih =>
    intro k h
    rw [prevCur] at h
    split at h
    · cases h; omega
    · have := ih k h; omega

end CprocVerif.Init

namespace CprocVerif.InitSim
open CprocVerif.Init

theorem hit_scalar {st : St} {size : Nat} {k : SK} (hty : (st.obj st.sub).ty = .scalar size k) (e : Expr) :
    hit st e = match convScalar size k e with
      | some v => .ok (.add v, st)
      | none => .error (.diag "exprassign: incompatible initializer") := by
  unfold hit
  rw [hty]
  cases e <;> rfl

theorem hit_str {st : St} {n es cls : Nat} {sg : Bool} (hty : (st.obj st.sub).ty = .array n (.scalar es (.int cls sg)))
    (hi : st.tinc st.sub = false) (w scls : Nat) (cs : List Nat) :
    hit st (.str w scls cs) =
      if !(isChar cls && isChar scls) && cls ≠ scls then
        .error (.diag "cannot initialize array with string literal of different width")
      else .ok (.add (.str w cs), st) := by
  unfold hit
  rw [hty, hi]
  simp

theorem hit_aggeq {st : St} {u : Bool} {tag size : Nat} {ms : Members} (hty : (st.obj st.sub).ty = .agg u tag size ms) :
    hit st (.agg tag) = .ok (.add .other, st) := by
  unfold hit
  rw [hty]
  simp

theorem hit_elide {st : St} {e : Expr} (h : elides (st.obj st.sub).ty e = true) : hit st e = .ok (.down, st) := by
  unfold hit
  split
  · rename_i heq; rw [heq] at h; cases h
  · rfl
  · rename_i heq
    rw [heq] at h
    split
    · rename_i ht; subst ht; simp [elides] at h
    · rfl
  · rfl
  · rename_i heq; rw [heq] at h; cases h

/-- the expression branch of `parseItem` with the fuel of `placeExpr` as a parameter -/
def exprBody (pf : Nat) (st : St) (e : Expr) : Except Err St :=
  match placeExpr pf st e with
  | .error er => .error er
  | .ok st2 => .ok (if st2.tinc st2.sub then { st2 with inc := false } else st2)

theorem exprBody_zero (st : St) (e : Expr) (st' : St) : exprBody 0 st e ≠ .ok st' := by
  unfold exprBody; rw [placeExpr]; intro h; cases h

/-- the state after the `add:` label -/
def addSt (st : St) (b a : Nat) (v : Val) : St :=
  { st with
    il := st.il.add ⟨(st.obj st.sub).offset, (st.obj st.sub).offset + st.tsize st.sub, b, a, v⟩,
    log := st.log ++ [.add ⟨(st.obj st.sub).offset, (st.obj st.sub).offset + st.tsize st.sub, b, a, v⟩] }

theorem exprBody_down {st : St} {e : Expr} (pf : Nat) (hh : hit st e = .ok (.down, st)) :
    exprBody (pf + 1) st e = match focus st with
      | .error er => .error er
      | .ok st2 => exprBody pf st2 e := by
  unfold exprBody
  rw [placeExpr, hh]
  simp only []
  cases focus st <;> rfl

theorem exprBody_err {st : St} {e : Expr} {er : Err} (pf : Nat) (hh : hit st e = .error er) :
    exprBody (pf + 1) st e = .error er := by
  unfold exprBody
  rw [placeExpr, hh]

/-- the `if (p.cur == p.sub) { …; focus(&p); }` after an opening brace -/
def entered (st1 : St) : Except Err St :=
  if st1.cur = some st1.sub then
    match (st1.obj st1.sub).ty with
    | .scalar _ _ => .error (.diag "nested braces around scalar initializer")
    | .array _ _ => focus st1
    | .agg _ _ _ _ => .error (.undef "assert(p.cur->type->kind == TYPEARRAY)")
  else .ok st1

/-- the `if (p.cur == p.sub && p.cur->type->kind == TYPEARRAY) focus(&p);` of an empty list -/
def enteredE (st1 : St) : Except Err St :=
  if st1.cur = some st1.sub then
    match (st1.obj st1.sub).ty with
    | .array _ _ => focus st1
    | _ => .ok st1
  else .ok st1

/-- `p.cur = p.sub; p.cur->iscur = true;` -/
def openSt (st : St) : St :=
  ({ st with cur := some st.sub } : St).setSlot st.sub { st.obj st.sub with iscur := true }

def listBody (st2 : St) (its : Items) : Except Err St :=
  match parseItems (openSt st2) its with
  | .error er => .error er
  | .ok st4 => .ok (closeBrace st4)

/-- `parseItem` after `preStep` -/
def itemBody (st1 : St) : Ini → Except Err St
  | .expr e => exprBody 34 st1 e
  | .list .nil =>
    match enteredE (braceClear st1) with
    | .error er => .error er
    | .ok st2 =>
      if st2.tinc st2.sub then .error (.diag "array of unknown size has empty initializer") else .ok st2
  | .list (.cons ds1 i1 rest) =>
    match entered (braceClear st1) with
    | .error er => .error er
    | .ok st2 => listBody st2 (.cons ds1 i1 rest)

theorem parseItem_eq (st : St) (ds : List Desig) (i : Ini) :
    parseItem st ds i = match preStep st ds with
      | .error er => .error er
      | .ok st1 => itemBody st1 i := by
  cases i with
  | expr e =>
    rw [parseItem]
    cases preStep st ds with
    | error er => rfl
    | ok st1 =>
      simp only [itemBody, exprBody]
      cases placeExpr 34 st1 e <;> rfl
  | list its => cases its <;> rw [parseItem] <;> cases preStep st ds <;> rfl

def Run (st : St) (its : Items) (stf : St) : Prop := parseItems st its = .ok stf

theorem run_nil {st stf : St} (h : Run st .nil stf) : stf = st := by
  unfold Run at h; rw [parseItems] at h; cases h; rfl

theorem run_cons {st stf : St} {ds : List Desig} {i : Ini} {rest : Items} (h : Run st (.cons ds i rest) stf) :
    ∃ stp sta, preStep st ds = .ok stp ∧ itemBody stp i = .ok sta ∧ Run sta rest stf := by
  unfold Run at h
  rw [parseItems, parseItem_eq] at h
  cases hp : preStep st ds with
  | error er => rw [hp] at h; cases h
  | ok stp =>
    rw [hp] at h
    simp only [] at h
    cases hb : itemBody stp i with
    | error er => rw [hb] at h; cases h
    | ok sta => rw [hb] at h; exact ⟨stp, sta, rfl, hb, h⟩

theorem preStep_nocur {st : St} (h : st.cur = none) (ds : List Desig) : preStep st ds = .ok st := by
  unfold preStep; rw [h]

theorem preStep_desig {st : St} {c : Nat} (hc : st.cur = some c) (d : Desig) (ds : List Desig) :
    preStep st (d :: ds) = designator st (d :: ds) := by
  unfold preStep
  rw [hc]
  simp only [ne_eq, reduceCtorEq, not_false_eq_true, if_true]

theorem preStep_nil_adv {st : St} {c : Nat} (hc : st.cur = some c) (hs : st.sub ≠ c) :
    preStep st [] = advance 33 st := by
  unfold preStep
  rw [hc]
  simp only [ne_eq, not_true_eq_false, if_false, hs, not_false_eq_true, if_true]

/-- the first item of a list: only a struct or union is entered before the item is looked at -/
theorem preStep_nil_cur {st : St} {c : Nat} (hc : st.cur = some c) (hs : st.sub = c) :
    preStep st [] = match (st.obj c).ty with
      | .agg _ _ _ _ => focus st
      | _ => .ok st := by
  unfold preStep
  rw [hc]
  simp only [ne_eq, not_true_eq_false, if_false, hs]
  rfl

theorem preStep_nil_array {st : St} {c : Nat} {n : Nat} {e : Ty} (hc : st.cur = some c)
    (hs : st.sub = c) (hty : (st.obj c).ty = .array n e) : preStep st [] = .ok st := by
  rw [preStep_nil_cur hc hs, hty]

theorem braceClear_scalar {st : St} (hs : isScalarTy (st.obj st.sub).ty = true) : braceClear st = st := by
  unfold braceClear
  cases hty : (st.obj st.sub).ty with
  | scalar s k => simp [hty]
  | array n e => rw [hty] at hs; cases hs
  | agg u t s m => rw [hty] at hs; cases hs

theorem braceClear_nocur {st : St} (hc : st.cur = none) : braceClear st = st := by
  unfold braceClear
  simp [hc]

theorem braceClear_eq (st : St) : ∃ il log, braceClear st = { st with il := il, log := log } := by
  unfold braceClear
  dsimp only []
  split <;> (split; exact ⟨_, _, rfl⟩; exact ⟨st.il, st.log, rfl⟩)

theorem braceClear_fields (st : St) :
    (braceClear st).sub = st.sub ∧ (braceClear st).cur = st.cur ∧ (braceClear st).obj = st.obj ∧
    (braceClear st).top = st.top ∧ (braceClear st).inc = st.inc := by
  obtain ⟨il, log, h⟩ := braceClear_eq st
  rw [h]
  exact ⟨rfl, rfl, rfl, rfl, rfl⟩

/-- what follows `{` once the cursor stands at the object the list is for -/
def listTail (st2 : St) : Items → Except Err St
  | .nil => if st2.tinc st2.sub then .error (.diag "array of unknown size has empty initializer") else .ok st2
  | .cons ds i rest => listBody st2 (.cons ds i rest)

theorem itemBody_list_below {st : St} (h : st.cur ≠ some st.sub) (its : Items) :
    itemBody st (.list its) = listTail (braceClear st) its := by
  obtain ⟨hs, hc, _⟩ := braceClear_fields st
  cases its <;> simp only [itemBody, listTail, entered, enteredE, hs, hc, if_neg h]

theorem itemBody_list_array {st : St} {n : Nat} {e : Ty} (h : st.cur = some st.sub)
    (hty : (st.obj st.sub).ty = .array n e) (its : Items) :
    itemBody st (.list its) = match focus (braceClear st) with
      | .error er => .error er
      | .ok st2 => listTail st2 its := by
  obtain ⟨hs, hc, ho, _⟩ := braceClear_fields st
  cases its <;> simp only [itemBody, listTail, entered, enteredE, hs, hc, ho, hty, if_pos h] <;>
    cases focus (braceClear st) <;> rfl

theorem itemBody_list {st st' : St} {its : Items} (h : itemBody st (.list its) = .ok st') :
    (its = .nil ∧ enteredE (braceClear st) = .ok st' ∧ st'.tinc st'.sub = false) ∨
      ∃ st2 st4, entered (braceClear st) = .ok st2 ∧ Run (openSt st2) its st4 ∧ st' = closeBrace st4 := by
  cases its with
  | nil =>
    rw [itemBody] at h
    cases hen : enteredE (braceClear st) with
    | error er => rw [hen] at h; cases h
    | ok st2 =>
      rw [hen] at h
      simp only [] at h
      split at h
      · cases h
      · rename_i hti
        cases h
        exact .inl ⟨rfl, rfl, by simpa using hti⟩
  | cons ds1 i1 r1 =>
    rw [itemBody] at h
    cases hen : entered (braceClear st) with
    | error er => rw [hen] at h; cases h
    | ok st2 =>
      rw [hen] at h
      simp only [listBody] at h
      cases hpi : parseItems (openSt st2) (.cons ds1 i1 r1) with
      | error er => rw [hpi] at h; cases h
      | ok st4 =>
        rw [hpi] at h
        cases h
        exact .inr ⟨st2, st4, rfl, hpi, rfl⟩

theorem openSt_low (st : St) (j : Nat) (hj : j ≠ st.sub) : (openSt st).obj j = st.obj j := by
  simp [openSt, St.setSlot, hj]

theorem openSt_top (st : St) : (openSt st).obj st.sub = { st.obj st.sub with iscur := true } := by
  simp [openSt, St.setSlot]

/-- the state `parseinit` starts from; `inc` for `T a[] = …` -/
def st0 (t : Ty) (inc : Bool) : St := { obj := fun _ => { ty := t }, top := t.size, inc := inc }

theorem parseinit_item {t : Ty} {inc : Bool} {i : Ini} {st : St} (h : parseinit t inc i = .ok st) :
    itemBody (st0 t inc) i = .ok st := by
  have h' : parseItem (st0 t inc) [] i = .ok st := by
    unfold parseinit at h
    split at h
    · split at h
      · cases h
      · exact h
    · cases h
    · exact h
  rw [parseItem_eq, preStep_nocur (by rfl)] at h'
  exact h'

end CprocVerif.InitSim
