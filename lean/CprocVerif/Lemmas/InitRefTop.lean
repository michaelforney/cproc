import CprocVerif.Lemmas.InitRefSim

/-!
# `parseinit` refines `InitRef.ref` (no union member switch)

The root of the object: a list for a known size goes through `sim` at `initOne` (its clause for a list past its `{`:
there is no `cur` yet and nothing is cleared), a bare expression is one `add:`; for `T a[] = …` the closing brace clears
`inc`, so the list is taken from `sim` at `loopB` directly, and a string literal for `char a[]` gives the size by
itself (`str_unb`).
-/

namespace CprocVerif.InitSim
open CprocVerif.Init CprocVerif.Image CprocVerif.InitRef

theorem parseinit_unb_list {n : Nat} {e0 : Ty} {its : Items} {st : St}
    (h : parseinit (.array n e0) true (.list its) = .ok st) :
    ∃ st4, Run (openSt (st0 (.array n e0) true)) its st4 ∧ st.log = st4.log ∧ st.top = st4.top := by
  have hne : ¬ (st0 (.array n e0) true).cur = some (st0 (.array n e0) true).sub := fun h => by cases h
  rcases itemBody_list (parseinit_item h) with ⟨_, hen, hti⟩ | ⟨st2, st4, hen, hpi, rfl⟩
  · rw [braceClear_nocur (by rfl), enteredE, if_neg hne] at hen
    cases hen
    rw [tinc_zero (st := st0 (.array n e0) true) rfl rfl] at hti
    cases hti
  · rw [braceClear_nocur (by rfl), entered, if_neg hne] at hen
    cases hen
    refine ⟨st4, hpi, ?_⟩
    unfold closeBrace
    dsimp only []
    split <;> exact ⟨rfl, rfl⟩

theorem str_unb {s st' : St} {es cls : Nat} {sg : Bool} {w scls : Nat} {cs : List Nat} {f : Nat} {rst0 : RSt}
    {x : Items × RSt} (hs : s.sub = 0) (hinc : s.inc = true) (hty : (s.obj 0).ty = .array 0 (.scalar es (.int cls sg)))
    (hoff : (s.obj 0).offset = 0) (hlog : s.log = []) (hb : exprBody 34 s (.str w scls cs) = .ok st')
    (hr0 : rst0.log = []) (ht0 : rst0.top = 0)
    (hi : initOne f { ty := .array 0 (.scalar es (.int cls sg)), unb := true } (.expr (.str w scls cs)) .nil rst0 = .ok x) :
    st'.top = x.2.top ∧ ImgEq (st'.log.map evWrite) x.2.log := by
  unfold exprBody at hb
  rw [placeExpr] at hb
  have hh : hit s (.str w scls cs) =
      if !(isChar cls && isChar scls) && cls ≠ scls then
        .error (.diag "cannot initialize array with string literal of different width")
      else .ok (.add (.str w cs), { s with top := w * cs.length }) := by
    unfold hit
    rw [hs, hty, ← hs, tinc_zero hs hinc]
    rfl
  cases f with
  | zero => cases hi
  | succ f =>
    rw [initOne.eq_4 _ _ _ _ _ _ _ _ _ _ _ rfl] at hi
    rw [hh] at hb
    split at hi
    · cases hi
    · rename_i hbad
      rw [if_neg hbad] at hb
      have hcb : curBits ({ s with top := w * cs.length } : St) = .ok (0, 0) := by
        unfold curBits
        rw [if_pos hs]
      have hts : ({ s with top := w * cs.length } : St).tsize s.sub = w * cs.length := by
        unfold St.tsize; rw [if_pos hs]
      simp only [hcb, hts, if_true] at hb hi
      cases hi
      have : st'.top = w * cs.length ∧ st'.log = s.log ++ [.add ⟨(s.obj s.sub).offset, (s.obj s.sub).offset + w * cs.length, 0, 0, .str w cs⟩] := by
        split at hb <;> (cases hb; exact ⟨rfl, rfl⟩)
      rw [this.1, this.2, hlog, hs, hoff]
      refine ⟨?_, ?_⟩
      · show _ = max rst0.top _
        rw [ht0, Nat.zero_max]
      · show ImgEq _ (rst0.log ++ [_])
        rw [hr0]
        exact ImgEq.refl _

theorem refines {t : Ty} {inc : Bool} {i : Ini} {st : St} {r : Result} (hm : parseinit t inc i = .ok st)
    (hr : ref t inc i = .ok r) (hsw : r.nswitch = 0) (hwf : tyWfFor t inc = true) (htop : topOK t i = true) :
    st.top = r.size ∧ ImgEq (st.log.map evWrite) r.writes := by
  obtain ⟨rst, hi, hsz, hwr, hns⟩ := ref_ok hr
  rw [hsz, hwr]
  have hd := (ref_sound _).1 _ _ _ _ _ hi
  generalize 1000000 = fuel at hi
  cases inc with
  | false =>
    have hm' := parseinit_item hm
    have hw := pl0_wf (show tyWf t = true by simpa [tyWfFor] using hwf)
    have hp0 : Flat (st0 t false) (st0 t false).sub := ⟨rfl, rfl⟩
    have hc0 : CurOK (st0 t false) := fun j (hj : j < 0) => absurd hj (Nat.not_lt_zero j)
    have hs0 : SP (st0 t false) (st0 t false).sub { ty := t, unb := false } := ⟨rfl, rfl, rfl⟩
    cases i with
    | list its =>
      rw [itemBody_list_below (by intro h; cases h), braceClear_nocur rfl] at hm'
      have hz : ImgEq [] (if isScalarTy t then ({} : RSt).log else (zeroed {} { ty := t, unb := false }).log) := by
        rw [zeroed_log]
        split <;> exact ImgEq.refl _
      obtain ⟨r1, _, r2, _⟩ := (sim hd (by rw [← hns, hsw]) hw).2 its rfl _ _ (fun c hc => by cases hc)
        hp0 hc0 hs0 hz hm'
      exact ⟨r2.top, r1⟩
    | expr e =>
      obtain ⟨v, hrv, hh⟩ := initOne_leaf hw (by simpa [topOK] using htop) hi
      cases hrv
      obtain ⟨h1, _, _, h2⟩ := leaf_add (rest := .nil) (hh _ rfl hp0.tinc) hs0 hp0
        hc0 (rst := {}) (ImgEq.refl _) hm'
      exact ⟨h1.frame.top, h2⟩
  | true =>
    unfold tyWfFor at hwf
    simp only [if_true] at hwf
    split at hwf
    case h_2 => cases hwf
    rename_i e0
    simp only [Bool.and_eq_true, decide_eq_true_eq] at hwf
    cases i with
    | expr e =>
      have hb : exprBody 34 (st0 (.array 0 e0) true) e = .ok st := parseinit_item hm
      rcases array_expr 0 e0 e with ⟨es, cls, sg, w, scls, cs, rfl, rfl⟩ | he
      · exact str_unb (s := st0 _ true) rfl rfl rfl rfl rfl hb rfl rfl hi
      · rw [topOK, he] at htop; cases htop
    | list its =>
      obtain ⟨st4, hpi, hl, ht⟩ := parseinit_unb_list hm
      rw [hl, ht]
      cases hd with
      | list hbr =>
        have hz0 : (zeroed ({} : RSt) { ty := .array 0 e0, unb := true }).log = [] := by rw [zeroed_log]; rfl
        have hzt : (zeroed ({} : RSt) { ty := .array 0 e0, unb := true }).top = 0 := zeroed_top _ _
        have hs0 := openSt_top (st0 (.array 0 e0) true)
        cases hbr with
        | empty hsc => cases hsc
        | @whole _ e _ _ _ _ hel h1 =>
          cases h1 with
          | elide he' _ => rw [show elides (.array 0 e0) e = false from hel] at he'; cases he'
          | leaf _ hi' =>
          rcases array_expr 0 e0 e with ⟨es, cls, sg, w, scls, cs, rfl, rfl⟩ | he
          · obtain ⟨stp, sta, hpre, hbody, hrun2⟩ := run_cons hpi
            rw [preStep_nil_cur (c := 0) rfl rfl] at hpre
            cases hpre
            cases run_nil hrun2
            exact str_unb (s := openSt (st0 _ true)) rfl rfl (congrArg Slot.ty hs0) (congrArg Slot.offset hs0) rfl hbody hz0 hzt hi'
          · rw [show elides (.array 0 e0) e = false from hel] at he; cases he
        | items _ hlp =>
          have hU : PlWfU { ty := .array 0 e0, unb := true } 0 e0 := ⟨rfl, hwf.1, hwf.2, rfl⟩
          have h00 : (openSt (st0 (.array 0 e0) true)).top = 0 := Nat.zero_mul _
          obtain ⟨r1, _, _, _, _, r6⟩ := sim hlp (by rw [zeroed_nswitch, ← hns, hsw]) (.unb hU)
            (openSt (st0 (.array 0 e0) true)) st4 0
            ⟨rfl, openSt_curOK _, by unfold LogEq; rw [hz0]; exact ImgEq.refl _⟩
            (.unb hU rfl rfl (by rw [h00]; exact Whole.zero _)) (fun _ => h00.trans hzt.symm)
            (congrArg Slot.ty hs0) (congrArg Slot.offset hs0)
            (.first rfl (by rw [hz0]; exact ZeroReg.nil _ _) (fun _ => hz0)) hpi
          exact ⟨r6 rfl, r1⟩

/-- the form the statements of `Props/C07.lean` use -/
theorem refines_image {t : Ty} {inc : Bool} {i : Ini} {st : St} {r : Result} (hm : parseinit t inc i = .ok st)
    (hr : ref t inc i = .ok r) (hsw : r.nswitch = 0) (hwf : tyWfFor t inc = true) (htop : topOK t i = true) :
    st.top = r.size ∧ image st.top (st.log.map evWrite) = image r.size r.writes :=
  have ⟨h1, h2⟩ := refines hm hr hsw hwf htop
  ⟨h1, h1 ▸ h2.image _⟩

end CprocVerif.InitSim

namespace CprocVerif.C07
open CprocVerif.Init CprocVerif.Image
open CprocVerif.InitRef CprocVerif.InitSim

theorem topOK_of_fullyBraced {t : Ty} {i : Ini} (h : fullyBraced t i = true) : topOK t i = true := by
  cases i with
  | list its => rfl
  | expr e =>
    cases t with
    | scalar s k => simp [topOK, elides]
    | array n el =>
      cases el with
      | scalar s k =>
        cases k with
        | int c sg => cases e <;> simp_all [topOK, elides, fullyBraced]
        | _ => cases e <;> simp_all [fullyBraced]
      | _ => cases e <;> simp_all [fullyBraced]
    | agg u tag size ms => cases e <;> simp_all [topOK, elides, fullyBraced]

end CprocVerif.C07
