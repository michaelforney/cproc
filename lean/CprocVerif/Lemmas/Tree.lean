import CprocVerif.Model.Tree

/-!
# `treeinsert` keeps an AVL search tree; the comparison ladder finds the matching key

`ins_bst` and `ins_spec` (the loop-still-running flag of `ins` is exactly "the real height grew", which is
why leaving the ancestors above alone is sound); `avl_fib_aux` (an AVL tree of height `n` has at least
`fib (n + 2) - 1` nodes); `search` against membership when residues order the keys as the tree does (`MonoMod`).
-/

namespace CprocVerif.Tree
open T

def Avl : T → Prop
  | nil => True
  | node _ h l r => Avl l ∧ Avl r ∧ h = max (rh l) (rh r) + 1 ∧ rh l ≤ rh r + 1 ∧ rh r ≤ rh l + 1

def Bst : T → Prop
  | nil => True
  | node k _ l r => Bst l ∧ Bst r ∧ (∀ x ∈ toList l, x < k) ∧ (∀ x ∈ toList r, k < x)

theorem ht_eq_rh : ∀ t : T, Avl t → ht t = rh t
  | nil, _ => rfl
  | node _ _ _ _, h => h.2.2.1

/-! `mk k h d c o` has `child[d] = c` and `child[!d] = o`.  Every node has this form for either `d`,
so what `rot`, `balance` and `up` do is stated and proved once, with the direction a variable. -/

theorem node_eq_mk (k h : Nat) (l r : T) (d : Bool) :
    node k h l r = mk k h d (child (node k h l r) d) (child (node k h l r) (!d)) := by
  cases d <;> rfl

theorem eq_nil_or_mk (d : Bool) : ∀ t : T, t = nil ∨ ∃ k h c o, t = mk k h d c o
  | nil => Or.inl rfl
  | node k h l r => Or.inr ⟨k, h, _, _, node_eq_mk k h l r d⟩

@[simp] theorem ht_node (k h : Nat) (l r : T) : ht (node k h l r) = h := rfl

@[simp] theorem ht_mk (k h : Nat) (d : Bool) (c o : T) : ht (mk k h d c o) = h := by cases d <;> rfl

theorem rh_mk (k h : Nat) (d : Bool) (c o : T) : rh (mk k h d c o) = max (rh c) (rh o) + 1 := by
  cases d
  · rfl
  · exact congrArg (· + 1) (Nat.max_comm _ _)

theorem rot_double (dir : Bool) (kx hx a ky hy kz hz b c d) (h : ht d < hz) :
    rot (mk kx hx dir (mk ky hy dir d (mk kz hz dir c b)) a) dir
      = mk kz (hz+1) dir (mk ky hz dir d c) (mk kx hz dir b a) := by
  cases dir <;> simp [rot, child, mk, h]

theorem rot_single (dir : Bool) (kx hx a ky hy z d) (h : ¬ ht d < ht z) :
    rot (mk kx hx dir (mk ky hy dir d z) a) dir
      = mk ky (ht z+2) dir d (mk kx (ht z+1) dir z a) := by
  cases dir <;> simp [rot, child, mk, h]

theorem toList_rot (x : T) (dir : Bool) : toList (rot x dir) = toList x := by
  rcases eq_nil_or_mk dir x with rfl | ⟨kx, hx, y, a, rfl⟩
  · rfl
  · rcases eq_nil_or_mk dir y with rfl | ⟨ky, hy, d, z, rfl⟩
    · cases dir <;> rfl
    · by_cases hgt : ht d < ht z
      · rcases eq_nil_or_mk dir z with rfl | ⟨kz, hz, c, b, rfl⟩
        · exact absurd hgt (Nat.not_lt_zero _)
        · rw [rot_double dir _ _ _ _ _ _ _ _ _ _ (by simpa using hgt)]
          cases dir <;> simp [mk, toList]
      · rw [rot_single dir _ _ _ _ _ _ _ hgt]
        cases dir <;> simp [mk, toList]

theorem toList_balance (n : T) : toList (balance n).1 = toList n := by
  cases n with
  | nil => rfl
  | node k h l r =>
    simp only [balance]
    split
    · rfl
    · simp only [toList_rot]

theorem toList_up (n : T) (g nw : Bool) : toList (up n g nw).1 = toList n := by
  cases g <;> simp [up, toList_balance]

theorem up_new (n : T) (g nw : Bool) : (up n g nw).2.2 = nw := by
  cases g <;> rfl

theorem up_false (n : T) (nw : Bool) : up n false nw = (n, false, nw) := rfl

theorem bst_iff_sorted : ∀ t : T, Bst t ↔ (toList t).Pairwise (· < ·)
  | nil => by simp [Bst, toList]
  | node k h l r => by
    simp only [Bst, toList, List.pairwise_append, List.pairwise_cons, bst_iff_sorted l,
      bst_iff_sorted r, List.mem_cons]
    constructor
    · rintro ⟨hl, hr, h1, h2⟩
      exact ⟨hl, ⟨h2, hr⟩, fun a ha b hb =>
        hb.elim (· ▸ h1 a ha) fun hb => Nat.lt_trans (h1 a ha) (h2 b hb)⟩
    · rintro ⟨hl, ⟨h2, hr⟩, h3⟩
      exact ⟨hl, hr, fun a ha => h3 a ha k (Or.inl rfl), h2⟩

theorem bst_up (n : T) (g nw : Bool) : Bst (up n g nw).1 ↔ Bst n := by
  rw [bst_iff_sorted, bst_iff_sorted, toList_up]

theorem mem_node_of_lt {key k h : Nat} {l r : T} (hb : Bst (node k h l r)) (hlt : key < k) :
    key ∈ toList (node k h l r) ↔ key ∈ toList l := by
  have : key ∉ toList r := fun hm => Nat.lt_asymm hlt (hb.2.2.2 key hm)
  simp [toList, Nat.ne_of_lt hlt, this]

theorem mem_node_of_gt {key k h : Nat} {l r : T} (hb : Bst (node k h l r)) (hgt : k < key) :
    key ∈ toList (node k h l r) ↔ key ∈ toList r := by
  have : key ∉ toList l := fun hm => Nat.lt_asymm hgt (hb.2.2.1 key hm)
  simp [toList, Nat.ne_of_gt hgt, this]

theorem ins_self (k h : Nat) (l r : T) : ins (node k h l r) k = (node k h l r, false, false) := by
  rw [ins, if_pos rfl]

theorem ins_lt {key k : Nat} (hlt : key < k) (h : Nat) (l r : T) : ins (node k h l r) key =
    up (node k h (ins l key).1 r) (ins l key).2.1 (ins l key).2.2 := by
  rw [ins, if_neg (Nat.ne_of_lt hlt), if_neg (Nat.lt_asymm hlt)]

theorem ins_gt {key k : Nat} (hgt : k < key) (h : Nat) (l r : T) : ins (node k h l r) key =
    up (node k h l (ins r key).1) (ins r key).2.1 (ins r key).2.2 := by
  rw [ins, if_neg (Nat.ne_of_gt hgt), if_pos hgt]

theorem mem_ins (key x : Nat) : ∀ t : T, x ∈ toList (ins t key).1 ↔ x = key ∨ x ∈ toList t
  | nil => by simp [ins, toList]
  | node k h l r => by
    rcases Nat.lt_trichotomy key k with hlt | rfl | hgt
    · simp only [ins_lt hlt, toList_up, toList, List.mem_append, mem_ins key x l, or_assoc]
    · simp only [ins_self, toList, List.mem_append, List.mem_cons, or_left_comm, or_self_left]
    · simp only [ins_gt hgt, toList_up, toList, List.mem_append, List.mem_cons, mem_ins key x r,
        or_left_comm]

theorem ins_bst (key : Nat) : ∀ t : T, Bst t → Bst (ins t key).1
  | nil, _ => by simp [ins, Bst, toList]
  | node k h l r, ⟨hl, hr, h1, h2⟩ => by
    rcases Nat.lt_trichotomy key k with hlt | rfl | hgt
    · rw [ins_lt hlt, bst_up]
      exact ⟨ins_bst key l hl, hr, fun x hx => ((mem_ins key x l).1 hx).elim (· ▸ hlt) (h1 x), h2⟩
    · rw [ins_self]; exact ⟨hl, hr, h1, h2⟩
    · rw [ins_gt hgt, bst_up]
      exact ⟨hl, ins_bst key r hr, h1, fun x hx => ((mem_ins key x r).1 hx).elim (· ▸ hgt) (h2 x)⟩

theorem ins_new (key : Nat) : ∀ t : T, Bst t → ((ins t key).2.2 = true ↔ key ∉ toList t)
  | nil, _ => by simp [ins, toList]
  | node k h l r, hb => by
    rcases Nat.lt_trichotomy key k with hlt | rfl | hgt
    · rw [ins_lt hlt, up_new, ins_new key l hb.1, mem_node_of_lt hb hlt]
    · simp [ins_self, toList]
    · rw [ins_gt hgt, up_new, ins_new key r hb.2.1, mem_node_of_gt hb hgt]

theorem ins_dup (key : Nat) : ∀ t : T, Bst t → key ∈ toList t → ins t key = (t, false, false)
  | nil, _, hm => by simp [toList] at hm
  | node k h l r, hb, hm => by
    rcases Nat.lt_trichotomy key k with hlt | rfl | hgt
    · rw [ins_lt hlt, ins_dup key l hb.1 ((mem_node_of_lt hb hlt).1 hm), up_false]
    · exact ins_self ..
    · rw [ins_gt hgt, ins_dup key r hb.2.1 ((mem_node_of_gt hb hgt).1 hm), up_false]

/-! Heights are carried as numbers (`AvlH t n`) and the balance condition of a node as linear facts
(`Bal`), so that the arithmetic below never has to split on `max`. -/

/-- `p` and `q` are the heights of the subtrees of a balanced node of height `n + 1`. -/
structure Bal (n p q : Nat) : Prop where
  le₁ : p ≤ n
  le₂ : q ≤ n
  ge₁ : n ≤ p + 1
  ge₂ : n ≤ q + 1
  top : p = n ∨ q = n

theorem Bal.symm {n p q : Nat} (h : Bal n p q) : Bal n q p := ⟨h.le₂, h.le₁, h.ge₂, h.ge₁, h.top.symm⟩

theorem Bal.of_left {n q : Nat} (h1 : q ≤ n) (h2 : n ≤ q + 1) : Bal n n q :=
  ⟨Nat.le_refl _, h1, Nat.le_succ _, h2, .inl rfl⟩

theorem bal_iff {h p q : Nat} :
    (h = max p q + 1 ∧ p ≤ q + 1 ∧ q ≤ p + 1) ↔ ∃ n, h = n + 1 ∧ Bal n p q := by
  constructor
  · rintro ⟨rfl, h1, h2⟩
    refine ⟨_, rfl, Nat.le_max_left .., Nat.le_max_right .., Nat.max_le.2 ⟨Nat.le_succ _, h2⟩,
      Nat.max_le.2 ⟨h1, Nat.le_succ _⟩, ?_⟩
    rw [Nat.max_def]; split <;> simp
  · rintro ⟨n, rfl, h1, h2, h3, h4, h5⟩
    have e : max p q = n := Nat.le_antisymm (Nat.max_le.2 ⟨h1, h2⟩)
      (h5.elim (fun e => e ▸ Nat.le_max_left ..) (fun e => e ▸ Nat.le_max_right ..))
    exact ⟨by rw [e], Nat.le_trans h1 h4, Nat.le_trans h2 h3⟩

def AvlH (t : T) (n : Nat) : Prop := Avl t ∧ rh t = n

theorem AvlH.ht {t : T} {n : Nat} (h : AvlH t n) : ht t = n := (ht_eq_rh t h.1).trans h.2

theorem avl_mk (k h : Nat) (d : Bool) (c o : T) :
    Avl (mk k h d c o) ↔ Avl c ∧ Avl o ∧ h = max (rh c) (rh o) + 1 ∧ rh c ≤ rh o + 1 ∧ rh o ≤ rh c + 1 := by
  cases d
  · exact Iff.rfl
  · show Avl o ∧ Avl c ∧ h = max (rh o) (rh c) + 1 ∧ rh o ≤ rh c + 1 ∧ rh c ≤ rh o + 1 ↔ _
    rw [Nat.max_comm]
    exact ⟨fun ⟨a, b, e, l, u⟩ => ⟨b, a, e, u, l⟩, fun ⟨a, b, e, l, u⟩ => ⟨b, a, e, u, l⟩⟩

theorem avlH_mk {k n p q : Nat} {d : Bool} {c o : T} (hc : AvlH c p) (ho : AvlH o q)
    (hb : Bal n p q) : AvlH (mk k (n + 1) d c o) (n + 1) := by
  obtain ⟨hc, rfl⟩ := hc
  obtain ⟨ho, rfl⟩ := ho
  have hh := bal_iff.2 ⟨n, rfl, hb⟩
  exact ⟨(avl_mk ..).2 ⟨hc, ho, hh⟩, (rh_mk ..).trans hh.1.symm⟩

theorem avlH_of_mk {k h m : Nat} {d : Bool} {c o : T} (hm : AvlH (mk k h d c o) m) :
    ∃ n p q, m = n + 1 ∧ h = n + 1 ∧ AvlH c p ∧ AvlH o q ∧ Bal n p q := by
  obtain ⟨ha, rfl⟩ := hm
  obtain ⟨hc, ho, hh⟩ := (avl_mk ..).1 ha
  obtain ⟨n, rfl, hb⟩ := bal_iff.1 hh
  exact ⟨n, _, _, (rh_mk ..).trans hh.1.symm, rfl, ⟨hc, rfl⟩, ⟨ho, rfl⟩, hb⟩

/-- The rotation `balance` asks for: `y`, on side `dir`, is two higher than the sibling `a`.  The height stays
`n + 3` only in the single rotation with both subtrees of `y` equally high. -/
theorem rot_avl (dir : Bool) (kx hx : Nat) {a y : T} {n : Nat} (ha : AvlH a n) (hy : AvlH y (n + 2)) :
    ∃ m, AvlH (rot (mk kx hx dir y a) dir) m ∧ n + 2 ≤ m ∧ m ≤ n + 3 := by
  rcases eq_nil_or_mk dir y with rfl | ⟨ky, hyv, d, z, rfl⟩
  · cases hy.2
  · obtain ⟨_, p, q, e, -, hd, hz, hby⟩ := avlH_of_mk hy
    cases Nat.succ.inj e
    by_cases hgt : ht d < ht z
    · rcases eq_nil_or_mk dir z with rfl | ⟨kz, hzv, c, b, rfl⟩
      · exact absurd hgt (Nat.not_lt_zero _)
      · obtain ⟨m, pc, pb, rfl, rfl, hc, hb, hbz⟩ := avlH_of_mk hz
        rw [ht_mk] at hgt
        rw [rot_double dir _ _ _ _ _ _ _ _ _ _ hgt]
        rw [hd.ht] at hgt
        obtain ⟨rfl, rfl⟩ : m = n ∧ p = n := by
          have := hby.le₂; have := hby.ge₁; omega
        exact ⟨_, avlH_mk (avlH_mk hd hc (.of_left hbz.le₁ hbz.ge₁))
          (avlH_mk hb ha (Bal.of_left hbz.le₂ hbz.ge₂).symm)
          (.of_left (Nat.le_refl _) (Nat.le_succ _)), Nat.le_refl _, Nat.le_succ _⟩
    · rw [rot_single dir _ _ _ _ _ _ _ hgt, hz.ht]
      rw [hd.ht, hz.ht] at hgt
      obtain ⟨h1, h2, h3, h4, h5⟩ := hby
      obtain rfl : p = n + 1 := by omega
      exact ⟨q + 2, avlH_mk hd (avlH_mk hz ha (.of_left (Nat.le_of_succ_le_succ h4) h2))
        (Bal.of_left h4 (Nat.succ_le_succ h2)).symm, by omega, by omega⟩

theorem balance_mk (k h : Nat) (d : Bool) {c o : T} (h1 : ht o ≤ ht c) :
    balance (mk k h d c o) =
      if ht c ≤ ht o + 1 then (mk k (ht c + 1) d c o, ht c + 1 != h)
      else (rot (mk k h d c o) d, ht (rot (mk k h d c o) d) != h) := by
  cases d
  · simp only [balance, mk, Nat.not_lt.2 h1, Nat.le_succ_of_le h1, and_true, if_false, decide_false,
      Bool.false_eq_true]
  · have e : (if ht o < ht c then ht c else ht o) = ht c := by split <;> omega
    by_cases h2 : ht c ≤ ht o + 1
    · simp only [balance, mk, Nat.le_succ_of_le h1, h2, e, and_self, if_true]
    · simp only [balance, mk, h2, and_false, if_false, if_true, decide_eq_true (Nat.lt_of_succ_lt (Nat.not_le.1 h2))]

/-- `c` is the higher child; `h` is the stale stored height, arbitrary. -/
theorem balance_spec (k h : Nat) (d : Bool) {c o : T} {p q : Nat} (hc : AvlH c p) (ho : AvlH o q)
    (h1 : q ≤ p) (h2 : p ≤ q + 2) :
    ∃ m, AvlH (balance (mk k h d c o)).1 m ∧ (balance (mk k h d c o)).2 = (m != h) ∧
      p ≤ m ∧ m ≤ p + 1 ∧ (p ≤ q + 1 → m = p + 1) := by
  rw [balance_mk k h d (by rw [hc.ht, ho.ht]; exact h1), hc.ht, ho.ht]
  by_cases hb : p ≤ q + 1
  · rw [if_pos hb]
    exact ⟨p + 1, avlH_mk hc ho (.of_left h1 hb), rfl,
      Nat.le_succ _, Nat.le_refl _, fun _ => rfl⟩
  · rw [if_neg hb]
    obtain rfl : p = q + 2 := by omega
    obtain ⟨m, hm, l, u⟩ := rot_avl d k h ho hc
    exact ⟨m, hm, by rw [hm.ht], l, u, fun h => absurd h hb⟩

/-- `c` is the child the insertion went into, `g` the flag that came up from it: `c` was `p` high before the
insertion and is `p + g.toNat` high after it; the stored `n + 1` and the sibling `o` are those of before. -/
theorem up_spec (k : Nat) (d : Bool) (nw : Bool) {c o : T} {n p q : Nat} {g : Bool}
    (hc : AvlH c (p + g.toNat)) (ho : AvlH o q) (hb : Bal n p q) :
    AvlH (up (mk k (n + 1) d c o) g nw).1 (n + 1 + (up (mk k (n + 1) d c o) g nw).2.1.toNat) := by
  cases g
  · exact avlH_mk hc ho hb
  · obtain ⟨h1, h2, h3, h4, h5⟩ := hb
    have hc : AvlH c (p + 1) := hc
    obtain ⟨m, hm, hf, l, u, e⟩ := balance_spec k (n + 1) d hc ho (by omega) (by omega)
    simp only [up, if_true, hf]
    by_cases e' : m = n + 1
    · simpa [e'] using hm
    · have : (m != n + 1) = true := by simpa using e'
      rw [this, Bool.toNat_true]
      obtain rfl : m = n + 1 + 1 := by omega
      exact hm

theorem ins_spec (key : Nat) : ∀ (t : T) (n : Nat), AvlH t n →
    AvlH (ins t key).1 (n + (ins t key).2.1.toNat)
  | nil, _, ⟨_, rfl⟩ => avlH_mk (k := key) (d := false) ⟨trivial, rfl⟩ ⟨trivial, rfl⟩
      (.of_left (Nat.le_refl _) (Nat.le_succ _))
  | node k h l r, m, hm => by
    obtain ⟨n, p, q, rfl, rfl, hl, hr, hb⟩ := avlH_of_mk (d := false) hm
    rcases Nat.lt_trichotomy key k with hlt | rfl | hgt
    · rw [ins_lt hlt]; exact up_spec k false _ (ins_spec key l p hl) hr hb
    · rw [ins_self]; exact hm
    · rw [ins_gt hgt]; exact up_spec k true _ (ins_spec key r q hr) hl hb.symm

theorem foldl_inv (ks : List Nat) : ∀ t : T, Avl t → Bst t →
    Avl (ks.foldl insert t) ∧ Bst (ks.foldl insert t) := by
  induction ks with
  | nil => intro t ha hb; exact ⟨ha, hb⟩
  | cons k ks ih =>
    intro t ha hb
    exact ih (insert t k) (ins_spec k t _ ⟨ha, rfl⟩).1 (ins_bst k t hb)

theorem foldl_mem (x : Nat) (ks : List Nat) : ∀ t : T,
    x ∈ toList (ks.foldl insert t) ↔ x ∈ ks ∨ x ∈ toList t := by
  induction ks with
  | nil => intro t; simp
  | cons k ks ih =>
    intro t
    simp only [List.foldl_cons, ih, insert, mem_ins, List.mem_cons, or_assoc, or_left_comm]

theorem checkAvl_iff : ∀ t : T, checkAvl t = true ↔ Avl t
  | nil => by simp [checkAvl, Avl]
  | node k h l r => by
    simp only [checkAvl, Avl, Bool.and_eq_true, beq_iff_eq, decide_eq_true_eq, checkAvl_iff l,
      checkAvl_iff r, and_assoc]

theorem checkBst_iff : ∀ t : T, checkBst t = true ↔ Bst t
  | nil => by simp [checkBst, Bst]
  | node k h l r => by
    simp only [checkBst, Bst, Bool.and_eq_true, List.all_eq_true, decide_eq_true_eq, checkBst_iff l,
      checkBst_iff r, and_assoc]

instance (t : T) : Decidable (Avl t) := decidable_of_iff _ (checkAvl_iff t)
instance (t : T) : Decidable (Bst t) := decidable_of_iff _ (checkBst_iff t)

/-- `(fib n, fib (n+1))`, linear-time so that `fib 94` evaluates in the kernel. -/
def fibPair : Nat → Nat × Nat
  | 0 => (0, 1)
  | n + 1 => ((fibPair n).2, (fibPair n).1 + (fibPair n).2)

def fib (n : Nat) : Nat := (fibPair n).1

@[simp] theorem fib_zero : fib 0 = 0 := rfl
@[simp] theorem fib_one : fib 1 = 1 := rfl
theorem fib_add_two (n : Nat) : fib (n + 2) = fib n + fib (n + 1) := by
  simp [fib, fibPair]

theorem fib_le_succ : ∀ n, fib n ≤ fib (n + 1)
  | 0 => by simp
  | n + 1 => by rw [fib_add_two]; omega

theorem fib_mono {m n : Nat} (h : m ≤ n) : fib m ≤ fib n := by
  induction h with
  | refl => exact Nat.le_refl _
  | step _ ih => exact Nat.le_trans ih (fib_le_succ _)

theorem avl_fib_aux : ∀ (t : T) (n : Nat), AvlH t n → fib (n + 2) ≤ size t + 1
  | nil, _, ⟨_, rfl⟩ => Nat.le_refl 1
  | node k h l r, m, hm => by
    obtain ⟨n, p, q, rfl, -, hl, hr, -, -, h3, h4, h5⟩ := avlH_of_mk (d := false) hm
    have il := avl_fib_aux l p hl
    have ir := avl_fib_aux r q hr
    rw [show fib (n + 1 + 2) = fib (n + 1) + fib (n + 2) from fib_add_two (n + 1), size]
    rcases h5 with rfl | rfl
    · have := fib_mono (m := p + 1) (n := q + 2) (Nat.succ_le_succ h4); omega
    · have := fib_mono (m := q + 1) (n := p + 2) (Nat.succ_le_succ h3); omega

theorem two_pow_le_fib : ∀ n, 2 ^ (n / 2) ≤ fib (n + 2)
  | 0 => by simp [fib_add_two]
  | 1 => by simp [fib_add_two]
  | n + 2 => by
    have ih := two_pow_le_fib n
    have e : (n + 2) / 2 = n / 2 + 1 := by omega
    rw [e, Nat.pow_succ, fib_add_two (n + 2)]
    have : fib (n + 2) ≤ fib (n + 2 + 1) := fib_le_succ _
    omega

def MonoMod (m : Nat) (t : T) : Prop :=
  ∀ a ∈ toList t, ∀ b ∈ toList t, (a < b ↔ a % m < b % m)

/-- "Canonical keys" for a class-`w` ladder: comparing the low 32 bits orders the keys like the
tree does.  Holds when all keys are zero-extensions, or all are sign-extensions, of 32-bit
values. -/
def MonoLow (t : T) : Prop :=
  ∀ a ∈ toList t, ∀ b ∈ toList t, (a < b ↔ a % 2 ^ 32 < b % 2 ^ 32)

instance (t : T) : Decidable (MonoLow t) := by unfold MonoLow; exact inferInstance

theorem modulus_true : modulus true = 2 ^ 32 := rfl
theorem modulus_false : modulus false = 2 ^ 64 := rfl

theorem monoLow_iff_monoMod (t : T) : MonoLow t ↔ MonoMod (modulus true) t := Iff.rfl

theorem monoMod_of_lt {m : Nat} {t : T} (h : ∀ k ∈ toList t, k < m) : MonoMod m t := by
  intro a ha b hb
  rw [Nat.mod_eq_of_lt (h a ha), Nat.mod_eq_of_lt (h b hb)]

theorem search_sound {w : Bool} {v k : Nat} : ∀ {t : T}, search w t v = some k →
    k ∈ toList t ∧ k % modulus w = v % modulus w
  | nil, hs => by cases hs
  | node k0 h l r, hs => by
    rw [search] at hs
    rw [toList, List.mem_append, List.mem_cons]
    split at hs
    · cases hs; exact ⟨.inr (.inl rfl), Eq.symm ‹_›⟩
    · split at hs
      · exact ⟨.inl (search_sound hs).1, (search_sound hs).2⟩
      · exact ⟨.inr (.inr (search_sound hs).1), (search_sound hs).2⟩

theorem search_complete {w : Bool} {v k : Nat} (e : k % modulus w = v % modulus w) :
    ∀ {t : T}, Bst t → MonoMod (modulus w) t → k ∈ toList t → search w t v = some k
  | node k0 h l r, hb, hm, hk => by
    have ml : ∀ a ∈ toList l, a ∈ toList (node k0 h l r) := fun a ha => by simp [toList, ha]
    have mr : ∀ a ∈ toList r, a ∈ toList (node k0 h l r) := fun a ha => by simp [toList, ha]
    have m0 : k0 ∈ toList (node k0 h l r) := by simp [toList]
    rw [search]
    rcases Nat.lt_trichotomy k k0 with hlt | rfl | hgt
    · have := (hm k hk k0 m0).1 hlt
      rw [if_neg (by omega), if_pos (by omega)]
      exact search_complete e hb.1 (fun a ha b hb' => hm a (ml a ha) b (ml b hb'))
        ((mem_node_of_lt hb hlt).1 hk)
    · rw [if_pos e.symm]
    · have := (hm k0 m0 k hk).1 hgt
      rw [if_neg (by omega), if_neg (by omega)]
      exact search_complete e hb.2.1 (fun a ha b hb' => hm a (mr a ha) b (mr b hb'))
        ((mem_node_of_gt hb hgt).1 hk)

theorem search_some_iff {w : Bool} {v k : Nat} {t : T} (hb : Bst t) (hm : MonoMod (modulus w) t) :
    search w t v = some k ↔ k ∈ toList t ∧ k % modulus w = v % modulus w :=
  ⟨search_sound, fun ⟨hk, e⟩ => search_complete e hb hm hk⟩

theorem search_none_iff {w : Bool} {t : T} {v : Nat} (h : Bst t) (hm : MonoMod (modulus w) t) :
    search w t v = none ↔ ∀ k ∈ toList t, k % modulus w ≠ v % modulus w := by
  simp only [Option.eq_none_iff_forall_ne_some, ne_eq, search_some_iff h hm, not_and]

theorem caseKey_four (s : Bool) (i : Nat) : caseKey 4 s i =
    if s && decide (2 ^ 31 ≤ i % 2 ^ 32) then i % 2 ^ 32 + (2 ^ 64 - 2 ^ 32) else i % 2 ^ 32 := rfl

theorem caseKey_eight (s : Bool) (i : Nat) : caseKey 8 s i = i % 2 ^ 64 := rfl

theorem caseKey_four_low (s : Bool) (i : Nat) : caseKey 4 s i % 2 ^ 32 = i % 2 ^ 32 := by
  rw [caseKey_four]
  split
  · rw [show (2 : Nat) ^ 64 - 2 ^ 32 = 2 ^ 32 * (2 ^ 32 - 1) by decide, Nat.add_mul_mod_self_left,
      Nat.mod_mod]
  · exact Nat.mod_mod ..

theorem caseKey_four_eq_iff (s : Bool) (a b : Nat) :
    caseKey 4 s a = caseKey 4 s b ↔ a % 2 ^ 32 = b % 2 ^ 32 := by
  constructor
  · intro h
    have := congrArg (· % 2 ^ 32) h
    simpa only [caseKey_four_low] using this
  · intro h; simp only [caseKey_four, h]

end CprocVerif.Tree
