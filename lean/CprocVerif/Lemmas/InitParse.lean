import CprocVerif.Lemmas.InitMach

/-!
# The cursor machine of `parseinit`: the `obj[32]` bound, and the rule for invariants

`Keeps P D E`: a property `P` of the state that the primitives keep — designators under the hypothesis `D`,
expressions under `E` — is kept by `parseinit` on every initialiser whose designator lists satisfy `D` and
whose expressions satisfy `E` (`IniAll`).  The bound here, the offsets (`Lemmas/InitParseInside.lean`) and the
geometry (`Lemmas/InitGeoKeeps.lean`) are instances.
-/

namespace CprocVerif.Init

/-- indices used with `obj[]` are inside the array -/
def Bnd (st : St) : Prop := st.sub < 32 ∧ ∀ c, st.cur = some c → c < 32

theorem Bnd.cur_lt {st : St} (h : Bnd st) : st.cur.getD 0 < 32 := by
  cases hc : st.cur with
  | none => simp
  | some c => simpa using h.2 c hc

theorem bnd_setSlot {st : St} {k : Nat} {s : Slot} (h : Bnd st) : Bnd (st.setSlot k s) := h

theorem subobj_bnd {st st' : St} {t : Ty} {off : Nat} (h : Bnd st) (e : subobj st t off = .ok st') : Bnd st' := by
  obtain ⟨hne, rfl⟩ := subobj_eq e
  exact ⟨by show st.sub + 1 < 32; have := h.1; omega, h.2⟩

/-- closes the leaves after splitting an equation `e : f … = .ok st'` -/
macro "leaf" e:ident h:ident : tactic =>
  `(tactic| first
    | (cases $e:ident; done)
    | (refine subobj_bnd ?_ $e:ident; exact $h:ident)
    | (cases $e:ident; exact $h:ident))

theorem subobj_sub {st st' : St} {t : Ty} {off : Nat} (e : subobj st t off = .ok st') :
    st'.sub = st.sub + 1 ∧ st'.cur = st.cur := by
  obtain ⟨_, rfl⟩ := subobj_eq e
  exact ⟨rfl, rfl⟩

theorem Bnd.push {st st' : St} {u : U} {t : Ty} {off : Nat} (h : Bnd st) (e : Push st u t off st') : Bnd st' :=
  subobj_bnd (bnd_setSlot h) e

theorem Bnd.pop {st : St} (h : Bnd st) : Bnd { st with sub := st.sub - 1 } :=
  ⟨Nat.lt_of_le_of_lt (Nat.sub_le _ _) h.1, h.2⟩

theorem Bnd.setTop {st : St} (h : Bnd st) (T : Nat) : Bnd { st with top := T } := h

theorem FindMs.bnd {name : String} {ms : Members} {st st' : St} (hf : FindMs name ms st st') (h : Bnd st) : Bnd st' := by
  induction hf with
  | here hp => exact h.push hp
  | skip _ _ ih => exact ih h
  | inside hp _ ih => exact ih (h.push hp)
  | pass hp _ _ ih => exact ih (h.push hp).pop

theorem findTy_bnd (name : String) : ∀ (t : Ty) (st st' : St), Bnd st → findTy name t st = .ok (some st') → Bnd st' :=
  fun t st st' h e => by
    obtain ⟨_, _, _, _, _, hf⟩ := findTy_found name t st st' e
    exact hf.bnd h

theorem desigStep_bnd {st st' : St} {d : Desig} (h : Bnd st) (e : desigStep st d = .ok st') : Bnd st' := by
  rcases desigStep_ok e with ⟨_, _, _, _, _, ⟨_, hp⟩ | ⟨_, _, hp⟩⟩ | ⟨_, _, _, _, _, _, _, hf⟩
  · exact h.push hp
  · exact (h.setTop _).push hp
  · exact hf.bnd h

theorem foldlM_desigStep {P : St → Prop} : ∀ {ds : List Desig},
    (∀ {st st' d}, d ∈ ds → P st → desigStep st d = .ok st' → P st') →
    ∀ {st st' : St}, P st → ds.foldlM desigStep st = .ok st' → P st'
  | [], _, st, st', h, e => by cases e; exact h
  | d :: ds, hstep, st, st', h, e => by
    rw [List.foldlM_cons] at e
    cases hd : desigStep st d with
    | error er => rw [hd] at e; cases e
    | ok st1 =>
      rw [hd] at e
      exact foldlM_desigStep (fun hm => hstep (List.mem_cons_of_mem _ hm)) (hstep List.mem_cons_self h hd) e

theorem designator_bnd {st st' : St} {ds : List Desig} (h : Bnd st) (e : designator st ds = .ok st') : Bnd st' := by
  unfold designator at e
  refine foldlM_desigStep (fun _ => desigStep_bnd) ?_ e
  exact ⟨h.cur_lt, h.2⟩

theorem focus_bnd {st st' : St} (h : Bnd st) (e : focus st = .ok st') : Bnd st' := by
  rcases focus_ok e with ⟨_, _, _, hp⟩ | ⟨_, _, _, _, _, _, _, _, _, _, hp⟩
  · refine Bnd.push ?_ hp; split <;> exact h
  · exact h.push hp

theorem AdvStep.bnd {R : St → St → Prop} {st st' : St} (ha : AdvStep R st st') (ih : ∀ a, R a st' → Bnd a → Bnd st')
    (h : Bnd st) : Bnd st' := by
  cases ha with
  | elem _ _ _ _ hp => exact h.pop.push hp
  | grow _ _ _ _ _ hp => exact (h.pop.setTop _).push hp
  | mem _ _ _ hp => exact h.pop.push hp
  | up _ _ _ hr => exact ih _ hr h.pop
  | over _ _ _ _ hr => exact ih _ hr h.pop

theorem advance_bnd {fuel : Nat} : ∀ {st st' : St}, Bnd st → advance fuel st = .ok st' → Bnd st' := by
  induction fuel with
  | zero => intro st st' _ e; cases e
  | succ fuel ih => intro st st' h e; exact (advance_round e).bnd (fun _ ha hb => ih hb ha) h

theorem closeBrace_bnd {st : St} (h : Bnd st) : Bnd (closeBrace st) := by
  have hb : Bnd { st with sub := st.cur.getD 0, cur := prevCur st (st.cur.getD 0) } :=
    ⟨h.cur_lt, fun k hk => Nat.lt_trans (prevCur_lt st _ k hk) h.cur_lt⟩
  unfold closeBrace
  dsimp only []
  split
  · exact hb
  · exact hb

theorem braceClear_bnd {st : St} (h : Bnd st) : Bnd (braceClear st) := by
  unfold braceClear
  dsimp only []
  repeat' split
  all_goals exact h

mutual
  def IniAll (D : List Desig → Prop) (E : Expr → Prop) : Ini → Prop
    | .expr e => E e
    | .list its => ItemsAll D E its
  def ItemsAll (D : List Desig → Prop) (E : Expr → Prop) : Items → Prop
    | .nil => True
    | .cons ds i rest => D ds ∧ IniAll D E i ∧ ItemsAll D E rest
end

mutual
  theorem iniAll_of_forall {D : List Desig → Prop} {E : Expr → Prop} (hD : ∀ ds, D ds) (hE : ∀ e, E e) :
      ∀ i, IniAll D E i
    | .expr e => by simp only [IniAll]; exact hE e
    | .list its => by simp only [IniAll]; exact itemsAll_of_forall hD hE its
  theorem itemsAll_of_forall {D : List Desig → Prop} {E : Expr → Prop} (hD : ∀ ds, D ds) (hE : ∀ e, E e) :
      ∀ its, ItemsAll D E its
    | .nil => by simp only [ItemsAll]
    | .cons ds i rest => by
      simp only [ItemsAll]; exact ⟨hD ds, iniAll_of_forall hD hE i, itemsAll_of_forall hD hE rest⟩
end

/-- `preStep`, `placeExpr`, `itemBody` and `parseItems` only combine the primitives below.  The rule for `add:`
(`place`) is given the `hit` and the `curBits` that produced the value and the bit-field positions. -/
structure Keeps (P : St → Prop) (D : List Desig → Prop) (E : Expr → Prop) : Prop where
  focus : ∀ {st st'}, P st → focus st = .ok st' → P st'
  designator : ∀ {st st' ds}, P st → D ds → designator st ds = .ok st' → P st'
  advance : ∀ {st st' c}, P st → st.cur = some c → st.sub ≠ c → advance 33 st = .ok st' → P st'
  down : ∀ {st st1 e}, P st → hit st e = .ok (.down, st1) → P st1
  place : ∀ {st st1 e v b a}, P st → E e → hit st e = .ok (.add v, st1) → curBits st1 = .ok (b, a) →
    P (InitSim.addSt st1 b a v)
  braceClear : ∀ {st}, P st → P (braceClear st)
  closeBrace : ∀ {st}, P st → P (closeBrace st)
  complete : ∀ {st}, P st → P { st with inc := false }
  openSt : ∀ {st}, P st → P (InitSim.openSt st)

namespace Keeps
variable {P : St → Prop} {D : List Desig → Prop} {E : Expr → Prop}

theorem preStep (k : Keeps P D E) {st st' : St} {ds : List Desig} (h : P st) (hd : D ds)
    (e : preStep st ds = .ok st') : P st' := by
  unfold Init.preStep at e
  split at e
  · cases e; exact h
  · rename_i c hc
    split at e
    · exact k.designator h hd e
    · split at e
      · exact k.advance h hc ‹_› e
      · split at e
        · exact k.focus h e
        · cases e; exact h

theorem placeExpr (k : Keeps P D E) {fuel : Nat} : ∀ {st st' : St} {e : Expr}, P st → E e →
    placeExpr fuel st e = .ok st' → P st' := by
  induction fuel with
  | zero => intro st st' e _ _ he; cases he
  | succ fuel ih =>
    intro st st' e h hE he
    rw [Init.placeExpr] at he
    split at he
    · cases he
    · rename_i st1 hh
      split at he
      · cases he
      · rename_i st2 hf
        exact ih (k.focus (k.down h hh) hf) hE he
    · rename_i v st1 hh
      split at he
      · cases he
      · rename_i b a hb
        cases he; exact k.place h hE hh hb

theorem exprBody (k : Keeps P D E) {pf : Nat} {st st' : St} {e : Expr} (h : P st) (hE : E e)
    (he : InitSim.exprBody pf st e = .ok st') : P st' := by
  unfold InitSim.exprBody at he
  split at he
  · cases he
  · rename_i st2 h2
    cases he
    have := k.placeExpr h hE h2
    split
    · exact k.complete this
    · exact this

theorem entered (k : Keeps P D E) {st st' : St} (h : P st)
    (e : InitSim.entered st = .ok st' ∨ InitSim.enteredE st = .ok st') : P st' := by
  unfold InitSim.entered InitSim.enteredE at e
  rcases e with e | e <;> split at e
  · split at e
    · cases e
    · exact k.focus h e
    · cases e
  · cases e; exact h
  · split at e
    · exact k.focus h e
    · cases e; exact h
  · cases e; exact h

mutual
  theorem itemBody (k : Keeps P D E) : ∀ (i : Ini) (st st' : St), P st → IniAll D E i →
      InitSim.itemBody st i = .ok st' → P st'
    | .expr e, st, st', h, ha, he => k.exprBody h (by simpa only [IniAll] using ha) he
    | .list its, st, st', h, ha, he => by
      rcases InitSim.itemBody_list he with ⟨_, hen, _⟩ | ⟨st2, st4, hen, hpi, rfl⟩
      · exact k.entered (k.braceClear h) (.inr hen)
      · exact k.closeBrace (parseItems k its (InitSim.openSt st2) st4
          (k.openSt (k.entered (k.braceClear h) (.inl hen))) (by simpa only [IniAll] using ha) hpi)
  theorem parseItems (k : Keeps P D E) : ∀ (its : Items) (st st' : St), P st → ItemsAll D E its →
      parseItems st its = .ok st' → P st'
    | .nil, st, st', h, _, he => by rw [Init.parseItems] at he; cases he; exact h
    | .cons ds i rest, st, st', h, ha, he => by
      obtain ⟨stp, sta, hpre, hbody, hrun⟩ := InitSim.run_cons (show InitSim.Run st (.cons ds i rest) st' from he)
      simp only [ItemsAll] at ha
      exact parseItems k rest sta st' (itemBody k i stp sta (k.preStep h ha.1 hpre) ha.2.1 hbody) ha.2.2 hrun
end

theorem parseItem (k : Keeps P D E) {st st' : St} {ds : List Desig} {i : Ini} (h : P st) (hd : D ds)
    (ha : IniAll D E i) (e : parseItem st ds i = .ok st') : P st' := by
  rw [InitSim.parseItem_eq] at e
  cases hp : Init.preStep st ds with
  | error er => rw [hp] at e; cases e
  | ok st1 => rw [hp] at e; exact k.itemBody i st1 st' (k.preStep h hd hp) ha e

theorem parseinit (k : Keeps P D E) {t : Ty} {inc : Bool} {i : Ini} {st : St} (h0 : P (InitSim.st0 t inc))
    (ha : IniAll D E i) (e : parseinit t inc i = .ok st) : P st :=
  k.itemBody i _ _ h0 ha (InitSim.parseinit_item e)

end Keeps

abbrev Any {α : Type} : α → Prop := fun _ => True

theorem keeps_bnd : Keeps Bnd Any Any where
  focus := focus_bnd
  designator h _ e := designator_bnd h e
  advance h _ _ e := advance_bnd h e
  down h he := by rcases hit_state he with rfl | ⟨_, T, rfl⟩ <;> exact h
  place h _ he _ := by rcases hit_state he with rfl | ⟨_, T, rfl⟩ <;> exact h
  braceClear := braceClear_bnd
  closeBrace := closeBrace_bnd
  complete h := h
  openSt h := ⟨h.1, fun c hc => by cases hc; exact h.1⟩

theorem placeExpr_bnd {fuel : Nat} {st st' : St} {e : Expr} (h : Bnd st) (he : placeExpr fuel st e = .ok st') :
    Bnd st' := keeps_bnd.placeExpr h trivial he

theorem parseItem_bnd : ∀ (i : Ini) (st st' : St) (ds : List Desig), Bnd st → parseItem st ds i = .ok st' → Bnd st' :=
  fun i _ _ _ h e => keeps_bnd.parseItem h trivial (iniAll_of_forall (fun _ => trivial) (fun _ => trivial) i) e

theorem parseItems_bnd : ∀ (its : Items) (st st' : St), Bnd st → parseItems st its = .ok st' → Bnd st' :=
  fun its st st' h e => keeps_bnd.parseItems its st st' h (itemsAll_of_forall (fun _ => trivial) (fun _ => trivial) its) e

theorem parseinit_bnd {t : Ty} {inc : Bool} {i : Ini} {st : St} (e : parseinit t inc i = .ok st) : Bnd st :=
  keeps_bnd.parseinit ⟨by show 0 < 32; omega, fun c hc => by cases hc⟩
    (iniAll_of_forall (fun _ => trivial) (fun _ => trivial) i) e

end CprocVerif.Init
