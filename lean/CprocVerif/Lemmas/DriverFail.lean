import CprocVerif.Model.DriverFail

/-! C18: invariants of the spawn loop and of the `wait()` loop of `buildobj`; the wait loop as the fold of
`stepReap` over the schedule (`reapLoop_eq`), with one induction along it (`reapAll_spec`). -/

namespace CprocVerif.DriverFailLemmas
open CprocVerif.DriverFail

/-- the status with which stage `i` is handed back by `wait()` (first mention in the schedule) -/
def firstStatus (reaps : List Reap) (i : Nat) : Option Status :=
  (reaps.find? (·.stage == i)).map (·.status)

/-- Invariant of `buildobj`'s bookkeeping: `npids` counts the non-zero pid slots (`live`); after the
first failure every outstanding child has been sent SIGTERM. -/
structure PInv (s : PState) : Prop where
  nodup : s.live.Nodup
  count : s.npids = s.live.length
  sig : s.success = false → ∀ i ∈ s.live, i ∈ s.signalled
  sigNodup : s.signalled.Nodup
  clean : s.success = true → s.signalled = []

theorem killBlock_inv {s : PState} (h : PInv s) : PInv (killBlock s) := by
  refine ⟨h.nodup, h.count, fun _ i hi => ?_, ?_, fun h' => by simp [killBlock] at h'⟩
  · show i ∈ (if s.success && s.npids > 0 then s.live.reverse else []) ++ s.signalled
    cases hs : s.success with
    | false => simp [h.sig hs i hi]
    | true =>
      have : s.npids > 0 := by rw [h.count]; exact List.length_pos_of_mem hi
      simp [this, show i ∈ s.live from hi]
  · show ((if s.success && s.npids > 0 then s.live.reverse else []) ++ s.signalled).Nodup
    cases hs : s.success with
    | false => simpa using h.sigNodup
    | true =>
      rw [h.clean hs, List.append_nil]
      split
      · rw [List.Nodup, List.pairwise_reverse]; exact h.nodup.imp Ne.symm
      · exact List.nodup_nil

theorem erase_inv {s : PState} (h : PInv s) {i : Nat} (hm : i ∈ s.live) :
    PInv { s with npids := s.npids - 1, live := s.live.erase i } :=
  ⟨h.nodup.erase _, by simp [List.length_erase_of_mem hm, h.count],
    fun hs j hj => h.sig hs j (List.mem_of_mem_erase hj), h.sigNodup, h.clean⟩

theorem stepReap_inv (r : Reap) {s : PState} (h : PInv s) : PInv (stepReap r s) := by
  unfold stepReap
  split
  · rename_i hm
    have h1 := erase_inv h hm
    cases r.status with
    | ok => exact ⟨h1.nodup, h1.count, h1.sig, h1.sigNodup, h1.clean⟩
    | fail => exact killBlock_inv h1
  · exact h

theorem spawnLoop_spec (ps : PipeScript) : ∀ (fuel i : Nat) (s : PState),
    PInv s → s.success = true → (∀ x ∈ s.live, x < i) →
    let s' := spawnLoop ps fuel i s
    PInv s' ∧ s'.live = s.live ++ (List.range' i fuel).takeWhile ps.ok ∧
      s'.success = (List.range' i fuel).all ps.ok := by
  intro fuel
  induction fuel with
  | zero => exact fun i s hw hs _ => ⟨hw, by simp [spawnLoop], by simp [spawnLoop, hs]⟩
  | succ fuel ih =>
    intro i s hw hs hlt
    simp only [spawnLoop]
    cases hok : ps.ok i with
    | true =>
      simp only [if_true]
      have hw1 : PInv { s with live := s.live ++ [i], npids := s.npids + 1 } := by
        refine ⟨?_, by simp [hw.count], fun h' => by simp [hs] at h', hw.sigNodup, hw.clean⟩
        rw [List.nodup_append]
        refine ⟨hw.nodup, by simp, fun a ha b hb => ?_⟩
        rw [List.mem_singleton.1 hb]
        exact Nat.ne_of_lt (hlt a ha)
      have hlt1 : ∀ x ∈ s.live ++ [i], x < i + 1 := fun x hx =>
        (List.mem_append.1 hx).elim (fun h1 => Nat.lt_succ_of_lt (hlt x h1))
          fun h1 => List.mem_singleton.1 h1 ▸ Nat.lt_succ_self i
      obtain ⟨a, c, d⟩ := ih (i + 1) _ hw1 hs hlt1
      exact ⟨a, by rw [c]; simp [List.range'_succ, hok, List.append_assoc], by rw [d]; simp [List.range'_succ, hok]⟩
    | false =>
      simp only [Bool.false_eq_true, if_false]
      exact ⟨killBlock_inv hw, by simp [killBlock, List.range'_succ, hok], by simp [killBlock, List.range'_succ, hok]⟩

theorem initP_inv : PInv initP :=
  ⟨List.nodup_nil, rfl, fun h => by simp [initP] at h, List.nodup_nil, fun _ => rfl⟩

theorem spawned_spec (ps : PipeScript) :
    let s := spawnLoop ps ps.n 0 initP
    PInv s ∧ s.live = startedOf ps ∧ s.success = (List.range ps.n).all ps.ok := by
  obtain ⟨a, c, d⟩ := spawnLoop_spec ps ps.n 0 initP initP_inv rfl (by simp [initP])
  exact ⟨a, by rw [c]; simp [initP, startedOf, List.range_eq_range'], by rw [d, List.range_eq_range']⟩

theorem firstStatus_cons_ne {r : Reap} {rest : List Reap} {i : Nat} (h : r.stage ≠ i) :
    firstStatus (r :: rest) i = firstStatus rest i := by
  have : (r.stage == i) = false := beq_eq_false_iff_ne.2 h
  simp [firstStatus, this]

theorem firstStatus_cons_eq (r : Reap) (rest : List Reap) : firstStatus (r :: rest) r.stage = some r.status := by
  simp [firstStatus]

theorem all_firstStatus_cons {r : Reap} (rest : List Reap) {l : List Nat} (h : r.stage ∉ l) :
    (l.all fun i => firstStatus (r :: rest) i != some .fail) = l.all fun i => firstStatus rest i != some .fail := by
  induction l with
  | nil => rfl
  | cons a l ih =>
    rw [List.all_cons, List.all_cons, ih fun hm => h (List.mem_cons_of_mem _ hm),
      firstStatus_cons_ne fun e => h (e ▸ List.mem_cons_self)]

theorem live_nil {s : PState} (h : PInv s) (hn : s.npids = 0) : s.live = [] :=
  List.length_eq_zero_iff.1 (h.count ▸ hn)

/-- what the wait loop will conclude from `s` when `rem` is still to come: it does not change along
the loop (`verdict_step`), and at the end it is `success` -/
def verdict (rem : List Reap) (s : PState) : Bool :=
  s.success && s.live.all fun i => firstStatus rem i != some .fail

def Covers (rem : List Reap) (s : PState) : Prop := ∀ i ∈ s.live, ∃ r ∈ rem, r.stage = i

theorem verdict_step (r : Reap) (rest : List Reap) {s : PState} (hw : PInv s) :
    verdict rest (stepReap r s) = verdict (r :: rest) s := by
  unfold verdict stepReap
  split
  · -- `r.stage` is live: it is the only live stage whose first status changes
    rename_i hm
    rw [(List.perm_cons_erase hm).all_eq, List.all_cons, firstStatus_cons_eq,
      all_firstStatus_cons rest hw.nodup.not_mem_erase]
    cases r.status <;> simp [killBlock, show (some Status.ok != some Status.fail) = true from rfl]
  · rw [all_firstStatus_cons rest ‹_›]

theorem stepReap_live (r : Reap) (s : PState) : (stepReap r s).live = s.live.erase r.stage := by
  unfold stepReap
  split
  · cases r.status <;> rfl
  · exact (List.erase_of_not_mem ‹_›).symm

theorem covers_step {r : Reap} {rest : List Reap} {s : PState} (hw : PInv s) (hc : Covers (r :: rest) s) :
    Covers rest (stepReap r s) := by
  intro i hi
  rw [stepReap_live, hw.nodup.mem_erase_iff] at hi
  obtain ⟨r', hr', he⟩ := hc i hi.2
  rcases List.mem_cons.1 hr' with rfl | e
  · exact absurd he.symm hi.1
  · exact ⟨r', e, he⟩

def reapAll (reaps : List Reap) (s : PState) : PState := reaps.foldl (fun s r => stepReap r s) s

theorem reapAll_done {s : PState} (h : s.live = []) : ∀ reaps, reapAll reaps s = s
  | [] => rfl
  | r :: rest => by
    have : stepReap r s = s := by simp [stepReap, h]
    rw [reapAll, List.foldl_cons, this]; exact reapAll_done h rest

/-- The wait loop is the fold, cut where `npids` reaches 0: from there on the fold does not move. -/
theorem reapLoop_eq : ∀ (reaps : List Reap) {s : PState}, PInv s →
    reapLoop reaps s = if (reapAll reaps s).npids = 0 then some (reapAll reaps s) else none
  | [], _, _ => rfl
  | r :: rest, s, hw => by
    rw [reapLoop]
    split
    · rw [reapAll_done (live_nil hw ‹_›), if_pos ‹_›]
    · exact reapLoop_eq rest (stepReap_inv r hw)

theorem reapAll_spec : ∀ (reaps : List Reap) {s : PState}, PInv s →
    PInv (reapAll reaps s) ∧ (reapAll reaps s).success = verdict reaps s ∧
      (Covers reaps s → (reapAll reaps s).live = [])
  | [], _, hw => ⟨hw, by simp [reapAll, verdict, firstStatus], fun hc => List.eq_nil_iff_forall_not_mem.2 fun a ha => by
      obtain ⟨_, hr, _⟩ := hc a ha; cases hr⟩
  | r :: rest, _, hw => by
    obtain ⟨a, b, c⟩ := reapAll_spec rest (stepReap_inv r hw)
    exact ⟨a, b.trans (verdict_step r rest hw), fun hc => c (covers_step hw hc)⟩

end CprocVerif.DriverFailLemmas
