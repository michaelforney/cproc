import CprocVerif.Lemmas.InitEmitPatch

/-!
# `emitdata`: the outer loop (`emitGap`, `emitVal`, `emitOne`, `emitFlat`)

Invariant `EInv`: `old j` is cell `j` of the image of the initialisers processed so far, `pre` are
the cells emitted so far, the first `offset` cells of `old`; from byte `offset` on `old` is the
accumulator `bits` read as a little-endian number (so zero above its one partial byte); `top` is
the bit where the last initialiser ended.
-/

namespace CprocVerif.Image
open CprocVerif.Init

structure EInv (size : Nat) (pre : List Cell) (st : EmitSt) (top : Nat) (old : Nat → Cell) : Prop where
  pre_eq : pre = cellsOf old 0 st.offset
  acc : ∀ k, old (st.offset + k) = .byte (st.bits / 2 ^ (8 * k) % 256)
  top_lo : 8 * st.offset ≤ top
  top_hi : top < 8 * st.offset + 8
  bits_lt : st.bits < 2 ^ (top - 8 * st.offset)
  top_size : top ≤ 8 * size

theorem einv_init (size : Nat) : EInv size [] {} 0 (fun _ => .byte 0) :=
  ⟨rfl, fun k => by simp, Nat.le_refl _, by decide, by decide, Nat.zero_le _⟩

theorem byte_low {b : Nat} (h : b < 256) : b / 2 ^ (8 * 0) % 256 = b := by
  rw [Nat.mul_zero, Nat.pow_zero, Nat.div_one, Nat.mod_eq_of_lt h]

theorem byte_high {b k : Nat} (h : b < 256) (hk : 0 < k) : b / 2 ^ (8 * k) % 256 = 0 := by
  rw [Nat.div_eq_of_lt (Nat.lt_of_lt_of_le h (Nat.pow_le_pow_right Nat.two_pos (show 8 ≤ 8 * k by omega) : 2 ^ 8 ≤ _))]

theorem gap_spec {size : Nat} {pre : List Cell} {st : EmitSt} {top : Nat} {old : Nat → Cell}
    (inv : EInv size pre st top old) {lo s : Nat} (h1 : top ≤ lo) (h2 : lo ≤ 8 * size)
    (hs : 8 * s ≤ lo ∧ lo < 8 * s + 8) :
    EInv size (pre ++ bytes (emitGap st s).1) ⟨s, (emitGap st s).2⟩ lo old := by
  obtain ⟨pre_eq, acc, top_lo, top_hi, bits_lt, top_size⟩ := inv
  have hb128 : st.bits < 2 ^ 7 := Nat.lt_of_lt_of_le bits_lt (Nat.pow_le_pow_right Nat.two_pos (by omega))
  rcases Nat.lt_or_eq_of_le (show st.offset ≤ s by omega) with hlt | heq
  · -- a real gap: the cells `[offset, s)` are `bits` (which may be zero) and zeros
    have cur : old st.offset = .byte st.bits := by
      have := acc 0; rwa [byte_low (by omega)] at this
    have rest : ∀ j, st.offset < j → old j = .byte 0 := fun j hj => by
      have := acc (j - st.offset)
      rwa [Nat.add_sub_cancel' (Nat.le_of_lt hj), byte_high (by omega) (by omega)] at this
    have hzeros : ∀ a n, st.offset < a → List.replicate n (Cell.byte 0) = cellsOf old a n := fun a n ha =>
      (cellsOf_const ..).symm.trans (cellsOf_congr fun j hj _ => (rest j (by omega)).symm)
    have hg : bytes (emitGap st s).1 = cellsOf old st.offset (s - st.offset) ∧ (emitGap st s).2 = 0 := by
      obtain ⟨n, hn⟩ : ∃ n, s - st.offset = n + 1 := ⟨s - st.offset - 1, by omega⟩
      rw [hn, cellsOf_succ, cur, ← hzeros _ _ (Nat.lt_succ_self _)]
      by_cases hb : st.bits = 0
      · simp [emitGap, hlt, hb, bytes, Item.cells, hn, List.replicate_succ]
      · have e1 : leBytes (st.bits % 2 ^ 32) 1 = [.byte st.bits] := by
          simp only [leBytes]
          rw [Nat.mod_eq_of_lt (a := st.bits) (by omega), Nat.mod_eq_of_lt (by omega)]
        by_cases hn0 : n = 0
        · simp [emitGap, hlt, hb, bytes, Item.cells, e1, show ¬ st.offset + 1 < s by omega, hn0]
        · simp [emitGap, hlt, hb, bytes, Item.cells, e1, show st.offset + 1 < s by omega,
            show s - (st.offset + 1) = n by omega]
    rw [hg.1, hg.2, pre_eq, cellsOf_zero_append old (Nat.le_of_lt hlt)]
    exact ⟨rfl, fun k => by rw [rest _ (by show st.offset < s + k; omega)]; simp, hs.1, hs.2, Nat.two_pow_pos _, h2⟩
  · subst heq
    have hg : emitGap st st.offset = ([], st.bits) := by
      unfold emitGap; simp
    rw [hg]
    exact ⟨by simpa [bytes] using pre_eq, acc, hs.1, hs.2,
      Nat.lt_of_lt_of_le bits_lt (Nat.pow_le_pow_right Nat.two_pos (Nat.sub_le_sub_right h1 _)), h2⟩

theorem mask_eq {q : Nat} (h : q < 8) : 0x7f >>> (7 - q) = 2 ^ q - 1 := by
  revert q; decide

theorem intCell_acc {i : Init} {u s b : Nat} (hs : 8 * s ≤ i.lo) (hle : i.lo ≤ i.hi)
    (hb : b < 2 ^ (i.lo - 8 * s)) (k : Nat) :
    intCell i u (s + k) (.byte (b / 2 ^ (8 * k) % 256)) =
      .byte ((b ||| u <<< (i.lo - 8 * s)) % 2 ^ (i.hi - 8 * s) / 2 ^ (8 * k) % 256) := by
  rw [intCell, ← ofBits_shift ((b ||| u <<< (i.lo - 8 * s)) % 2 ^ (i.hi - 8 * s)) k]
  refine congrArg Cell.byte (ofBits_congr fun m hm => ?_)
  rw [Cell.toNat, testBit_div_mod, Nat.testBit_mod_two_pow, Nat.testBit_or, Nat.testBit_shiftLeft]
  by_cases h1 : i.lo ≤ 8 * (s + k) + m
  · have hz : b.testBit (8 * k + m) = false :=
      Nat.testBit_lt_two_pow (Nat.lt_of_lt_of_le hb (Nat.pow_le_pow_right Nat.two_pos (by omega)))
    by_cases h2 : 8 * (s + k) + m < i.hi
    · rw [if_pos ⟨h1, h2⟩, hz]
      simp only [show 8 * k + m < i.hi - 8 * s by omega, show i.lo - 8 * s ≤ 8 * k + m by omega, decide_true,
        Bool.true_and, Bool.false_or]
      congr 1; omega
    · rw [if_neg (fun h => h2 h.2), hz, decide_eq_false (show ¬ 8 * k + m < i.hi - 8 * s by omega)]
      simp
  · rw [if_neg (fun h => h1 h.1)]
    simp [hm, show 8 * k + m < i.hi - 8 * s by omega, show ¬ i.lo - 8 * s ≤ 8 * k + m by omega]

theorem mod_div_pow (u n d : Nat) (h : d ≤ n) : u % 2 ^ n / 2 ^ d = u / 2 ^ d % 2 ^ (n - d) := by
  rw [← Nat.mod_mul_right_div_self, ← Nat.pow_add, Nat.add_sub_cancel' h]

/-- `start`, `end` and the two shift counts of `emitdata` in terms of the bit range -/
theorem emit_bounds {cur : Init} (h : cur.lo < cur.hi) :
    (8 * (cur.start + cur.before / 8) ≤ cur.lo ∧ cur.lo < 8 * (cur.start + cur.before / 8) + 8) ∧
    (8 * (cur.stop - (cur.after + 7) / 8) ≤ cur.hi ∧ cur.hi < 8 * (cur.stop - (cur.after + 7) / 8) + 8) ∧
    cur.before % 8 = cur.lo - 8 * (cur.start + cur.before / 8) ∧
    (cur.after + 7) % 8 = 7 - (cur.hi - 8 * (cur.stop - (cur.after + 7) / 8)) := by
  unfold Init.lo Init.hi at *
  omega

/-- a storage unit of at most 8 bytes fits the 64-bit accumulator -/
theorem unit_bits {start stop before after s : Nat} (h8 : stop - start ≤ 8) (hs : start * 8 + before < 8 * s + 8) :
    stop * 8 - after - 8 * s ≤ 64 := by
  omega

theorem emitVal_spec {size : Nat} {cur : Init} (hw : Wf size cur) {s e b1 : Nat}
    (hs : 8 * s ≤ cur.lo ∧ cur.lo < 8 * s + 8) (he : 8 * e ≤ cur.hi ∧ cur.hi < 8 * e + 8)
    (hr : cur.before % 8 = cur.lo - 8 * s) (hsh : (cur.after + 7) % 8 = 7 - (cur.hi - 8 * e))
    (hb1 : b1 < 2 ^ (cur.lo - 8 * s)) {old : Nat → Cell}
    (hold : ∀ k, old (s + k) = .byte (b1 / 2 ^ (8 * k) % 256)) :
    ∃ its bits, emitVal b1 cur s e = some (its, bits) ∧
      bytes its = cellsOf (fun j => writeCell cur j (old j)) s (e - s) ∧
      (∀ k, writeCell cur (e + k) (old (e + k)) = .byte (bits / 2 ^ (8 * k) % 256)) ∧
      bits < 2 ^ (cur.hi - 8 * e) := by
  have hne := hw.ne
  have hsh' := hw.shape
  have hse : s ≤ e := by omega
  unfold emitVal
  by_cases hbf : cur.before ≠ 0 ∨ cur.after ≠ 0
  · rw [if_pos hbf]
    obtain ⟨w, u, hv⟩ := hw.byteVal.cases.resolve_right fun h => hbf.elim (· h.1) (· h.2)
    rw [hv] at hsh' ⊢
    -- the bytes from `s` on hold the 64-bit accumulator (`acc` below) cut off at the last bit of the field
    have hcell : ∀ k, writeCell cur (s + k) (old (s + k)) =
        .byte ((b1 ||| u <<< (cur.lo - 8 * s)) % 2 ^ 64 % 2 ^ (cur.hi - 8 * s) / 2 ^ (8 * k) % 256) := fun k => by
      rw [hold, writeCell_int_byte hv _ (byte_lt ..), intCell_acc hs.1 (Nat.le_of_lt hne) hb1,
        Nat.mod_mod_of_dvd _ (Nat.pow_dvd_pow 2 (show cur.hi - 8 * s ≤ 64 from unit_bits (hsh'.2 hbf) hs.2))]
    have hmask : ∀ x, x &&& (0x7f >>> ((cur.after + 7) % 8)) = x % 2 ^ (cur.hi - 8 * e) := fun x => by
      rw [hsh, mask_eq (by omega), Nat.and_two_pow_sub_one_eq_mod]
    simp only [hmask, hr]
    generalize (b1 ||| u <<< (cur.lo - 8 * s)) % 2 ^ 64 = acc at hcell ⊢
    refine ⟨_, _, rfl, ?_, fun k => ?_, Nat.mod_lt _ (Nat.two_pow_pos _)⟩
    · rw [bytes_bitBytes, leBytes_cells 0, cellsOf_shift _ s]
      refine cellsOf_congr fun k _ hk => ?_
      rw [hcell k, valCell, mod_div_byte (by omega)]
    · have := hcell (e - s + k)
      rw [← Nat.add_assoc, Nat.add_sub_cancel' hse] at this
      rw [this, bitBytes_snd, Nat.mul_add, Nat.pow_add, ← Nat.div_div_eq_div_mul, mod_div_pow _ _ _ (by omega),
        show cur.hi - 8 * s - 8 * (e - s) = cur.hi - 8 * e by omega]
  · have hb : cur.before = 0 ∧ cur.after = 0 := by omega
    have hlo : cur.lo = cur.start * 8 + cur.before := rfl
    have hhi : cur.hi = cur.stop * 8 - cur.after := rfl
    obtain ⟨it, hit, hcells⟩ := dataitem_cells hw hb
    obtain rfl : s = cur.start := by omega
    obtain rfl : e = cur.stop := by omega
    rw [if_neg hbf, hit]
    obtain rfl : b1 = 0 := by
      rw [show cur.lo - 8 * cur.start = 0 by omega] at hb1; omega
    refine ⟨_, _, rfl, ?_, fun k => ?_, Nat.two_pow_pos _⟩
    · simp only [bytes, List.flatMap_cons, List.flatMap_nil, List.append_nil]
      rw [hcells, cellsOf_shift _ cur.start]
      refine cellsOf_congr fun k _ hk => ?_
      rw [writeCell_aligned hb, if_pos (by omega), Nat.add_sub_cancel_left]
    · have := hold (cur.stop - cur.start + k)
      rw [← Nat.add_assoc, Nat.add_sub_cancel' hse] at this
      rw [writeCell_aligned hb, if_neg (by omega), this]
      simp

theorem emitOne_spec {size : Nat} {pre : List Cell} {st : EmitSt} {top : Nat} {old : Nat → Cell} {cur : Init}
    (inv : EInv size pre st top old) (hw : Wf size cur) (ht : top ≤ cur.lo) :
    ∃ its st', emitOne st cur = some (its, st') ∧
      EInv size (pre ++ bytes its) st' cur.hi (fun j => writeCell cur j (old j)) := by
  have hne := hw.ne
  obtain ⟨hs, he, hr, hsh⟩ := emit_bounds hne
  have hin : cur.hi ≤ 8 * size := by have := hw.inside; unfold Init.hi; omega
  unfold emitOne
  dsimp only []
  generalize cur.start + cur.before / 8 = s at *
  generalize cur.stop - (cur.after + 7) / 8 = e at *
  obtain ⟨pre_eq, hacc, _, _, bits_lt, _⟩ := gap_spec inv ht (by omega) hs
  obtain ⟨its, bits, hval, hcells, hlast, hbits⟩ := emitVal_spec hw hs he hr hsh bits_lt hacc
  rw [hval]
  refine ⟨_, _, rfl, ?_, hlast, he.1, he.2, hbits, hin⟩
  -- the cells below `s` are not touched
  rw [bytes_append, ← List.append_assoc, pre_eq, hcells, cellsOf_congr (g := fun j => writeCell cur j (old j)) fun j _ hj =>
      (writeCell_of_not_touches (by unfold touches; omega)).symm]
  exact cellsOf_zero_append _ (by omega)

theorem emitFlat_spec {size : Nat} {ts : List Init} : ∀ {pre : List Cell} {st : EmitSt} {top : Nat} {old : Nat → Cell},
    EInv size pre st top old → Chain top ts → (∀ t ∈ ts, Wf size t) →
    ∃ items, emitFlat size st ts = some items ∧
      pre ++ bytes items = cellsOf (fun j => cellFold ts j (old j)) 0 size := by
  induction ts with
  | nil =>
    intro pre st top old inv _ _
    -- the code after the loop is the gap up to the end of the object
    have hflat : emitFlat size st [] = some (emitGap st size).1 := by
      have := inv.bits_lt; have := inv.top_lo; have := inv.top_size
      by_cases hb : st.bits = 0
      · have : st.offset ≤ size := by omega
        simp [emitFlat, emitGap, hb, this]
      · have : st.offset < size := by
          rcases Nat.lt_or_ge (8 * st.offset) top with h | h
          · omega
          · rw [Nat.sub_eq_zero_of_le h] at *; omega
        simp [emitFlat, emitGap, hb, this, Nat.succ_le_of_lt this]
    exact ⟨_, hflat, (gap_spec inv inv.top_size (Nat.le_refl _) ⟨Nat.le_refl _, by omega⟩).pre_eq⟩
  | cons t ts ih =>
    intro pre st top old inv hch hwf
    obtain ⟨hwt, hwts⟩ := List.forall_mem_cons.1 hwf
    obtain ⟨its, st', hone, inv'⟩ := emitOne_spec inv hwt hch.1
    obtain ⟨more, hmore, hcells⟩ := ih inv' hch.2 hwts
    refine ⟨its ++ more, by simp [emitFlat, hone, hmore], ?_⟩
    rw [bytes_append, ← List.append_assoc]
    exact hcells

theorem emitdata_cells {size : Nat} {l : List Init} (hf : Forest l) (hw : ∀ x ∈ l, Wf size x) :
    ∃ items, emitdata size l = some items ∧ bytes items = image size l := by
  rw [image_eq_cellsOf]
  have hp : l.Pairwise NestOK := hf.imp fun h => h.2.imp id (·.2.2)
  unfold emitdata
  cases l with
  | nil => exact emitFlat_spec (einv_init size) (ts := []) trivial (fun _ h => by simp at h)
  | cons c xs =>
    obtain ⟨hok, hch, hwf, hfold⟩ := collapse_spec (top := 0) hp hw (Nat.zero_le _)
    obtain ⟨items, h1, h2⟩ := emitFlat_spec (einv_init size) hch hwf
    rw [collapseOk, hok, if_pos rfl, collapse]
    refine ⟨items, h1, h2.trans (cellsOf_congr fun j _ _ => ?_)⟩
    rw [hfold, cellAt_eq]

end CprocVerif.Image
