import CprocVerif.Lemmas.CharLit

/-!
# The literal scanner of `scan.c` on spelled literals

`escape()` agrees with `decodechar` on every text (`scanEscape_eq`), so escape items come from `decodechar_item`.
Facts about `scanBody` hold for all fuel above a bound (`hm : ∀ f', f ≤ f' → …` is about the rest of the text): this
composes item by item, and `scanQuoted` gives the length of all remaining input as fuel, not that of the token.
-/

namespace CprocVerif.CharLit
open CprocVerif.Unicode

theorem isSome_ite {α : Type} (p : Prop) [Decidable p] (x : α) (y : Option α) :
    (if p then some x else y).isSome = (decide p || y.isSome) := by
  by_cases h : p <;> simp [h]

/-- `s->chr && strchr("'\"?\\abfnrtv", s->chr)` and the `switch` of `decodechar` test for the same eleven characters. -/
theorem scanSimple_eq (b : Nat) : (b ≠ 0 && scanSimple b) = (simpleEsc b).isSome := by
  simp only [simpleEsc, isSome_ite, scanSimple, List.contains_cons, List.contains_nil, Option.isSome_none]
  by_cases h0 : b = 0
  · subst h0; rfl
  · simp only [h0, Bool.or_assoc, ne_eq, not_false_eq_true, decide_true, Bool.true_and, Bool.or_false,
      Bool.decide_eq_true]
    rfl

theorem scanEscape_eq (r : List Nat) :
    scanEscape r =
      match decodechar (0x5c :: r) with
      | .ok res => .ok (res.2.2 - 1)
      | .error _ => .error (if r.headD 0 = 0x78 then .badHex else .badEscape) := by
  rcases r with _ | ⟨b, r⟩
  · rfl
  unfold decodechar scanEscape
  simp only [List.headD_cons, List.tail_cons, if_true, scanSimple_eq]
  by_cases hx : b = 0x78
  · subst hx
    rw [show simpleEsc 0x78 = none from rfl]
    simp only [if_true, hexRun_snd]
    split <;> simp
  rw [if_neg hx]
  by_cases ho : isodigit b = true
  · rw [simpleEsc_eq, simpleEscape_oct ((isodigit_iff b).1 ho)]
    simp only [if_neg hx, ho, if_true, octRun_snd, List.headD_cons, List.tail_cons]
    by_cases h1 : isodigit (r.headD 0) = true
    · by_cases h2 : isodigit (r.tail.headD 0) = true
      · rw [if_pos h1, if_pos h2, if_pos h1, if_pos h2]; rfl
      · rw [if_pos h1, if_neg h2, if_pos h1, if_neg h2]
    · rw [if_neg h1, if_neg h1]
  · simp only [ho, Bool.false_eq_true, if_false, if_neg hx]
    cases simpleEsc b <;> simp [hx]

theorem scanEscape_item {q : Nat} {it : Item} {E : List Nat} (hwf : it.wf q) (hs : it.spell = 0x5c :: E)
    (R : List Nat) (hne : NoExtend it R) : scanEscape (E ++ R) = .ok E.length := by
  have h := decodechar_item hwf R hne
  rw [hs, List.cons_append] at h
  rw [scanEscape_eq, h]
  simp

theorem scanBody_plain (q : Nat) (bs R : List Nat) (hb : ∀ b ∈ bs, b ≠ q ∧ b ≠ 0x5c ∧ b ≠ 0x0a ∧ b ≠ 0)
    (m f : Nat) (hm : ∀ f', f ≤ f' → scanBody q f' R = .ok m) :
    ∀ f', f + bs.length ≤ f' → scanBody q f' (bs ++ R) = .ok (bs.length + m) := by
  induction bs with
  | nil => intro f' hf; simpa using hm f' (by simpa using hf)
  | cons b bs ih =>
    intro f' hf
    rcases f' with _ | f'
    · simp at hf
    obtain ⟨⟨h2, h1, h3, h4⟩, hb⟩ := List.forall_mem_cons.1 hb
    rw [List.cons_append, scanBody, if_neg h1, if_neg h2, if_neg h3, if_neg h4,
      ih hb f' (by simp at hf; omega)]
    simp <;> omega

theorem scanBody_escape {q : Nat} (E R : List Nat) (he : scanEscape (E ++ R) = .ok E.length) (m f : Nat)
    (hm : ∀ f', f ≤ f' → scanBody q f' R = .ok m) :
    ∀ f', f + (E.length + 1) ≤ f' → scanBody q f' (0x5c :: E ++ R) = .ok (E.length + 1 + m) := by
  intro f' hf
  rcases f' with _ | f'
  · omega
  rw [List.cons_append, scanBody, if_pos rfl, he]
  dsimp only
  rw [List.drop_left, hm f' (by omega), Nat.add_comm E.length 1]

section
variable {q : Nat} (hq : q = 0x22 ∨ q = 0x27)
include hq

theorem scan_item {it : Item} (hwf : it.wf q) (R : List Nat) (hne : NoExtend it R) (m f : Nat)
    (hm : ∀ f', f ≤ f' → scanBody q f' R = .ok m) :
    ∀ f', f + it.spell.length ≤ f' → scanBody q f' (it.spell ++ R) = .ok (it.spell.length + m) := by
  cases it with
  | chr c =>
    refine scanBody_plain q _ R (fun b hb => ?_) m f hm
    rcases mem_utf8Encode hb with e | e
    · rw [e]; exact hwf.2
    · omega
  | simple ch | oct ds | hex ds => exact scanBody_escape _ R (scanEscape_item hwf rfl R hne) m f hm

theorem scanBody_items (items : List Item) (hwf : ItemsWf q items) (tail : List Nat) :
    ∀ f', (spellAll items).length + 1 ≤ f' →
      scanBody q f' (spellAll items ++ q :: tail) = .ok ((spellAll items).length + 1) := by
  induction items with
  | nil =>
    intro f' hf
    rcases f' with _ | f'
    · simp at hf
    have hq5 : q ≠ 0x5c := by omega
    simp [spellAll, scanBody, if_neg hq5]
  | cons it items ih =>
    obtain ⟨hit, hrest⟩ := itemsWf_cons hwf
    intro f' hf
    rw [spellAll_cons, List.length_append] at hf
    rw [spellAll_cons, List.append_assoc, List.length_append,
      scan_item hq hit _ (noExtend_next hq hwf tail) _ _ (ih hrest) f' (by omega), Nat.add_assoc]

theorem prefixLen_spell (pre : Prefix) (X : List Nat) :
    prefixLen (pre.spell ++ q :: X) = pre.spell.length := by
  have h75 : q ≠ 0x75 ∧ q ≠ 0x4c ∧ q ≠ 0x55 ∧ q ≠ 0x38 := by omega
  cases pre <;> simp [prefixLen, Prefix.spell, h75]

theorem scanLiteral_quote (pre : Prefix) (items : List Item) (hwf : ItemsWf q items) (rest : List Nat) :
    scanLiteral (pre.spell ++ q :: (spellAll items ++ q :: rest)) =
      .ok (q == 0x22, pre.spell ++ q :: (spellAll items ++ [q]), rest) := by
  have hb := scanBody_items hq items hwf rest ((spellAll items ++ q :: rest).length + 1)
    (by rw [List.length_append, List.length_cons]; omega)
  have hq1 : (q = 0x22 || q = 0x27) = true := by rcases hq with rfl | rfl <;> rfl
  unfold scanLiteral
  rw [prefixLen_spell hq pre]
  unfold scanQuoted
  rw [List.drop_left]
  simp only [hq1, if_true, hb]
  have e : pre.spell ++ q :: (spellAll items ++ q :: rest) =
      (pre.spell ++ q :: (spellAll items ++ [q])) ++ rest := by simp
  have l : pre.spell.length + 1 + ((spellAll items).length + 1) =
      (pre.spell ++ q :: (spellAll items ++ [q])).length := by simp; omega
  rw [l, e, List.take_left, List.drop_left]

end

theorem scanWhole_part (p : Part) (hwf : ItemsWf 0x22 p.2) : scanWhole p.spell = .ok (true, p.spell) := by
  unfold scanWhole
  rw [part_spell, scanLiteral_quote (Or.inl rfl) p.1 p.2 hwf []]
  rfl

theorem scanWhole_char (pre : Prefix) {it : Item} (hwf : it.wf 0x27) :
    scanWhole (spellChar pre it) = .ok (false, spellChar pre it) := by
  have := scanLiteral_quote (Or.inr rfl) pre [it] hwf []
  simp only [spellAll, List.map_cons, List.map_nil, List.flatten_cons, List.flatten_nil, List.append_nil] at this
  unfold scanWhole spellChar
  rw [this]
  rfl

theorem mapM_scanWhole (parts : List Part) (hwf : ∀ p ∈ parts, ItemsWf 0x22 p.2) :
    (parts.map Part.spell).mapM scanWhole = .ok (parts.map fun p => (true, p.spell)) := by
  induction parts with
  | nil => rfl
  | cons p ps ih =>
    obtain ⟨hp, hwf⟩ := List.forall_mem_cons.1 hwf
    rw [List.map_cons, List.mapM_cons, scanWhole_part p hp, ih hwf]
    rfl

end CprocVerif.CharLit
