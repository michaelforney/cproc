import CprocVerif.Lemmas.ScanPunct
import CprocVerif.Lemmas.ScanSkip
import CprocVerif.Lemmas.ScanLit

/-! What one call of `scankind` does, in terms of `S.adv` (`Arm`), and the one pass through the
`switch` that proves it (`scankind_arm`).  Properties of a single run that only ask where the reader
stands afterwards (progress and fuel: `ScanTokens`; locations: `PPLineScan`) are read off `Arm`. -/

namespace CprocVerif.Scan
open CprocVerif.Gen.TokenKinds CprocVerif.Spec.Lex CprocVerif.PPLine

/-- What `scankind(s, &loc)` does, `f` being the fuel left for `goto again`: `skip` is white space or
a comment followed by `goto again`; `dots` is `..x`, where the first `.` is returned and the second
given back with `ungetc`; `errEof` is a comment opened by the last two characters of the file, where
`nextchar` is called once more at the end (everywhere else every `nextchar` was called with a current
character).  Only the reader's fields (`core`) of the scanner returned are described.
`skip` records that it does not start at a `.`: after the push-back of `..x` the second `.` is
current with line breaks pending (`skipped`), and C11 needs that no skip starts from such a state
(`PPLine.Inv.dot`, used in `Arm.tokOK`). -/
inductive Arm (f : Nat) (s : S) : Except Err (Kind × Loc × Nat × S) → Prop
  | eof : s.chr = none → Arm f s (.ok (.TEOF, s.loc, s.pos, s))
  | skip {n : Nat} {s1 : S} : s.chr ≠ some (c! '.') → 0 < n → Took s n s1 → Arm f s (scankind f s1)
  | tok {k : Kind} {n : Nat} {s' : S} : k ≠ .TEOF → (k = .TNEWLINE ↔ s.chr = some (c! '\n')) →
      0 < n → Took s n s' → Arm f s (.ok (k, s.loc, s.pos, s'))
  | dots {k : Kind} : Plain k → s.chr = some (c! '.') → s.nextchar.chr = some (c! '.') →
      Arm f s (.ok (k, s.loc, s.pos, pushbackDot (s.adv 2) (s.adv 1).loc))
  | err {m : Nat} {k : ErrKind} {s1 : S} : k ≠ .fuel → Took s m s1 → Arm f s (.error ⟨s1.loc, k⟩)
  | errEof {k : ErrKind} {s1 : S} : k ≠ .fuel → core s1 = core (s.adv (s.len + 1)) →
      Arm f s (.error ⟨s1.loc, k⟩)

theorem Arm.blank {f : Nat} {s : S} {c : UInt8} (hc : s.chr = some c) (hb : isBlank c = true) :
    Arm f s (scankind (f + 1) s) := by
  rw [scankind_blank f s c hc hb]
  exact .skip (by rintro h; rw [hc] at h; cases h; revert hb; decide) Nat.one_pos
    ⟨len_pos_of_chr hc, core_nextchar (a := { s with sawspace := true }) rfl⟩

theorem Arm.newline {f : Nat} {s : S} (hc : s.chr = some (c! '\n')) : Arm f s (scankind (f + 1) s) := by
  rw [scankind_newline f s hc]
  exact .tok (by decide) ⟨fun _ => hc, fun _ => rfl⟩ Nat.one_pos (took_adv (len_pos_of_chr hc))

theorem PunctAdv.arm {f : Nat} {s : S} {r : Except Err (Kind × Loc × Nat × S)} (h : PunctAdv s r) :
    Arm f s r := by
  obtain ⟨k, p, s', rfl, h2, ⟨hp, hm, _⟩, hb⟩ := h
  have hkinds : tokstr .TEOF = none ∧ tokstr .TNEWLINE = none := by decide
  have hk : Plain k :=
    ⟨fun e => (by rw [e, hkinds.1] at h2; cases h2), fun e => (by rw [e, hkinds.2] at h2; cases h2)⟩
  rcases hb with rfl | ⟨_, h3, h4, rfl⟩
  · have hlen : ∀ p ∈ punctuators, 0 < p.length ∧ p.head? ≠ some (c! '\n') := by decide
    refine .tok hk.1 ⟨fun e => absurd e hk.2, fun e => ?_⟩ (hlen p hm).1
      (took_adv (by rw [len_eq_stream]; exact hp.length_le))
    obtain ⟨t, ht⟩ := hp
    rw [chr_eq, ← ht] at e
    cases p with
    | nil => exact absurd (hlen _ hm).1 (by simp)
    | cons a p => exact absurd e (hlen _ hm).2
  · exact .dots hk h3 h4

theorem ErrAfter.arm {f : Nat} {s : S} {e : Err} (h : ErrAfter s e) : Arm f s (.error e) := by
  obtain ⟨hk, m, hm, hloc⟩ := h
  obtain ⟨l, k⟩ := e
  dsimp only at hloc hk
  subst hloc
  rcases Nat.lt_or_ge m (s.len + 1) with hlt | hge
  · exact .err hk (took_adv (by omega))
  · have : m = s.len + 1 := by omega
    exact .errEof hk (this ▸ rfl)

theorem plain_litKind (str : Bool) : Plain (litKind str) := by cases str <;> decide

theorem Reads.arm {f : Nat} {s s0 : S} {a : Nat} {P : Kind × S → List UInt8 → Prop}
    {r : Except Err (Kind × S)} (ht : Took s a s0) (hnl : s.chr ≠ some (c! '\n'))
    (h : Reads s0 (·.2) P r) (hp : ∀ x u, P x u → Plain x.1 ∧ u ≠ []) : Arm f s (lift s r) := by
  cases r with
  | error e => exact ErrAfter.arm (ErrAfter.took ht h)
  | ok x =>
    obtain ⟨u, hr, hu⟩ := h
    have := List.length_pos_iff.mpr (hp x u hu).2
    exact .tok (hp x u hu).1.1 ⟨fun e => absurd e (hp x u hu).1.2, fun e => absurd e hnl⟩ (by omega)
      (ht.trans hr.took)

theorem quoted_plain (str : Bool) (x : Kind × S) (u : List UInt8)
    (h : ∃ v, u = quoteOf str :: v ∧ Body str x v) : Plain x.1 ∧ u ≠ [] := by
  obtain ⟨v, rfl, hk, _⟩ := h
  exact ⟨hk ▸ plain_litKind str, List.cons_ne_nil _ _⟩

theorem Arm.quote {f : Nat} {s : S} (str : Bool) (hc : s.chr = some (quoteOf str)) :
    Arm f s (scankind (f + 1) s) := by
  rw [scankind_quote f s str hc]
  exact Reads.arm (s0 := { s with usebuf := true }) (a := 0) ⟨Nat.zero_le _, rfl⟩
    (by rw [hc]; cases str <;> decide) (quoted_reads str s hc) (quoted_plain str)

theorem Arm.slash {f : Nat} {s : S} (hc : s.chr = some (c! '/')) : Arm f s (scankind (f + 1) s) := by
  have h0 : s.stream[0]? = some (c! '/') := (chr0 s).symm.trans hc
  have hnd : s.chr ≠ some (c! '.') := by rw [hc]; decide
  obtain ⟨r, hr⟩ := (chr_some_iff s _).mp hc
  have hl : s.len = r.length + 1 := by rw [len_eq_stream, hr]; rfl
  rw [scankind_slash f s hc]
  by_cases h2 : r.head? = some (c! '/')
  · obtain ⟨t, rfl⟩ : ∃ t, r = c! '/' :: t := by cases r <;> simp_all
    have := (List.takeWhile_prefix (l := t) (· ≠ NL)).length_le
    rw [slashArm_line f s t hr]
    exact .skip hnd (by omega) ⟨by rw [hl, List.length_cons]; omega, rfl⟩
  by_cases h3 : r.head? = some (c! '*')
  · obtain ⟨t, rfl⟩ : ∃ t, r = c! '*' :: t := by cases r <;> simp_all
    rw [slashArm_block f s t hr]
    cases hf : findCommentEnd t with
    | none => exact ErrAfter.arm ⟨nofun, _, by rw [hl, List.length_cons]; omega, rfl⟩
    | some k =>
      have := (findCommentEnd_ge _ _ hf).2
      exact .skip hnd (by omega) ⟨by rw [hl, List.length_cons]; omega, rfl⟩
  · have e1 : s.stream[1]? = r.head? := by rw [hr]; cases r <;> rfl
    exact (punct_div f h0 (e1 ▸ h2) (e1 ▸ h3)).arm

theorem Arm.dot {f : Nat} {s : S} (hc : s.chr = some (c! '.')) : Arm f s (scankind (f + 1) s) := by
  have h0 : s.stream[0]? = some (c! '.') := (chr0 s).symm.trans hc
  rw [scankind_dot f s hc]
  cases hd : onChr isdigit s.stream[1]?
  · exact (punct_dot h0 hd).arm
  obtain ⟨d, r, hs1⟩ : ∃ d r, s.nextchar.stream = d :: r := by
    cases hs : s.nextchar.stream with
    | nil => rw [← chr1, chr_eq, hs] at hd; cases hd
    | cons d r => exact ⟨d, r, rfl⟩
  have hl : r.length + 2 = s.len := by
    have := len_nextchar s
    rw [len_eq_stream, hs1, List.length_cons] at this; omega
  have := ppTailLen_le r
  rw [dotArm]
  simp only [chr1, hd, if_true]
  rw [ret, number_eq ({ s.nextchar with buf := s.nextchar.buf ++ [c! '.'] } : S) d r hs1]
  exact .tok (k := .TNUMBER) nofun ⟨nofun, fun e => (by rw [hc] at e; cases e)⟩ (by omega)
    ((took_adv (n := 1) (by omega)).trans ⟨by rw [len_adv]; omega, core_adv
      (a := { s.nextchar with buf := s.nextchar.buf ++ [c! '.'], usebuf := true }) (b := s.adv 1) rfl _⟩)

theorem alpha_idchar {c : UInt8} (h : isalpha c = true ∨ c = c! '_') : isidchar c = true := by
  rcases h with h | h <;> simp [isidchar, isalnum, h]

theorem Arm.tail {f : Nat} {s : S} {c : UInt8} (hc : s.chr = some c) (hns : isSpecial c = false) :
    Arm f s (scankind (f + 1) s) := by
  have hp := len_pos_of_chr hc
  have hnl : s.chr ≠ some (c! '\n') := by
    rw [hc]; intro e; cases e; exact absurd hns (by decide)
  obtain ⟨r, hr⟩ := (chr_some_iff s c).mp hc
  have hcs : ∀ n, core (({ s with usebuf := true } : S).adv n) = core (s.adv n) :=
    core_adv (a := { s with usebuf := true }) (b := s) rfl
  rw [scankind_tail f s c hc hns]
  by_cases hL : c = c! 'L' ∨ c = c! 'U' ∨ c = c! 'u'
  · rw [scanTail_prefix s hL]
    obtain ⟨n, h1, ht⟩ : ∃ n, 1 ≤ n ∧ Took s n (afterPrefix s) := by
      unfold afterPrefix
      dsimp only
      split
      · rename_i h8
        exact ⟨2, by omega, lt_len_of_chr (s := { s with usebuf := true }) (j := 1) h8.2, hcs 2⟩
      · exact ⟨1, Nat.le_refl _, hp, hcs 1⟩
    generalize afterPrefix s = x at ht ⊢
    have hxl := ht.len
    refine ite_intro (P := Arm f s) (fun hq => ?_) fun _ => ite_intro (P := Arm f s) (fun hq => ?_) fun _ => ?_
    · exact Reads.arm (s0 := { x with usebuf := true }) ht hnl (quoted_reads false x hq) (quoted_plain false)
    · exact Reads.arm (s0 := { x with usebuf := true }) ht hnl (quoted_reads true x hq) (quoted_plain true)
    · rw [ret, ident_eq]
      exact .tok (k := .TIDENT) nofun ⟨nofun, fun e => absurd e hnl⟩ (by omega)
        (ht.trans ⟨takeWhile_le_len x isidchar, core_adv (a := { x with usebuf := true }) (b := x) rfl _⟩)
  · rw [scanTail, if_neg hL]
    have hl : s.len = r.length + 1 := by rw [len_eq_stream, hr]; rfl
    refine ite_intro (P := Arm f s) (fun _ => ?_) fun _ => ite_intro (P := Arm f s) (fun ha => ?_) fun _ => ?_
    · have := ppTailLen_le r
      rw [ret, number_eq s c r hr]
      exact .tok (k := .TNUMBER) nofun ⟨nofun, fun e => absurd e hnl⟩ (by omega) ⟨by omega, hcs _⟩
    · have hcnt : 0 < (s.stream.takeWhile isidchar).length := by
        rw [hr, List.takeWhile_cons, alpha_idchar ha]; exact Nat.succ_pos _
      rw [ret, ident_eq]
      exact .tok (k := .TIDENT) nofun ⟨nofun, fun e => absurd e hnl⟩ hcnt ⟨takeWhile_le_len s _, hcs _⟩
    · exact .tok (k := .TOTHER) nofun ⟨nofun, fun e => absurd e hnl⟩ Nat.one_pos ⟨hp, hcs 1⟩

theorem special_cases (c : UInt8) : Spec.Lex.isBlank c = true ∨ c = c! '\n' ∨
    (∃ str, c = quoteOf str) ∨ isPunctStart c = true ∨ isSpecial c = false := by
  by_cases h1 : Spec.Lex.isBlank c = true; · exact .inl h1
  by_cases h2 : c = 10; · exact .inr (.inl h2)
  by_cases h3 : c = 34; · exact .inr (.inr (.inl ⟨true, h3⟩))
  by_cases h4 : c = 39; · exact .inr (.inr (.inl ⟨false, h4⟩))
  by_cases h5 : isPunctStart c = true; · exact .inr (.inr (.inr (.inl h5)))
  refine .inr (.inr (.inr (.inr ?_)))
  simp only [isSpecial, Spec.Lex.isBlank, isPunctStart, Bool.or_eq_false_iff, Bool.or_eq_true,
    decide_eq_true_eq, decide_eq_false_iff_not, not_or] at *
  simp only [*, not_false_eq_true, and_self]

theorem scankind_arm (f : Nat) (s : S) : Arm f s (scankind (f + 1) s) := by
  cases hc : s.chr with
  | none => rw [scankind_eof f s hc]; exact .eof hc
  | some c =>
    rcases special_cases c with h | rfl | ⟨str, rfl⟩ | h | h
    · exact .blank hc h
    · exact .newline hc
    · exact .quote str hc
    · by_cases hsl : c = c! '/'
      · exact .slash (hsl ▸ hc)
      · by_cases hd : c = c! '.'
        · exact .dot (hd ▸ hc)
        · exact (scankind_punct f c ((chr0 s).symm.trans hc) h (fun h => hsl h.1) (fun h => hd h.1)).arm
    · exact .tail hc h

end CprocVerif.Scan
