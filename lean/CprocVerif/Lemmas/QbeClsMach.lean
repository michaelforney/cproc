import CprocVerif.Spec.Qbe

/-!
  C03, both halves: what success or failure of a function of the machine (`Spec/Qbe.lean`) means, and one
  induction on fuel for any invariant of `step` (`run_inv`).  Nothing of the static side (`wf`, class maps,
  certificates).  Namespace `C03.Cls` all the same: `QbeFlow` cites `Cls.…`.
-/

namespace CprocVerif.C03.Cls
open CprocVerif.Qbe

theorem coerce_kind {k : Cls} {v r : RVal} (h : v.coerce k = .ok r) : r.kind = k.kind := by
  unfold RVal.coerce at h
  split at h
  · cases h; rfl
  · cases h

theorem readVal_error {p : Prog} {env : Env} {v : Val} {r : StuckReason}
    (h : readVal p env v = .error r) : ∃ t, v = .tmp t ∧ r = .undefTemp t ∧ env[t]? = none := by
  cases v with
  | tmp n =>
    simp only [readVal] at h
    split at h
    · cases h
    · rename_i hn
      cases h
      exact ⟨n, rfl, rfl, hn⟩
  | _ => cases h

theorem readVals_error {p : Prog} {env : Env} {vs : List Val} {r : StuckReason}
    (h : readVals p env vs = .error r) :
    ∃ t, Val.tmp t ∈ vs ∧ r = .undefTemp t ∧ env[t]? = none := by
  induction vs with
  | nil => cases h
  | cons v vs ih =>
    simp only [readVals] at h
    split at h
    · rename_i e he
      cases h
      obtain ⟨t, hv, hr, hn⟩ := readVal_error he
      exact ⟨t, by simp [hv], hr, hn⟩
    · split at h
      · rename_i e he
        cases h
        obtain ⟨t, hv, hr, hn⟩ := ih he
        exact ⟨t, by simp [hv], hr, hn⟩
      · cases h

theorem readVals_cons_ok {p : Prog} {env : Env} {v : Val} {vs : List Val} {rs : List RVal}
    (h : readVals p env (v :: vs) = .ok rs) :
    ∃ r rs', rs = r :: rs' ∧ readVal p env v = .ok r ∧ readVals p env vs = .ok rs' := by
  simp only [readVals] at h
  split at h
  · cases h
  · split at h <;> cases h
    exact ⟨_, _, rfl, ‹_›, ‹_›⟩

theorem ite_error_ok {ε α : Type} {c : Prop} [Decidable c] {e : ε} {x : Except ε α} {r : α}
    (h : (if c then .error e else x) = .ok r) : x = .ok r := by
  split at h
  · cases h
  · exact h

theorem enterFunc_inv {p : Prog} {mem : Mem} {fi : FuncInfo} {targs : List (Ty × RVal)}
    {varAt : Option Nat} {nf : Frame} {mem' : Mem} (h : enterFunc p fi targs varAt mem = .ok (nf, mem')) :
    ∃ vals mem1, prepArgs p fi.f.params targs mem1 = .ok (vals, mem') ∧
      vals.length = fi.f.params.length ∧ nf.fi = fi ∧ nf.bi = 0 ∧ nf.ii = 0 ∧
      nf.env = bindParams {} fi.f.params vals := by
  unfold enterFunc at h
  replace h := ite_error_ok (ite_error_ok (ite_error_ok (ite_error_ok h)))
  split at h
  · cases h
  · split at h
    · cases h
    · rename_i vals mem2 hprep
      split at h
      · cases h
      · rename_i hlen
        cases h
        exact ⟨vals, _, hprep, by simpa using hlen, rfl, rfl, rfl, rfl⟩

theorem bindCallRes_inv {p : Prog} {env : Env} {mem : Mem} {res : Option (String × Ty)}
    {rv : RetVal} {env' : Env} {mem' : Mem}
    (hb : bindCallRes p env mem res rv = .ok (env', mem')) :
    (res = none ∧ env' = env) ∨ ∃ x ty, ∃ v : RVal, res = some (x, ty) ∧
      env' = env.insert x v ∧ (v.kind = ty.cls.kind ∨ v.kind = Kind.u) := by
  unfold bindCallRes at hb
  split at hb
  · cases hb
    exact .inl ⟨rfl, rfl⟩
  · rename_i x ty
    refine .inr ⟨x, ty, ?_⟩
    split at hb
    · cases hb
      exact ⟨dummy, rfl, rfl, .inr rfl⟩
    · split at hb
      · cases hb
      · split at hb
        · cases hb
        · rename_i v' hv'
          cases hb
          exact ⟨v', rfl, rfl, .inl (coerce_kind hv')⟩
    · split at hb
      · cases hb
      · rename_i t bytes hty
        split at hb
        · cases hb
        · cases hb
          cases (by simpa using hty : ty = .agg t)
          exact ⟨_, rfl, rfl, .inl rfl⟩

theorem curIns_some {fr : Frame} {ins : Ins} : fr.curIns = some ins ↔
    ∃ b, fr.fi.f.blocks[fr.bi]? = some b ∧ b.ins[fr.ii]? = some ins := by
  unfold Frame.curIns
  cases fr.fi.f.blocks[fr.bi]? <;> simp

/-- The state at which `run` with the same fuel stops. -/
def lastState (p : Prog) (ext : Ext) : Nat → State → State
  | 0, s => s
  | n+1, s =>
    match step p ext s with
    | .next s' => lastState p ext n s'
    | .done _ _ => s

theorem run_inv {p : Prog} {ext : Ext} {Inv : State → Prop} {Q : State → End → Prop}
    (hstep : ∀ s, Inv s → match step p ext s with
      | .next s' => Inv s'
      | .done e _ => Q s e)
    (fuel : Nat) {s : State} (hs : Inv s) :
    Inv (lastState p ext fuel s) ∧
      ((run p ext fuel s).end = .fuel ∨ Q (lastState p ext fuel s) (run p ext fuel s).end) := by
  induction fuel generalizing s with
  | zero => exact ⟨hs, .inl rfl⟩
  | succ n ih =>
    have hst := hstep s hs
    simp only [run, lastState]
    generalize step p ext s = st at hst ⊢
    cases st with
    | next s' => exact ih hst
    | done e t => exact ⟨hs, .inr hst⟩

end CprocVerif.C03.Cls
