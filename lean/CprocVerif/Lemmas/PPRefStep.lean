import CprocVerif.Lemmas.PPObjSim

/-! # The reference alone: what is observed of a result, links between sources, one step

Two observations of a result of `expandH`: `outKeys` (class and spelling: what the model's output is compared with) and
`outE` (the tokens with their paint marks: what counts when the result is an argument about to be substituted).
`Link`/`LinkE`, "given enough fuel the reference on `a` first delivers `out` and then does what it does on `b`", is the
form in which single steps compose.  `expandObj_ref` holds for any reference table that agrees with the model's at the
token: the object-like and the function-like development are its instances. -/

namespace CprocVerif.PP
open CprocVerif.Gen.TokenKinds
open CprocVerif.Spec.MacroRef (HTok Item PTok MacroDef RErr Flag expandH hsadd union pendItems lookup)
open CprocVerif.Spec

def eraseHs (t : HTok) : HTok := { t with hs := [] }

/-- a result used as an argument: the hide sets are dropped on substitution -/
def outE (o : List HTok × Option RErr × List Flag) : List HTok × Option RErr := (o.1.map eraseHs, o.2.1)

def consE (t : HTok) (o : List HTok × Option RErr) : List HTok × Option RErr := (eraseHs t :: o.1, o.2)

def keysE (o : List HTok × Option RErr) : List (Kind × Option Name) × Option RErr := (o.1.map (·.tok.key), o.2)

theorem outKeys_of_outE (o : List HTok × Option RErr × List Flag) : outKeys o = keysE (outE o) := by
  simp [outKeys, outE, keysE, List.map_map, Function.comp_def, eraseHs]

def LinkBy {α : Type} (obs : List HTok × Option RErr × List Flag → List α × Option RErr)
    (tbl : List MacroDef) (a : List Item) (out : List α) (b : List Item) : Prop :=
  ∃ J c, ∀ K, c ≤ K →
    obs (expandH false (K + J) tbl a) = (out ++ (obs (expandH false K tbl b)).1, (obs (expandH false K tbl b)).2)

section
variable {α : Type} {obs : List HTok × Option RErr × List Flag → List α × Option RErr}
  {tbl : List MacroDef} {a b c : List Item}

theorem LinkBy.trans {o1 o2 : List α} (h1 : LinkBy obs tbl a o1 b) (h2 : LinkBy obs tbl b o2 c) :
    LinkBy obs tbl a (o1 ++ o2) c := by
  obtain ⟨J1, c1, H1⟩ := h1
  obtain ⟨J2, c2, H2⟩ := h2
  refine ⟨J2 + J1, max c1 c2, fun K hK => ?_⟩
  rw [← Nat.add_assoc, H1 (K + J2) (Nat.le_trans (Nat.le_trans (Nat.le_max_left c1 c2) hK) (Nat.le_add_right K J2)),
    H2 K (Nat.le_trans (Nat.le_max_right c1 c2) hK),
    List.append_assoc]

theorem LinkBy.final {L : List α} (hnil : obs ([], none, []) = ([], none)) (h : LinkBy obs tbl a L []) :
    ∃ J, ∀ K, J ≤ K → obs (expandH false K tbl a) = (L, none) := by
  obtain ⟨J, c, H⟩ := h
  refine ⟨c + 1 + J, fun K hK => ?_⟩
  obtain ⟨d, rfl⟩ := Nat.exists_eq_add_of_le hK
  rw [Nat.add_right_comm _ J d, Nat.add_right_comm c 1 d,
    H (c + d + 1) (Nat.le_add_right_of_le (Nat.le_add_right c d))]
  show (L ++ (obs ([], none, [])).1, (obs ([], none, [])).2) = _
  rw [hnil, List.append_nil]

end

def Link (tbl : List MacroDef) (a : List Item) (out : List (Kind × Option Name)) (b : List Item) : Prop :=
  LinkBy outKeys tbl a out b

/-- `LinkBy outE tbl a out b` unfolded (the two are definitionally equal: `LinkE.trans`, `LinkE.final` are `LinkBy`'s) -/
def LinkE (tbl : List MacroDef) (a : List Item) (out : List HTok) (b : List Item) : Prop :=
  ∃ J c, ∀ K, c ≤ K →
    outE (expandH false (K + J) tbl a) = (out ++ (outE (expandH false K tbl b)).1, (outE (expandH false K tbl b)).2)

section
variable {tbl : List MacroDef} {a b c : List Item}

theorem Link.refl (tbl : List MacroDef) (a : List Item) : Link tbl a [] a :=
  ⟨0, 0, fun _ _ => rfl⟩

theorem Link.of_eq (c : Nat)
    (h : ∀ K, c ≤ K → outKeys (expandH false (K + 1) tbl a) = outKeys (expandH false K tbl b)) : Link tbl a [] b :=
  ⟨1, c, fun K hK => by rw [h K hK]; rfl⟩

theorem Link.of_out (k : Kind × Option Name)
    (h : ∀ K, outKeys (expandH false (K + 1) tbl a) = consKey k (outKeys (expandH false K tbl b))) : Link tbl a [k] b :=
  ⟨1, 0, fun K _ => by rw [h K]; rfl⟩

theorem Link.final {L : List (Kind × Option Name)} (h : Link tbl a L []) :
    ∃ J, ∀ K, J ≤ K → outKeys (expandH false K tbl a) = (L, none) :=
  LinkBy.final rfl h

theorem LinkE.refl (tbl : List MacroDef) (a : List Item) : LinkE tbl a [] a :=
  ⟨0, 0, fun _ _ => rfl⟩

theorem LinkE.trans {o1 o2 : List HTok} (h1 : LinkE tbl a o1 b) (h2 : LinkE tbl b o2 c) : LinkE tbl a (o1 ++ o2) c :=
  LinkBy.trans (obs := outE) h1 h2

theorem LinkE.of_eq (c : Nat)
    (h : ∀ K, c ≤ K → outE (expandH false (K + 1) tbl a) = outE (expandH false K tbl b)) : LinkE tbl a [] b :=
  ⟨1, c, fun K hK => by rw [h K hK]; rfl⟩

theorem LinkE.of_out (t : HTok)
    (h : ∀ K, outE (expandH false (K + 1) tbl a) = consE t (outE (expandH false K tbl b))) : LinkE tbl a [eraseHs t] b :=
  ⟨1, 0, fun K _ => by rw [h K]; rfl⟩

theorem LinkE.final {L : List HTok} (h : LinkE tbl a L []) :
    ∃ J, ∀ K, J ≤ K → outE (expandH false K tbl a) = (L, none) :=
  LinkBy.final (obs := outE) rfl h

theorem LinkE.toLink {out : List HTok} (h : LinkE tbl a out b) : Link tbl a (out.map (·.tok.key)) b := by
  obtain ⟨J, c, H⟩ := h
  refine ⟨J, c, fun K hK => ?_⟩
  rw [outKeys_of_outE, H K hK, outKeys_of_outE]
  simp [keysE]

end

theorem expandH_keepE {tbl : List MacroDef} {T : HTok} (K : Nat) (rest : List Item)
    (h : T.tok.kind ≠ .TIDENT ∨ T.painted = true ∨ lookup tbl (T.tok.lit.getD []) = none) :
    outE (expandH false (K + 1) tbl (.tok T :: rest)) = consE T (outE (expandH false K tbl rest)) := by
  rw [expandH]
  by_cases hk : T.tok.kind ≠ .TIDENT ∨ T.painted = true
  · rw [if_pos hk]; rfl
  · rw [if_neg hk, (h.resolve_left fun h => hk (.inl h)).resolve_left fun h => hk (.inr h)]; rfl

theorem expandH_hiddenE {tbl : List MacroDef} {T : HTok} {m : MacroDef} (K : Nat) (rest : List Item)
    (hk : T.tok.kind = .TIDENT) (hp : T.painted = false)
    (hl : lookup tbl (T.tok.lit.getD []) = some m) (hc : T.hs.contains m.name = true) :
    outE (expandH false (K + 1) tbl (.tok T :: rest)) = consE { T with painted := true } (outE (expandH false K tbl rest)) := by
  rw [expandH]
  simp only [hk, hp, hl, hc, ne_eq, not_true_eq_false, Bool.false_eq_true, or_self, ↓reduceIte]
  -- `outE` does not see the flag recorded when the hidden name of a function-like macro is followed by `(`
  exact (apply_ite outE _ _ _).trans (ite_self _)

theorem expandH_replaceE {tbl : List MacroDef} {T : HTok} {m : MacroDef} (K : Nat) (rest : List Item)
    (hk : T.tok.kind = .TIDENT) (hp : T.painted = false)
    (hl : lookup tbl (T.tok.lit.getD []) = some m) (hf : m.func = false) (hc : T.hs.contains m.name = false) :
    outE (expandH false (K + 1) tbl (.tok T :: rest)) = outE (expandH false K tbl (replaced m T rest)) := by
  rw [expandH]
  simp only [hk, hp, hl, hc, hf, ne_eq, not_true_eq_false, Bool.false_eq_true, or_self, ↓reduceIte, not_false_eq_true]
  -- `outE` does not see the flag recorded for left-over white space
  exact (apply_ite outE _ _ _).trans (ite_self _)

def isMac (ms0 : List Macro) (t : Tok) : Bool :=
  decide (t.kind = .TIDENT) && (macroget ms0 (t.lit.getD [])).isSome

/-- the reference's token for `t`: painted when `t` is hidden and names a macro (an identifier that names no
macro is hidden by the model and left unpainted by the reference, to no effect) -/
def mkHp (ms0 : List Macro) (hs : List Name) (t : Tok) : HTok := ⟨toP t, hs, t.hide && isMac ms0 t⟩

theorem mkHp_nohide (ms0 : List Macro) (hs : List Name) (t : Tok) (h : t.hide = false) : mkHp ms0 hs t = mkH hs t := by
  simp [mkHp, mkH, h]

/-- what `expand` does with a token that starts no invocation, and what one unit of fuel of the reference does with it
in front of any `rest`.  In `pass` the token delivered is written `mkHp s1.macros [] t'`: `consE` drops the hide set,
so `[]` stands for any.  In `push` the token is unhidden, so `mkH` is `mkHp` (`mkHp_nohide`). -/
inductive ExpandRef (tbl : List MacroDef) (t : Tok) (s1 s2 : St) : Prop where
  | pass (t' : Tok) (st : s2 = { s1 with rb := false, rt := t' }) (kind : t'.kind = t.kind) (lit : t'.lit = t.lit)
      (sim : ∀ rest K, outE (expandH false (K + 1) tbl (.tok (mkHp s1.macros (hsOf s1.ctx) t) :: rest)) =
        consE (mkHp s1.macros [] t') (outE (expandH false K tbl rest)))
  | push (m : Macro) (st : s2 = pushed m t s1) (get : macroget s1.macros m.name = some m) (func : m.func = false)
      (thide : t.hide = false)
      (inv : InvC s2.ctx s2.macros s2.depth)
      (pot : W tbl (liveNames s1.ctx) t = 1 + ((respace m.body t.space).map (W tbl (m.name :: liveNames s1.ctx))).sum)
      (sim : ∀ rest K, outE (expandH false (K + 1) tbl (.tok (mkH (hsOf s1.ctx) t) :: rest)) =
        outE (expandH false K tbl (pushFront (m.body.map (mkH (hsOf s1.ctx ++ [m.name]))) t.space rest)))

theorem expandObj_ref {tbl : List MacroDef} {toD : Macro → MacroDef} {s1 : St} {t : Tok}
    (hinv : InvC s1.ctx s1.macros s1.depth) (hnd : (tbl.map (·.name)).Nodup)
    (hlk : lookup tbl (t.lit.getD []) = (macroget s1.macros (t.lit.getD [])).map toD)
    (hD : ∀ m, t.kind = .TIDENT → macroget s1.macros (t.lit.getD []) = some m →
      m.func = false ∧ (toD m).func = false ∧ (toD m).name = m.name ∧ (toD m).body = m.body.map toP) :
    ExpandRef tbl t s1 (expandObj t s1) := by
  rw [expandObj]
  by_cases hk : t.kind ≠ .TIDENT
  · rw [if_pos hk]
    exact .pass t rfl rfl rfl fun rest K => expandH_keepE K rest (.inl hk)
  rw [if_neg hk]
  have hk1 : t.kind = .TIDENT := Decidable.not_not.mp hk
  -- the reference keeps the token, painted or not: the model hides it
  have keep : ∀ T' : HTok, eraseHs T' = mkHp s1.macros [] { t with hide := true } →
      (∀ rest K, outE (expandH false (K + 1) tbl (.tok (mkHp s1.macros (hsOf s1.ctx) t) :: rest)) =
        consE T' (outE (expandH false K tbl rest))) →
      ExpandRef tbl t s1 { s1 with rb := false, rt := { t with hide := true } } := fun T' hT' h =>
    .pass { t with hide := true } rfl rfl rfl fun rest K => (h rest K).trans (by simp only [consE, hT']; rfl)
  cases hm : macroget s1.macros (t.lit.getD []) with
  | none =>
    exact keep _ (by simp [eraseHs, mkHp, isMac, hm, toP]) fun rest K => expandH_keepE K rest (.inr (.inr (hlk.trans (by rw [hm]; rfl))))
  | some m =>
    obtain ⟨hmf, hDf, hname, hbody⟩ := hD m hk1 hm
    have hmem := macroget_mem hm
    have hcontains : (hsOf s1.ctx).contains (toD m).name = m.hide := hname ▸ hsOf_contains hinv hmem.1
    have hlkm : lookup tbl (t.lit.getD []) = some (toD m) := by rw [hlk, hm]; rfl
    dsimp only
    by_cases hh : m.hide = true ∨ t.hide = true
    · rw [if_pos hh]
      by_cases hth : t.hide = true
      · exact keep _ (by simp [eraseHs, mkHp, isMac, hm, hk1, hth, toP]) fun rest K =>
          expandH_keepE K rest (.inr (.inl (by simp [mkHp, isMac, hth, hk1, hm])))
      · exact keep _ (by simp [eraseHs, mkHp, isMac, hm, hk1, toP]) fun rest K =>
          expandH_hiddenE K rest hk1 (by simp [mkHp, hth]) hlkm (hcontains.trans (hh.resolve_right hth))
    · rw [if_neg hh]
      have hhf : m.hide = false := Bool.eq_false_iff.mpr fun h => hh (.inl h)
      have hth : t.hide = false := Bool.eq_false_iff.mpr fun h => hh (.inr h)
      have hc : (hsOf s1.ctx).contains (toD m).name = false := hcontains.trans hhf
      have hnot : (liveNames s1.ctx).contains (toD m).name = false := by
        rw [← hc, hsOf, List.contains_reverse]
      refine .push m rfl (by rw [hmem.2]; exact hm) hmf hth (invC_push _ hinv hmem.1 hhf) ?_ fun rest K => ?_
      · rw [W_expand hnd hk1 hlkm (hname.trans hmem.2) hnot, hname, hbody, sum_W_respace, List.map_map]
        rfl
      · rw [expandH_replaceE K rest hk1 rfl hlkm hDf hc, replaced,
          show union (mkH (hsOf s1.ctx) t).hs [(toD m).name] = hsOf s1.ctx ++ [m.name] from hname ▸ union_single hc,
          hbody, hsadd_body]
        rfl

end CprocVerif.PP
