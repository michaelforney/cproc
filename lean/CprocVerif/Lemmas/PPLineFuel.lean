import CprocVerif.Model.PPLine
import CprocVerif.Lemmas.ScanAdv

/-! Vocabulary for the fuel of the preprocessor model's loops (the facts are proved in `PPLinePP`):
`Prog`, a step consumed a character unless it delivered `TEOF` (what `Scan.scan_cases` gives of
`scan`); `Fuel n t p`, the `n` units left suffice for a loop that reads one token per turn, the
fuel being initialised from the number of characters left; `NF`, not the model's own "out of fuel". -/

namespace CprocVerif.PPLine
open CprocVerif.Scan CprocVerif.Gen.TokenKinds

def NF (e : PErr) : Prop := e.kind ≠ .fuel ∧ e.kind ≠ .scan .fuel

def Prog (p : PS) (r : PTok × PS) : Prop :=
  r.2.s.len < p.s.len ∨ (r.1.kind = .TEOF ∧ r.2.s.len = 0)

theorem Prog.le {p : PS} {r : PTok × PS} (h : Prog p r) : r.2.s.len ≤ p.s.len := by
  rcases h with h | h <;> omega

theorem Prog.lt {p : PS} {r : PTok × PS} (h : Prog p r) (hk : r.1.kind ≠ .TEOF) :
    r.2.s.len < p.s.len := h.resolve_right fun h => hk h.1

theorem Prog.trans {p p' : PS} {r : PTok × PS} (hle : p'.s.len ≤ p.s.len) (h : Prog p' r) :
    Prog p r := h.imp_left fun h => Nat.lt_of_lt_of_le h hle

/-- `t` is the token read last, `p` the state behind it -/
def Fuel (n : Nat) (t : PTok) (p : PS) : Prop := p.s.len + 2 ≤ n ∨ (t.kind = .TEOF ∧ 1 ≤ n)

theorem Fuel.ne_zero {t : PTok} {p : PS} : ¬ Fuel 0 t p := by
  rintro (h | h) <;> omega

theorem Fuel.step {n : Nat} {t : PTok} {p : PS} {r : PTok × PS} (h : Fuel (n + 1) t p)
    (hk : t.kind ≠ .TEOF) (hp : Prog p r) : Fuel n r.1 r.2 := by
  have h1 : p.s.len + 2 ≤ n + 1 := h.resolve_right fun h => hk h.1
  rcases hp with hp | hp
  · exact Or.inl (by omega)
  · exact Or.inr ⟨hp.1, by omega⟩

end CprocVerif.PPLine
