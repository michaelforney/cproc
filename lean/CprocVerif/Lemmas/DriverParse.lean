import CprocVerif.Lemmas.DriverStr

/-! C17: the argument loop of the model on rendered items.  On the rendering of a well-formed item
(attached or detached) the loop refuses as `itemRefuses` says or goes to the state `upd`
(`parse_item`); over a command line the final state is given by the functions of
`Spec/DriverDoc.lean` (`updAll_eq`). -/

namespace CprocVerif.DriverLemmas
open CprocVerif.Driver CprocVerif.DriverDoc

theorem parse_nil (s : PState) : parse s [] = .ok s := by rw [parse]

theorem parse_refuse {s : PState} {a : Str} {rest : List Str} {r : Refusal}
    (h : step s a rest.head? = .refuse r) : parse s (a :: rest) = .error r := by
  rw [parse, h]

theorem parse_next {s s' : PState} {a : Str} {rest : List Str}
    (h : step s a rest.head? = .next s' false) : parse s (a :: rest) = parse s' rest := by
  rw [parse, h]

theorem parse_consumed {s s' : PState} {a : Str} {rest : List Str}
    (h : step s a rest.head? = .next s' true) : parse s (a :: rest) = parse s' rest.tail := by
  rw [parse, h]

def selects (arg : Str) (r : OptRow) : Bool :=
  !isInputArg arg && firstMatch arg == some r && !r.m.bareViolated arg

theorem step_selects {arg : Str} {r : OptRow} (h : selects arg r = true) (s : PState) (next : Option Str) :
    step s arg next = applyAct s r.act arg next := by
  simp only [selects, Bool.and_eq_true, Bool.not_eq_true', beq_iff_eq] at h
  simp [step, h.1.1, h.1.2, h.2]

def secondChar : Match → Option Char
  | .exact s | .pfx s => s[1]?
  | .letter c _ => some c

/-- necessary for row `r` to match an argument `-c…` (`asks_of_matches`), and a test that does not look
at the rest of the argument: the first row that `asks c`, if it is the letter row of `c`, is the row
the chain selects for EVERY `-c<suffix>` (`selects_letter`). -/
def asks (c : Char) (r : OptRow) : Bool := (secondChar r.m).all (· == c)

theorem asks_of_matches {r : OptRow} {c : Char} {v : Str} (h : r.m.matches ('-' :: c :: v) = true) :
    asks c r = true := by
  obtain ⟨m, a⟩ := r
  cases m with
  | exact s =>
    have : '-' :: c :: v = s := by simpa [Match.matches] using h
    simp [asks, secondChar, ← this]
  | pfx p =>
    match p, h with
    | [], _ | [_], _ => rfl
    | _ :: b :: _, h =>
      have : b = c := by simp only [Match.matches, isPfx, Bool.and_eq_true, beq_iff_eq] at h; exact h.2.1
      simp [asks, secondChar, this]
  | letter c' b =>
    have : c = c' := by simpa [Match.matches] using h
    simp [asks, secondChar, this]

theorem isPfx_append (p v : Str) : isPfx p (p ++ v) = true := by
  induction p with
  | nil => rfl
  | cons a p ih => simpa [isPfx] using ih

theorem find?_of_weaker {α} {p q : α → Bool} {b : α} {l : List α} (hpq : ∀ x, p x = true → q x = true)
    (hb : p b = true) (h : l.find? q = some b) : l.find? p = some b := by
  obtain ⟨_, as, bs, rfl, has⟩ := List.find?_eq_some_iff_append.1 h
  refine List.find?_eq_some_iff_append.2 ⟨hb, as, bs, rfl, fun a ha => ?_⟩
  cases hp : p a with
  | false => rfl
  | true => have := has a ha; rw [hpq a hp] at this; cases this

def knownSecond : List Char :=
  ['n', 's', 'e', 'i', 'p', 'c', 'D', 'E', 'g', 'I', 'L', 'l', 'M', 'O', 'o', 'P', 'S', 'U', 'v', 'W', 'x']

/-- Everything the proofs need to know about the table `optRows`, in ONE evaluation: unfolding a
string literal is dear, and every fact about the table unfolds all of them.  For the letters that
take a suffix, and for `-std=`, the row is found by a test that does not look at the suffix;
`selects_letter`, `selects_pfx` conclude for every suffix. -/
theorem chain_rows :
    (selects (str "-c") ⟨.letter 'c' true, .last .assemble⟩ ∧
     selects (str "-S") ⟨.letter 'S' true, .last .codegen⟩ ∧
     selects (str "-E") ⟨.letter 'E' true, .last .preprocess⟩ ∧
     selects (str "-emit-qbe") ⟨.exact (str "-emit-qbe"), .last .compile⟩ ∧
     selects (str "-s") ⟨.letter 's' true, .add .link [.lit (str "-s")]⟩ ∧
     selects (str "-v") ⟨.letter 'v' true, .verbose⟩ ∧
     selects (str "-static") ⟨.exact (str "-static"), .add .link [.self]⟩ ∧
     selects (str "-nostdlib") ⟨.exact (str "-nostdlib"), .nostdlib⟩ ∧
     selects (str "-nostdinc") ⟨.exact (str "-nostdinc"), .add .preprocess [.self]⟩ ∧
     selects (str "-pthread") ⟨.exact (str "-pthread"), .add .link [.lit (str "-l"), .lit (str "pthread")]⟩ ∧
     selects (str "-pipe") ⟨.exact (str "-pipe"), .ignore⟩ ∧
     selects (str "-pedantic") ⟨.exact (str "-pedantic"), .ignore⟩ ∧
     selects (str "-M") ⟨.exact (str "-M"), .addLast .preprocess [.self] .preprocess⟩ ∧
     selects (str "-MM") ⟨.exact (str "-MM"), .addLast .preprocess [.self] .preprocess⟩ ∧
     selects (str "-MD") ⟨.exact (str "-MD"), .add .preprocess [.self]⟩ ∧
     selects (str "-MMD") ⟨.exact (str "-MMD"), .add .preprocess [.self]⟩) ∧
    ((∀ k ∈ [IncKind.include_, .idirafter, .isystem, .iquote],
        selects k.spelling ⟨.exact k.spelling, .add .preprocess [.self, .sep]⟩) ∧
     selects (str "-MT") ⟨.exact (str "-MT"), .add .preprocess [.self, .sep]⟩ ∧
     selects (str "-MF") ⟨.exact (str "-MF"), .add .preprocess [.self, .sep]⟩) ∧
    (optRows.find? (asks 'D') = some ⟨.letter 'D' false, .add .preprocess [.lit (str "-D"), .joined]⟩ ∧
     optRows.find? (asks 'U') = some ⟨.letter 'U' false, .add .preprocess [.lit (str "-U"), .joined]⟩ ∧
     optRows.find? (asks 'I') = some ⟨.letter 'I' false, .add .preprocess [.lit (str "-I"), .joined]⟩ ∧
     optRows.find? (asks 'L') = some ⟨.letter 'L' false, .add .link [.lit (str "-L"), .joined]⟩ ∧
     optRows.find? (asks 'l') = some ⟨.letter 'l' false, .lib⟩ ∧
     optRows.find? (asks 'o') = some ⟨.letter 'o' false, .output⟩ ∧
     optRows.find? (asks 'x') = some ⟨.letter 'x' false, .lang⟩ ∧
     optRows.find? (asks 'g') = some ⟨.letter 'g' false, .ignore⟩ ∧
     optRows.find? (asks 'O') = some ⟨.letter 'O' false, .ignore⟩ ∧
     optRows.find? (asks 'P') = some ⟨.letter 'P' false, .add .preprocess [.lit (str "-P")]⟩ ∧
     optRows.find? (asks 'W') = some ⟨.letter 'W' false, .wcomma⟩) ∧
    optRows.find? (fun r => match r.m with | .exact s => isPfx (str "-std=") s | _ => true) =
      some ⟨.pfx (str "-std="), .add .preprocess [.self]⟩ ∧
    (∀ r ∈ optRows, ∃ c ∈ knownSecond, secondChar r.m = some c) := by
  decide +kernel

theorem selects_letter {c : Char} {a : Act} (h : optRows.find? (asks c) = some ⟨.letter c false, a⟩) (v : Str) :
    selects ('-' :: c :: v) ⟨.letter c false, a⟩ = true := by
  have : firstMatch ('-' :: c :: v) = some ⟨.letter c false, a⟩ :=
    find?_of_weaker (fun _ => asks_of_matches) (by simp [Match.matches]) h
  simp [selects, this, isInputArg, Match.bareViolated]

theorem selects_pfx {p : Str} {a : Act}
    (h : optRows.find? (fun r => match r.m with | .exact s => isPfx p s | _ => true) = some ⟨.pfx p, a⟩)
    (v : Str) (hi : isInputArg (p ++ v) = false) : selects (p ++ v) ⟨.pfx p, a⟩ = true := by
  have : firstMatch (p ++ v) = some ⟨.pfx p, a⟩ := by
    refine find?_of_weaker (p := fun r => r.m.matches (p ++ v)) (fun r hr => ?_) (isPfx_append p v) h
    obtain ⟨m, _⟩ := r
    cases m with
    | exact s =>
      have : p ++ v = s := by simpa [Match.matches] using hr
      exact this ▸ isPfx_append p v
    | _ => rfl
  simp [selects, this, hi, Match.bareViolated]

theorem firstMatch_unknown {ch : Char} (h : ch ∉ knownSecond) (rest : Str) : firstMatch ('-' :: ch :: rest) = none := by
  rw [firstMatch, List.find?_eq_none]
  intro r hr hm
  obtain ⟨c, hc, hs⟩ := chain_rows.2.2.2.2 r hr
  have := asks_of_matches (by simpa using hm)
  simp only [asks, hs, Option.all_some, beq_iff_eq] at this
  exact h (this ▸ hc)

def toInput (d : DocInput) : Input := ⟨d.name, (maskOf d.ftype).getD [], d.ftype, d.lib⟩

/-- `l ++ ws`, written so that it reduces once `ws` is a known list (`l ++ []` does not, for a
variable `l`): with it the state the model reaches on an item IS `upd`, by `rfl`. -/
def snoc {α} (l ws : List α) : List α :=
  match ws with
  | [] => l
  | _ => l ++ ws

theorem snoc_eq {α} (l ws : List α) : snoc l ws = l ++ ws := by
  cases ws <;> simp [snoc]

def upd (s : PState) (it : Item) : PState :=
  { last := (modeOf it).getD s.last
    ftype := match it with | .lang x => (langTable.lookup x).getD s.ftype | _ => s.ftype
    output := (outOf it).or s.output
    inputs := snoc s.inputs ((docInputsFrom s.ftype [it]).map toInput)
    cpp := snoc s.cpp (toolArgsP false .cpp it), cc := snoc s.cc (toolArgsP false .cc it)
    qbe := snoc s.qbe (toolArgsP false .qbe it), as := snoc s.as (toolArgsP false .as it)
    ld := snoc s.ld (toolArgsP false .ld it)
    nostdlib := .nostdlib == it || s.nostdlib, verbose := .verbose == it || s.verbose }

def itemRefuses (l : FileType) : Item → Option UsageWhy
  | .input n => if l == .none && n == ['-'] then some .stdinNeedsX else none
  | .lang x => if (langTable.lookup x).isNone then some .unknownLang else none
  | _ => none

def parseAfter (s : PState) (it : Item) (rest : List Str) : Except Refusal PState :=
  match itemRefuses s.ftype it with
  | some w => .error (.usage w)
  | none => parse (upd s it) rest

theorem typeBySuffix_ne_none (n : Str) : typeBySuffix n ≠ .none := by
  unfold typeBySuffix
  split
  · simp only [docSuffixes, List.lookup]
    repeat' split
    all_goals simp
  · simp

theorem maskOf_some {ft : FileType} (h : ft ≠ .none) : ∃ m, maskOf ft = some m := by
  cases ft <;> first | exact absurd rfl h | exact ⟨_, rfl⟩

theorem inputType_eq (l : FileType) (n : Str) :
    (if l == .none && n != ['-'] then detectFileType n else l) =
      if l = .none then (if n = ['-'] then .none else typeBySuffix n) else l := by
  by_cases hl : l = .none <;> by_cases hn : n = ['-'] <;> simp [hl, hn, detectFileType_eq]

theorem addInput_eq (s : PState) (n : Str) :
    addInput s n = match itemRefuses s.ftype (.input n) with
      | some w => .error (.usage w)
      | none => .ok (upd s (.input n)) := by
  simp only [addInput, itemRefuses, inputType_eq]
  by_cases hl : s.ftype = .none
  · by_cases hn : n = ['-']
    · simp only [hl, hn, if_true]; rfl
    · obtain ⟨m, hm⟩ := maskOf_some (typeBySuffix_ne_none n)
      simp [upd, docInputsFrom, toInput, snoc, hl, hn, hm, modeOf, outOf, toolArgsP, toolArgs]
  · obtain ⟨m, hm⟩ := maskOf_some hl
    simp [upd, docInputsFrom, toInput, snoc, hl, hm, modeOf, outOf, toolArgsP, toolArgs]

theorem parse_flag {s s' : PState} {arg : Str} {r : OptRow} (rest : List Str) (h : selects arg r = true)
    (ha : ∀ next, applyAct s r.act arg next = .next s' false) : parse s (arg :: rest) = parse s' rest :=
  parse_next (by rw [step_selects h, ha])

theorem parse_valued {s : PState} {c : Char} {r : OptRow} {v : Str} {d : Bool} (rest : List Str)
    (k : PState → Str → Except Refusal PState) (hwf : (d || v != []) = true)
    (h : ∀ w, selects ('-' :: c :: w) r = true)
    (ha : ∀ arg next, applyAct s r.act arg next = withNextarg s arg next k) :
    parse s (joinedOrSep ['-', c] v d ++ rest) =
      match k s v with | .ok s' => parse s' rest | .error e => .error e := by
  cases d with
  | true =>
    show parse s (['-', c] :: v :: rest) = _
    have hs : step s ['-', c] (v :: rest).head? = _ := (step_selects (h []) s _).trans (ha _ _)
    simp only [withNextarg, nextarg, List.drop, List.head?] at hs
    cases hk : k s v with
    | ok s' => rw [hk] at hs; exact parse_consumed hs
    | error e => rw [hk] at hs; exact parse_refuse hs
  | false =>
    show parse s (('-' :: c :: v) :: rest) = _
    have hs := (step_selects (h v) s rest.head?).trans (ha _ _)
    have hn : nextarg ('-' :: c :: v) rest.head? = .ok v false := by
      cases v with
      | nil => simp at hwf
      | cons a b => rfl
    simp only [withNextarg, hn] at hs
    cases hk : k s v with
    | ok s' => rw [hk] at hs; exact parse_next hs
    | error e => rw [hk] at hs; exact parse_refuse hs

theorem parse_sep {s : PState} {f : Str} (v : Str) (rest : List Str)
    (h : selects f ⟨.exact f, .add .preprocess [.self, .sep]⟩ = true) :
    parse s (f :: v :: rest) = parse (s.addTo .preprocess [f, v]) rest :=
  parse_consumed (by rw [step_selects h]; rfl)

theorem parse_item (s : PState) (it : Item) (d : Bool) (rest : List Str) (h : Item.WF (it, d) = true) :
    parse s (it.render d ++ rest) = parseAfter s it rest := by
  obtain ⟨⟨hc, hS, hE, hemit, hs, hv, hstatic, hnostdlib, hnostdinc, hpthread, hpipe, hpedantic, hM, hMM, hMD, hMMD⟩,
    ⟨hinc, hMT, hMF⟩, ⟨hD, hU, hI, hL, hl, ho, hx, hg, hO, hP, hW⟩, hstd, _⟩ := chain_rows
  cases it with
  | input n =>
    have hi : isInputArg n = true := h
    have ha := addInput_eq s n
    show parse s (n :: rest) = _
    rw [parseAfter]
    cases hr : itemRefuses s.ftype (.input n) with
    | some w => rw [hr] at ha; exact parse_refuse (by simp only [step, hi, ha, if_true])
    | none => rw [hr] at ha; exact parse_next (by simp only [step, hi, ha, if_true])
  | c => exact parse_flag rest hc fun _ => rfl
  | S => exact parse_flag rest hS fun _ => rfl
  | E => exact parse_flag rest hE fun _ => rfl
  | emitQbe => exact parse_flag rest hemit fun _ => rfl
  | define v => exact parse_valued rest (fun _ v => .ok (upd s (.define v))) h (selects_letter hD) fun _ _ => rfl
  | undef v => exact parse_valued rest (fun _ v => .ok (upd s (.undef v))) h (selects_letter hU) fun _ _ => rfl
  | incdir v => exact parse_valued rest (fun _ v => .ok (upd s (.incdir v))) h (selects_letter hI) fun _ _ => rfl
  | libdir v => exact parse_valued rest (fun _ v => .ok (upd s (.libdir v))) h (selects_letter hL) fun _ _ => rfl
  | lib v => exact parse_valued rest (fun s v => .ok (upd s (.lib v))) h (selects_letter hl) fun _ _ => rfl
  | output v => exact parse_valued rest (fun s v => .ok (upd s (.output v))) h (selects_letter ho) fun _ _ => rfl
  | lang l =>
    refine (parse_valued rest (fun s v => match langTable.lookup v with
        | some ft => .ok { s with ftype := ft }
        | none => .error (.usage .unknownLang)) h (selects_letter hx) fun _ _ => rfl).trans ?_
    simp only [parseAfter, itemRefuses, upd]
    cases langTable.lookup l <;> rfl
  | inc k v => exact parse_sep v rest (hinc k (by cases k <;> decide))
  | strip => exact parse_flag rest hs fun _ => rfl
  | verbose => exact parse_flag rest hv fun _ => rfl
  | static_ => exact parse_flag rest hstatic fun _ => rfl
  | nostdlib => exact parse_flag rest hnostdlib fun _ => rfl
  | nostdinc => exact parse_flag rest hnostdinc fun _ => rfl
  | pthread => exact parse_flag rest hpthread fun _ => rfl
  | wtool t args =>
    have hw : ((t == .cpp || t == .as || t == .ld) && args != [] && args.all (fun a => !a.contains ',')) = true := h
    simp only [Bool.and_eq_true, Bool.or_eq_true, beq_iff_eq, bne_iff_ne, ne_eq, List.all_eq_true,
      Bool.not_eq_true', List.contains_eq_mem, decide_eq_false_iff_not] at hw
    obtain ⟨⟨ht, hne⟩, hall⟩ := hw
    have key : ∀ (c : Char) (st : Stage) (t : Tool), wTable.lookup c = some st →
        s.addTo st args = upd s (.wtool t args) →
        parse s (('-' :: 'W' :: c :: ',' :: joinComma args) :: rest) = parseAfter s (.wtool t args) rest := by
      intro c st t hl hu
      refine (parse_flag rest (selects_letter hW _) fun _ => ?_).trans (congrArg (parse · rest) hu)
      simp only [applyAct, List.drop, hl, splitComma_joinComma args hne hall]
    rcases ht with (rfl | rfl) | rfl
    · exact key 'p' .preprocess _ rfl (show _ = ({ s with cpp := snoc s.cpp args } : PState) by rw [snoc_eq]; rfl)
    · exact key 'a' .assemble _ rfl (show _ = ({ s with as := snoc s.as args } : PState) by rw [snoc_eq]; rfl)
    · exact key 'l' .link _ rfl (show _ = ({ s with ld := snoc s.ld args } : PState) by rw [snoc_eq]; rfl)
  | ineff i =>
    cases i with
    | g sfx => exact parse_flag rest (selects_letter hg sfx) fun _ => rfl
    | O sfx => exact parse_flag rest (selects_letter hO sfx) fun _ => rfl
    | pipe => exact parse_flag rest hpipe fun _ => rfl
    | pedantic => exact parse_flag rest hpedantic fun _ => rfl
    | warn sfx =>
      refine parse_flag rest (selects_letter hW sfx) fun _ => ?_
      -- `-W<c>,…` is excluded by well-formedness; every other suffix is ignored
      match sfx, h with
      | [], _ | [_], _ => rfl
      | _ :: b :: _, h =>
        have hb : b ≠ ',' := by intro e; subst e; exact absurd h (by simp [Item.WF])
        show applyAct s .wcomma ('-' :: 'W' :: _ :: b :: _) _ = _
        simp only [applyAct, List.drop]
        split
        · rename_i heq
          simp only [List.cons.injEq] at heq
          exact absurd heq.2.1 hb
        · rfl
  | std v => exact parse_flag rest (selects_pfx hstd v rfl) fun _ => rfl
  | dep dk =>
    cases dk with
    | M => exact parse_flag rest hM fun _ => rfl
    | MM => exact parse_flag rest hMM fun _ => rfl
    | MD => exact parse_flag rest hMD fun _ => rfl
    | MMD => exact parse_flag rest hMMD fun _ => rfl
  | depArg tg v =>
    cases tg with
    | true => exact parse_sep v rest hMT
    | false => exact parse_sep v rest hMF
  | noLineMarkers sfx => exact parse_flag rest (selects_letter hP sfx) fun _ => rfl

def updAll (s : PState) (c : List Item) : PState := c.foldl upd s

def parseRefuses : FileType → List Item → Bool
  | _, [] => false
  | l, .input n :: r => (l == .none && n == ['-']) || parseRefuses l r
  | l, .lang x :: r =>
    match docLangs.lookup x with
    | none => true
    | some l' => parseRefuses l' r
  | l, _ :: r => parseRefuses l r

theorem parseRefuses_cons (s : PState) (it : Item) (r : List Item) :
    parseRefuses s.ftype (it :: r) = ((itemRefuses s.ftype it).isSome || parseRefuses (upd s it).ftype r) := by
  cases it with
  | input n => simp only [parseRefuses, itemRefuses]; cases s.ftype == .none && n == ['-'] <;> rfl
  | lang x => simp only [parseRefuses, itemRefuses, upd, show langTable = docLangs from rfl]; cases docLangs.lookup x <;> rfl
  | wtool t _ => cases t <;> rfl
  | dep d => cases d <;> rfl
  | _ => rfl

/-- `tail` need not be a rendering: `Props/C17` puts an unknown option or a flag without its value
there. -/
theorem parse_cmd (tail : List Str) : ∀ (c : Cmd) (s : PState), c.WF = true →
    (parseRefuses s.ftype c.items = true → ∃ w, parse s (c.argv ++ tail) = .error (.usage w)) ∧
    (parseRefuses s.ftype c.items = false → parse s (c.argv ++ tail) = parse (updAll s c.items) tail)
  | [], _, _ => ⟨fun h => (by cases h), fun _ => rfl⟩
  | (it, d) :: c, s, h => by
    have hp : Item.WF (it, d) = true ∧ Cmd.WF c = true := by simpa [Cmd.WF, List.all_cons] using h
    have ih := parse_cmd tail c (upd s it) hp.2
    have e : parse s (Cmd.argv ((it, d) :: c) ++ tail) = parseAfter s it (Cmd.argv c ++ tail) := by
      rw [← parse_item s it d _ hp.1, ← List.append_assoc]; rfl
    rw [e, show Cmd.items ((it, d) :: c) = it :: Cmd.items c from rfl, parseRefuses_cons, parseAfter]
    cases itemRefuses s.ftype it with
    | some w => exact ⟨fun _ => ⟨w, rfl⟩, fun h => by cases h⟩
    | none => exact ih

theorem getLast?_filterMap_cons {α β} (f : α → Option β) (a : α) (l : List α) :
    ((a :: l).filterMap f).getLast? = ((l.filterMap f).getLast?).or (f a) := by
  rw [List.filterMap_cons]
  cases f a with
  | none => rw [Option.or_none]
  | some b => rw [List.getLast?_cons]; cases (l.filterMap f).getLast? <;> rfl

theorem docInputsFrom_cons (s : PState) (it : Item) (r : List Item) :
    docInputsFrom s.ftype (it :: r) = docInputsFrom s.ftype [it] ++ docInputsFrom (upd s it).ftype r := by
  cases it <;> rfl

/-- `ftype` stands for itself: the language in force at the end has no name in the documentation, and
nothing after the loop (`check`, `build`) reads it. -/
theorem updAll_eq : ∀ (c : List Item) (s : PState),
    updAll s c =
      { last := ((c.filterMap modeOf).getLast?).getD s.last, ftype := (updAll s c).ftype
        output := ((c.filterMap outOf).getLast?).or s.output
        inputs := s.inputs ++ (docInputsFrom s.ftype c).map toInput
        cpp := s.cpp ++ c.flatMap (toolArgsP false .cpp), cc := s.cc ++ c.flatMap (toolArgsP false .cc)
        qbe := s.qbe ++ c.flatMap (toolArgsP false .qbe), as := s.as ++ c.flatMap (toolArgsP false .as)
        ld := s.ld ++ c.flatMap (toolArgsP false .ld)
        nostdlib := s.nostdlib || c.contains .nostdlib, verbose := s.verbose || c.contains .verbose }
  | [], s => by simp [updAll, docInputsFrom]
  | it :: r, s => by
    rw [show updAll s (it :: r) = updAll (upd s it) r from rfl, updAll_eq r (upd s it), docInputsFrom_cons]
    simp only [getLast?_filterMap_cons, Option.getD_or, Option.or_assoc, List.flatMap_cons,
      List.map_append, List.contains_cons]
    simp only [upd, snoc_eq, List.append_assoc, Bool.or_assoc, Bool.or_left_comm]

end CprocVerif.DriverLemmas
