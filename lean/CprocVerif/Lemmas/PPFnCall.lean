import CprocVerif.Lemmas.PPFnArgLoop

/-! # `expand` on an invocation whose arguments name macros and hold invocations

The substituted replacement list against `subst` with painted argument tokens (`frame_exact`); `expand` on an
invocation once the argument loop completes on its text, as a model side (`expand_call_runs`, `Invoked.fnState`) and
a side of the reference alone (`IsCall.ref_step`, over `expandH_func_stepP`), put together in `call_of_loop`; and
the argument loop itself (`loopOK_of_fnArgs`). -/

namespace CprocVerif.PP
open CprocVerif.Gen.TokenKinds
open CprocVerif.Spec.MacroRef (HTok Item PTok MacroDef RErr Flag Elem expandH hsadd union inter pendItems lookup
  matchParen splitTop actuals subst elems usedPlain paramIndex)
open CprocVerif.Spec

theorem map_mkHp_respace (ms0 : List Macro) (h : List Name) (l : List Tok) (sp : Bool) :
    (respace l sp).map (mkHp ms0 h) = (MacroRef.respace (l.map (mkHp ms0 h)) sp).1 :=
  map_respace (mkHp ms0 h) (fun _ _ => rfl) l sp

theorem hsadd_mkHp (ms0 : List Macro) (h : List Name) (l : List Tok) :
    hsadd h (l.map (mkHp ms0 [])) = l.map (mkHp ms0 h) := by
  unfold hsadd
  simp only [List.map_map]
  apply List.map_congr_left
  intro t _
  simp [mkHp, union]

theorem substBody_exactP (ms0 : List Macro) (m : Macro) (md : MacroDef) (hf : md.func = true)
    (hidx : ∀ t : Tok, paramIndex md (toP t) = macroparam m.params t)
    (raw full : Nat → List HTok) :
    ∀ (body : List Tok), ((∀ t ∈ body, t.kind ≠ .THASH) ∧ (∀ t ∈ body, t.hide = false) ∧
        (∀ t ∈ body, ∀ i, macroparam m.params t = some i →
          ((m.args.getD i default).toks).map (mkHp ms0 []) = full i ∧ (m.args.getD i default).toks ≠ [])) →
      (substBody m body).map (mkHp ms0 []) = subst raw full (elems md (body.map toP)) false := by
  intro body hb
  refine substBody_map (mkHp ms0 []) (fun _ _ => rfl) hf hidx raw full
    (fun t ht => by simp [mkHp, hb.2.1 t ht]) (fun i hi => ?_) (fun i hi => ?_)
  · obtain ⟨_, t, ht, hp⟩ := uses_of_nohash _ _ hb.1 _ hi
    exact hb.2.2 t ht i hp
  · cases (uses_of_nohash _ _ hb.1 _ hi).1

theorem elemOf_param_index {md : MacroDef} {p : PTok} {i : Nat} {sp : Bool} (h : Elem.param i sp = MacroRef.elemOf md p) :
    paramIndex md p = some i := by
  unfold MacroRef.elemOf at h
  split at h
  · rename_i j hj
    cases h
    split at hj
    · exact hj
    · cases hj
  · cases h

theorem elems_param_tok (md : MacroDef) : ∀ (body : List Tok) (i : Nat) (sp : Bool),
    Elem.param i sp ∈ elems md (body.map toP) → ∃ t ∈ body, paramIndex md (toP t) = some i
  | [], i, sp, h => by simp [elems] at h
  | [t], i, sp, h => by
    simp only [List.map_cons, List.map_nil, elems, List.mem_singleton] at h
    exact ⟨t, List.mem_cons_self .., elemOf_param_index h⟩
  | t :: p :: r, i, sp, h => by
    have tail : Elem.param i sp ∈ elems md ((p :: r).map toP) → ∃ x ∈ t :: p :: r, paramIndex md (toP x) = some i :=
      fun hh => let ⟨x, hx, hxi⟩ := elems_param_tok md (p :: r) i sp hh; ⟨x, List.mem_cons_of_mem _ hx, hxi⟩
    simp only [List.map_cons] at h tail
    rw [elems] at h
    split at h
    · split at h
      · rcases List.mem_cons.mp h with h | h
        · cases h
        · obtain ⟨x, hx, hxi⟩ := elems_param_tok md r i sp h
          exact ⟨x, List.mem_cons_of_mem _ (List.mem_cons_of_mem _ hx), hxi⟩
      · rcases List.mem_cons.mp h with h | h
        · cases h
        · exact tail h
    · rcases List.mem_cons.mp h with h | h
      · exact ⟨t, List.mem_cons_self .., elemOf_param_index h⟩
      · exact tail h

theorem eventually_all (P : Nat → Nat → Prop) : ∀ (N : Nat), (∀ i, i < N → ∃ J, ∀ K, J ≤ K → P i K) →
    ∃ c, ∀ K, c ≤ K → ∀ i, i < N → P i K
  | 0, _ => ⟨0, fun _ _ i hi => absurd hi (Nat.not_lt_zero _)⟩
  | N + 1, h => by
    obtain ⟨c, hc⟩ := eventually_all P N (fun i hi => h i (by omega))
    obtain ⟨J, hJ⟩ := h N (by omega)
    refine ⟨max c J, fun K hK i hi => ?_⟩
    by_cases hiN : i = N
    · subst hiN; exact hJ K (by have := Nat.le_max_right c J; omega)
    · exact hc K (by have := Nat.le_max_left c J; omega) i (by omega)

theorem substBody_mem' (m : Macro) : ∀ body : List Tok, (∀ t ∈ body, t.kind ≠ .THASH) →
    ∀ x ∈ substBody m body, (∃ b ∈ body, kh x = kh b) ∨
      (∃ i, (∃ b ∈ body, macroparam m.params b = some i) ∧ ∃ a ∈ (m.args.getD i default).toks, kh x = kh a) := by
  intro body h x hx
  rcases substBody_mem m body x hx with hb | ⟨i, hi, ha⟩ | ⟨i, hi, _⟩
  · exact .inl hb
  · exact .inr ⟨i, (uses_of_nohash _ _ h _ hi).2, ha⟩
  · cases (uses_of_nohash _ _ h _ hi).1

theorem iP_nohide (ms0 : List Macro) {t : Tok} (h : NoPaint ms0 t) : iP ms0 t = iT t := by
  simp [iP, iT, hT, h.mkHp []]

theorem map_iP_nohide (ms0 : List Macro) {l : List Tok} (h : ∀ x ∈ l, FnTok ms0 x) : l.map (iP ms0) = l.map iT :=
  List.map_congr_left fun x hx => iP_nohide ms0 (h x hx).paint

theorem mkHp_strTok (ms0 : List Macro) (ai : List Tok) (hs : ∀ x ∈ ai, Spellable x) (sp : Bool) :
    mkHp ms0 [] { strTok (stringizeAll ai) with space := sp } =
      ⟨{ MacroRef.stringizeRef (ai.map ((fun x : HTok => x.tok) ∘ hT)) with space := sp }, [], false⟩ := by
  have hseq := stringizeAll_eq ai hs
  have hmp : ai.map ((fun x : HTok => x.tok) ∘ hT) = ai.map toP := List.map_congr_left fun x _ => rfl
  rw [hmp]
  unfold MacroRef.stringizeRef at hseq ⊢
  simp only [Option.some.injEq] at hseq
  simp [mkHp, strTok, toP, isMac, hseq]

theorem frame_exact (ms0 : List Macro) (M : Macro) (md : MacroDef) (hf : md.func = true)
    (hidx : ∀ t : Tok, paramIndex md (toP t) = macroparam M.params t) (raw full : Nat → List HTok)
    (body : List Tok) (hbne : body ≠ []) (hbh : ∀ t ∈ body, t.hide = false)
    (hP : ∀ i, (i, false) ∈ uses M.params body →
      ((M.args.getD i default).toks).map (mkHp ms0 []) = full i ∧ (M.args.getD i default).toks ≠ [])
    (hS : ∀ i, (i, true) ∈ uses M.params body → ∀ sp, mkHp ms0 [] { (M.args.getD i default).str with space := sp } =
      ⟨{ MacroRef.stringizeRef ((raw i).map (·.tok)) with space := sp }, [], false⟩)
    (nm : Name) (sp : Bool) :
    (∀ X, pushFront (hsadd [nm] (subst raw full (elems md (body.map toP)) false)) sp X =
      ((substBody M (respace body sp)).map (mkHp ms0 [nm])).map .tok ++ X) ∧
    substBody M (respace body sp) ≠ [] := by
  have hsub := substBody_map (mkHp ms0 []) (fun _ _ => rfl) hf hidx raw full (fun t ht => by simp [mkHp, hbh t ht]) hP hS
  obtain ⟨hre, hne⟩ := substBody_respace M body sp (fun i hi => (hP i hi).2)
  have hsne : hsadd [nm] (subst raw full (elems md (body.map toP)) false) ≠ [] := by
    rw [← hsub, hsadd_mkHp]; exact fun hh => hne hbne (List.map_eq_nil_iff.mp hh)
  refine ⟨fun X => by rw [pushFront_ne _ _ hsne, hre, map_mkHp_respace, ← hsadd_mkHp, hsub], ?_⟩
  rw [hre]
  cases h : substBody M body with
  | nil => exact absurd h (hne hbne)
  | cons a r => simp [respace]

/-- the state in which the argument loop ends -/
def LoopPost (ms0 : List Macro) (ps : List Param) (name : Name) (args : List (List Tok)) (rest : List Tok) (sF : St) : Prop :=
  ∃ stL ARGS, FnState ms0 stL ∧ stL.ctx = [] ∧ stL.raw = rest ∧
    sF = { stL with macros := setArgs stL.macros name ARGS } ∧ ArgsRel ms0 (ps.map Param.eff) args ARGS

/-- the argument loop on the text `L` (as far as `rest`) completes from any state at invocation level in front of `L` -/
def LoopOK (ms0 : List Macro) (L rest : List Tok) : Prop :=
  ∀ (m : Macro) (i p : Nat) (done : List Arg) (CURraw : List Tok) (DONEraw args : List (List Tok)),
    (∀ q ∈ m.params, q.fvar = false) → i < m.params.length →
    collect m.params i p CURraw DONEraw L = .ok (args, rest) → (∀ a ∈ args, a ≠ []) →
    DONEraw.length = i → ArgsRel ms0 (m.params.map Param.eff) DONEraw.reverse done.reverse →
    ∀ (e : EF) (st : St), LoopAt ms0 m i p done CURraw L e st → Runs (.efLoop e) st (LoopPost ms0 m.params m.name args rest)

theorem expand_call_runs (ms0 : List Macro) (hTb : FnTable ms0) {T lp : Tok} {r : List Tok} {st : St} {F : Macro}
    {args : List (List Tok)} {rest : List Tok} (hc : IsCall ms0 T lp r F args rest) (hloop : LoopOK ms0 r rest)
    (g : FnState ms0 st) (hctx : st.ctx = []) (hraw : st.raw = lp :: r) (hhead : HeadOK r) :
    Runs (.expand T) st fun s2 =>
      ∃ stL ARGS, FnState ms0 stL ∧ stL.ctx = [] ∧ ArgsRel ms0 (F.params.map Param.eff) args ARGS ∧
        Invoked stL s2 F T ARGS rest := by
  obtain ⟨F', hget, hs⟩ := macroget_stat_some g.stat.symm hc.get
  obtain ⟨e1, -, e3, e4⟩ := stat_eq hs
  have hsf : FnMacro F' := fnMacro_of_stat hs (hTb.func F (macroget_mem hc.get).1 hc.func)
  have hFh : F'.hide = false := g.nohide hctx (macroget_mem hget).1
  have hdep : st.depth = 0 := g.depth_zero hctx
  have gsp : FnState ms0 { st with raw := r, newline := false, rt := lp, rb := true } :=
    ⟨g.stat, g.inv, g.wf, g.flatOk, g.prag, g.ppnl⟩
  obtain ⟨st1, ha, g1, -, hR⟩ := argLoop_fnState ms0 _ gsp hhead
  obtain ⟨hc1, hr1⟩ := level_after (st' := { st with raw := r, newline := false, rt := lp, rb := true }) hctx hR hhead.ne_nil
  -- `expandfunc` is `argnext` and then the loop
  obtain ⟨n2, se, hef, stL, ARGS, gL, hcL, hrL, hse, hrel⟩ :
      Runs (.expandfunc F') { st with raw := r, newline := false, rt := lp, rb := true } (LoopPost ms0 F'.params F'.name args rest) := by
    refine runs_of_body (ctxSize st.ctx + 4) (fun n hn => ?_) (hloop F' 0 0 [] [] [] args hsf.novar hsf.nonempty
      (e3 ▸ hc.col) hc.nonempty rfl (.nil _)
      { m := F', i := 0, depth := st.depth, paren := 0, t := st1.rt, done := [], cur := [], str := [c! '"'] } st1
      ⟨rfl, rfl, rfl, hdep, rfl, .nil _ _, g1, hc1, hr1⟩)
    exact expandfunc_eq (liftOk ha hn) hsf.nonempty
  subst hse
  have hd := pushed_invoked F' T (st := stL) (se := { stL with macros := setArgs stL.macros F'.name ARGS }) hrL hcL rfl rfl rfl rfl
  exact ⟨max n2 3 + 1, _, expand_invoke hc.ident hc.nohide hget hFh hsf.func
      (liftOk (peekparen_lparen 0 st hctx lp r hraw hc.lparen g.prag) (Nat.le_max_right n2 3)) rfl (liftOk hef (Nat.le_max_left n2 3)),
    stL, ARGS, gL, hcL, e3 ▸ hrel, hd.rb, hd.raw, e4 ▸ e1 ▸ hd.ctx, e1 ▸ hd.macros, hd.depth, hd.ppnl, hd.prag⟩

theorem ArgsRel.used {ms0 : List Macro} {F : Macro} {args : List (List Tok)} {ARGS : List Arg}
    (hrel : ArgsRel ms0 (F.params.map Param.eff) args ARGS) (hsf : FnMacro F) (hlen : args.length = F.params.length) :
    (∀ i, (i, false) ∈ uses F.params F.body →
      LinkE (tblF ms0) ((args.getD i []).map (iP ms0)) ((ARGS.getD i default).toks.map (mkHp ms0 [])) [] ∧
      (ARGS.getD i default).toks ≠ [] ∧ ∀ x ∈ (ARGS.getD i default).toks, FlatP ms0 x) ∧
    (∀ i, (i, true) ∈ uses F.params F.body → (ARGS.getD i default).str = strTok (stringizeAll (args.getD i []))) := by
  have hrel_i : ∀ {i : Nat} {b : Bool}, (i, b) ∈ uses F.params F.body →
      ArgRel ms0 (F.params.getD i default).eff (args.getD i []) (ARGS.getD i default) :=
    fun hi => getD_map_eff F.params _ ▸ hrel.get _ (hlen ▸ hsf.use_lt hi)
  refine ⟨fun i hi => (hrel_i hi).1 (hsf.ftok i hi), fun i hi => (hrel_i hi).2 ?_⟩
  show ((F.params.getD i default).fstr && !(F.params.getD i default).ftok) = true
  rw [hsf.strOnly i hi, hsf.fstr i hi]; rfl

theorem ArgsRel.full {ms0 : List Macro} {F : Macro} {args : List (List Tok)} {ARGS : List Arg}
    (hrel : ArgsRel ms0 (F.params.map Param.eff) args ARGS) (hsf : FnMacro F) (h4 : F.func = true)
    (hlen : args.length = F.params.length) :
    ∃ c, ∀ K, c ≤ K → ∀ i, i < args.length → usedPlain (toDefF F) i = true →
      outE (expandH false K (tblF ms0) ((args.getD i []).map (iP ms0))) = ((ARGS.getD i default).toks.map (mkHp ms0 []), none) := by
  refine eventually_all (fun i K => usedPlain (toDefF F) i = true → _) args.length fun i _ => ?_
  by_cases hu : usedPlain (toDefF F) i = true
  · obtain ⟨sp, hel⟩ := (usedPlain_iff _ i).mp hu
    obtain ⟨J, hJ⟩ := ((hrel.used hsf hlen).1 i
      (elems_param_mem_uses (m := F) (md := toDefF F) h4 (paramIndex_toDefF F) i sp hel)).1.final
    exact ⟨J, fun K hK _ => hJ K hK⟩
  · exact ⟨0, fun K _ hh => absurd hh hu⟩

/-- `FL` is the macro as the state before has it -/
theorem Invoked.fnState {ms0 : List Macro} (hTb : FnTable ms0) {stL s2 : St} {F FL : Macro} {T : Tok} {ARGS : List Arg}
    {rest : List Tok} {n : Name} (hd : Invoked stL s2 F T ARGS rest) (gL : FnState ms0 stL) (hcL : stL.ctx = [])
    (hF : F ∈ ms0) (h4 : F.func = true) (hFL : macroget stL.macros n = some FL) (hsL : stat FL = stat F)
    (hargs : ∀ i, (i, false) ∈ uses F.params F.body → ∀ a ∈ (ARGS.getD i default).toks, FlatP ms0 a)
    (hstr : ∀ i, (i, true) ∈ uses F.params F.body → (ARGS.getD i default).str.kind = .TSTRINGLIT) :
    FnState ms0 s2 ∧ Live s2 := by
  have hsf0 := hTb.func F hF h4
  have hseL := stat_eq hsL
  have hctx2 := hd.ctx
  have hg2 := (hd.flat_eq hFL (stat_with hsL ARGS true) h4).1
  have hfr : frameToks s2.macros ⟨respace F.body T.space, some F.name⟩ =
      substBody { F with args := ARGS, hide := true } (respace F.body T.space) := by
    unfold frameToks
    simp only [Option.bind_some, hg2]
    exact if_pos h4
  suffices h : FnState ms0 s2 ∧ (Live { stL with macros := setArgs stL.macros F.name ARGS } → Live s2) from
    ⟨h.1, h.2 (Live.of_nil hcL)⟩
  have hmemL := macroget_mem hFL
  have hFLh : FL.hide = false := gL.nohide hcL hmemL.1
  have gF : FnState ms0 { stL with macros := setArgs stL.macros F.name ARGS } := by
    refine ⟨(stat_setArgs ..).trans gL.stat, invC_setArgs _ _ gL.inv, ?_, ?_, gL.prag, gL.ppnl⟩
    · show CtxWF _ stL.ctx
      rw [hcL]; exact fun _ h => nomatch h
    · show ∀ t ∈ flat _ stL.ctx, _
      rw [hcL]; exact fun _ h => nomatch h
  have hmm : ({ F with args := ARGS, hide := false } : Macro) ∈ setArgs stL.macros F.name ARGS := by
    rw [← stat_with hsL ARGS false]
    unfold setArgs
    exact List.mem_map.mpr ⟨FL, hmemL.1, by simp [hseL.1, hFLh]⟩
  refine gF.push hmm rfl (toks := respace F.body T.space) (by rw [hctx2]; show _ = _ :: stL.ctx; rw [hcL]) hd.macros hd.depth
    (hd.prag.trans gL.prag) (hd.ppnl.trans gL.ppnl) ?_ fun x hx => ?_
  · rw [hctx2]
    intro f hf m hb' hfun
    rw [List.mem_singleton] at hf
    subst hf
    simp only [Option.bind_some, hg2, Option.some.injEq] at hb'
    subst hb'
    exact hashFollowed_respace _ hsf0.hashF
  · replace hx : x ∈ substBody { F with args := ARGS, hide := true } (respace F.body T.space) := by rw [← hfr]; exact hx
    rcases substBody_mem _ _ x hx with
      ⟨b, hb', hkb⟩ | ⟨i, hi, a, ha, hka⟩ | ⟨i, hi, hk1, hk2, hk3⟩
    · obtain ⟨b', hb'', hkb'⟩ := mem_respace_kh hb'
      have hbo := hTb.bodyOk F hF b' hb''
      exact flatP_of_kh (hkb.trans hkb') ⟨hbo.1.1, hbo.1.2.1, hbo.2⟩
    · rw [uses_respace] at hi
      exact flatP_of_kh hka (hargs i hi a ha)
    · rw [uses_respace] at hi
      have hsk : x.kind = .TSTRINGLIT := by
        rw [hk1]; exact hstr i hi
      exact ⟨by rw [hsk]; decide, by rw [hsk]; decide, fun hf => by have := hf.1; rw [hsk] at this; cases this⟩

theorem Invoked.absX {ms0 : List Macro} {stL s2 : St} {F : Macro} {T : Tok} {A : List Arg} {rest : List Tok}
    (hd : Invoked stL s2 F T A rest) (X : List Item) :
    absX ms0 s2 X = ((flat s2.macros s2.ctx).map (mkHp ms0 [F.name])).map Item.tok ++ X := by
  have hann : annHp ms0 [F.name] = mkHp ms0 [F.name] := by funext x; simp [annHp]
  have : liveNames [⟨respace F.body T.space, some F.name⟩] = [F.name] := rfl
  simp only [PP.absX, hd.ctx, flatG, flat, List.append_nil, this, hann]

/-- No state is involved: all of `seg`, `rp`, `matchParen`, `splitTop` is read off `collect` (`collect_segment`). -/
theorem IsCall.ref_step {ms0 : List Macro} (hTb : FnTable ms0) {T lp : Tok} {pre rest : List Tok} {F : Macro}
    {args : List (List Tok)} {ARGS : List Arg} (hc : IsCall ms0 T lp (pre ++ rest) F args rest)
    (hpre : ∀ x ∈ pre, FnTok ms0 x ∧ (HasStr ms0 → Spellable x))
    (hrel : ArgsRel ms0 (F.params.map Param.eff) args ARGS) :
    substBody { F with args := ARGS, hide := true } (respace F.body T.space) ≠ [] ∧
    ∃ c, ∀ K, c ≤ K → ∀ X, outE (expandH false (K + 1) (tblF ms0) (iP ms0 T :: iP ms0 lp :: (pre.map (iP ms0) ++ X))) =
      outE (expandH false K (tblF ms0)
        (((substBody { F with args := ARGS, hide := true } (respace F.body T.space)).map (mkHp ms0 [F.name])).map Item.tok ++ X)) := by
  obtain ⟨h1, h2, h3, h4, h5, h6, h8⟩ := hc
  have h7 : ∀ x ∈ pre, FnTok ms0 x := fun x hx => (hpre x hx).1
  have hmem0 := macroget_mem h3
  have hsf0 := hTb.func F hmem0.1 h4
  obtain ⟨seg, rp, hr, hrp, hmp, hA, hlen⟩ := collect_segment hsf0.novar hsf0.nonempty h6
  have htake : pre = seg ++ [rp] := List.append_cancel_right (hr.trans (by simp))
  have hargpre := collect_args_mem h6
  obtain ⟨hargs_i, hstr_i⟩ := hrel.used hsf0 hlen
  have hgetA : ∀ i, i < args.length → (args.map (·.map hT)).getD i [] = (args.getD i []).map hT ∧ args.getD i [] ∈ args := by
    intro i hi
    have : args.getD i [] = args[i] := by simp [List.getD_eq_getElem?_getD, hi]
    exact ⟨by simp [List.getD_eq_getElem?_getD, hi], by rw [this]; exact List.getElem_mem hi⟩
  have hcondS : ∀ i, (i, true) ∈ uses F.params F.body → ∀ sp,
      mkHp ms0 [] { (ARGS.getD i default).str with space := sp } =
        ⟨{ MacroRef.stringizeRef (((splitTop (seg.length + 1) 0 (seg.map hT) []).getD i []).map (·.tok))
            with space := sp }, [], false⟩ := by
    intro i hi sp
    have hila : i < args.length := hlen ▸ hsf0.use_lt hi
    rw [hstr_i i hi, hA]
    simp only [(hgetA i hila).1, List.map_map]
    exact mkHp_strTok ms0 _ (fun x hx => (hpre x (hargpre _ (hgetA i hila).2 x hx)).2 ⟨F, hmem0.1, h4, i, hi⟩) sp
  obtain ⟨hexact, hfne⟩ := frame_exact ms0 { F with args := ARGS, hide := true } (toDefF F) h4
    (paramIndex_toDefF F)
    (fun i => (splitTop (seg.length + 1) 0 (seg.map hT) []).getD i [])
    (fun i => (ARGS.getD i default).toks.map (mkHp ms0 [])) F.body (hTb.bodyNe F hmem0.1)
    (fun t ht => (hTb.bodyOk F hmem0.1 t ht).1.2.2)
    (fun i hi => ⟨rfl, (hargs_i i hi).2.1⟩) hcondS F.name T.space
  refine ⟨hfne, ?_⟩
  obtain ⟨c, hc⟩ := hrel.full hsf0 h4 hlen
  refine ⟨c, fun K hKc X => ?_⟩
  have hl : lookup (tblF ms0) ((mkH [] T).tok.lit.getD []) = some (toDefF F) := by
    rw [lookup_tblF]; show (macroget ms0 (T.lit.getD [])).map toDefF = _; rw [h3]; rfl
  have hseglen : (seg.map hT).length = seg.length := List.length_map ..
  have hkeyl : (seg.map hT).map Item.tok = seg.map iT := by rw [List.map_map]; rfl
  have := expandH_func_stepP (tblF ms0) (toDefF F) (mkH [] T) (mkH [] lp) (hT rp) (seg.map hT) X K
    (fun i => (ARGS.getD i default).toks.map (mkHp ms0 []))
    h1 rfl rfl hl h4 rfl (by simp [toDefF]; exact hsf0.nonempty) h5
    (by have := hmp X; rw [hkeyl]; exact this)
    (by rw [hseglen, hA]; simp [toDefF, hlen])
    (by
      intro i hi hu
      rw [hseglen]
      have hila : i < args.length := by rw [hlen]; simpa [toDefF] using hi
      rw [hA, (hgetA i hila).1, List.map_map, ← hc K hKc i hila hu]
      exact congrArg (fun l => outE (expandH false K (tblF ms0) l))
        (map_iP_nohide ms0 fun x hx => h7 x (hargpre _ (hgetA i hila).2 x hx)).symm)
  rw [hseglen, hkeyl] at this
  have hL : (iP ms0 T :: iP ms0 lp :: (pre.map (iP ms0) ++ X)) =
      (Item.tok (mkH [] T) :: Item.tok (mkH [] lp) :: (seg.map iT ++ Item.tok (hT rp) :: X)) := by
    rw [iP_nohide ms0 (.of_hide h2), iP_nohide ms0 (.of_kind (by rw [h5]; decide)), map_iP_nohide ms0 h7, htake]
    simp [iT, hT]
  rw [hL, this, replacedCall]
  exact congrArg (fun l => outE (expandH false K (tblF ms0) l)) (hexact X)

/-- what `expand` leaves on an invocation `T lp pre` in the text, against one step of the
reference for every continuation `X` of the source -/
def CallPost (ms0 : List Macro) (T lp : Tok) (pre rest : List Tok) (s2 : St) : Prop :=
  FnState ms0 s2 ∧ Live s2 ∧ s2.raw = rest ∧ s2.rb = true ∧ flat s2.macros s2.ctx ≠ [] ∧
  ∃ c, ∀ K, c ≤ K → ∀ X, outE (expandH false (K + 1) (tblF ms0)
      (iP ms0 T :: iP ms0 lp :: (pre.map (iP ms0) ++ X))) =
    outE (expandH false K (tblF ms0) (absX ms0 s2 X))

theorem CurLink.call {ms0 : List Macro} {CURraw cur : List Tok} (h : CurLink ms0 CURraw cur []) {T lp : Tok}
    {pre rest : List Tok} {sx : St} (hx : CallPost ms0 T lp pre rest sx) :
    CurLink ms0 ((T :: lp :: pre).reverse ++ CURraw) (if sx.rb = true then cur else sx.rt :: cur) (absX ms0 sx []) := by
  obtain ⟨_, _, _, hrb, hfl, c, hK⟩ := hx
  refine ⟨fun Y => ?_, fun _ => .inr (absX_ne_nil ms0 sx hfl), by simpa [hrb] using h.flat⟩
  have h1 := h.link (iP ms0 T :: iP ms0 lp :: (pre.map (iP ms0) ++ Y))
  have h2 : LinkE (tblF ms0) (iP ms0 T :: iP ms0 lp :: (pre.map (iP ms0) ++ Y)) [] (absX ms0 sx Y) :=
    LinkE.of_eq c (fun K hKc => hK K hKc Y)
  rw [List.nil_append] at h1
  have := h1.trans h2
  rw [absX_append]
  simpa [hrb, List.reverse_append, List.map_append] using this

theorem call_of_loop (ms0 : List Macro) (hTb : FnTable ms0) (s1 : St) (T lp : Tok) (pre rest : List Tok) (F : Macro)
    (args : List (List Tok)) (hloop : LoopOK ms0 (pre ++ rest) rest) (g : FnState ms0 s1) (hctx : s1.ctx = [])
    (hraw : s1.raw = lp :: (pre ++ rest)) (hc : IsCall ms0 T lp (pre ++ rest) F args rest)
    (hpre : ∀ x ∈ pre, FnTok ms0 x ∧ (HasStr ms0 → Spellable x)) : Runs (.expand T) s1 (CallPost ms0 T lp pre rest) := by
  have hmem0 := macroget_mem hc.get
  have hsf0 := hTb.func F hmem0.1 hc.func
  have hhead : HeadOK (pre ++ rest) := headOK_append (fun x hx => (hpre x hx).1) fun h0 => by
    have := collect_rest_lt _ _ _ _ _ _ _ _ hc.col
    rw [h0] at this; simp at this
  obtain ⟨n, s2, h, stL, ARGS, gL, hcL, hrel, hd⟩ := expand_call_runs ms0 hTb hc hloop g hctx hraw hhead
  obtain ⟨FL, hFL, hsL⟩ := macroget_stat_some gL.stat.symm hc.get
  have hflat : flat s2.macros s2.ctx = substBody { F with args := ARGS, hide := true } (respace F.body T.space) :=
    (hd.flat_eq hFL (stat_with hsL ARGS true) hc.func).2.trans (substBody_hide { F with args := ARGS } true _).symm
  obtain ⟨hargs, hstr⟩ := hrel.used hsf0 (collect_length F.params _ 0 0 [] [] args rest rfl hsf0.nonempty hc.col)
  have hpush := hd.fnState hTb gL hcL hmem0.1 hc.func hFL hsL (fun i hi => (hargs i hi).2.2) (fun i hi => by rw [hstr i hi]; rfl)
  obtain ⟨hfne, c, hK⟩ := hc.ref_step hTb hpre hrel
  exact ⟨n, s2, h, hpush.1, hpush.2, hd.raw, hd.rb, hflat ▸ hfne, c, fun K hKc X => by rw [hK K hKc X, hd.absX, hflat]⟩

/-- By induction on the structure of the arguments; for a nested invocation the hypothesis of
induction gives `expand` on it (`call_of_loop`). -/
theorem loopOK_of_fnArgs (ms0 : List Macro) (hTb : FnTable ms0) {L rest : List Tok} (h : FnArgs ms0 L rest) :
    LoopOK ms0 L rest := by
  induction h with
  | done rest =>
    intro m i p done CURraw DONEraw args _ _ hcol
    have := collect_rest_lt _ _ _ _ _ _ _ _ hcol
    omega
  | tok t L' rest ht _ more ih =>
    intro m i p done CURraw DONEraw args hnv hi hcol hane hdl hdone e st hat
    obtain ⟨rfl, rfl, rfl, hd0, rfl, hcur, g, hctx, hL⟩ := id hat
    obtain ⟨rfl, rfl⟩ : t = e.t ∧ L' = st.raw := List.cons.inj hL
    have hdep : st.depth = 0 := g.depth_zero hctx
    have hl : st.depth ≤ e.depth := by omega
    have hne : e.t.kind ≠ .TEOF := ht.eof
    have hsnoc : CURraw.reverse ∈ args →
        ArgsRel ms0 (e.m.params.map Param.eff) (CURraw.reverse :: DONEraw).reverse (curArg e :: e.done).reverse := by
      intro hmem
      have hne' : CURraw ≠ [] := fun hh => hane _ hmem (by rw [hh]; rfl)
      simp only [List.reverse_cons]
      refine hdone.snoc _ _ (by rw [List.length_reverse, hdl, List.length_map]; exact hi) ?_
      rw [List.length_reverse, hdl, getD_map_eff]
      exact hcur.argRel hne'
    rcases collect_cons_ok hcol with ⟨hc, h2, h1, hargs, hrest⟩ | ⟨hc, hf, hcol⟩ | ⟨hc, hcol'⟩
    · refine ⟨1, { st with macros := setArgs st.macros e.m.name (curArg e :: e.done).reverse }, ?_,
        st, (curArg e :: e.done).reverse, g, hctx, hrest.symm, rfl, ?_⟩
      · show efLoopBody (exec 0) e st = _
        rw [efLoop_finish (exec 0) e st hne hl hc (.inl h2)]
        unfold efFinish
        simp only [h1, ↓reduceIte, h2, ne_eq, not_true_eq_false]
      · rw [hargs]; exact hsnoc (by rw [hargs]; simp)
    · have hi1 : e.i + 1 < e.m.params.length := by
        have : e.i + 1 ≠ e.m.params.length := fun hh => hf (.inr hh)
        omega
      have hhead := fnArgs_headOK more hcol
      obtain ⟨st1, ha, g1, -, hR⟩ := argLoop_fnState ms0 st g hhead
      obtain ⟨hc1, hr1⟩ := level_after hctx hR hhead.ne_nil
      have hmem : CURraw.reverse ∈ args := by
        obtain ⟨_, _, hd, _⟩ := collect_consumed _ _ _ _ _ _ _ _ hcol
        exact hd _ (List.mem_cons_self ..)
      have hnext := ih e.m (e.i + 1) 0 (curArg e :: e.done) [] (CURraw.reverse :: DONEraw) args hnv hi1 hcol hane
        (by simp [hdl]) (hsnoc hmem)
        { e with depth := st.depth, done := curArg e :: e.done, i := e.i + 1, t := st1.rt, cur := [], str := [c! '"'] } st1
        ⟨rfl, rfl, hc.1, hdep, rfl, .nil _ _, g1, hc1, hr1⟩
      refine runs_of_body (ctxSize st.ctx + 4) (fun n hn => ?_) hnext
      show efLoopBody (exec n) e st = _
      rw [efLoop_nextarg (exec n) e st hne hl hc hf st1 (liftOk ha hn)]
      unfold efStart
      simp only [hi1, ↓reduceIte]
    · have hhead := fnArgs_headOK more hcol'
      obtain ⟨e', st', hat', hlead⟩ : ∃ e' st', LoopAt ms0 e.m e.i (nextParen e) e.done (e.t :: CURraw) st.raw e' st' ∧
          Leads (.efLoop e) st (.efLoop e') st' := by
        by_cases hp : (e.m.params.getD e.i default).ftok = true
        · have htf := ht.flatP
          obtain ⟨gx, hrawx, hE⟩ := expandObj_simP ms0 hTb st e.t g htf
          exact go_leads ms0 hTb (e.t :: CURraw) st.raw hhead e st _ 1 g hctx hd0 hne hc hp (expand_flatP g htf 0)
            gx (expandObj_live (Live.of_nil hctx) _) hrawx (((hcur.tok hp).read hctx e.t).step hE htf)
        · exact skip_one ms0 hat hne hc (Bool.eq_false_iff.mpr hp) hhead
      exact hlead.runs (ih e.m e.i (nextParen e) e.done (e.t :: CURraw) DONEraw args hnv hi hcol' hane hdl hdone e' st' hat')
  | @call G lp r'' FG argsG rest'' rest hcG c7 _ more ih1 ih2 =>
    intro m i p done CURraw DONEraw args hnv hi hcol hane hdl hdone e st hat
    obtain ⟨rfl, rfl, rfl, hd0, rfl, hcur, g, hctx, hL⟩ := id hat
    obtain ⟨rfl, hsr⟩ : G = e.t ∧ lp :: r'' = st.raw := List.cons.inj hL
    obtain ⟨p1, rfl, hp1⟩ := c7.consumed
    have hne : e.t.kind ≠ .TEOF := by rw [hcG.ident]; decide
    have hc : ¬ breakCond e := by simp [breakCond, hcG.ident]
    have hnp : nextParen e = e.paren := by simp [nextParen, parenAfter, hcG.ident]
    have hpass : Passes e.m.params e.i e.paren (e.t :: lp :: p1) e.paren := by
      refine .cons (by simp [EndArg, hcG.ident]) (.cons (by simp [EndArg, hcG.lparen]) ?_)
      rw [show parenAfter lp (parenAfter e.t e.paren) = e.paren + 1 + 0 by simp [parenAfter, hcG.ident, hcG.lparen]]
      exact passes_of_collect FG.params _ _ rest'' argsG p1 0 0 [] [] hcG.col e.paren
    have hcol2 := (hpass.collect CURraw DONEraw rest'').symm.trans hcol
    have hhead2 := fnArgs_headOK more hcol2
    obtain ⟨e', st', hat', hlead⟩ : ∃ e' st', LoopAt ms0 e.m e.i e.paren e.done ((e.t :: lp :: p1).reverse ++ CURraw) rest'' e' st' ∧
        Leads (.efLoop e) st (.efLoop e') st' := by
      by_cases hp : (e.m.params.getD e.i default).ftok = true
      · obtain ⟨n1, sx, hx, hpost⟩ := call_of_loop ms0 hTb st e.t lp p1 rest'' FG argsG ih1 g hctx hsr.symm
          hcG hp1
        exact hnp ▸ go_leads ms0 hTb _ rest'' hhead2 e st sx n1 g hctx hd0 hne hc hp hx hpost.1 hpost.2.1 hpost.2.2.1
          ((hcur.tok hp).call hpost)
      · refine skip_passes ms0 rest'' hhead2 e.m e.i e.done (Bool.eq_false_iff.mpr hp) hpass (fun x hx => ?_) CURraw e st hat
        rcases List.mem_cons.mp hx with rfl | hx
        · exact fnTok_of_kind hcG.ident (.of_hide hcG.nohide) (by decide)
        · rcases List.mem_cons.mp hx with rfl | hx
          · exact fnTok_of_kind hcG.lparen (.of_kind (by rw [hcG.lparen]; decide)) (by decide)
          · exact (hp1 x hx).1
    exact hlead.runs (ih2 e.m e.i e.paren e.done _ DONEraw args hnv hi hcol2 hane hdl hdone e' st' hat')

theorem call_runs (ms0 : List Macro) (hTb : FnTable ms0) (s1 : St) (T lp : Tok) (r' : List Tok) (F : Macro)
    (args : List (List Tok)) (rest : List Tok) (g : FnState ms0 s1) (hctx : s1.ctx = []) (hraw : s1.raw = lp :: r')
    (hc : IsCall ms0 T lp r' F args rest) (h7 : FnArgs ms0 r' rest) :
    ∃ pre, r' = pre ++ rest ∧ (∀ x ∈ pre, FnTok ms0 x) ∧ Runs (.expand T) s1 (CallPost ms0 T lp pre rest) := by
  obtain ⟨pre, rfl, hpre⟩ := h7.consumed
  exact ⟨pre, rfl, fun x hx => (hpre x hx).1,
    call_of_loop ms0 hTb s1 T lp pre rest F args (loopOK_of_fnArgs ms0 hTb h7) g hctx hraw hc hpre⟩

end CprocVerif.PP
