import CprocVerif.Model.Layout
import CprocVerif.Spec.Abi

/-! The arithmetic of the layout proofs, about numbers only.  `addmember`'s pair `(size, bits)` is read as one bit cursor
`c = 8·size − bits`; against it the struct branch of the bit-field case is the spec's `bfPos`/`roundUp` (`bfStruct_spec`). -/

namespace CprocVerif.Layout
open CprocVerif.Abi

-- core has no `DecidableEq (Except ε α)`; the `decide`s on model results (`… = .ok tLong`, `Props/C06`) need one
instance instDecEqExcept {ε α : Type} [DecidableEq ε] [DecidableEq α] : DecidableEq (Except ε α)
  | .ok a, .ok b => if h : a = b then isTrue (by rw [h]) else isFalse (by intro h'; cases h'; exact h rfl)
  | .error a, .error b => if h : a = b then isTrue (by rw [h]) else isFalse (by intro h'; cases h'; exact h rfl)
  | .ok _, .error _ => isFalse (by intro h; cases h)
  | .error _, .ok _ => isFalse (by intro h; cases h)

theorem M64_eq : M64 = 2 ^ 64 := by decide

theorem u64_of_lt {x : Nat} (h : x < M64) : u64 x = x := Nat.mod_eq_of_lt h

theorem s16_of_lt {x : Nat} (h : x < 65536) : s16 x = x := Nat.mod_eq_of_lt h

theorem sub64_of_le {a b : Nat} (h : b ≤ a) (ha : a < M64) : sub64 a b = a - b := by
  have hb : b < M64 := Nat.lt_of_le_of_lt h ha
  unfold sub64
  rw [u64_of_lt ha, u64_of_lt hb, ← Nat.add_sub_assoc (Nat.le_of_lt hb), Nat.add_comm, Nat.add_sub_assoc h, u64,
    Nat.add_mod_left]
  exact Nat.mod_eq_of_lt (Nat.lt_of_le_of_lt (Nat.sub_le a b) ha)

theorem sub64_of_lt {a b : Nat} (h : a < b) (hb : b < M64) : sub64 a b = M64 + a - b := by
  unfold sub64
  rw [u64_of_lt hb, u64_of_lt (Nat.lt_trans h hb), u64, Nat.mod_eq_of_lt (by omega)]
  omega

def Pow2 (n : Nat) : Prop := 2 ^ n.log2 = n

instance (n : Nat) : Decidable (Pow2 n) := inferInstanceAs (Decidable (_ = _))

theorem Pow2.pos {n : Nat} (h : Pow2 n) : 0 < n := by
  unfold Pow2 at h; rw [← h]; exact Nat.two_pow_pos _

theorem Pow2.log_lt {n : Nat} (h : Pow2 n) (hn : n < M64) : n.log2 < 64 := by
  have : 2 ^ n.log2 < 2 ^ 64 := by rw [h, ← M64_eq]; exact hn
  exact (Nat.pow_lt_pow_iff_right (by decide)).1 this

theorem Pow2.dvd_of_le {a b : Nat} (ha : Pow2 a) (hb : Pow2 b) (h : a ≤ b) : a ∣ b := by
  unfold Pow2 at ha hb
  rw [← ha, ← hb]
  apply Nat.pow_dvd_pow
  have : 2 ^ a.log2 ≤ 2 ^ b.log2 := by rw [ha, hb]; exact h
  exact (Nat.pow_le_pow_iff_right (by decide)).1 this

theorem Pow2.max {a b : Nat} (ha : Pow2 a) (hb : Pow2 b) : Pow2 (max a b) := by
  rcases Nat.le_total a b with h | h
  · rw [Nat.max_eq_right h]; exact hb
  · rw [Nat.max_eq_left h]; exact ha

theorem and_mask (x k : Nat) (hk : k ≤ 64) (hx : x < 2 ^ 64) :
    x &&& (2 ^ 64 - 2 ^ k) = x / 2 ^ k * 2 ^ k := by
  apply Nat.eq_of_testBit_eq
  intro i
  have hp := Nat.two_pow_pos k
  have hle : 2 ^ k ≤ 2 ^ 64 := Nat.pow_le_pow_right (by decide) hk
  rw [Nat.testBit_and, show 2 ^ 64 - 2 ^ k = 2 ^ 64 - ((2 ^ k - 1) + 1) by omega,
    Nat.testBit_two_pow_sub_succ (by omega), Nat.testBit_two_pow_sub_one, Nat.testBit_mul_two_pow,
    Nat.testBit_div_two_pow]
  by_cases hik : k ≤ i
  · have hikk : i - k + k = i := by omega
    by_cases hi : i < 64
    · simp [hik, hi, hikk, Nat.not_lt.2 hik]
    · have hx' : x.testBit i = false :=
        Nat.testBit_lt_two_pow (Nat.lt_of_lt_of_le hx (Nat.pow_le_pow_right (by decide) (by omega)))
      simp [hx', hikk]
  · simp [hik, show i < k by omega]

theorem alignDown_eq {x n : Nat} (hp : Pow2 n) (hn : n < M64) (hx : x < M64) :
    alignDown x n = x / n * n := by
  have hk := hp.log_lt hn
  have hs : sub64 0 n = 2 ^ 64 - 2 ^ n.log2 := by
    rw [sub64_of_lt hp.pos hn, hp, M64_eq, Nat.add_zero]
  unfold alignDown
  rw [hs, u64_of_lt hx, and_mask x n.log2 (by omega) (by rw [← M64_eq]; exact hx), hp]

theorem alignUp_eq {x n : Nat} (hp : Pow2 n) (h : x + n < M64) : alignUp x n = roundUp x n := by
  have hn0 := hp.pos
  unfold alignUp roundUp
  rw [u64_of_lt h, sub64_of_le (by omega) h, alignDown_eq hp (by omega) (by omega)]

theorem roundUp_dvd (x a : Nat) : a ∣ roundUp x a := Nat.dvd_mul_left _ _

theorem le_roundUp (x : Nat) {a : Nat} (h : 0 < a) : x ≤ roundUp x a := by
  unfold roundUp
  have h1 := Nat.div_add_mod (x + a - 1) a
  have h2 := Nat.mod_lt (x + a - 1) h
  rw [Nat.mul_comm]
  omega

theorem roundUp_lt (x : Nat) {a : Nat} (h : 0 < a) : roundUp x a < x + a := by
  unfold roundUp
  have h1 := Nat.div_add_mod (x + a - 1) a
  rw [Nat.mul_comm]
  omega

theorem mult_gap {z a b : Nat} (ha : z ∣ a) (hb : z ∣ b) (h : a < b) : a + z ≤ b := by
  obtain ⟨k, rfl⟩ := ha
  obtain ⟨l, rfl⟩ := hb
  have : k + 1 ≤ l := Nat.lt_of_mul_lt_mul_left h
  have := Nat.mul_le_mul_left z this
  rw [Nat.mul_succ] at this
  exact this

theorem roundUp_unique {a y x : Nat} (ha : 0 < a) (hy : a ∣ y) (h1 : x ≤ y) (h2 : y < x + a) :
    roundUp x a = y := by
  have h3 := le_roundUp x ha
  have h4 := roundUp_lt x ha
  rcases Nat.lt_trichotomy (roundUp x a) y with h | h | h
  · have := mult_gap (roundUp_dvd x a) hy h; omega
  · exact h
  · have := mult_gap hy (roundUp_dvd x a) h; omega

theorem roundDown_dvd (x a : Nat) : a ∣ x / a * a := Nat.dvd_mul_left _ _
theorem roundDown_le (x a : Nat) : x / a * a ≤ x := Nat.div_mul_le_self x a
theorem lt_roundDown (x : Nat) {a : Nat} (h : 0 < a) : x < x / a * a + a := Nat.lt_div_mul_add h

theorem roundUp_of_dvd {x a : Nat} (h : a ∣ x) (ha : 0 < a) : roundUp x a = x :=
  roundUp_unique ha h (Nat.le_refl _) (by omega)

theorem roundUp_zero (a : Nat) : roundUp 0 a = 0 := by
  rcases Nat.eq_zero_or_pos a with rfl | ha
  · rfl
  · exact roundUp_of_dvd (Nat.dvd_zero a) ha

theorem roundUp_small {x a : Nat} (h1 : 0 < x) (h2 : x ≤ a) : roundUp x a = a :=
  roundUp_unique (by omega) (Nat.dvd_refl a) h2 (by omega)

theorem roundUp_cursor {c bits size a : Nat} (hc : c + bits = 8 * size) (hb : bits < 8) (ha : 0 < a) :
    roundUp c (8 * a) = 8 * roundUp size a := by
  apply roundUp_unique (by omega)
  · exact Nat.mul_dvd_mul_left 8 (roundUp_dvd size a)
  · have := le_roundUp size ha; omega
  · have := roundUp_lt size ha; omega

theorem div_eq_iff {m n k : Nat} (hn : 0 < n) : m / n = k ↔ k * n ≤ m ∧ m < (k + 1) * n := by
  rw [Nat.div_eq_iff hn, Nat.add_mul, Nat.one_mul]; omega

theorem fits_iff {U w p : Nat} (hU : 0 < U) (hw : 0 < w) : Fits U w p ↔ p % U + w ≤ U := by
  unfold Fits
  rw [eq_comm, div_eq_iff hU, Nat.add_mul, Nat.one_mul, Nat.mul_comm (p / U) U]
  have h1 := Nat.div_add_mod p U
  have h2 := Nat.mod_lt p hU
  omega

theorem le_bfPos (c U w : Nat) (hU : 0 < U) : c ≤ bfPos c U w := by
  unfold bfPos
  split
  · exact Nat.le_refl _
  · rw [Nat.add_mul, Nat.one_mul]; exact Nat.le_of_lt (lt_roundDown c hU)

theorem Fits_of_bfPos {c U w : Nat} (hU : 0 < U) (hw : 0 < w) (hwU : w ≤ U) : Fits U w (bfPos c U w) := by
  unfold bfPos
  split
  · assumption
  · rw [fits_iff hU hw, Nat.mul_mod_left]; omega

theorem bfPos_eq {c U w : Nat} (hU : 0 < U) (hw : 0 < w) (hwU : w ≤ U) :
    bfPos c U w = if w ≤ roundUp c U - c then c else roundUp c U := by
  have h1 := Nat.div_add_mod c U
  have h2 := Nat.mod_lt c hU
  have e : (c / U + 1) * U = U * (c / U) + U := by rw [Nat.add_mul, Nat.one_mul, Nat.mul_comm]
  simp only [bfPos, fits_iff hU hw, e]
  by_cases hr : c % U = 0
  · rw [roundUp_of_dvd (Nat.dvd_of_mod_eq_zero hr) hU, if_pos (by omega), ite_self]
  · rw [roundUp_unique hU (Nat.dvd_add (Nat.dvd_mul_right ..) (Nat.dvd_refl U)) (by omega : c ≤ U * (c / U) + U)
      (by omega)]
    simp only [show w ≤ U * (c / U) + U - c ↔ c % U + w ≤ U by omega]

theorem bfPos_lt {c U w : Nat} (hU : 0 < U) (hw : 0 < w) (hwU : w ≤ U) : bfPos c U w < c + U := by
  have := roundUp_lt c hU
  rw [bfPos_eq hU hw hwU]; split <;> omega

theorem ite_lt_eq_max (a b : Nat) : (if a < b then b else a) = max a b := by
  rw [Nat.max_def]; split <;> split <;> omega

/-! `bfStruct` first decides whether the field starts a new storage unit (`bfStruct_eq`); what follows
(`bfTail`) is computed from a cursor `p = 8·size1 − bits1` at which the field fits. -/

def bfTail (size1 bits1 tsize width : Nat) : BfResult :=
  let off := alignDown (sub64 size1 (if bits1 != 0 then 1 else 0)) tsize
  let before := s16 (sub64 (u64 (sub64 size1 off * 8)) bits1)
  let after := s16 (sub64 (sub64 (u64 (tsize * 8)) width) before)
  ⟨off, before, after, u64 (size1 + u64 (sub64 width bits1 + 7) / 8), sub64 bits1 width % 8⟩

theorem bfStruct_eq (size bits tsize width : Nat) :
    bfStruct size bits tsize width =
      if (width == 0 || decide (width > u64 (u64 (sub64 (alignUp size tsize) size * 8) + bits))) = true
      then bfTail (alignUp size tsize) 0 tsize width else bfTail size bits tsize width := by
  unfold bfStruct
  split <;> simp only [*, Bool.false_eq_true, ↓reduceIte] <;> rfl

theorem before_after_calc {s o b r z w : Nat} (h : 8 * s = 8 * o + r + b) (hb : b < 8)
    (hfit : r + w ≤ 8 * z) (hz8 : z ≤ 8) (hs : s < 2 ^ 63) :
    s16 (sub64 (u64 (sub64 s o * 8)) b) = r ∧ s16 (sub64 (sub64 (u64 (z * 8)) w) r) = 8 * z - r - w := by
  have e : (s - o) * 8 = r + b ∧ o ≤ s ∧ r + b < 72 ∧ z * 8 - w - r = 8 * z - r - w ∧ w ≤ z * 8 ∧ r ≤ z * 8 - w ∧
      z * 8 < 72 := by omega
  obtain ⟨e1, e2, e3, e4, e5, e6, e7⟩ := e
  have h72 : ∀ {x}, x < 72 → x < M64 := fun h => Nat.lt_trans h (by decide)
  constructor
  · rw [sub64_of_le e2 (Nat.lt_trans hs (by decide)), e1, u64_of_lt (h72 e3),
      sub64_of_le (Nat.le_add_left ..) (h72 e3), Nat.add_sub_cancel,
      s16_of_lt (Nat.lt_of_le_of_lt (Nat.le_add_right r b) (Nat.lt_trans e3 (by decide)))]
  · rw [u64_of_lt (h72 e7), sub64_of_le e5 (h72 e7), sub64_of_le e6 (Nat.lt_of_le_of_lt (Nat.sub_le ..) (h72 e7)),
      s16_of_lt (Nat.lt_of_le_of_lt (Nat.le_trans (Nat.sub_le ..) (Nat.sub_le ..)) (Nat.lt_trans e7 (by decide))), e4]

/-- `t->size += (width - b->bits + 7) / 8` (the subtraction may wrap), `b->bits = (b->bits - width) % 8` -/
theorem grow_calc {p s b w : Nat} (hp : p + b = 8 * s) (hb : b < 8) (hw : w ≤ 64) (hs : s < 2 ^ 63) :
    p + w + sub64 b w % 8 = 8 * u64 (s + u64 (sub64 w b + 7) / 8) := by
  have e1 : u64 (sub64 w b + 7) = w + 7 - b := by
    rcases Nat.lt_or_ge w b with h | h
    · rw [sub64_of_lt h (by unfold M64; omega), show M64 + w - b + 7 = M64 + (w + 7 - b) by unfold M64; omega]
      exact (Nat.add_mod_left ..).trans (Nat.mod_eq_of_lt (by unfold M64; omega))
    · rw [sub64_of_le h (by unfold M64; omega), u64_of_lt (by unfold M64; omega)]; omega
  have e2 : sub64 b w % 8 = (b + 64 - w) % 8 := by
    rcases Nat.lt_or_ge b w with h | h
    · rw [sub64_of_lt h (by unfold M64; omega)]; unfold M64; omega
    · rw [sub64_of_le h (by unfold M64; omega)]; omega
  rw [e1, e2, u64_of_lt (by unfold M64; omega)]
  omega

theorem bfTail_eq {p s b z w : Nat} (hp : p + b = 8 * s) (hb : b < 8) (hz : Pow2 z) (hz8 : z ≤ 8)
    (hfit : p % (8 * z) + w ≤ 8 * z) (hs : s < 2 ^ 63) :
    ∃ sz bt, bfTail s b z w = ⟨p / (8 * z) * z, p % (8 * z), 8 * z - p % (8 * z) - w, sz, bt⟩ ∧
      p + w + bt = 8 * sz ∧ bt < 8 := by
  have hz0 := hz.pos
  have hdm := Nat.div_add_mod p (8 * z)
  have ho : 8 * (p / (8 * z) * z) = 8 * z * (p / (8 * z)) := by rw [Nat.mul_comm _ z, Nat.mul_assoc]
  have e : 8 * s = 8 * (p / (8 * z) * z) + p % (8 * z) + b ∧ w ≤ 64 ∧ z < 72 ∧ p / 8 < 2 ^ 63 ∧
      (b = 0 → p / 8 = s) ∧ (b ≠ 0 → 1 ≤ s ∧ p / 8 = s - 1) := by omega
  obtain ⟨e1, e2, e3, e4, e5, e6⟩ := e
  have hsM : s < M64 := Nat.lt_trans hs (by decide)
  -- `t->size - !!b->bits` is the byte of the cursor
  have hk : sub64 s (if (b != 0) = true then 1 else 0) = p / 8 := by
    by_cases h0 : b = 0
    · rw [if_neg (by simp [h0]), sub64_of_le (Nat.zero_le _) hsM, e5 h0]; rfl
    · rw [if_pos (by simpa using h0), sub64_of_le (e6 h0).1 hsM, (e6 h0).2]
  have hoff : alignDown (p / 8) z = p / (8 * z) * z := by
    rw [alignDown_eq hz (Nat.lt_trans e3 (by decide)) (Nat.lt_trans e4 (by decide)), Nat.div_div_eq_div_mul]
  obtain ⟨hbefore, hafter⟩ := before_after_calc e1 hb hfit hz8 hs
  refine ⟨_, _, ?_, grow_calc hp hb e2 hs, Nat.mod_lt _ (by decide)⟩
  simp only [bfTail, hk, hoff, hbefore, hafter]

/-- `c`: the bit cursor before the call, `p`: where the spec puts the field (`placeStruct`).  `size < 2 ^ 62`: `ALIGNUP`
computes `size + z`, the "no room" test `(end - size) * 8 + bits`, in 64 bits. -/
theorem bfStruct_spec {c size bits z w p : Nat} (hc : c + bits = 8 * size) (hb : bits < 8)
    (hz : Pow2 z) (hz8 : z ≤ 8) (hw : w ≤ 8 * z) (hs : size < 2 ^ 62)
    (hp : p = if w = 0 then roundUp c (8 * z) else bfPos c (8 * z) w) :
    ∃ sz bt, bfStruct size bits z w = ⟨p / (8 * z) * z, p % (8 * z), 8 * z - p % (8 * z) - w, sz, bt⟩ ∧
      p + w + bt = 8 * sz ∧ bt < 8 := by
  have hz0 := hz.pos
  have hU : 0 < 8 * z := Nat.mul_pos (by decide) hz0
  have h63 : ∀ {x}, x < 2 ^ 63 → x < M64 := fun h => Nat.lt_trans h (by decide)
  have hal : alignUp size z = roundUp size z := alignUp_eq hz (h63 (by omega))
  have he1 := le_roundUp size hz0
  have he2 := roundUp_lt size hz0
  have hcur := roundUp_cursor hc hb hz0
  have hmod : 8 * roundUp size z % (8 * z) = 0 := by
    rw [Nat.mul_mod_mul_left, Nat.mod_eq_zero_of_dvd (roundUp_dvd size z)]
  rw [bfStruct_eq, hal]
  generalize roundUp size z = e at *
  have f : e < 2 ^ 63 ∧ (e - size) * 8 < 2 ^ 63 ∧ (e - size) * 8 + bits < 2 ^ 63 ∧ size < 2 ^ 63 := by omega
  rw [sub64_of_le he1 (h63 f.1), u64_of_lt (h63 f.2.1), u64_of_lt (h63 f.2.2.1)]
  by_cases hnr : w = 0 ∨ w > (e - size) * 8 + bits
  · have hp' : p = 8 * e := by
      rw [hp]
      split
      · exact hcur
      · rw [bfPos_eq hU (by omega) hw, hcur, if_neg (by omega)]
    rw [if_pos (by simpa using hnr)]
    exact bfTail_eq (p := p) (b := 0) (w := w) hp' (by decide) hz hz8 (by rw [hp', hmod]; omega) f.1
  · have hw0 : 0 < w := by omega
    have hp' : p = c := by
      rw [hp, if_neg (by omega), bfPos_eq hU hw0 hw, hcur, if_pos (by omega)]
    rw [if_neg (by simpa using hnr)]
    exact bfTail_eq (p := p) (w := w) (hp' ▸ hc) hb hz hz8
      (by rw [hp, if_neg (by omega)]; exact (fits_iff hU hw0).1 (Fits_of_bfPos hU hw0 hw)) f.2.2.2

end CprocVerif.Layout
