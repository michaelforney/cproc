import CprocVerif.Model.Scope
import CprocVerif.Lemmas.Map
/-!
# Lemmas about the scope chain model (scope.c)

A lazily initialised map (`len = 0`: not initialised) behaves like a dictionary; chains of scopes are
related (`CRel`) to chains of association lists (`AScope`), on which the specification of the
operations and lookups is written; a properly nested block body leaves the enclosing chain untouched.
-/
namespace CprocVerif.Scope
open CprocVerif.Map

def LazyWf (m : Map) : Prop := m.len = 0 ∨ Inv m

/-- `if (!m->len) mapinit(m, 32); *mapput(m, &k) = v;` -/
def lazyPut (m : Map) (k : Key) (v : Nat) : Map :=
  Map.put (if m.len = 0 then Map.init 32 else m) k v

/-- `m->len ? mapget(m, &k) : NULL` -/
def lazyGet (m : Map) (k : Key) : Nat := if m.len = 0 then 0 else Map.get m k

theorem lazyPut_spec {m : Map} (h : LazyWf m) (k : Key) (v : Nat) :
    LazyWf (lazyPut m k v) ∧ ∀ k', lazyGet (lazyPut m k v) k' = if k' = k then v else lazyGet m k' := by
  have hb : Inv (if m.len = 0 then Map.init 32 else m) ∧
      ∀ k', Map.get (if m.len = 0 then Map.init 32 else m) k' = lazyGet m k' := by
    unfold lazyGet
    by_cases h0 : m.len = 0
    · simp only [if_pos h0]
      exact ⟨init_inv (e := 5) (by decide) (by decide), get_init (e := 5) (by decide) (by decide)⟩
    · simp only [if_neg h0]
      exact ⟨h.resolve_left h0, fun _ => trivial⟩
  refine ⟨Or.inr (put_spec hb.1 k v).1, fun k' => ?_⟩
  rw [lazyGet, lazyPut, if_neg (Nat.ne_of_gt (put_len_pos hb.1 k v)), get_put hb.1, hb.2]

structure ScopeWf (s : Scope) : Prop where
  decls : LazyWf s.decls
  tags : LazyWf s.tags

/- Projections of `s.putDecl k v` are rewritten with these, never unified against those of `s`: given
`h.tags : LazyWf s.tags` for `LazyWf (s.putDecl k v).tags` the unifier first tries
`s.putDecl k v =?= s` and unfolds `Map.put` on the way, which is slow. -/
theorem putDecl_decls (s : Scope) (k : Key) (v : Nat) : (s.putDecl k v).decls = lazyPut s.decls k v := by
  rw [Scope.putDecl, lazyPut]
theorem putDecl_tags (s : Scope) (k : Key) (v : Nat) : (s.putDecl k v).tags = s.tags := by
  rw [Scope.putDecl]
theorem putTag_decls (s : Scope) (k : Key) (v : Nat) : (s.putTag k v).decls = s.decls := by
  rw [Scope.putTag]
theorem putTag_tags (s : Scope) (k : Key) (v : Nat) : (s.putTag k v).tags = lazyPut s.tags k v := by
  rw [Scope.putTag, lazyPut]
theorem declOf_eq (s : Scope) (k : Key) : s.declOf k = lazyGet s.decls k := rfl
theorem tagOf_eq (s : Scope) (k : Key) : s.tagOf k = lazyGet s.tags k := rfl

theorem fresh_wf : ScopeWf Scope.fresh := ⟨Or.inl rfl, Or.inl rfl⟩

theorem fresh_declOf (k : Key) : Scope.fresh.declOf k = 0 := rfl
theorem fresh_tagOf (k : Key) : Scope.fresh.tagOf k = 0 := rfl

theorem putDecl_wf {s : Scope} (h : ScopeWf s) (k v) : ScopeWf (s.putDecl k v) := by
  constructor
  · rw [putDecl_decls]; exact (lazyPut_spec h.decls k v).1
  · rw [putDecl_tags]; exact h.tags

theorem putTag_wf {s : Scope} (h : ScopeWf s) (k v) : ScopeWf (s.putTag k v) := by
  constructor
  · rw [putTag_decls]; exact h.decls
  · rw [putTag_tags]; exact (lazyPut_spec h.tags k v).1

theorem declOf_putDecl {s : Scope} (h : ScopeWf s) (k : Key) (v : Nat) (k' : Key) :
    (s.putDecl k v).declOf k' = if k' = k then v else s.declOf k' := by
  rw [declOf_eq, putDecl_decls]; exact (lazyPut_spec h.decls k v).2 k'

theorem tagOf_putTag {s : Scope} (h : ScopeWf s) (k : Key) (v : Nat) (k' : Key) :
    (s.putTag k v).tagOf k' = if k' = k then v else s.tagOf k' := by
  rw [tagOf_eq, putTag_tags]; exact (lazyPut_spec h.tags k v).2 k'

theorem tagOf_putDecl (s : Scope) (k : Key) (v : Nat) (k' : Key) :
    (s.putDecl k v).tagOf k' = s.tagOf k' := by rw [tagOf_eq, putDecl_tags]; rfl

theorem declOf_putTag (s : Scope) (k : Key) (v : Nat) (k' : Key) :
    (s.putTag k v).declOf k' = s.declOf k' := by rw [declOf_eq, putTag_decls]; rfl

inductive Op where
  | mk
  | del
  | decl (k : Key) (v : Nat)
  | tag (k : Key) (v : Nat)
deriving Repr

def step : Chain → Op → Chain
  | c, .mk => mkscope c
  | c, .del => delscope c
  | c, .decl k v => putDecl c k v
  | c, .tag k v => putTag c k v

def ChainWf (c : Chain) : Prop := ∀ s, s ∈ c → ScopeWf s

theorem chainWf_cons {s : Scope} {p : Chain} : ChainWf (s :: p) ↔ ScopeWf s ∧ ChainWf p :=
  List.forall_mem_cons

theorem fileChain_wf : ChainWf fileChain := chainWf_cons.2 ⟨fresh_wf, fun _ h => nomatch h⟩

theorem step_wf {c : Chain} (h : ChainWf c) (o : Op) : ChainWf (step c o) := by
  cases o with
  | mk => exact chainWf_cons.2 ⟨fresh_wf, h⟩
  | del => cases c with
    | nil => exact h
    | cons s p => exact (chainWf_cons.1 h).2
  | decl k v => cases c with
    | nil => exact h
    | cons s p => exact chainWf_cons.2 ⟨putDecl_wf (chainWf_cons.1 h).1 k v, (chainWf_cons.1 h).2⟩
  | tag k v => cases c with
    | nil => exact h
    | cons s p => exact chainWf_cons.2 ⟨putTag_wf (chainWf_cons.1 h).1 k v, (chainWf_cons.1 h).2⟩

theorem run_wf (ops : List Op) : ∀ {c : Chain}, ChainWf c → ChainWf (ops.foldl step c) := by
  induction ops with
  | nil => intro c h; exact h
  | cons o ops ih => intro c h; exact ih (step_wf h o)

/-- The loop shared by `scopegetdecl` and `scopegettag`; `f` is the lookup in one scope.  The test
`s->parent != NULL` of the C loop is not needed: the lookup in no scope is `NULL` anyway.  The same
loop over specification scopes is what `aGetDecl`/`aGetTag` compute, with the tests in another order. -/
def getBy {σ : Type} (f : σ → Nat) : List σ → Bool → Nat
  | [], _ => 0
  | s :: p, r => if f s = 0 ∧ r = true then getBy f p r else f s

/-- Any function with the recursion of `scopegetdecl`/`scopegettag` (parent test included) is `getBy f`. -/
theorem eq_getBy {f : Scope → Nat} {g : Chain → Bool → Nat} (r : Bool) (hnil : g [] r = 0)
    (hcons : ∀ s p, g (s :: p) r = if f s = 0 && !p.isEmpty && r then g p r else f s) :
    ∀ c : Chain, g c r = getBy f c r
  | [] => hnil
  | s :: p => by
    rw [hcons, getBy, eq_getBy r hnil hcons p]
    cases p <;> cases r <;> by_cases h : f s = 0 <;> simp [h, getBy]

theorem getDecl_eq (k : Key) (r : Bool) (c : Chain) : getDecl c k r = getBy (·.declOf k) c r :=
  eq_getBy (g := fun c r => getDecl c k r) r rfl (fun _ _ => by rw [getDecl]) c

theorem getTag_eq (k : Key) (r : Bool) (c : Chain) : getTag c k r = getBy (·.tagOf k) c r :=
  eq_getBy (g := fun c r => getTag c k r) r rfl (fun _ _ => by rw [getTag]) c

theorem getDecl_cons (s : Scope) (p : Chain) (k : Key) (r : Bool) :
    getDecl (s :: p) k r = if s.declOf k = 0 ∧ r = true then getDecl p k r else s.declOf k := by
  rw [getDecl_eq, getDecl_eq]; rfl

theorem getTag_cons (s : Scope) (p : Chain) (k : Key) (r : Bool) :
    getTag (s :: p) k r = if s.tagOf k = 0 ∧ r = true then getTag p k r else s.tagOf k := by
  rw [getTag_eq, getTag_eq]; rfl

theorem getBy_innermost (f : Scope → Nat) : ∀ c : Chain,
    getBy f c true = ((c.map f).find? (fun d => d != 0)).getD 0
  | [] => rfl
  | s :: p => by
    rw [getBy, List.map_cons]
    by_cases hd : f s = 0
    · rw [if_pos ⟨hd, rfl⟩, List.find?_cons_of_neg (by simp [hd]), getBy_innermost f p]
    · rw [if_neg (fun h => hd h.1), List.find?_cons_of_pos (by simpa using hd)]; rfl

/-- Specification scope: the histories of declarations and tags made in it. -/
structure AScope where
  decls : List (Key × Nat)
  tags : List (Key × Nat)

def aStep : List AScope → Op → List AScope
  | c, .mk => ⟨[], []⟩ :: c
  | [], .del => []
  | _ :: p, .del => p
  | [], .decl _ _ => []
  | s :: p, .decl k v => ⟨s.decls ++ [(k, v)], s.tags⟩ :: p
  | [], .tag _ _ => []
  | s :: p, .tag k v => ⟨s.decls, s.tags ++ [(k, v)]⟩ :: p

def aGetDecl : List AScope → Key → Bool → Nat
  | [], _, _ => 0
  | s :: p, k, r => if dict s.decls k ≠ 0 then dict s.decls k else if r then aGetDecl p k r else 0

def aGetTag : List AScope → Key → Bool → Nat
  | [], _, _ => 0
  | s :: p, k, r => if dict s.tags k ≠ 0 then dict s.tags k else if r then aGetTag p k r else 0

theorem aGetDecl_eq (k : Key) (r : Bool) : ∀ c, aGetDecl c k r = getBy (dict ·.decls k) c r
  | [] => rfl
  | s :: p => by
    rw [aGetDecl, getBy, aGetDecl_eq k r p]
    by_cases h : dict s.decls k = 0 <;> cases r <;> simp [h]

theorem aGetTag_eq (k : Key) (r : Bool) : ∀ c, aGetTag c k r = getBy (dict ·.tags k) c r
  | [] => rfl
  | s :: p => by
    rw [aGetTag, getBy, aGetTag_eq k r p]
    by_cases h : dict s.tags k = 0 <;> cases r <;> simp [h]

def SRel (s : Scope) (a : AScope) : Prop :=
  ScopeWf s ∧ (∀ k, s.declOf k = dict a.decls k) ∧ (∀ k, s.tagOf k = dict a.tags k)

inductive CRel : Chain → List AScope → Prop
  | nil : CRel [] []
  | cons {s a c ac} : SRel s a → CRel c ac → CRel (s :: c) (a :: ac)

theorem SRel_fresh : SRel Scope.fresh ⟨[], []⟩ :=
  ⟨fresh_wf, fun _ => rfl, fun _ => rfl⟩

theorem CRel_file : CRel fileChain [⟨[], []⟩] := .cons SRel_fresh .nil

theorem CRel_step {c : Chain} {ac : List AScope} (h : CRel c ac) (o : Op) :
    CRel (step c o) (aStep ac o) := by
  cases o with
  | mk => exact .cons SRel_fresh h
  | del => cases h with
    | nil => exact .nil
    | cons _ hr => exact hr
  | decl k v => cases h with
    | nil => exact .nil
    | cons hs hr =>
      obtain ⟨hw, hd, ht⟩ := hs
      refine .cons ⟨putDecl_wf hw k v, fun k' => ?_, fun k' => (tagOf_putDecl ..).trans (ht k')⟩ hr
      rw [declOf_putDecl hw, dict_snoc, hd]
  | tag k v => cases h with
    | nil => exact .nil
    | cons hs hr =>
      obtain ⟨hw, hd, ht⟩ := hs
      refine .cons ⟨putTag_wf hw k v, fun k' => (declOf_putTag ..).trans (hd k'), fun k' => ?_⟩ hr
      rw [tagOf_putTag hw, dict_snoc, ht]

theorem CRel_run (ops : List Op) : ∀ {c : Chain} {ac : List AScope}, CRel c ac →
    CRel (ops.foldl step c) (ops.foldl aStep ac) := by
  induction ops with
  | nil => intro c ac h; exact h
  | cons o ops ih => intro c ac h; exact ih (CRel_step h o)

theorem getBy_of_CRel {f : Scope → Nat} {g : AScope → Nat} (hfg : ∀ s a, SRel s a → f s = g a)
    (r : Bool) : ∀ {c : Chain} {ac : List AScope}, CRel c ac → getBy f c r = getBy g ac r
  | _, _, .nil => rfl
  | _, _, .cons hs hr => by rw [getBy, getBy, hfg _ _ hs, getBy_of_CRel hfg r hr]

/-- Nesting depth after a block body that starts at depth `d` (number of scopes opened since the
    enclosing chain); `none` if the body closes a scope it did not open, or declares at depth 0. -/
def bodyDepth : List Op → Nat → Option Nat
  | [], d => some d
  | .mk :: r, d => bodyDepth r (d + 1)
  | .del :: r, d => if d ≤ 1 then none else bodyDepth r (d - 1)
  | .decl _ _ :: r, d => if d = 0 then none else bodyDepth r d
  | .tag _ _ :: r, d => if d = 0 then none else bodyDepth r d

theorem body_preserves (c : Chain) : ∀ (body : List Op) (inner : Chain) (n d' : Nat),
    inner.length = n + 1 → bodyDepth body (n + 1) = some d' →
    ∃ inner', inner'.length = d' ∧ body.foldl step (inner ++ c) = inner' ++ c
  | [], inner, n, d', hl, hb => ⟨inner, hl.trans (Option.some.inj hb), rfl⟩
  | o :: body, s :: inner, n, d', hl, hb => by
    have hl' : inner.length = n := Nat.succ.inj hl
    rw [List.foldl_cons]
    cases o with
    | mk => exact body_preserves c body (Scope.fresh :: s :: inner) (n + 1) d' (congrArg (· + 1) hl) hb
    | del =>
      cases n with
      | zero => cases hb
      | succ m => exact body_preserves c body inner m d' hl' hb
    | decl k v =>
      exact body_preserves c body (s.putDecl k v :: inner) n d' (congrArg (· + 1) hl') hb
    | tag k v =>
      exact body_preserves c body (s.putTag k v :: inner) n d' (congrArg (· + 1) hl') hb

end CprocVerif.Scope
