/-
  C01, fragment 𝔽₂ — what the simulation of a direct call (`EXPRCALL`) is made of: the arguments in order; `enterFunc`
  of an emitted function, from a `call` or at the start of a run; `FuncSim`, what a call may assume of the callees
  (executions with less fuel); the `call` instruction (`sim_invoke`): the callee runs on the caller's memory to a `ret`
  that binds the result in the caller's frame.
-/
import CprocVerif.Lemmas.Lower2Leaf

set_option linter.unusedSimpArgs false

namespace CprocVerif.LowerMach2
open CprocVerif.Qbe CprocVerif.Lower CprocVerif.Lower2 CprocVerif.CSem CprocVerif.CSem2 CprocVerif.CInt
open CprocVerif.LowerArith CprocVerif.LowerMach CprocVerif.LowerMem

def ArgReps : List CSem.Ty → List Int → List RVal → Prop
  | [], [], [] => True
  | t :: ts, v :: vs, r :: rs => Rep t v r ∧ ArgReps ts vs rs
  | _, _, _ => False

theorem ArgReps.ind {motive : List CSem.Ty → List Int → List RVal → Prop} (nil : motive [] [] [])
    (cons : ∀ t v r ts vs rs, Rep t v r → ArgReps ts vs rs → motive ts vs rs → motive (t :: ts) (v :: vs) (r :: rs)) :
    ∀ {ts vs rs}, ArgReps ts vs rs → motive ts vs rs
  | [], [], [], _ => nil
  | t :: ts, v :: vs, r :: rs, h => cons t v r ts vs rs h.1 h.2 (ArgReps.ind nil cons h.2)
  | [], _ :: _, _, h | [], [], _ :: _, h | _ :: _, [], _, h | _ :: _, _ :: _, [], h => h.elim

theorem ArgReps.get {ts : List CSem.Ty} {vs : List Int} {rs : List RVal} (h : ArgReps ts vs rs) :
    ∀ (k : Nat) (t : CSem.Ty) (v : Int), ts[k]? = some t → vs[k]? = some v →
      ∃ r, rs[k]? = some r ∧ Rep t v r := by
  refine ArgReps.ind (motive := fun ts vs rs => ∀ k t v, ts[k]? = some t → vs[k]? = some v →
    ∃ r, rs[k]? = some r ∧ Rep t v r) (fun k t v ht => by cases ht) ?_ h
  intro t0 v0 r0 ts vs rs h0 _ ih k t v ht hv
  cases k with
  | zero => cases ht; cases hv; exact ⟨r0, rfl, h0⟩
  | succ k => exact ih k t v ht hv

theorem ArgReps.length : ∀ {ts : List CSem.Ty} {vs : List Int} {rs : List RVal}, ArgReps ts vs rs →
    vs.length = ts.length ∧ rs.length = ts.length :=
  ArgReps.ind (motive := fun ts vs rs => vs.length = ts.length ∧ rs.length = ts.length) ⟨rfl, rfl⟩
    (fun _ _ _ _ _ _ _ _ ih => ⟨congrArg (· + 1) ih.1, congrArg (· + 1) ih.2⟩)

theorem readVals_cons {p : Prog} {env : Env} {v : Val} {vs : List Val} {r : RVal} {rs : List RVal}
    (h1 : readVal p env v = .ok r) (h2 : readVals p env vs = .ok rs) :
    readVals p env (v :: vs) = .ok (r :: rs) := by
  simp [readVals, h1, h2]

theorem readVals_append {p : Prog} {env : Env} : ∀ {as bs : List Val} {ra rb : List RVal},
    readVals p env as = .ok ra → readVals p env bs = .ok rb → readVals p env (as ++ bs) = .ok (ra ++ rb) := by
  intro as
  induction as with
  | nil =>
    intro bs ra rb h1 h2
    simp only [readVals, Except.ok.injEq] at h1
    subst h1
    exact h2
  | cons a as ih =>
    intro bs ra rb h1 h2
    simp only [readVals] at h1
    cases hra : readVal p env a with
    | error e => simp only [hra] at h1; cases h1
    | ok r =>
      cases hrs : readVals p env as with
      | error e => simp only [hra, hrs] at h1; cases h1
      | ok rs =>
        simp only [hra, hrs, Except.ok.injEq] at h1
        subst h1
        show readVals p env (a :: (as ++ bs)) = .ok (r :: (rs ++ rb))
        exact readVals_cons hra (ih hrs h2)

theorem ArgReps.append {ts1 : List CSem.Ty} {vs1 : List Int} {rs1 : List RVal} {ts2 : List CSem.Ty}
    {vs2 : List Int} {rs2 : List RVal} (h1 : ArgReps ts1 vs1 rs1) (h2 : ArgReps ts2 vs2 rs2) :
    ArgReps (ts1 ++ ts2) (vs1 ++ vs2) (rs1 ++ rs2) :=
  ArgReps.ind (motive := fun ts vs rs => ArgReps (ts ++ ts2) (vs ++ vs2) (rs ++ rs2)) h2
    (fun _ _ _ _ _ _ h0 _ ih => ⟨h0, ih⟩) h1

/-- `lowerArgs`: every argument is evaluated into a register that still holds it after the later ones. -/
theorem sim_args (T : Stat) (slots : List Nat) (vt : List CSem.Ty) (s : Store) (M : Mem)
    (hrange : ∀ (i : Nat) (t : CSem.Ty) (v' : Int), vt[i]? = some t → s[i]? = some (some v') →
      InRange (t.intTy T.S.cs) v')
    (es : List Expr) : ∀ (k : Ctx) (pre post : List Item) (env : Env) (vs : List Int),
    es.all (fun e => e.wt vt) = true → evalArgs T.S.cs s es = some vs →
    T.S.its = pre ++ (lowerArgs T.S.cs slots es k).1 ++ post →
    curOf T.S.o0 pre = k.cur → CurOK k →
    (∀ (i : Nat) (t : CSem.Ty), vt[i]? = some t → slots.getD i 0 ≤ k.lastid) →
    VarsIn (setM T.S M) slots vt s env →
    ∃ n env' rs, T.Reach n (T.at env M pre) (T.at env' M (pre ++ (lowerArgs T.S.cs slots es k).1)) ∧
      Frame k.lastid (lowerArgs T.S.cs slots es k).2.2.lastid env env' ∧
      readVals T.S.p env' ((lowerArgs T.S.cs slots es k).2.1.map (·.2)) = .ok rs ∧
      ArgReps (es.map (·.ty)) vs rs ∧
      (lowerArgs T.S.cs slots es k).2.1.map (·.1) = es.map (fun e => Qbe.Ty.base (cls e.ty)) ∧
      EnvOK T.S.cs (es.map (·.ty)) vs := by
  induction es with
  | nil =>
    intro k pre post env vs _ hev _ _ _ _ _
    simp only [evalArgs, Option.some.injEq] at hev
    subst hev
    refine ⟨0, env, [], ?_, Frame.refl _ _ _, rfl, trivial, rfl, rfl, fun i t v h => by simp at h⟩
    simp only [lowerArgs, List.append_nil]
    rfl
  | cons e es ih =>
    intro k pre post env vs hwt hev hits hcur hcok hn hvars
    simp only [List.all_cons, Bool.and_eq_true] at hwt
    simp only [evalArgs, Option.bind_eq_some_iff, Option.map_eq_some_iff] at hev
    obtain ⟨v, hv, vs', hvs', rfl⟩ := hev
    have gd := funcexpr2_good T.S.cs slots e k
    simp only [lowerArgs] at hits ⊢
    have hits1 := its_mid hits
    obtain ⟨n1, env1, hreach1, hfr1, r1, hval1, hrep1, hrg1⟩ := run_expr2 (setM T.S M) slots vt s hrange e k pre _
      env v hwt.1 hv hits1 hcur hcok hn hvars
    obtain ⟨n2, env2, rs, hreach2, hfr2, hrd2, hreps2, htys2, hlen2, hrg2⟩ := ih (funcexpr2 T.S.cs slots e k).ctx
      (pre ++ (funcexpr2 T.S.cs slots e k).items) post env1 vs' hwt.2 hvs' (its_app hits1)
      (gd.cur T.S.o0 pre hcur) (gd.curOK hcok) (fun i t ht => Nat.le_trans (hn i t ht) gd.lastid)
      (hvars.agree hfr1.agree hn)
    refine ⟨n1 + n2, env2, r1 :: rs, List.append_assoc _ _ _ ▸ hreach1.trans hreach2,
      Frame.trans hfr1 hfr2 (Nat.le_refl _) gd.lastid
        (lowerArgs_lastid T.S.cs slots es (funcexpr2 T.S.cs slots e k).ctx) (Nat.le_refl _),
      readVals_cons ((readVal_agree gd.val hfr2.agree).trans hval1) hrd2, ⟨hrep1, hreps2⟩,
      congrArg (_ :: ·) htys2, congrArg (· + 1) hlen2, fun i t w ht hw => ?_⟩
    cases i with
    | zero => cases ht; cases hw; exact hrg1
    | succ i => exact hrg2 i t w ht hw

theorem zipTys_map : ∀ (args : List (Qbe.Ty × Val)) (rs : List RVal), args.length = rs.length →
    (zipTys args rs).map (·.1) = args.map (·.1) ∧ (zipTys args rs).map (·.2) = rs
  | [], [], _ => ⟨rfl, rfl⟩
  | [], _ :: _, h => nomatch h
  | _ :: _, [], h => nomatch h
  | (_, _) :: args, _ :: rs, h =>
    ⟨congrArg (_ :: ·) (zipTys_map args rs (Nat.succ.inj h)).1, congrArg (_ :: ·) (zipTys_map args rs (Nat.succ.inj h)).2⟩

theorem prepArgs_reps (p : Prog) (mem : Mem) {ts : List CSem.Ty} {vs : List Int} {rs : List RVal}
    (hr : ArgReps ts vs rs) : ∀ (i : Nat) (as : List (Qbe.Ty × RVal)),
    as.map (·.1) = ts.map (fun t => Qbe.Ty.base (cls t)) → as.map (·.2) = rs →
    ∃ rs', prepArgs p (paramSig ts i) as mem = .ok (rs', mem) ∧ ArgReps ts vs rs' := by
  refine ArgReps.ind (motive := fun ts vs rs => ∀ (i : Nat) (as : List (Qbe.Ty × RVal)),
    as.map (·.1) = ts.map (fun t => Qbe.Ty.base (cls t)) → as.map (·.2) = rs →
    ∃ rs', prepArgs p (paramSig ts i) as mem = .ok (rs', mem) ∧ ArgReps ts vs rs') ?_ ?_ hr
  · intro i as h _
    cases as with
    | nil => exact ⟨[], rfl, trivial⟩
    | cons _ _ => cases h
  · intro t v r ts vs rs h0 _ ih i as ha hb
    cases as with
    | nil => cases ha
    | cons a as =>
      obtain ⟨ty, x⟩ := a
      simp only [List.map_cons, List.cons.injEq] at ha hb
      obtain ⟨rfl, ha'⟩ := ha
      obtain ⟨rfl, hb'⟩ := hb
      obtain ⟨r', hco, hrep'⟩ := rep_coerce h0
      obtain ⟨rs', hp', hreps'⟩ := ih (i + 1) as ha' hb'
      refine ⟨r' :: rs', ?_, hrep', hreps'⟩
      have hc : tyCompat (Qbe.Ty.base (cls t)) (Qbe.Ty.base (cls t)) = true := by simp [tyCompat, Ty.cls]
      simp only [paramSig, prepArgs, hc, Bool.not_true, Bool.false_eq_true, if_false, Ty.cls, hco, hp',
        bind, Except.bind, pure, Except.pure]

theorem enterFunc_emit (p : Prog) (cs : Bool) (sid : Nat) (g : CSem2.Func) (M : Mem) {as : List (Qbe.Ty × RVal)}
    {rs' : List RVal} (hal : as.length = g.params.length) (hsp : stackLimit + redZone + frameCost ≤ M.sp)
    (hprep : prepArgs p (paramSig g.params 0) as ⟨M.globals, M.stack, M.sp - frameCost⟩ =
      .ok (rs', ⟨M.globals, M.stack, M.sp - frameCost⟩))
    (hlr' : rs'.length = g.params.length) :
    enterFunc p (FuncInfo.of (Lower2.emitFunc cs sid g)) as none M =
      .ok ({ fi := FuncInfo.of (Lower2.emitFunc cs sid g), env := bindParams {} (paramSig g.params 0) rs', bi := 0,
             ii := 0, stackMark := M.stack.size, spMark := M.sp, va := none },
           { M with sp := M.sp - frameCost }) := by
  have hvar : (Lower2.emitFunc cs sid g).variadic = false := rfl
  have hsp' : ¬ M.sp < stackLimit + redZone + frameCost := Nat.not_lt.2 hsp
  have hparams : (Lower2.emitFunc cs sid g).params = paramSig g.params 0 := rfl
  have hdrop : List.drop g.params.length as = [] := by
    rw [← hal]; exact List.drop_length
  simp only [enterFunc, FuncInfo.of, hvar, hparams, paramSig_length, hal, hsp', Nat.lt_irrefl,
    Bool.false_eq_true, if_false, bne_self_eq_false, Bool.and_false, markerBad, hdrop,
    vaArea, Bool.not_false, Bool.true_and, hprep, hlr']

theorem enter_reps (p : Prog) (cs : Bool) (sid : Nat) (g : CSem2.Func) (M : Mem)
    (as : List (Qbe.Ty × RVal)) (ρ : List Int)
    (htys : as.map (·.1) = g.params.map (fun t => Qbe.Ty.base (cls t)))
    (hreps : ArgReps g.params ρ (as.map (·.2))) (hsp : stackLimit + redZone + frameCost ≤ M.sp) :
    ∃ env0, enterFunc p (FuncInfo.of (Lower2.emitFunc cs sid g)) as none M =
        .ok ({ fi := FuncInfo.of (Lower2.emitFunc cs sid g), env := env0, bi := 0, ii := 0,
               stackMark := M.stack.size, spMark := M.sp, va := none },
             { M with sp := M.sp - frameCost }) ∧
      ∀ (k : Nat) (t : CSem.Ty) (v : Int), g.params[k]? = some t → ρ[k]? = some v →
        ∃ r, env0[tmpName (2 * k + 1)]? = some r ∧ StoreVal t v r := by
  have hla : as.length = g.params.length := by simpa using congrArg List.length htys
  obtain ⟨rs', hprep, hreps'⟩ := prepArgs_reps p ⟨M.globals, M.stack, M.sp - frameCost⟩ hreps 0 as htys rfl
  obtain ⟨_, hlr'⟩ := hreps'.length
  refine ⟨bindParams {} (paramSig g.params 0) rs', enterFunc_emit p cs sid g M hla hsp hprep hlr', ?_⟩
  intro k t v ht hv
  obtain ⟨r, hr, hrep⟩ := hreps'.get k t v ht hv
  have := (bindParams_spec g.params 0 rs' {} hlr').1 k r hr
  exact ⟨r, by simpa using this, storeVal_of_rep hrep⟩

theorem enter_reps_call (p : Prog) (cs : Bool) (sid : Nat) (g : CSem2.Func) (M : Mem)
    (args : List (Qbe.Ty × Val)) (ρ : List Int) (rs : List RVal)
    (htys : args.map (·.1) = g.params.map (fun t => Qbe.Ty.base (cls t)))
    (hreps : ArgReps g.params ρ rs) (hsp : stackLimit + redZone + frameCost ≤ M.sp) :
    ∃ env0, enterFunc p (FuncInfo.of (Lower2.emitFunc cs sid g)) (zipTys args rs) none M =
        .ok ({ fi := FuncInfo.of (Lower2.emitFunc cs sid g), env := env0, bi := 0, ii := 0,
               stackMark := M.stack.size, spMark := M.sp, va := none },
             { M with sp := M.sp - frameCost }) ∧
      ∀ (k : Nat) (t : CSem.Ty) (v : Int), g.params[k]? = some t → ρ[k]? = some v →
        ∃ r, env0[tmpName (2 * k + 1)]? = some r ∧ StoreVal t v r := by
  obtain ⟨h1, h2⟩ := zipTys_map args rs
    ((by simpa using congrArg List.length htys : args.length = g.params.length).trans hreps.length.2.symm)
  exact enter_reps p cs sid g M (zipTys args rs) ρ (h1.trans htys) (h2.symm ▸ hreps) hsp

theorem argOf_rep (t : CSem.Ty) (v : Int) : (argOf t v).1 = .base (cls t) ∧ Rep t v (argOf t v).2 := by
  unfold argOf cls Rep
  by_cases h8 : t.size = 8
  · rw [if_pos h8, if_pos h8, if_pos h8]
    exact ⟨rfl, _, rfl, argBits_toNat v (.inr rfl)⟩
  · rw [if_neg h8, if_neg h8, if_neg h8]
    refine ⟨rfl, _, rfl, ?_⟩
    rw [toNat_and_mask32, Int.natCast_emod, argBits_toNat v (.inl rfl)]
    show v % 2 ^ 32 % 2 ^ 32 % 2 ^ (8 * t.size) = _
    rw [Int.emod_emod]
    exact emod_pow_of_le v (by have := size_cases t; omega)

theorem argsOf_reps : ∀ (ts : List CSem.Ty) (vs : List Int), vs.length = ts.length →
    (argsOf ts vs).map (·.1) = ts.map (fun t => Qbe.Ty.base (cls t)) ∧ ArgReps ts vs ((argsOf ts vs).map (·.2))
  | [], [], _ => ⟨rfl, trivial⟩
  | [], _ :: _, h => nomatch h
  | _ :: _, [], h => nomatch h
  | t :: ts, v :: vs, h =>
    ⟨by rw [argsOf, List.map_cons, (argOf_rep t v).1, (argsOf_reps ts vs (Nat.succ.inj h)).1]; rfl,
      (argOf_rep t v).2, (argsOf_reps ts vs (Nat.succ.inj h)).2⟩

theorem initState_emit (cs : Bool) (sid : Nat) (f : CSem2.Func) {p : Prog} {ρ : List Int}
    (hfun : p.funcs[f.name]? = some (FuncInfo.of (Lower2.emitFunc cs sid f))) (hlen : ρ.length = f.params.length)
    (hsp : stackLimit + redZone + frameCost ≤ p.initMem.sp) :
    ∃ env0, initState p f.name (argsOf f.params ρ) =
        .ok (mkSt ⟨FuncInfo.of (Lower2.emitFunc cs sid f), p.initMem.stack.size, p.initMem.sp, [], #[]⟩ env0
          { p.initMem with sp := p.initMem.sp - frameCost } 0 0) ∧
      ∀ (k : Nat) (t : CSem.Ty) (v : Int), f.params[k]? = some t → ρ[k]? = some v →
        ∃ r, env0[tmpName (2 * k + 1)]? = some r ∧ StoreVal t v r := by
  obtain ⟨env0, henter, hargs⟩ := enter_reps p cs sid f p.initMem (argsOf f.params ρ) ρ
    (argsOf_reps _ _ hlen).1 (argsOf_reps _ _ hlen).2 hsp
  refine ⟨env0, ?_, hargs⟩
  have hvar : (FuncInfo.of (Lower2.emitFunc cs sid f)).f.variadic = false := rfl
  simp only [initState, hfun, hvar, Bool.false_eq_true, if_false, henter]
  rfl

theorem step_call_item (T : Stat) {pre post : List Item} {res : String} {k : Cls} {fn : String}
    {args : List (Qbe.Ty × Val)} {env : Env} {M M' : Mem} {rs : List RVal} {fi : FuncInfo}
    {nf : Qbe.Frame}
    (hits : T.S.its = pre ++ .ins (.call (some (res, .base k)) (.glob fn false) args none) :: post)
    (hr : readVals T.S.p env (args.map (·.2)) = .ok rs) (hf : T.S.p.funcs[fn]? = some fi)
    (he : enterFunc T.S.p fi (zipTys args rs) none M = .ok (nf, M')) :
    step T.S.p T.S.ext (T.at env M pre) =
      .next ⟨nf :: mkFr T.S.x env (posOf T.S.o0 pre).1 (posOf T.S.o0 pre).2 :: T.S.x.rest, M', T.S.x.tr⟩ := by
  obtain ⟨b, hb, hi⟩ := ins_at T.S.ft T.S.o0 pre post
    (.call (some (res, .base k)) (.glob fn false) args none)
  rw [← hits, ← T.S.block_get] at hb
  rw [Stat.at_def]
  simp only [step, mkSt, mkFr, hb, hi, stepIns, readVals, readVal, hr, calleeName, hf, he]

theorem retCont_call_item (T : Stat) {pre post : List Item} {res : String} {k : Cls} {fn : String}
    {args : List (Qbe.Ty × Val)} {env : Env} {M : Mem} {r r' : RVal}
    (hits : T.S.its = pre ++ .ins (.call (some (res, .base k)) (.glob fn false) args none) :: post)
    (hco : r.coerce k = .ok r') :
    retCont T.S.p (mkFr T.S.x env (posOf T.S.o0 pre).1 (posOf T.S.o0 pre).2 :: T.S.x.rest) M T.S.x.tr
        (.scalar r) =
      .next (T.at (env.insert res r') M
        (pre ++ [.ins (.call (some (res, .base k)) (.glob fn false) args none)])) := by
  obtain ⟨b, hb, hi⟩ := ins_at T.S.ft T.S.o0 pre post
    (.call (some (res, .base k)) (.glob fn false) args none)
  rw [← hits, ← T.S.block_get] at hb
  rw [Stat.at_def, posOf_ins]
  simp only [retCont, Qbe.Frame.curIns, mkFr, hb, hi, bindCallRes, Ty.cls, hco, mkSt]

theorem isEmpty_of_lookup {P : List CSem2.Func} {fn : String} {g : CSem2.Func} (h : lookup P fn = some g) :
    P.isEmpty = false := by
  cases P with
  | nil => cases h
  | cons _ _ => rfl

theorem callOf_some {P : List CSem2.Func} {run : Store → Stmt → Option CSem2.Outcome} {fn : String}
    {vs : List Int} {v : Int} (h : callOf P run fn vs = some v) :
    ∃ g, lookup P fn = some g ∧ run (initStore g vs) g.body = some (.ret v) := by
  unfold callOf at h
  split at h
  · cases h
  · rename_i g hlk
    split at h
    · rename_i v' hb; cases h; exact ⟨g, hlk, hb⟩
    · cases h

theorem exec_callp_some {cs : Bool} {P : List CSem2.Func} {n : Nat} {s : Store} {dst : Option (Nat × CSem.Ty)}
    {rt : CSem.Ty} {fn : String} {pargs : List (Nat × CSem.Ty × Nat × Nat)} {args : List Expr} {out : CSem2.Outcome}
    (h : exec cs P (n + 1) s (.callp dst rt fn pargs args) = some out) :
    ∃ g vs v, lookup P fn = some g ∧ evalArgs cs s args = some vs ∧
      exec cs P n (initStore g (List.replicate g.pwin.length 0 ++ vs) (windows s g.pwin pargs)) g.body =
        some (.ret v) ∧
      out = .normal (match (generalizing := false) dst with
        | none => s
        | some (i, t) => s.set i (some (conv (rt.intTy cs) (t.intTy cs) v))) := by
  simp only [exec] at h
  split at h
  · cases h
  · rename_i g hlk
    obtain ⟨vs, hvs, h⟩ := Option.bind_eq_some_iff.1 h
    split at h
    · rename_i v hb
      refine ⟨g, vs, v, hlk, hvs, hb, ?_⟩
      cases dst with
      | none => cases h; rfl
      | some d => cases h; rfl
    · cases h

/-- What a call in the activation `T` may assume of the callees: each function of `T.P` is simulated with fuel `n` where
    there is room for `T.d` activations, of which there is at least one when the program has a function to call (for a
    single function, `T.P = []`, nothing is claimed). -/
def FuncSim (T : Stat) (n : Nat) : Prop :=
  ∀ (fn : String) (g : CSem2.Func), lookup T.P fn = some g →
    0 < T.d ∧ FuncSimOf T.S.cs T.P T.S.p T.S.ext T.K T.d g n

section
variable (T : Stat) {s : Store} {lp : Bool × Bool} {brk cont : String} {c : SCtx}
  {nd : Nat} {pre post : List Item} {env : Env} {M : Mem}

/-- The `call` instruction on evaluated arguments `ρm` (registers `rs`): the callee's activation (by `FuncSim`)
    and the return into this frame.  `inv0` serves for the memory only (room, `MemInv`), so it may be stated at another
    environment than the one of the run: inside an expression, the one at which the expression began. -/
theorem sim_invoke (n : Nat) (hf : FuncSim T n) {rt : CSem.Ty} {fn : String} {g : CSem2.Func}
    {cargs : List (Qbe.Ty × Val)} {ρ ρm : List Int} {ws : List (Option Int)} {rs : List RVal} {v : Int}
    {res : String} {pos : List Item} {env0 env1 : Env}
    (hlk : lookup T.P fn = some g) (hret : g.ret = rt)
    (hits : T.S.its = pos ++ .ins (.call (some (res, .base (cls rt))) (.glob fn false) cargs none) :: post)
    (inv0 : SInv T.M0 T.S.cs T.cnts T.W T.σ T.vtys s env0 M)
    (hrd : readVals T.S.p env1 (cargs.map (·.2)) = .ok rs)
    (htys : cargs.map (·.1) = g.params.map (fun t => Qbe.Ty.base (cls t))) (hreps : ArgReps g.params ρm rs)
    (henv : EnvOK T.S.cs g.params ρ) (hρ : ∀ k, g.pwin.length ≤ k → ρm[k]? = ρ[k]?)
    (hwin : WinOK T.S.cs g ws ρm M)
    (hbody : exec T.S.cs T.P n (initStore g ρ ws) g.body = some (.ret v)) :
    ∃ k r', T.Reach k (T.at env1 M pos) (T.at (env1.insert res r') M
        (pos ++ [.ins (.call (some (res, .base (cls rt))) (.glob fn false) cargs none)])) ∧
      Rep rt v r' ∧ InRange (rt.intTy T.S.cs) v := by
  obtain ⟨sid, hfi⟩ := T.hfuncs fn g hlk
  obtain ⟨hd, hf⟩ := hf fn g hlk
  have hroomM := T.room_at inv0
  obtain ⟨envc, henter, hargs0⟩ := enter_reps_call T.S.p T.S.cs sid g M cargs ρm rs htys hreps (hroomM.sp_enter hd)
  obtain ⟨k, st, r, hreachc, hstepc, hrr, hrg⟩ := hf sid ρ ρm ws v M
    (mkFr T.S.x env1 (posOf T.S.o0 pos).1 (posOf T.S.o0 pos).2 :: T.S.x.rest) T.S.x.tr envc
    henv inv0.a.mem hroomM (Nat.le_trans inv0.a.sp_hi inv0.a.top) hρ hreps.length.1 hargs0 hwin hbody
  rw [hret] at hrr hrg
  obtain ⟨r', hco, hrep'⟩ := rep_coerce hrr.1
  have hstep2 := retCont_call_item T (env := env1) (M := M) hits hco
  rw [← hstepc] at hstep2
  exact ⟨1 + k + 1, r', ((Reach.one (step_call_item T hits hrd hfi henter)).trans hreachc).trans (Reach.one hstep2),
    hrep', hrg⟩

end

end CprocVerif.LowerMach2
