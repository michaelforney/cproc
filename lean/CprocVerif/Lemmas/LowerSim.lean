/-
  C01 — the static situation while the body of an emitted function runs (`Sit`): where the items sit
  in the blocks, environments that agree on the numbered temporaries; the step an item stands for: an instruction
  (`Sit.run_ins`), a label item closing a block (`Goes`, `Sit.jump`).
-/
import CprocVerif.Lemmas.LowerStruct
import CprocVerif.Lemmas.LowerRep

namespace CprocVerif.LowerMach
open CprocVerif.Qbe CprocVerif.Lower CprocVerif.CSem CprocVerif.CInt CprocVerif.LowerArith

/-- `M` is static only along a stretch of instructions that do not write memory: at statement level the memory is
    carried beside the `Sit` and these lemmas are used at `setM S M` (`Lemmas/Lower2Sim`). -/
structure Sit where
  cs : Bool
  p : Prog
  ext : Ext
  x : Fix
  M : Mem
  ft : Jump
  o0 : Open
  its : List Item
  ptys : List CSem.Ty
  ρ : List Int
  hblocks : x.fi.f.blocks = (assemble ft o0 its).toArray
  hlidx : ∀ (j : Nat) (b : Block), x.fi.f.blocks[j]? = some b → x.fi.labelIdx[b.label]? = some j
  henv : EnvOK cs ptys ρ

def Agree (n : Nat) (env env' : Env) : Prop := ∀ j, j ≤ n → env'[tmpName j]? = env[tmpName j]?

theorem Agree.refl (n : Nat) (env : Env) : Agree n env env := fun _ _ => rfl

theorem Agree.trans {n m : Nat} {a b c : Env} (h1 : Agree n a b) (h2 : Agree m b c) (hnm : n ≤ m) :
    Agree n a c := fun j hj => (h2 j (by omega)).trans (h1 j hj)

theorem Agree.mono {n m : Nat} {a b : Env} (h : Agree m a b) (hnm : n ≤ m) : Agree n a b :=
  fun j hj => h j (by omega)

theorem Agree.insert {n k : Nat} (env : Env) (v : RVal) (hk : n < k) :
    Agree n env (env.insert (tmpName k) v) :=
  fun j hj => getElem?_insert_tmp env v (by omega)

theorem readVal_agree {p : Prog} {n : Nat} {env env' : Env} {v : Val} (hv : ValOK n v)
    (h : Agree n env env') : readVal p env' v = readVal p env v := by
  rcases hv with ⟨k, rfl⟩ | ⟨j, hj, rfl⟩
  · rfl
  · simp only [readVal, h j hj]

theorem readVal_insert_self (p : Prog) (env : Env) (k : Nat) (v : RVal) :
    readVal p (env.insert (tmpName k) v) (.tmp (tmpName k)) = .ok v := by
  simp [readVal]

def Sit.at (S : Sit) (env : Env) (pre : List Item) : State :=
  mkSt S.x env S.M (posOf S.o0 pre).1 (posOf S.o0 pre).2

theorem Sit.block_get (S : Sit) (j : Nat) :
    S.x.fi.f.blocks[j]? = (assemble S.ft S.o0 S.its)[j]? := by
  rw [S.hblocks]; simp

theorem Sit.run_ins (S : Sit) {pre post : List Item} {k : Nat} {cl : Cls} {o : Op}
    {args : List Val} {env : Env} {vs : List RVal} {v : RVal}
    {M' : Mem} (hits : S.its = pre ++ .ins (.op (some (tmpName k, cl)) o args) :: post)
    (hr : readVals S.p env args = .ok vs) (hx : execOp o (some cl) vs S.M none = .ok (v, M')) :
    Reach S.p S.ext 1 (S.at env pre)
      (({ S with M := M' } : Sit).at (env.insert (tmpName k) v) (pre ++ [.ins (.op (some (tmpName k, cl)) o args)])) := by
  obtain ⟨b, hb, hi⟩ := ins_at S.ft S.o0 pre post (.op (some (tmpName k, cl)) o args)
  rw [← hits, ← S.block_get] at hb
  unfold Sit.at
  rw [posOf_ins]
  exact Reach.one (step_op_res S.x hb hi hr hx)

theorem Sit.term_at (S : Sit) {pre post : List Item} {t : Option Jump} {l : String} {ph : List Phi}
    (hits : S.its = pre ++ .lbl t l ph :: post) :
    ∃ b, S.x.fi.f.blocks[(posOf S.o0 pre).1]? = some b ∧ b.ins.size = (posOf S.o0 pre).2 ∧
      b.term = t ∧ b.label = curOf S.o0 pre := by
  obtain ⟨b, b', h1, h2, h3, h4, _⟩ := lbl_at S.ft S.o0 pre post t l ph
  rw [← hits, ← S.block_get] at h1
  exact ⟨b, h1, h2, h3, h4⟩

theorem Sit.target (S : Sit) {pre post : List Item} {t : Option Jump} {l : String} {ph : List Phi}
    (hits : S.its = pre ++ .lbl t l ph :: post) :
    ∃ b', S.x.fi.f.blocks[(posOf S.o0 pre).1 + 1]? = some b' ∧ b'.label = l ∧ b'.phis = ph ∧
      S.x.fi.labelIdx[l]? = some ((posOf S.o0 pre).1 + 1) := by
  obtain ⟨b, b', _, _, _, _, h5, h6, h7⟩ := lbl_at S.ft S.o0 pre post t l ph
  rw [← hits, ← S.block_get] at h5
  exact ⟨b', h5, h6, h7, h6 ▸ S.hlidx _ _ h5⟩

theorem Sit.at_lbl (S : Sit) (env : Env) (pre : List Item) (t : Option Jump) (l : String)
    (ph : List Phi) :
    S.at env (pre ++ [.lbl t l ph]) = mkSt S.x env S.M ((posOf S.o0 pre).1 + 1) 0 := by
  unfold Sit.at
  rw [posOf_lbl]

theorem Sit.end_at (S : Sit) {pre : List Item} (hits : S.its = pre) :
    ∃ b, S.x.fi.f.blocks[(posOf S.o0 pre).1]? = some b ∧ b.ins.size = (posOf S.o0 pre).2 ∧
      b.term = some S.ft := by
  subst hits
  obtain ⟨b, h1, h2, h3, _⟩ := CprocVerif.LowerMach.end_at S.ft S.o0 S.its
  rw [← S.block_get] at h1
  exact ⟨b, h1, h2, h3⟩

/-- Where control goes in `env` when a block closed by `t` ends: to the label written after it (`next`), or to the
    target of the jump. -/
inductive Goes (p : Prog) (env : Env) (next : String) : Option Jump → String → Prop
  | fall : Goes p env next none next
  | jmp (l : String) : Goes p env next (some (.jmp l)) l
  | jnz {v : Val} {a z : String} {c : RVal} {w : UInt64} : readVal p env v = .ok c → c.asW = .ok w →
      Goes p env next (some (.jnz v a z)) (if w != 0 then a else z)

theorem Goes.jnzSwap {p : Prog} {env : Env} {next : String} {v : Val} {a z : String} {c : RVal} {w : UInt64}
    (sw : Bool) (hv : readVal p env v = .ok c) (hc : c.asW = .ok w) :
    Goes p env next (some (if sw = true then Jump.jnz v z a else Jump.jnz v a z))
      (if (sw == (w != 0)) = true then z else a) := by
  have h1 := Goes.jnz (next := next) (a := a) (z := z) hv hc
  have h2 := Goes.jnz (next := next) (a := z) (z := a) hv hc
  cases sw <;> cases hw : (w != 0) <;> rw [hw] at h1 h2
  · exact h1
  · exact h1
  · exact h2
  · exact h2

theorem Sit.leave (S : Sit) {pos : List Item} {b b' : Block} {t : Option Jump} {next l' : String} {env : Env}
    {j : Nat} {bs : List (String × RVal)} (hb : S.x.fi.f.blocks[(posOf S.o0 pos).1]? = some b)
    (hsz : b.ins.size = (posOf S.o0 pos).2) (hterm : b.term = t) (hg : Goes S.p env next t l')
    (hj : S.x.fi.labelIdx[l']? = some j) (hf : t = none → j = (posOf S.o0 pos).1 + 1)
    (hb' : S.x.fi.f.blocks[j]? = some b') (hphi : evalPhis S.p env b'.label b.label b'.phis = .ok bs) :
    step S.p S.ext (S.at env pos) = .next (mkSt S.x (bindAll env bs) S.M j 0) := by
  unfold Sit.at
  cases hg with
  | fall => rw [step_fall S.x hb hsz hterm, ← hf rfl]; exact goto_phis S.x hb' hphi
  | jmp => rw [step_jmp S.x hb hsz hterm hj]; exact goto_phis S.x hb' hphi
  | jnz hv hc => rw [step_jnz S.x hb hsz hterm hv hc hj]; exact goto_phis S.x hb' hphi

theorem Sit.jump (S : Sit) {pre post pre' post' : List Item} {t t' : Option Jump} {l l' : String}
    {ph ph' : List Phi} (hits : S.its = pre ++ .lbl t l ph :: post)
    (hits' : S.its = pre' ++ .lbl t' l' ph' :: post') {env : Env} (hg : Goes S.p env l t l')
    {bs : List (String × RVal)} (hphi : evalPhis S.p env l' (curOf S.o0 pre) ph' = .ok bs) :
    step S.p S.ext (S.at env pre) = .next (S.at (bindAll env bs) (pre' ++ [.lbl t' l' ph'])) := by
  obtain ⟨b, hb, hsz, hterm, hlbl⟩ := S.term_at hits
  obtain ⟨_, _, _, _, hidx0⟩ := S.target hits
  obtain ⟨b', hb', hl', hph', hidx⟩ := S.target hits'
  rw [S.at_lbl]
  refine S.leave hb hsz hterm hg hidx (fun h => ?_) hb' (by rw [hl', hph', hlbl]; exact hphi)
  subst h
  cases hg
  exact (Option.some.inj (hidx0.symm.trans hidx)).symm

theorem WRep.narrow {n m : Nat} {v : Int} {r : RVal} (h : WRep n v r) (hm : m ≤ n) :
    WRep m v r := h.of_le hm rfl

theorem wrap_bit_eq_b2i (sg : Bool) (v : Int) :
    wrap ⟨1, sg⟩ v = b2i (decide (v ≠ 0)) := by
  simp only [wrap, if_true, b2i]
  by_cases h : v = 0 <;> simp [h]

theorem boolres_rep (cs : Bool) {v : Int} {r : RVal} (h : BoolRes (decide (v ≠ 0)) r) :
    Rep .bool (wrap (Ty.intTy cs .bool) v) r := by
  show Rep .bool (wrap ⟨1, false⟩ v) r
  rw [wrap_bit_eq_b2i]
  exact h.wrep.of_le (by decide : 8 * Ty.size .bool ≤ 32) rfl

theorem u64_ne_zero_iff (w : UInt64) : w ≠ 0 ↔ w.toNat ≠ 0 := by
  rw [Ne, ← UInt64.toNat_inj]
  rfl

theorem const01_rep (isOr : Bool) :
    ∃ r', (RVal.mk .c (if isOr = true then 1 else 0)).coerce .w = .ok r' ∧
      Rep .int (if isOr = true then 1 else 0) r' := by
  cases isOr
  · exact ⟨⟨.w, 0⟩, rfl, (rep_w int_size).2 ⟨0, rfl, by decide⟩⟩
  · exact ⟨⟨.w, 1⟩, rfl, (rep_w int_size).2 ⟨1, rfl, by decide⟩⟩

end CprocVerif.LowerMach
