import CprocVerif.Lemmas.Eval

/-!
Integer literals against 6.4.4.1.  The loop of `inttype` visits the list of 6.4.4.1p5 (`inttype_correct`); `parseNumber` on a token
made of a base prefix, digits and an integer suffix (`parse_digits`).
-/

namespace CprocVerif.Eval
open CprocVerif.CInt

def sfxOf (e : String) : Option Suffix :=
  if e = "" then some ⟨false, 0⟩ else if e = "u" then some ⟨true, 0⟩
  else if e = "l" then some ⟨false, 1⟩ else if e = "ul" ∨ e = "lu" then some ⟨true, 1⟩
  else if e = "ll" then some ⟨false, 2⟩ else if e = "ull" ∨ e = "llu" then some ⟨true, 2⟩
  else none

theorem typehasint_eq (t : LitTy) (v : Nat) :
    typehasint (litSize t) (litSigned t) v = decide (InRange t.toIntTy (v : Int)) := by
  cases t <;> simp [typehasint, litSize, litSigned, InRange, minVal, maxVal, LitTy.toIntTy, IntTy.int,
    IntTy.uint, IntTy.long, IntTy.ulong] <;> omega

/-- the types the loop of `inttype` visits, starting at entry `i` of `limits[]`. -/
def loopTypes (step : Nat) : Nat → Nat → List LitTy
  | 0, _ => []
  | fuel + 1, i =>
    match limits[i]? with
    | none => []
    | some (t, _, _) => t :: loopTypes step fuel (i + step)

theorem inttypeLoop_eq_find (v step fuel i : Nat) :
    inttypeLoop v step fuel i
      = (loopTypes step fuel i).find? fun t => typehasint (litSize t) (litSigned t) v := by
  induction fuel generalizing i with
  | zero => rfl
  | succ n ih =>
    rw [inttypeLoop, loopTypes]
    cases limits[i]? with
    | none => rfl
    | some x => simp only [List.find?_cons, ih]; split <;> simp [*]

/-- Entered at the row of the suffix, stepping by 2 over the unsigned rows for an unsuffixed
decimal constant and over the signed rows for a `u` suffix, the loop visits the list of
6.4.4.1p5. -/
theorem loopTypes_eq_litList (u decimal : Bool) (rank : Nat) (hr : rank < 3) :
    loopTypes (if (2 * rank + u.toNat) % 2 = 1 ∨ decimal = true then 2 else 1) 6 (2 * rank + u.toNat)
      = litList ⟨u, rank⟩ decimal := by
  revert u decimal rank; decide

theorem ite_some_eq {α : Type} {c : Prop} [Decidable c] {a b : α} {x : Option α}
    (h : (if c then some a else x) = some b) : c ∧ a = b ∨ x = some b := by
  split at h
  · exact Or.inl ⟨‹c›, Option.some.inj h⟩
  · exact Or.inr h

theorem findIdx_limits {e : String} {sfx : Suffix} (hs : sfxOf e = some sfx) :
    limits.findIdx? (fun (_, e1, e2) => e == e1 || e2 == some e) = some (2 * sfx.rank + sfx.u.toNat) ∧
      sfx.rank < 3 := by
  obtain ⟨rfl, rfl⟩ | hs := ite_some_eq hs; · decide
  obtain ⟨rfl, rfl⟩ | hs := ite_some_eq hs; · decide
  obtain ⟨rfl, rfl⟩ | hs := ite_some_eq hs; · decide
  obtain ⟨rfl | rfl, rfl⟩ | hs := ite_some_eq hs; iterate 2 decide
  obtain ⟨rfl, rfl⟩ | hs := ite_some_eq hs; · decide
  obtain ⟨rfl | rfl, rfl⟩ | hs := ite_some_eq hs; iterate 2 decide
  cases hs

theorem inttype_correct (v : Nat) (decimal : Bool) (s : List Char) (sfx : Suffix)
    (hs : sfxOf (String.ofList (s.map toLower)) = some sfx) :
    inttype v decimal s = litType sfx decimal v := by
  obtain ⟨hi, hr⟩ := findIdx_limits hs
  simp only [inttype, hi, inttypeLoop_eq_find, loopTypes_eq_litList _ _ _ hr, typehasint_eq]
  rfl

def SuffixChars (sfx : List Char) : Prop := ∀ c ∈ sfx, c = 'u' ∨ c = 'U' ∨ c = 'l' ∨ c = 'L'

/-- only characters that occur in a base prefix `0x`, `0X`, `0b`, `0B`: all that `hasFloatChar_false`
needs of the prefix; which prefix it is, is fixed by `hbase`/`hsrc` of `parse_digits`. -/
def PrefixChars (pre : List Char) : Prop := ∀ c ∈ pre, c = '0' ∨ c = 'x' ∨ c = 'X' ∨ c = 'b' ∨ c = 'B'

def AllDigits (base : Nat) (cs : List Char) : Prop := ∀ c ∈ cs, isDigitOf base c = true

def digitsOf (cs : List Char) : List Nat := cs.map fun c => (digitVal c).getD 0

theorem suffix_not_digit {base : Nat} (hb : base ≤ 16) {c : Char}
    (hc : c = 'u' ∨ c = 'U' ∨ c = 'l' ∨ c = 'L') : isDigitOf base c = false := by
  rcases hc with rfl | rfl | rfl | rfl <;> simp [isDigitOf, digitVal] <;> omega

theorem takeDigits_cons (base : Nat) (c : Char) (cs : List Char) :
    takeDigits base (c :: cs) = if isDigitOf base c = true then
      ((digitVal c).getD 0 :: (takeDigits base cs).1, (takeDigits base cs).2) else ([], c :: cs) := by
  cases hd : digitVal c with
  | none => simp only [takeDigits, isDigitOf, hd]; rfl
  | some d => simp only [takeDigits, isDigitOf, hd, decide_eq_true_eq, Option.getD_some]

theorem takeDigits_append {base : Nat} (hb : base ≤ 16) (cs sfx : List Char) (h : AllDigits base cs)
    (hs : SuffixChars sfx) : takeDigits base (cs ++ sfx) = (digitsOf cs, sfx) := by
  induction cs with
  | nil =>
    cases sfx with
    | nil => rfl
    | cons c rest =>
      rw [List.nil_append, takeDigits_cons, suffix_not_digit hb (hs c (List.mem_cons_self ..))]; rfl
  | cons c cs ih =>
    rw [List.cons_append, takeDigits_cons, h c (List.mem_cons_self ..), if_pos rfl,
      ih fun x hx => h x (List.mem_cons_of_mem _ hx)]
    rfl

theorem skipHexPrefix_ne16 {base : Nat} (hb : base ≠ 16) (src : List Char) :
    skipHexPrefix src base = src := by
  unfold skipHexPrefix
  split
  · simp [hb]
  · rfl

/-- what 6.4.4.1 prescribes for an integer constant of value `v`: the first fitting type of the
list; no type (a constraint violation, 6.4.4p2) otherwise — in particular for `v ≥ 2^64`. -/
def litSpec (v : Nat) (decimal : Bool) (s : Suffix) : Lit :=
  if W ≤ v then .error
  else match litType s decimal v with
    | some t => .int v t
    | none => .error

theorem not_digit_of_floatChar {base : Nat} (hb : base ≤ 10 ∨ base = 16) {c : Char}
    (h : isFloatChar base c = true) : isDigitOf base c = false := by
  unfold isFloatChar at h
  split at h <;> simp only [Bool.or_eq_true, beq_iff_eq] at h
  · subst base; rcases h with (rfl | rfl) | rfl <;> decide
  · rcases h with (rfl | rfl) | rfl <;> simp [isDigitOf, digitVal] <;> omega

theorem hasFloatChar_false {base : Nat} (hb : base ≤ 10 ∨ base = 16)
    (pre cs sfx : List Char) (hp : PrefixChars pre)
    (h : AllDigits base cs) (hs : SuffixChars sfx) : hasFloatChar (pre ++ cs ++ sfx) base = false := by
  simp only [hasFloatChar, List.any_eq_false, List.mem_append]
  rintro c ((hc | hc) | hc) hf
  · rcases hp c hc with rfl | rfl | rfl | rfl | rfl <;> revert hf <;> simp only [isFloatChar] <;>
      split <;> decide
  · exact absurd ((h c hc).symm.trans (not_digit_of_floatChar hb hf)) (by decide)
  · rcases hs c hc with rfl | rfl | rfl | rfl <;> revert hf <;> simp only [isFloatChar] <;>
      split <;> decide

/-- A token made of a base prefix, digits and an integer suffix, once the base is recognised
(`hbase`) and the prefix disposed of (`hsrc`: `0b` dropped by `primaryexpr`, `0x` by `strtoull`). -/
theorem parse_digits {base : Nat} (hb : base ≤ 10 ∨ base = 16) (pre cs sfx : List Char)
    (hp : PrefixChars pre) (hne : cs ≠ [])
    (h : AllDigits base cs) (hs : SuffixChars sfx) {s : Suffix}
    (hsf : sfxOf (String.ofList (sfx.map toLower)) = some s)
    (hbase : baseOf (pre ++ cs ++ sfx) = base)
    (hsrc : skipHexPrefix (if base = 2 then (pre ++ cs ++ sfx).drop 2 else pre ++ cs ++ sfx) base
      = cs ++ sfx) :
    parseNumber (pre ++ cs ++ sfx) = litSpec (numVal base (digitsOf cs)) (base == 10) s := by
  have hd : digitsOf cs ≠ [] := by cases cs <;> first | exact absurd rfl hne | nofun
  simp only [parseNumber, hbase, hasFloatChar_false hb pre cs sfx hp h hs, strtoull, hsrc,
    takeDigits_append (by omega) cs sfx h hs, hd, Bool.false_eq_true, if_false, litSpec]
  by_cases hw : W ≤ numVal base (digitsOf cs)
  · simp [hw]
  · have : min (numVal base (digitsOf cs)) (W - 1) = numVal base (digitsOf cs) := by
      rw [W_eq] at hw ⊢; omega
    simp only [hw, decide_false, Bool.false_eq_true, if_false, this, inttype_correct _ _ sfx s hsf]
    rfl

theorem prefix_chars {x : Char} (hx : x = 'x' ∨ x = 'X' ∨ x = 'b' ∨ x = 'B') :
    PrefixChars ['0', x] := by
  intro c hc
  simp only [List.mem_cons, List.not_mem_nil, or_false] at hc
  rcases hc with rfl | rfl
  · exact Or.inl rfl
  · exact Or.inr hx

theorem baseOf_octal (cs sfx : List Char) (h : AllDigits 8 cs) (hs : SuffixChars sfx) :
    baseOf ('0' :: (cs ++ sfx)) = 8 := by
  simp only [baseOf, if_true]
  cases hcs : cs ++ sfx with
  | nil => rfl
  | cons c rest =>
    -- `c` is the first digit, or the first suffix letter
    have hx : c ≠ 'x' ∧ c ≠ 'X' ∧ c ≠ 'b' ∧ c ≠ 'B' := by
      rcases List.mem_append.1 (hcs ▸ List.mem_cons_self (a := c) (l := rest)) with hc | hc
      · have hc := h c hc
        have k : ∀ y : Char, isDigitOf 8 y = false → c ≠ y := fun y hy e => by rw [e, hy] at hc; cases hc
        exact ⟨k _ (by decide), k _ (by decide), k _ (by decide), k _ (by decide)⟩
      · rcases hs c hc with rfl | rfl | rfl | rfl <;> decide
    simp [hx.1, hx.2.1, hx.2.2.1, hx.2.2.2]

end CprocVerif.Eval
