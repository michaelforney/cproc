/-
  C01, fragment 𝔽₂ — `switch` (stmt.c `case TSWITCH`, qbe.c `funcswitch`): controlling expression, jump to
  `switch_cond`, the ladder, entry into the body at the selected label, `break` → `switch_join`.  `switch_target`: the
  label the ladder selects for a value is the block label of the `case`/`default` at which `CSem2.pick` enters the
  body, or `switch_join` when it picks nothing; this is a fact about `funcstmt` alone (C15's search theorems).
-/
import CprocVerif.Lemmas.Lower2Ladder
import CprocVerif.Lemmas.Lower2Skip
import CprocVerif.Lemmas.Lower2Expr3
import CprocVerif.Props.C15

set_option linter.unusedSimpArgs false

namespace CprocVerif.LowerMach2
open CprocVerif.Qbe CprocVerif.Lower CprocVerif.Lower2 CprocVerif.CSem CprocVerif.CSem2 CprocVerif.CInt
open CprocVerif.LowerArith CprocVerif.LowerMach CprocVerif.LowerMem

theorem cases_target (cs : Bool) (brk cont : String) (t : CSem.Ty) (v : Int) (b : Stmt) :
    ∀ c, ((funcstmt cs brk cont b c).cases.find? fun q => wrap (t.intTy cs) (q.1 : Int) == v).map (·.2) =
      targetLabel cs brk cont (isCase cs t v) b c := by
  induction b using spine_ind with
  | seq x y ihx ihy =>
    intro c
    simp only [funcstmt, targetLabel, List.find?_append]
    rw [← ihx c, ← ihy]
    cases (funcstmt cs brk cont x c).cases.find? fun q => wrap (t.intTy cs) (q.1 : Int) == v <;> rfl
  | leaf st hs =>
    intro c
    cases hl : isLabel st with
    | true =>
      rcases isLabel_cases hl with ⟨u, rfl⟩ | rfl
      · simp only [funcstmt, targetLabel, isCase, List.find?_cons, List.find?_nil]
        split <;> simp_all
      · rfl
    | false => rw [(leaf_noreg cs brk cont c hl hs).1, (leaf_noreg cs brk cont c hl hs).2.2.1]; rfl

theorem dflt_target (cs : Bool) (brk cont : String) (b : Stmt) :
    ∀ c, (funcstmt cs brk cont b c).dflt = targetLabel cs brk cont isDefault b c := by
  induction b using spine_ind with
  | seq x y ihx ihy =>
    intro c
    simp only [funcstmt, targetLabel]
    rw [← ihx c]
    cases (funcstmt cs brk cont x c).dflt with
    | some d => rfl
    | none => exact ihy _
  | leaf st hs =>
    intro c
    cases hl : isLabel st with
    | true => rcases isLabel_cases hl with ⟨u, rfl⟩ | rfl <;> rfl
    | false => rw [(leaf_noreg cs brk cont c hl hs).2.1, (leaf_noreg cs brk cont c hl hs).2.2.1]

theorem cases_vals (cs : Bool) (brk cont : String) (b : Stmt) :
    ∀ c, (funcstmt cs brk cont b c).cases.map (·.1) = caseVals b := by
  induction b using spine_ind with
  | seq x y ihx ihy => intro c; simp only [funcstmt, caseVals, List.map_append, ihx, ihy]
  | leaf st hs =>
    intro c
    cases hl : isLabel st with
    | true => rcases isLabel_cases hl with ⟨u, rfl⟩ | rfl <;> rfl
    | false => rw [(leaf_noreg cs brk cont c hl hs).1, (leaf_noreg cs brk cont c hl hs).2.2.2]; rfl

theorem wrap_eq_iff_emod {n : Nat} (hn : n = 32 ∨ n = 64) (sg : Bool) (q v : Int) (hv : InRange ⟨n, sg⟩ v) :
    wrap ⟨n, sg⟩ q = v ↔ q % 2 ^ n = v % 2 ^ n := by
  have hr : InRange ⟨n, sg⟩ (wrap ⟨n, sg⟩ q) :=
    wrap_inRange (Or.inr (by rcases hn with rfl | rfl <;> simp [IntTy.Arith])) q
  have hm : wrap ⟨n, sg⟩ q % 2 ^ n = q % 2 ^ n := by
    rcases hn with rfl | rfl
    · exact wrap_mod32 sg q
    · exact wrap_mod64 sg q
  refine ⟨fun h => h ▸ hm.symm, fun h => ?_⟩
  rcases hn with rfl | rfl <;> cases sg
  · rw [inRange32u] at hv hr; omega
  · rw [inRange32s] at hv hr; omega
  · rw [inRange64u] at hv hr; omega
  · rw [inRange64s] at hv hr; omega

/-- `m`: the modulus of the comparison; `hsome`/`hnone`: what C15 says about the search in the tree of the case keys. -/
theorem ladder_find (cases : List (Nat × String)) (dl : String) {key : Nat → Nat} {m x : Nat}
    {pv : Nat × String → Bool} (hpt : ∀ q, pv q = decide (q.1 % m = x % m)) {sr : Option Nat}
    (hsome : ∀ k, sr = some k → ∀ q : Nat × String, (key q.1 == k) = decide (q.1 % m = x % m))
    (hnone : sr = none → ∀ u ∈ cases.map (·.1), u % m ≠ x % m) :
    (match sr with
      | some k => ((cases.find? fun c => key c.1 == k).map (·.2)).getD dl
      | none => dl) = ((cases.find? pv).map (·.2)).getD dl := by
  cases sr with
  | none =>
    have : cases.find? pv = none := by
      rw [List.find?_eq_none]
      intro q hq
      rw [hpt q]
      simpa using hnone rfl q.1 (List.mem_map_of_mem hq)
    simp [this]
  | some k =>
    have : (fun c : Nat × String => key c.1 == k) = pv := funext fun q => (hsome k rfl q).trans (hpt q).symm
    rw [← this]

theorem ladder_target (cs : Bool) (t : CSem.Ty) (ht : t.promoted = true) (cases : List (Nat × String))
    (dl : String) (v : Int) (x : UInt64) (hv : InRange (t.intTy cs) v)
    (hx : (x.toNat : Int) % 2 ^ (8 * t.size) = v % 2 ^ (8 * t.size)) :
    ladderLabel (decide (t.size ≤ 4)) (switchTree t cases) x.toNat (caseLabel t cases dl) dl =
    ((cases.find? fun q => wrap (t.intTy cs) (q.1 : Int) == v).map (·.2)).getD dl := by
  unfold ladderLabel caseLabel
  have htree : switchTree t cases =
      ((cases.map (·.1)).map (Tree.caseKey t.size (t.signed true))).foldl Tree.insert .nil := by
    simp only [switchTree, List.map_map]; rfl
  rcases promoted_cases cs ht with ⟨hs, hi⟩ | ⟨hs, hi⟩
  · rw [hi] at hv ⊢
    rw [htree, hs, show decide (4 ≤ 4) = true from rfl]
    simp only [hs, Nat.reduceMul] at hx
    refine ladder_find cases dl (m := 2 ^ 32) (x := x.toNat) (fun q => ?_) (fun k hsr q => ?_) (fun hsr => ?_)
    · rw [Bool.eq_iff_iff, beq_iff_eq, decide_eq_true_iff, wrap_eq_iff_emod (Or.inl rfl) _ _ _ hv]
      omega
    · obtain ⟨hmem, hlow⟩ := ((C15.switch_w_correct (t.signed true) (cases.map (·.1)) x.toNat k).1).1 hsr
      obtain ⟨u', -, rfl⟩ := List.mem_map.1 hmem
      rw [Bool.eq_iff_iff, beq_iff_eq, decide_eq_true_iff, Tree.caseKey_four_eq_iff]
      rw [Tree.caseKey_four_low] at hlow
      omega
    · exact ((C15.switch_w_correct (t.signed true) (cases.map (·.1)) x.toNat 0).2).1 hsr
  · rw [hi] at hv ⊢
    rw [htree, hs, show decide (8 ≤ 4) = false from rfl]
    simp only [hs, Nat.reduceMul] at hx
    have hxl := x.toNat_lt
    refine ladder_find cases dl (m := 2 ^ 64) (x := x.toNat) (fun q => ?_) (fun k hsr q => ?_) (fun hsr => ?_)
    · rw [Bool.eq_iff_iff, beq_iff_eq, decide_eq_true_iff, wrap_eq_iff_emod (Or.inr rfl) _ _ _ hv]
      omega
    · obtain ⟨-, hk⟩ := ((C15.switch_l_correct (t.signed true) (cases.map (·.1)) x.toNat k).1).1 hsr
      rw [Bool.eq_iff_iff, beq_iff_eq, decide_eq_true_iff, Tree.caseKey_eight, hk]
    · exact ((C15.switch_l_correct (t.signed true) (cases.map (·.1)) x.toNat 0).2).1 hsr

theorem isCase_label (cs : Bool) (t : CSem.Ty) (v : Int) : ∀ st, isCase cs t v st = true → isLabel st = true := by
  intro st h
  cases st with
  | case_ u => rfl
  | _ => cases h

theorem isDefault_label : ∀ st, isDefault st = true → isLabel st = true := by
  intro st h
  cases st with
  | default_ => rfl
  | _ => cases h

theorem switch_target (cs : Bool) (lj cont : String) (t : CSem.Ty) (hpr : t.promoted = true) (b : Stmt) (c : SCtx)
    (v : Int) (x : UInt64) (hv : InRange (t.intTy cs) v)
    (hx : (x.toNat : Int) % 2 ^ (8 * t.size) = v % 2 ^ (8 * t.size)) :
    ∃ L, ladderLabel (decide (t.size ≤ 4)) (switchTree t (funcstmt cs lj cont b c).cases) x.toNat
        (caseLabel t (funcstmt cs lj cont b c).cases ((funcstmt cs lj cont b c).dflt.getD lj))
        ((funcstmt cs lj cont b c).dflt.getD lj) = L ∧
      (L = lj ∨ ∃ pr t' q, (funcstmt cs lj cont b c).items = pr ++ .lbl t' L [] :: q) ∧
      match pick cs t v b with
      | some b' => ∃ p, (∀ st, p st = true → isLabel st = true) ∧ after p b = some b' ∧
          targetLabel cs lj cont p b c = some L
      | none => L = lj := by
  rw [ladder_target cs t hpr _ _ v x hv hx, cases_target, dflt_target]
  unfold pick
  cases hac : after (isCase cs t v) b with
  | some b' =>
    obtain ⟨l, hl⟩ := after_some_target cs lj cont _ (isCase_label cs t v) b c b' hac
    rw [hl]
    exact ⟨l, rfl, Or.inr (target_item cs lj cont (isCase_label cs t v) b c l hl), _, isCase_label cs t v, hac, hl⟩
  | none =>
    rw [after_none_target cs lj cont _ (isCase_label cs t v) b c hac]
    cases had : after isDefault b with
    | some b' =>
      obtain ⟨l, hl⟩ := after_some_target cs lj cont _ isDefault_label b c b' had
      rw [hl]
      exact ⟨l, rfl, Or.inr (target_item cs lj cont isDefault_label b c l hl), _, isDefault_label, had, hl⟩
    | none =>
      rw [after_none_target cs lj cont _ isDefault_label b c had]
      exact ⟨lj, rfl, Or.inl rfl, rfl⟩

theorem caseKey_lt (t : CSem.Ty) (ht : t.promoted = true) (u : Nat) :
    Tree.caseKey t.size (t.signed true) u < 2 ^ 64 := by
  rcases promoted_cases true ht with ⟨hs, _⟩ | ⟨hs, _⟩
  · rw [hs]
    cases t.signed true
    · have := C15.caseKey_canonical_unsigned (i := u); omega
    · have := C15.caseKey_canonical_signed (i := u); omega
  · rw [hs, Tree.caseKey_eight]; omega

theorem rep_key (cs : Bool) {t : CSem.Ty} (hpr : t.promoted = true) {v : Int} {r : RVal} (hrep : Rep t v r) :
    ∃ x : UInt64, (if decide (t.size ≤ 4) = true then r.asW else r.asL) = .ok x ∧
      (x.toNat : Int) % 2 ^ (8 * t.size) = v % 2 ^ (8 * t.size) := by
  rcases promoted_cases cs hpr with ⟨hs4, _⟩ | ⟨hs8, _⟩
  · obtain ⟨x, h1, h2⟩ := (rep_w hs4).1 hrep
    exact ⟨x, by simp [hs4, h1], by simpa [hs4] using h2⟩
  · obtain ⟨x, h1, h2⟩ := (rep_l hs8).1 hrep
    refine ⟨x, by simp [hs8, h1], ?_⟩
    simp only [hs8, Nat.reduceMul]
    omega

section
variable (T : Stat) {s : Store} {out : CSem2.Outcome} {lp : Bool × Bool} {brk cont : String} {c : SCtx}
  {nd nd' : Nat} {pre post : List Item} {env : Env} {M : Mem}

theorem sim_switch (n : Nat) (hc : FuncSim T n) (ih : ∀ m, m ≤ n → SimStmt T m) (e : Expr3) (b : Stmt) :
    SimOf T (n + 1) (.switch_ e b) := by
  intro s out lp brk cont c nd nd' pre post env M hex hfr hwt hp hext hits _ hlp inv
  simp only [frag, Bool.and_eq_true] at hfr
  simp only [Stmt.wt] at hwt
  split at hwt
  · rename_i hcw
    obtain ⟨hwe, hpr, hsl, -, -, -⟩ := hcw
    obtain ⟨hnb, hcb⟩ := wt_noDead _ _ b _ _ _ _ hwt
    simp only [exec, Option.bind_eq_some_iff] at hex
    obtain ⟨v, hev, hex⟩ := hex
    obtain ⟨oe, -, hoe, l1, b1⟩ := expr_out T.S.cs (c := c.addBlocks 2) hp.jump e
    obtain ⟨lc, hlc⟩ : ∃ l, lblName "switch_cond" (c.blockid + 1) = l := ⟨_, rfl⟩
    obtain ⟨lj, hlj⟩ : ∃ l, lblName "switch_join" (c.blockid + 2) = l := ⟨_, rfl⟩
    obtain ⟨c1, hc1⟩ : ∃ c1, c1 = ((c.addBlocks 2).upd oe.ctx).setJump (.jmp lc) := ⟨_, rfl⟩
    have gb := funcstmt_good T.S.cs b lj cont c1 (Or.inr hsl) hnb
    obtain ⟨l0, rest0, hl0⟩ := startsLabel_items T.S.cs b lj cont c1 hsl
    obtain ⟨ob, hob⟩ : ∃ ob, funcstmt T.S.cs lj cont b c1 = ob := ⟨_, rfl⟩
    rw [hob] at gb hl0
    obtain ⟨dl, hdl⟩ : ∃ dl, ob.dflt.getD lj = dl := ⟨_, rfl⟩
    have gl := ladder_emits (decide (e.ty.size ≤ 4)) oe.val (caseLabel e.ty ob.cases dl) dl
      (switchTree e.ty ob.cases) (((ob.ctx.setJump (.jmp lj)).atLabel lc).ctx)
    obtain ⟨lad, hlad⟩ : ∃ lad, ladder (decide (e.ty.size ≤ 4)) oe.val (caseLabel e.ty ob.cases dl) dl
      (switchTree e.ty ob.cases) (((ob.ctx.setJump (.jmp lj)).atLabel lc).ctx) = lad := ⟨_, rfl⟩
    rw [hlad] at gl
    have hposS1 : PosS T c1 nd (pre ++ oe.items) := by
      subst hc1 hoe
      have ge := exprOut3_good T.S.cs (c.addBlocks 2) e
      refine ⟨ge.cur _ _ hp.cur, ?_, hp.nslots, fun i hi => Nat.le_trans (hp.le i hi) l1⟩
      obtain ⟨name, j, h1, h2⟩ := ge.curOK (curOK_mono hp.curOK (Nat.le_add_right _ 2) _)
      exact ⟨name, j, h1, h2⟩
    have hvok : ValOK ob.ctx.lastid oe.val := by
      subst hc1 hoe
      exact (exprOut3_good T.S.cs (c.addBlocks 2) e).val.mono gb.lastid
    subst hc1
    rw [funcstmt_switch T.S.cs brk cont hp.jump hoe hlc hlj hob hdl hlad] at hext hits ⊢
    simp only [switchOut] at hext hits ⊢
    simp only [List.append_assoc, List.cons_append, List.nil_append, labelItem, setJump_jump] at hits
    have hE := its_app hits
    have hB := its_app hE
    have hL := its_app (its_snoc hB)
    -- `hJ0`: the body begins with a label item (`startsLabel`), which carries the `jmp switch_cond` set after the
    -- controlling expression
    have hJ0 := hE
    rw [hl0] at hJ0
    simp only [labelItem, setJump_jump, upd_jump, addBlocks_jump, hp.jump, Option.getD_none,
      List.cons_append] at hJ0
    have l3 := gb.lastid; have l4 := gl.lastid
    unf at l1 l3 l4
    have hextb : Ext T ob.ctx := hext.before (new := []) (by unf; simp) (by simp) (by unf; exact l4)
    have hccond : CanJump T.S lc := canJump_item T.S hB
    have hcjoin : CanJump T.S lj := canJump_item T.S hL
    have hpE : Pos T (c.addBlocks 2) nd pre :=
      ⟨hp.jump, hp.cur, curOK_mono hp.curOK (Nat.le_add_right _ 2) _, hp.nslots, hp.le⟩
    obtain ⟨k1, env1, r1, hreach1, inv1, -, hval1, hrep1, hrange⟩ := sim_exprOut3 T n hc hpE e
      (by rw [hoe]; exact (hextb.first gb).congr rfl rfl) hwe hfr.1 hev (by rw [hoe]; exact hE) inv
    rw [hoe] at hreach1 hval1
    obtain ⟨st2, hs2, hat2⟩ := step_jmp_item T hJ0 hccond env1 M
    rw [atLabel_item T hB hat2] at hs2
    obtain ⟨x, hxw, hxv⟩ := rep_key T.S.cs hpr hrep1
    have hkeys : ∀ k ∈ Tree.toList (switchTree e.ty ob.cases), k < 2 ^ 64 := by
      intro k hk
      unfold switchTree at hk
      rw [C15.reachable_mem, List.mem_map] at hk
      obtain ⟨q, _, rfl⟩ := hk
      exact caseKey_lt e.ty hpr q.1
    obtain ⟨L, hLL, hLit, hpk⟩ := switch_target T.S.cs lj cont e.ty hpr b
      (((c.addBlocks 2).upd oe.ctx).setJump (.jmp lc)) v x hrange hxv
    rw [hob, hdl] at hLL
    rw [hob] at hLit
    have hcL : CanJump T.S L := by
      rcases hLit with rfl | ⟨pr, t, q, e'⟩
      · exact hcjoin
      · have h := hB
        rw [e'] at h
        simp only [List.append_assoc, List.cons_append] at h
        exact canJump_item T.S (its_app (its_app h))
    obtain ⟨k3, env3, st3, hreach3, hfr3, hat3⟩ := sim_ladder T (decide (e.ty.size ≤ 4)) oe.val
      (caseLabel e.ty ob.cases dl) dl (switchTree e.ty ob.cases) (((ob.ctx.setJump (.jmp lj)).atLabel lc).ctx)
      _ post lj [] env1 M r1 x (by rw [hlad]; exact hL) hkeys (hLL ▸ hcL) hvok hval1 hxw
    rw [hlad] at hfr3
    rw [hLL] at hat3
    have hpob : PosS T ob.ctx nd' (pre ++ oe.items ++ ob.items) := hposS1.after gb hcb
    have inv3 : SInv T.M0 T.S.cs T.cnts T.W T.σ T.vtys (CSem2.clear s (declIdx b)) env3 M :=
      (inv1.frameS (c := ob.ctx) hpob.nslots hpob.le hext rfl (Nat.le_refl _) hfr3).clear _
    have hreachL := (hreach1.trans (Reach.one hs2)).trans hreach3
    refine ⟨?_, fun _ _ => rfl⟩
    have hposeq : pre ++ (oe.items ++ ob.items ++ [labelItem (ob.ctx.setJump (.jmp lj)) lc] ++ lad.1 ++
        [.lbl (some (.jmp dl)) lj []]) = pre ++ oe.items ++ ob.items ++
          [.lbl (some (ob.ctx.jump.getD (.jmp lj))) lc []] ++ lad.1 ++ [.lbl (some (.jmp dl)) lj []] := by
      simp only [List.append_assoc, List.cons_append, List.nil_append, labelItem, setJump_jump]
    rw [hposeq]
    cases hpk' : pick T.S.cs e.ty v b with
    | none =>
      rw [hpk'] at hpk hex
      cases hex
      subst hpk
      exact ⟨_, env3, M, atLabel_item T hL hat3 ▸ hreachL, inv3⟩
    | some b' =>
      rw [hpk'] at hpk hex
      dsimp only at hex
      obtain ⟨p, hpl, haf, htl⟩ := hpk
      cases hexb : exec T.S.cs T.P n (CSem2.clear s (declIdx b)) b' with
      | none => rw [hexb] at hex; cases hex
      | some ob' =>
        rw [hexb] at hex
        have pb := sim_enter T n ih p hpl b n (Nat.le_refl _) b' _ ob' (true, lp.2) lj cont _ nd nd'
          (pre ++ oe.items) _ env3 M st3 haf hexb hfr.2 hwt hposS1 (Or.inr hsl) (by rw [hob]; exact hextb)
          (by rw [hob]; exact hB)
          (by rw [hob]; intro j hj; rw [hj] at hB; exact TermAt.of_item hB) ⟨fun _ => hcjoin, hlp.2⟩ inv3
          (fun l' hl' => by rw [htl] at hl'; cases hl'; exact hat3)
        rw [hob] at pb
        have dn := ((pb.closeJmpAt hB hL).prepend hreachL).catch_brk (brk := brk) hL
        cases ob' <;> cases hex <;> exact dn
  · cases hwt

end

end CprocVerif.LowerMach2
