import CprocVerif.Lemmas.PPInv

/-! # The equations of the model

What a call of `ctxnext` on an empty stack, `nextinto`, `expand` (`expand_eq`: its one equation) and `expandfunc` unfolds
to; `expandObj` is `expand` when the macro found, if any, is object-like. -/

namespace CprocVerif.PP
open CprocVerif.Gen.TokenKinds

def ObjOnly (ms : List Macro) : Prop := ∀ m ∈ ms, m.func = false

/-- no `#` (so no directive), no scanner diagnostic, and the final `TEOF` is left to the scanner -/
def Plain (raw : List Tok) : Prop := ∀ t ∈ raw, t.kind ≠ .THASH ∧ t.kind ≠ .TNONE ∧ t.kind ≠ .TEOF

theorem popDone_objOnly (ctx : List Frame) (ms : List Macro) (d : Nat) (h : ObjOnly ms) :
    ObjOnly (popDone ctx ms d).2.1 :=
  popDone_bodies ctx ms d (fun m => m.func = false) (fun _ _ h => h) h

theorem macroget_mem {ms : List Macro} {n : Name} {m : Macro} (h : macroget ms n = some m) : m ∈ ms ∧ m.name = n := by
  unfold macroget at h
  exact ⟨List.mem_of_find?_eq_some h, by simpa using List.find?_some h⟩

theorem ctxnext_empty (n : Nat) (st : St) (hctx : st.ctx = []) :
    exec (n + 1) .ctxnext st = .ok { st with rb := false } := by
  show ctxnextBody (exec n) st = _
  unfold ctxnextBody ctxnextStep
  simp only [hctx, popDone]

theorem nextinto_tok (n : Nat) (st : St) (t : Tok) (r : List Tok) (hraw : st.raw = t :: r)
    (h1 : t.kind ≠ .TNONE) (h2 : t.kind ≠ .THASH) :
    exec (n + 1) .nextinto st = .ok { st with raw := r, newline := decide (t.kind = .TNEWLINE), rt := t } := by
  show nextintoBody (exec n) st = _
  unfold nextintoBody scanTok
  rw [hraw]
  simp only [h1, ↓reduceIte, h2, and_false]

theorem nextinto_eof (n : Nat) (st : St) (hraw : st.raw = []) :
    exec (n + 1) .nextinto st = .ok { st with newline := false, rt := eofTok } := by
  show nextintoBody (exec n) st = _
  unfold nextintoBody scanTok
  have : ¬ (st.newline = true ∧ eofTok.kind = Kind.THASH) := fun h => Kind.noConfusion h.2
  simp only [hraw, this, ↓reduceIte]
  rfl

/-- the state `expand` leaves when it pushes the replacement list of `m` -/
def pushed (m : Macro) (t : Tok) (st : St) : St :=
  { st with ctx := ⟨respace m.body t.space, some m.name⟩ :: st.ctx,
            macros := setHide st.macros m.name true, depth := st.depth + 1, rb := true, rt := t,
            events := if m.body.isEmpty ∧ t.space then .emptySpace :: st.events else st.events }

theorem pushMacro_eq (m : Macro) (t : Tok) (st : St) : pushMacro m t t.space st = .ok (pushed m t st) := by
  unfold pushMacro pushed
  by_cases he : m.body.isEmpty = true ∧ t.space = true
  · simp only [he, and_self, ↓reduceIte, St.ev]
  · simp only [he, ↓reduceIte]

/-- `expand(&t)`, its two tests of hide flags read as one -/
theorem expand_eq (n : Nat) (t : Tok) (st : St) :
    exec (n + 1) (.expand t) st =
      if t.kind ≠ .TIDENT then .ok { st with rb := false, rt := t }
      else match macroget st.macros (t.lit.getD []) with
        | none => .ok { st with rb := false, rt := { t with hide := true } }
        | some m =>
          if m.hide ∨ t.hide then .ok { st with rb := false, rt := { t with hide := true } }
          else if m.func then
            match exec n .peekparen st with
            | .error e => .error e
            | .ok st1 =>
              if ¬ st1.rb then .ok { st1 with rb := false, rt := t }
              else match exec n (.expandfunc m) st1 with
                | .error e => .error e
                | .ok st2 => .ok (pushed m t st2)
          else .ok (pushed m t st) := by
  show expandBody (exec n) t st = _
  unfold expandBody
  by_cases hk : t.kind ≠ .TIDENT
  · rw [if_pos hk, if_pos hk]
  · rw [if_neg hk, if_neg hk]
    cases hm : macroget st.macros (t.lit.getD []) with
    | none => rfl
    | some m =>
      have ht : t.hide = true → ({ t with hide := true } : Tok) = t := fun h => by cases t; cases h; rfl
      -- the body nests the tests of the two hide flags
      cases hh : m.hide <;> cases hth : t.hide <;>
        simp only [hh, hth, ht, Bool.false_eq_true, or_self, or_true, true_or, ↓reduceIte, pushMacro_eq]
      rfl

theorem expandfunc_eq {n : Nat} {m : Macro} {st st1 : St} (ha : exec n (.argLoop false) st = .ok st1)
    (hne : 0 < m.params.length) :
    exec (n + 1) (.expandfunc m) st =
      exec n (.efLoop { m := m, i := 0, depth := st.depth, paren := 0, t := st1.rt, done := [], cur := [], str := [c! '"'] }) st1 := by
  show expandfuncBody (exec n) m st = _
  unfold expandfuncBody
  rw [ha]
  simp only
  unfold efStart
  simp only [hne, ↓reduceIte]

def expandObj (t : Tok) (st : St) : St :=
  if t.kind ≠ .TIDENT then { st with rb := false, rt := t }
  else
    match macroget st.macros (t.lit.getD []) with
    | none => { st with rb := false, rt := { t with hide := true } }
    | some m => if m.hide ∨ t.hide then { st with rb := false, rt := { t with hide := true } } else pushed m t st

theorem expand_nonident (n : Nat) (t : Tok) (st : St) (hk : t.kind ≠ .TIDENT) :
    exec (n + 1) (.expand t) st = .ok { st with rb := false, rt := t } := by
  rw [expand_eq, if_pos hk]

theorem expand_nonfun (n : Nat) (t : Tok) (st : St)
    (h : ∀ m, macroget st.macros (t.lit.getD []) = some m → m.func = false) :
    exec (n + 1) (.expand t) st = .ok (expandObj t st) := by
  rw [expand_eq, expandObj]
  by_cases hk : t.kind ≠ .TIDENT
  · rw [if_pos hk, if_pos hk]
  · rw [if_neg hk, if_neg hk]
    cases hm : macroget st.macros (t.lit.getD []) with
    | none => rfl
    | some m =>
      dsimp only
      by_cases hh : m.hide = true ∨ t.hide = true
      · rw [if_pos hh, if_pos hh]
      · rw [if_neg hh, if_neg hh, if_neg (by rw [h m hm]; decide)]

theorem expand_obj (n : Nat) (t : Tok) (st : St) (h : ObjOnly st.macros) :
    exec (n + 1) (.expand t) st = .ok (expandObj t st) :=
  expand_nonfun n t st fun _ hm => h _ (macroget_mem hm).1

end CprocVerif.PP
