import CprocVerif.Lemmas.PPLineLoops
import CprocVerif.Lemmas.ScanArm

/-! `scankind` / `scan` deliver every token with the location of its first byte, and leave a
correct scanner state behind. -/

namespace CprocVerif.PPLine
open CprocVerif.Scan CprocVerif.Gen.TokenKinds

variable {text : List UInt8} {δ : Int}

/-- a token of kind `k` scanned by a routine entered at offset `o0`: `o` is the offset of its
first byte, `l` the location returned for it, `s'` the state behind it -/
structure ScanOK (text : List UInt8) (δ : Int) (o0 : Nat) (k : Kind) (l : Loc) (o : Nat) (s' : S) :
    Prop where
  ge : o0 ≤ o
  loc : LocRel δ l (locAt text o)
  eof : k = .TEOF ↔ text[o]? = none
  nl : k = .TNEWLINE ↔ text[o]? = some (c! '\n')
  inv : Inv text δ s'
  lt : k ≠ .TEOF → o < off s'
  eq : k = .TEOF → o = off s'

theorem ScanOK.le {o0 o : Nat} {s' : S} {k : Kind} {l : Loc} (h : ScanOK text δ o0 k l o s') :
    o ≤ off s' := by
  by_cases hk : k = .TEOF
  · exact Nat.le_of_eq (h.eq hk)
  · exact Nat.le_of_lt (h.lt hk)

/-- a result of `scankind`; the offset is computed from the returned byte count as `scan` does
for `Token.start` and `PPLine.scanP` for `PTok.off` (`- 2 * s.skipped`, see `off`) -/
def TokOK (text : List UInt8) (δ : Int) (s : S) : Except Err (Kind × Loc × Nat × S) → Prop :=
  Good text δ (off s) fun r =>
    ScanOK text δ (off s) r.1 r.2.1 ((if r.1 = .TEOF then r.2.2.1 else r.2.2.1 - 1) - 2 * s.skipped)
      r.2.2.2

/-- the token that starts at the current character `s.chr` (`k = TEOF` iff there is none) -/
theorem tokOK_here {s s' : S} (h : Inv text δ s) {k : Kind} (hk : k = .TEOF ↔ s.chr = none)
    (hnl : k = .TNEWLINE ↔ s.chr = some (c! '\n')) (hi : Inv text δ s')
    (hlt : k ≠ .TEOF → off s < off s') (heq : k = .TEOF → off s = off s') :
    TokOK text δ s (.ok (k, s.loc, s.pos, s')) := by
  have ho : (if k = .TEOF then s.pos else s.pos - 1) - 2 * s.skipped = off s := by
    unfold off
    by_cases hc : k = .TEOF
    · have hn := chr_eq_none.mp (hk.mp hc)
      rw [if_pos hc, if_pos hn, (h.eof hn).2]; rfl
    · rw [if_neg hc, if_neg (chr_ne_none.mp fun e => hc (hk.mpr e))]
  show ScanOK text δ (off s) k s.loc ((if k = .TEOF then s.pos else s.pos - 1) - 2 * s.skipped) s'
  rw [ho]
  exact { ge := Nat.le_refl _, loc := h.loc, inv := hi, lt := hlt, eq := heq
          eof := by rw [h.get]; exact hk
          nl := by rw [h.get]; exact hnl }

theorem tokOK_ret {s : S} (h : Inv text δ s) (h0 : 0 < s.len) {k : Kind} {s' : S}
    (hk : k ≠ .TEOF) (hnl : k = .TNEWLINE ↔ s.chr = some (c! '\n')) (hl : Later text δ (off s) s') :
    TokOK text δ s (.ok (k, s.loc, s.pos, s')) :=
  tokOK_here h ⟨fun e => absurd e hk, fun e => absurd (chr_eq_none.mp e) (inp_ne_of_len h0)⟩ hnl
    hl.inv (fun _ => hl.lt) fun e => absurd e hk

theorem _root_.CprocVerif.Scan.Arm.tokOK {f : Nat} {s : S} {r : Except Err (Kind × Loc × Nat × S)}
    (ih : ∀ s1 : S, Inv text δ s1 → TokOK text δ s1 (scankind f s1)) (h : Inv text δ s)
    (ha : Arm f s r) : TokOK text δ s r := by
  cases ha with
  | eof hc =>
    exact tokOK_here h ⟨fun _ => hc, fun _ => rfl⟩ ⟨(fun e => nomatch e), fun e => by rw [hc] at e; cases e⟩
      h (fun hk => absurd rfl hk) fun _ => rfl
  | skip hcd h0 ht =>
    have h1 := adv_after h h0 ht
    have hle := Nat.le_of_lt h1.lt
    -- no push-back is pending here: it would make `.` current (`Inv.dot`), and `skip` starts elsewhere
    have hsk : s.skipped = 0 := Decidable.by_contra fun hs => hcd (h.dot hs)
    exact (ih _ h1.inv).mono (fun _ he => he.mono hle) fun _ b => by
      rw [h1.sk] at b
      rw [hsk]
      exact { b with ge := Nat.le_trans hle b.ge }
  | tok hk hnl h0 ht =>
    exact tokOK_ret h (Nat.lt_of_lt_of_le h0 ht.1) hk hnl (adv_after h h0 ht).later
  | dots hk h1 h2 =>
    exact tokOK_ret h (len_pos_of_chr h1) hk.1 (by rw [h1]; exact ⟨fun e => absurd e hk.2, fun e => by cases e⟩)
      (pushbackDot_later (nextchar_after h (inp_ne_of_chr h1)) h2)
  | err _ ht => exact errLine_of_inv (h.took ht).1 _ (h.took ht).2
  | @errEof k s1 _ hc =>
    -- "EOF in comment" raised by a `nextchar` called at the end: the line has not changed
    rw [adv_succ'] at hc
    obtain ⟨hi, ho⟩ := h.took (took_adv (Nat.le_refl s.len))
    have hnil : (s.adv s.len).inp = [] := List.eq_nil_of_length_eq_zero (by
      have := len_adv s.len s; rw [S.len] at this; omega)
    refine ⟨off (s.adv s.len), ho, hi.off_le, ?_⟩
    have hl : s1.loc = (s.adv s.len).nextchar.loc := congrArg (·.2.2.1) hc
    show ((s1.loc.line : Nat) : Int) = _
    rw [hl, nextchar_eof_line hi hnil]; exact hi.loc.1

theorem scankind_ok : ∀ (fuel : Nat) (s : S), Inv text δ s → TokOK text δ s (scankind fuel s)
  | 0, _, h => errLine_of_inv h _ (Nat.le_refl _)
  | f + 1, s, h => (scankind_arm f s).tokOK (scankind_ok f) h

theorem scan_good {s : S} (h : Inv text δ s) :
    Good text δ (off s) (fun r : Token × S =>
      ScanOK text δ (off s) r.1.kind r.1.loc (r.1.start - 2 * s.skipped) r.2) (scan s) := by
  unfold scan
  match scankind (s.inp.length + 2) ({ s with sawspace := false } : S),
      scankind_ok (s.inp.length + 2) ({ s with sawspace := false } : S) (h.of_core rfl) with
  | .error _, hk => exact hk
  | .ok (k, l, p, s1), b =>
    dsimp only
    split
    · exact { b with inv := b.inv.of_core rfl }
    · exact b

end CprocVerif.PPLine
