import CprocVerif.Model.Sites

/-! Soundness of the linear table checkers of `Model/Sites.lean`. -/

namespace CprocVerif.Sites

theorem mem_of_sub : ∀ (xs ys : List Nat), sub xs ys = true → ∀ x ∈ xs, x ∈ ys
  | [], _, _, x, hx => by cases hx
  | _ :: _, [], h, _, _ => by simp [sub] at h
  | x :: xs, y :: ys, h, z, hz => by
    unfold sub at h
    split at h
    · rename_i hxy
      subst hxy
      rcases List.mem_cons.mp hz with rfl | hz
      · exact List.mem_cons_self
      · exact List.mem_cons_of_mem _ (mem_of_sub xs ys h z hz)
    · exact List.mem_cons_of_mem _ (mem_of_sub (x :: xs) ys h z hz)

theorem strictAsc_pairwise : ∀ (l : List Nat), strictAsc l = true → l.Pairwise (· < ·)
  | [], _ => .nil
  | [_], _ => List.pairwise_singleton _ _
  | a :: c :: r, h => by
    simp only [strictAsc, Bool.and_eq_true, decide_eq_true_eq] at h
    have ih := strictAsc_pairwise (c :: r) h.2
    refine ih.cons fun b hb => ?_
    rcases List.mem_cons.1 hb with rfl | hb
    · exact h.1
    · exact Nat.lt_trans h.1 (List.rel_of_pairwise_cons ih hb)

theorem strictAsc_nodup (l : List Nat) (h : strictAsc l = true) : l.Nodup :=
  (strictAsc_pairwise l h).imp (fun h => Nat.ne_of_lt h)

end CprocVerif.Sites
