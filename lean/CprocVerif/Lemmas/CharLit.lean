import CprocVerif.Lemmas.CharLitUtf

/-!
# `decodechar`, `encodechar*`, `stringconcat` and `primaryexpr(TCHARCONST)` on spelled literals

An item of the grammar (`Unicode.Item`) is followed through `decodechar` (`decodechar_item`: value `itemChr`,
flag `itemNum`) and the encoder (`enc_item`: units `itemModelUnits`), then sequences of items through the two
loops of `stringconcat`, and a single item through `primaryexpr`.
-/

namespace CprocVerif.CharLit
open CprocVerif.Unicode

theorem isxdigit_iff (b : Nat) : isxdigit b = true ↔ isHexDigit b := by
  unfold isxdigit isHexDigit; simp only [Bool.or_eq_true, Bool.and_eq_true, decide_eq_true_eq, or_assoc]
theorem isodigit_iff (b : Nat) : isodigit b = true ↔ isOctDigit b := by
  unfold isodigit isOctDigit; simp only [Bool.and_eq_true, decide_eq_true_eq]

theorem isxdigit_false {b : Nat} (h : ¬ isHexDigit b) : isxdigit b = false :=
  Bool.eq_false_iff.2 fun hb => h ((isxdigit_iff b).1 hb)
theorem isodigit_false {b : Nat} (h : ¬ isOctDigit b) : isodigit b = false :=
  Bool.eq_false_iff.2 fun hb => h ((isodigit_iff b).1 hb)

theorem isHexDigit_of_oct {b : Nat} (h : isOctDigit b) : isHexDigit b := by
  unfold isOctDigit at h; unfold isHexDigit; omega

theorem hexval_eq {b : Nat} (h : isHexDigit b) : hexval b = digitVal b := by
  unfold isHexDigit at h; unfold hexval digitVal tolower
  simp only [Bool.and_eq_true, decide_eq_true_eq]
  by_cases h9 : b ≤ 0x39
  · rw [if_neg (by omega), if_pos h9]
  by_cases hF : b ≤ 0x46
  · rw [if_pos (by omega), if_pos (by omega), if_neg h9, if_pos hF]; omega
  · rw [if_pos (by omega), if_neg (by omega), if_neg h9, if_neg hF]; omega

theorem octval_eq {b : Nat} (h : isOctDigit b) : b - 0x30 = digitVal b := by
  unfold isOctDigit at h; unfold digitVal; rw [if_pos (by omega)]

theorem digitVal_lt16 {b : Nat} (h : isHexDigit b) : digitVal b < 16 := by
  unfold isHexDigit at h; unfold digitVal; repeat' split
  all_goals omega

def step (base : Nat) (a d : Nat) : Nat := a * base + digitVal d

theorem digitsValue_eq (base : Nat) (ds : List Nat) : digitsValue base ds = ds.foldl (step base) 0 := rfl

theorem foldl_step16_mod (ds : List Nat) (x : Nat) :
    ds.foldl (step 16) (x % 2 ^ 32) % 2 ^ 32 = ds.foldl (step 16) x % 2 ^ 32 := by
  induction ds generalizing x with
  | nil => exact Nat.mod_mod _ _
  | cons d ds ih =>
    rw [List.foldl_cons, List.foldl_cons, ← ih (step 16 (x % 2 ^ 32) d), ← ih (step 16 x d)]
    congr 2
    unfold step; omega

theorem hexRun_digits (ds rest : List Nat) (c : Nat) (hds : ∀ d ∈ ds, isHexDigit d)
    (hrest : ¬ isHexDigit (rest.headD 0)) (hc : c < 2 ^ 32) :
    hexRun (ds ++ rest) c = (ds.foldl (step 16) c % 2 ^ 32, ds.length) := by
  induction ds generalizing c with
  | nil =>
    rw [List.nil_append, List.foldl_nil, Nat.mod_eq_of_lt hc]
    rcases rest with _ | ⟨b, r⟩
    · rfl
    · rw [hexRun, (isxdigit_false hrest : isxdigit b = false)]; rfl
  | cons d ds ih =>
    obtain ⟨hd, hds⟩ := List.forall_mem_cons.1 hds
    rw [List.cons_append, hexRun, if_pos ((isxdigit_iff d).2 hd), ih _ hds (Nat.mod_lt _ (by decide)),
      foldl_step16_mod, hexval_eq hd]
    rfl

theorem octRun_digits (k : Nat) (ds rest : List Nat) (c : Nat) (hds : ∀ d ∈ ds, isOctDigit d)
    (hlen : ds.length ≤ k) (hrest : ds.length = k ∨ ¬ isOctDigit (rest.headD 0)) :
    octRun k (ds ++ rest) c = (ds.foldl (step 8) c, ds.length) := by
  induction ds generalizing c k with
  | nil =>
    rcases k with _ | k
    · rfl
    · rcases rest with _ | ⟨b, r⟩
      · rfl
      · rw [List.nil_append, octRun, (isodigit_false (hrest.resolve_left (by simp)) : isodigit b = false)]; rfl
  | cons d ds ih =>
    rcases k with _ | k
    · simp at hlen
    obtain ⟨hd, hds⟩ := List.forall_mem_cons.1 hds
    rw [List.cons_append, octRun, if_pos ((isodigit_iff d).2 hd), ih k _ hds (by simpa using hlen)
        (hrest.imp_left fun h => by simpa using h), octval_eq hd]
    rfl

theorem hexRun_snd (bs : List Nat) (c : Nat) : (hexRun bs c).2 = (bs.takeWhile isxdigit).length := by
  induction bs generalizing c with
  | nil => rfl
  | cons b bs ih =>
    rw [hexRun, List.takeWhile_cons]
    cases isxdigit b
    · rfl
    · simp only [if_true, ih, List.length_cons]

/-- `headD 0`: the byte after the text is the terminating 0, no digit. -/
theorem octRun_snd (k : Nat) (s : List Nat) (c : Nat) :
    (octRun (k + 1) s c).2 =
      if isodigit (s.headD 0) then (octRun k s.tail (c * 8 + (s.headD 0 - 0x30))).2 + 1 else 0 := by
  rcases s with _ | ⟨b, s⟩
  · rfl
  · rw [octRun, List.headD_cons, List.tail_cons]
    by_cases h : isodigit b = true
    · rw [if_pos h, if_pos h]
    · rw [if_neg h, if_neg h]

theorem simpleEsc_eq (ch : Nat) : simpleEsc ch = simpleEscape ch := by
  unfold simpleEscape
  split <;> first | rfl | (simp_all [simpleEsc])

theorem simpleEscape_digit {b : Nat} (h : isHexDigit b) : simpleEscape b = none ∨ b = 0x61 ∨ b = 0x62 ∨ b = 0x66 := by
  unfold isHexDigit at h
  unfold simpleEscape
  split <;> first | omega | (left; rfl)

theorem simpleEscape_oct {b : Nat} (h : isOctDigit b) : simpleEscape b = none := by
  rcases simpleEscape_digit (isHexDigit_of_oct h) with e | e
  · exact e
  · unfold isOctDigit at h; omega

theorem simpleEscape_lt {ch v : Nat} (h : simpleEscape ch = some v) : v < 0x80 ∧ v ≠ 0 := by
  unfold simpleEscape at h
  split at h <;> first | (cases h; omega) | (cases h)

/-- value `decodechar` delivers for an item -/
def itemChr : Item → Nat
  | .chr c => c
  | .simple ch => (simpleEscape ch).getD 0
  | .oct ds => digitsValue 8 ds
  | .hex ds => digitsValue 16 ds % 2 ^ 32

/-- the `hexoct` flag `decodechar` sets for an item -/
def itemNum : Item → Bool
  | .oct _ | .hex _ => true
  | _ => false

/-- The escape cannot be extended by the byte that follows it: `Unicode.munch` read on the bytes after the item
(`noExtend_of_munch`; before the closing quote it holds for free, `noExtend_quote`). -/
def NoExtend (it : Item) (rest : List Nat) : Prop :=
  match it with
  | .oct ds => ds.length = 3 ∨ ¬ isOctDigit (rest.headD 0)
  | .hex _ => ¬ isHexDigit (rest.headD 0)
  | _ => True

theorem decodechar_item {q : Nat} {it : Item} (hwf : it.wf q) (rest : List Nat) (hne : NoExtend it rest) :
    decodechar (it.spell ++ rest) = .ok (itemChr it, itemNum it, it.spell.length) := by
  unfold decodechar
  cases it with
  | chr c =>
    obtain ⟨b, s, e⟩ := List.exists_cons_of_ne_nil (utf8Encode_ne_nil c)
    have hb : b ≠ 0x5c := by
      rcases mem_utf8Encode (e ▸ List.mem_cons_self .. : b ∈ utf8Encode c) with h | h
      · exact h ▸ hwf.2.2.1
      · omega
    unfold utf8dec
    rw [Item.spell, utf8decR_encode hwf.1 rest (utf8Encode_length_le c).2, e, List.cons_append, List.headD_cons,
      if_neg hb]
    rfl
  | simple ch =>
    obtain ⟨v, hv⟩ := Option.isSome_iff_exists.1 hwf
    simp only [Item.spell, List.cons_append, List.headD_cons, List.tail_cons, if_true, simpleEsc_eq, hv, itemChr]
    rfl
  | oct ds =>
    obtain ⟨h1, h3, hds⟩ := hwf
    obtain ⟨d, ds', rfl⟩ := List.exists_cons_of_ne_nil (List.ne_nil_of_length_pos h1)
    have hd : isOctDigit d := hds d (List.mem_cons_self ..)
    have hx : d ≠ 0x78 := by unfold isOctDigit at hd; omega
    simp only [Item.spell, List.cons_append, List.headD_cons, List.tail_cons, if_true, simpleEsc_eq, simpleEscape_oct hd,
      if_neg hx, (isodigit_iff d).2 hd]
    rw [← List.cons_append, octRun_digits 3 (d :: ds') rest 0 hds h3 hne, Nat.add_comm]; rfl
  | hex ds =>
    obtain ⟨h1, hds⟩ := hwf
    obtain ⟨d, ds', rfl⟩ := List.exists_cons_of_ne_nil (List.ne_nil_of_length_pos h1)
    simp only [Item.spell, List.cons_append, List.headD_cons, List.tail_cons, if_true, simpleEsc_eq,
      show simpleEscape 0x78 = none from rfl, (isxdigit_iff d).2 (hds d (List.mem_cons_self ..))]
    rw [← List.cons_append, hexRun_digits (d :: ds') rest 0 hds hne (by decide), Nat.add_comm 2]; rfl

theorem encode_small (size v : Nat) (h : v < 0x80) : encode size v = [v] := by
  unfold encode utf8Encode utf16Encode utf32Encode
  repeat' split
  all_goals first | rfl | omega

/-- What `decodechar` + `encodechar<size>` produce for one item: the spec encoding for source
characters and simple escapes, the *truncated* value for numeric escapes. -/
def itemModelUnits (size : Nat) : Item → List Nat
  | .chr c => encode size c
  | .simple ch => [(simpleEscape ch).getD 0]
  | .oct ds => [digitsValue 8 ds % 2 ^ (8 * size)]
  | .hex ds => [digitsValue 16 ds % 2 ^ 32 % 2 ^ (8 * size)]

theorem encoder_cases {size : Nat} {enc : Nat → Bool → Except Err (List Nat)} (h : encoder size = some enc) :
    (size = 1 ∧ enc = encodechar8) ∨ (size = 2 ∧ enc = encodechar16) ∨ (size = 4 ∧ enc = encodechar32) := by
  unfold encoder at h
  repeat' split at h
  all_goals first | (cases h; simp [*]) | cases h

def spellAll (items : List Item) : List Nat := (items.map Item.spell).flatten
def modelUnits (size : Nat) (items : List Item) : List Nat := (items.map (itemModelUnits size)).flatten

theorem spellAll_cons (it : Item) (items : List Item) : spellAll (it :: items) = it.spell ++ spellAll items :=
  rfl
theorem modelUnits_cons (size : Nat) (it : Item) (items : List Item) :
    modelUnits size (it :: items) = itemModelUnits size it ++ modelUnits size items := rfl

theorem itemsWf_cons {q : Nat} {it : Item} {items : List Item} (h : ItemsWf q (it :: items)) :
    it.wf q ∧ ItemsWf q items := by
  cases items with
  | nil => exact ⟨h, trivial⟩
  | cons nx rest => exact ⟨h.1, h.2.2⟩

theorem itemsWf_all {q : Nat} {items : List Item} (h : ItemsWf q items) : ∀ it ∈ items, it.wf q := by
  induction items with
  | nil => nofun
  | cons it items ih =>
    obtain ⟨hit, hrest⟩ := itemsWf_cons h
    exact List.forall_mem_cons.2 ⟨hit, ih hrest⟩

section
variable {q : Nat} (hq : q = 0x22 ∨ q = 0x27)
include hq

theorem spell_head {it : Item} (hwf : it.wf q) :
    ∃ b s, it.spell = b :: s ∧ b ≠ q ∧ (isHexDigit b → it = .chr b) := by
  cases it with
  | chr c =>
    obtain ⟨b, s, e⟩ := List.exists_cons_of_ne_nil (utf8Encode_ne_nil c)
    refine ⟨b, s, e, ?_⟩
    unfold isHexDigit
    rcases mem_utf8Encode (e ▸ List.mem_cons_self .. : b ∈ utf8Encode c) with h | h
    · exact ⟨h ▸ hwf.2.1, fun _ => by rw [h]⟩
    · exact ⟨by omega, fun _ => by omega⟩
  | simple ch => exact ⟨0x5c, [ch], rfl, by omega, by unfold isHexDigit; omega⟩
  | oct ds => exact ⟨0x5c, ds, rfl, by omega, by unfold isHexDigit; omega⟩
  | hex ds => exact ⟨0x5c, 0x78 :: ds, rfl, by omega, by unfold isHexDigit; omega⟩

theorem noExtend_quote (it : Item) (tail : List Nat) : NoExtend it (q :: tail) := by
  cases it <;> simp only [NoExtend, List.headD_cons] <;>
    first | trivial | (right; unfold isOctDigit; omega) | (unfold isHexDigit; omega)

theorem noExtend_of_munch {a b : Item} (hb : b.wf q) (hm : munch a b) (more : List Nat) :
    NoExtend a (b.spell ++ more) := by
  obtain ⟨b0, s, hs, _, hhex⟩ := spell_head hq hb
  rw [hs]
  cases a with
  | chr c | simple ch => trivial
  | oct ds =>
    simp only [NoExtend, List.cons_append, List.headD_cons]
    by_cases hb0 : isOctDigit b0
    · have := hhex (isHexDigit_of_oct hb0); subst this; exact hm
    · exact Or.inr hb0
  | hex ds =>
    simp only [NoExtend, List.cons_append, List.headD_cons]
    intro hb0
    have := hhex hb0; subst this; exact hm hb0

theorem noExtend_next {it : Item} {items : List Item} (h : ItemsWf q (it :: items)) (tail : List Nat) :
    NoExtend it (spellAll items ++ q :: tail) := by
  cases items with
  | nil => exact noExtend_quote hq it tail
  | cons nx rest =>
    rw [spellAll_cons, List.append_assoc]
    exact noExtend_of_munch hq (itemsWf_cons h.2.2).1 h.2.1 _

end

/-- cproc's `kind` character for a prefix -/
def code : Prefix → Nat
  | .none => 0 | .u8 => 0x38 | .u => 0x75 | .U => 0x55 | .L => 0x4c

/-- The two places where `collect` looks at `kind` and `newkind`: the mismatch test and the update of `kind`. -/
theorem code_tests (k pre : Prefix) :
    ((code k ≠ code pre && code k ≠ 0 && code pre ≠ 0) = true ↔ k ≠ pre ∧ k ≠ .none ∧ pre ≠ .none) ∧
    (if code pre ≠ 0 then code pre else code k) = code (if pre ≠ .none then pre else k) := by
  cases k <;> cases pre <;> exact ⟨by decide, rfl⟩

theorem part_spell (p : Part) : p.spell = p.1.spell ++ 0x22 :: (spellAll p.2 ++ [0x22]) := by
  simp [Part.spell, spellAll]

theorem litPrefix_spell (p : Part) :
    litPrefix p.spell = .ok (code p.1, 0x22 :: (spellAll p.2 ++ [0x22])) := by
  rw [part_spell]
  rcases p with ⟨pre, items⟩
  cases pre <;> simp [litPrefix, Prefix.spell, code]

/-- `collect`'s `parts` and `len` on spelled tokens.  `lens` keeps the `strlen(src) - 2` of the code; `lens_eq` turns it
into a length (a spelling contains no zero byte). -/
def bodies (parts : List Part) : List (List Nat) := parts.map fun p => spellAll p.2 ++ [0x22]
def lens : List Part → Nat
  | [] => 0
  | p :: ps => lens ps + (strlen (0x22 :: (spellAll p.2 ++ [0x22])) - 2)

/-- What the first loop of `stringconcat` makes of the outcomes of 6.4.5p5: both refusals are one diagnostic. -/
def common : Concat → Except Err Prefix
  | .ok p => .ok p
  | _ => .error .prefixMismatch

/-- The loop variable `kind` counts as one more token in front. -/
theorem concatPrefix_cons (k pre : Prefix) (ps : List Prefix) :
    common (concatPrefix (k :: pre :: ps)) =
      if k ≠ pre ∧ k ≠ .none ∧ pre ≠ .none then .error .prefixMismatch
      else common (concatPrefix ((if pre ≠ .none then pre else k) :: ps)) := by
  by_cases hk : k = .none
  · subst hk; cases pre <;> rfl
  by_cases hp : pre = .none
  · subst hp; rw [if_neg (fun h => h.2.2 rfl), if_neg (fun h => h rfl)]; rfl
  -- two prefixed tokens: the second must repeat the first, and then adds nothing
  rw [if_pos hp]
  unfold concatPrefix
  rw [List.filter_cons_of_pos (by simpa using hk), List.filter_cons_of_pos (by simpa using hp)]
  dsimp only
  generalize ps.filter (· ≠ .none) = l
  by_cases e : k = pre
  · subst e
    rw [if_neg (show ¬ (k ≠ k ∧ k ≠ .none ∧ k ≠ .none) from fun h => h.1 rfl)]
    by_cases h : ∀ q ∈ l, q = k
    · rw [if_pos (show ∀ q ∈ k :: l, q = k from List.forall_mem_cons.2 ⟨rfl, h⟩), if_pos h]
    · rw [if_neg (show ¬ ∀ q ∈ k :: l, q = k from fun h' => h (List.forall_mem_cons.1 h').2), if_neg h]
      split <;> split <;> rfl
  · rw [if_pos (show k ≠ pre ∧ k ≠ .none ∧ pre ≠ .none from ⟨e, hk, hp⟩),
      if_neg (show ¬ ∀ q ∈ pre :: l, q = k from fun h' => e (h' pre (List.mem_cons_self ..)).symm)]
    split <;> rfl

theorem collect_spelled (k : Prefix) (parts : List Part) :
    collect (parts.map Part.spell) (code k) =
      match common (concatPrefix (k :: parts.map (·.1))) with
      | .ok p => .ok (code p, bodies parts, lens parts)
      | .error e => .error e := by
  induction parts generalizing k with
  | nil => cases k <;> rfl
  | cons p ps ih =>
    rcases p with ⟨pre, items⟩
    rw [List.map_cons, List.map_cons, collect, litPrefix_spell, concatPrefix_cons]
    obtain ⟨hc, hk⟩ := code_tests k pre
    by_cases hmis : k ≠ pre ∧ k ≠ .none ∧ pre ≠ .none
    · rw [if_pos hmis]; exact if_pos (hc.2 hmis)
    · rw [if_neg hmis]
      dsimp only
      rw [if_neg (fun h => hmis (hc.1 h)), hk, ih]
      cases common (concatPrefix ((if pre ≠ .none then pre else k) :: ps.map (·.1))) <;> rfl

section
variable {size : Nat} {enc : Nat → Bool → Except Err (List Nat)} (henc : encoder size = some enc)
include henc

theorem enc_scalar {c : Nat} (hc : isScalar c) : enc c false = .ok (encode size c) := by
  have hc32 := isScalar_lt32 hc
  rcases encoder_cases henc with ⟨rfl, rfl⟩ | ⟨rfl, rfl⟩ | ⟨rfl, rfl⟩
  · simp only [encodechar8, utf8enc_eq c hc32, if_pos hc]; rfl
  · simp only [encodechar16, utf16enc_eq c hc32, if_pos hc]; rfl
  · simp only [encodechar32, Nat.mod_eq_of_lt hc32]; rfl

theorem enc_item {q : Nat} {it : Item} (hwf : it.wf q) :
    enc (itemChr it) (itemNum it) = .ok (itemModelUnits size it) := by
  cases it with
  | chr c => exact enc_scalar henc hwf.1
  | simple ch =>
    obtain ⟨v, hv⟩ := Option.isSome_iff_exists.1 hwf
    have hlt := (simpleEscape_lt hv).1
    rw [itemChr, itemModelUnits, hv, Option.getD_some, ← encode_small size v hlt]
    exact enc_scalar henc (Or.inl (by omega))
  | oct ds | hex ds => rcases encoder_cases henc with ⟨rfl, rfl⟩ | ⟨rfl, rfl⟩ | ⟨rfl, rfl⟩ <;> rfl

theorem decodeLoop_items (items : List Item) (hwf : ItemsWf 0x22 items)
    (tail : List Nat) (fuel : Nat) (hf : (spellAll items).length < fuel) :
    decodeLoop enc fuel (spellAll items ++ 0x22 :: tail) = .ok (modelUnits size items) := by
  induction items generalizing fuel with
  | nil =>
    rcases fuel with _ | f
    · omega
    · simp [spellAll, modelUnits, decodeLoop]
  | cons it items ih =>
    obtain ⟨hit, hrest⟩ := itemsWf_cons hwf
    obtain ⟨b, s, hs, hbq, _⟩ := spell_head (Or.inl rfl) hit
    have hdec := decodechar_item hit _ (noExtend_next (Or.inl rfl) hwf tail)
    rcases fuel with _ | f
    · omega
    have hlen : 1 ≤ it.spell.length := by rw [hs]; exact Nat.le_add_left ..
    rw [spellAll_cons, List.length_append] at hf
    rw [spellAll_cons, List.append_assoc, modelUnits_cons]
    rw [hs, List.cons_append] at hdec ⊢
    rw [decodeLoop, if_neg hbq]
    simp only [hdec, enc_item henc hit]
    rw [← List.cons_append, List.drop_left, ih hrest f (by omega)]

theorem decodeParts_spelled (parts : List Part) (hwf : ∀ p ∈ parts, ItemsWf 0x22 p.2) :
    decodeParts enc (bodies parts) = .ok (modelUnits size (parts.map (·.2)).flatten) := by
  induction parts with
  | nil => rfl
  | cons p ps ih =>
    obtain ⟨hp, hwf⟩ := List.forall_mem_cons.1 hwf
    have h1 := decodeLoop_items henc p.2 hp []
      ((spellAll p.2 ++ [0x22]).length + 1) (by simp; omega)
    simp only [bodies, List.map_cons, decodeParts] at ih ⊢
    rw [h1, ih hwf]
    simp [modelUnits]

end

theorem item_spell_nonzero {q : Nat} {it : Item} (h : it.wf q) : ∀ b ∈ it.spell, b ≠ 0 := by
  intro b hb h0
  subst h0
  cases it with
  | chr c => exact (mem_utf8Encode hb).elim (fun e => h.2.2.2.2 e.symm) (by omega)
  | simple ch =>
    obtain ⟨v, hv⟩ := Option.isSome_iff_exists.1 h
    simp [Item.spell] at hb; subst hb; cases hv
  | oct ds => simp [Item.spell] at hb; have := h.2.2 0 hb; unfold isOctDigit at this; omega
  | hex ds => simp [Item.spell] at hb; have := h.2 0 hb; unfold isHexDigit at this; omega
theorem spell_nonzero {q : Nat} {items : List Item} (h : ItemsWf q items) :
    ∀ b ∈ spellAll items, b ≠ 0 := by
  intro b hb
  obtain ⟨l, hl, hbl⟩ := List.mem_flatten.1 hb
  obtain ⟨it, hit, rfl⟩ := List.mem_map.1 hl
  exact item_spell_nonzero (itemsWf_all h it hit) b hbl

theorem strlen_nonzero (l : List Nat) (h : ∀ b ∈ l, b ≠ 0) : strlen l = l.length := by
  unfold strlen
  induction l with
  | nil => rfl
  | cons a l ih =>
    obtain ⟨ha, h⟩ := List.forall_mem_cons.1 h
    rw [List.takeWhile_cons, if_pos (by simpa using ha), List.length_cons, List.length_cons, ih h]

theorem lens_eq (parts : List Part) (hwf : ∀ p ∈ parts, ItemsWf 0x22 p.2) :
    lens parts = (spellAll (parts.map (·.2)).flatten).length := by
  induction parts with
  | nil => rfl
  | cons p ps ih =>
    obtain ⟨hp, hwf⟩ := List.forall_mem_cons.1 hwf
    rw [lens, ih hwf, strlen_nonzero]
    · simp [spellAll]; omega
    · intro b hb
      simp only [List.mem_cons, List.mem_append, List.not_mem_nil, or_false] at hb
      rcases hb with rfl | hb | rfl
      · omega
      · exact spell_nonzero hp b hb
      · omega

theorem tsize_eq (ty : CType) : tsize ty = ty.size := by cases ty <;> rfl

theorem tsigned_eq (t : Target) (ty : CType) : tsigned t ty = ty.signed t := by cases ty <;> rfl

theorem size_cases (ty : CType) : ty.size = 1 ∨ ty.size = 2 ∨ ty.size = 4 := by
  cases ty <;> simp [CType.size]

theorem encoder_some (ty : CType) : ∃ enc, encoder ty.size = some enc ∧ enc 0 false = .ok [0] := by
  rcases size_cases ty with h | h | h <;> rw [h]
  · exact ⟨encodechar8, rfl, rfl⟩
  · exact ⟨encodechar16, rfl, rfl⟩
  · exact ⟨encodechar32, rfl, rfl⟩

theorem kindType_code (t : Target) (p : Prefix) : kindType t (code p) = .ok (elemType t p) := by
  cases p <;> rfl

theorem collect_spelled_none (parts : List Part) :
    collect (parts.map Part.spell) 0 =
      match common (concatPrefix (parts.map (·.1))) with
      | .ok p => .ok (code p, bodies parts, lens parts)
      | .error e => .error e :=
  collect_spelled .none parts

/-- No hypothesis on the values of escapes. -/
theorem stringconcat_spelled (t : Target) (parts : List Part) (hwf : ∀ p ∈ parts, ItemsWf 0x22 p.2) :
    stringconcat t false (parts.map Part.spell) =
      match concatPrefix (parts.map (·.1)) with
      | .ok p => .ok ⟨elemType t p, modelUnits (elemType t p).size (parts.map (·.2)).flatten ++ [0],
          (spellAll (parts.map (·.2)).flatten).length + 1⟩
      | _ => .error .prefixMismatch := by
  unfold stringconcat
  rw [collect_spelled_none]
  cases concatPrefix (parts.map (·.1)) with
  | ok p =>
    obtain ⟨enc, henc, hz⟩ := encoder_some (elemType t p)
    simp only [common, Bool.false_eq_true, if_false, kindType_code, tsize_eq, henc, decodeParts_spelled henc parts hwf,
      hz, lens_eq parts hwf]
  | constraint => rfl
  | implDefined => rfl

theorem lt_of_le_maxUnit {x size : Nat} (h : x ≤ maxUnit size) : x < 2 ^ (8 * size) := by
  have : 1 ≤ 2 ^ (8 * size) := Nat.one_le_two_pow
  unfold maxUnit at h; omega

theorem itemModelUnits_eq {q size : Nat} {it : Item} (hs : size = 1 ∨ size = 2 ∨ size = 4) (hwf : it.wf q)
    (hr : InRange size it) : it.units size = some (itemModelUnits size it) := by
  have h32 : 2 ^ (8 * size) ≤ 2 ^ 32 := Nat.pow_le_pow_right (by decide) (by omega)
  cases it with
  | chr c => rfl
  | simple ch =>
    obtain ⟨v, hv⟩ := Option.isSome_iff_exists.1 hwf
    rw [Item.units, itemModelUnits, hv]; rfl
  | oct ds => rw [Item.units, itemModelUnits, if_pos (id hr : _ ≤ _), Nat.mod_eq_of_lt (lt_of_le_maxUnit hr)]
  | hex ds =>
    have hlt := lt_of_le_maxUnit hr
    rw [Item.units, itemModelUnits, if_pos (id hr : _ ≤ _), Nat.mod_eq_of_lt (Nat.lt_of_lt_of_le hlt h32),
      Nat.mod_eq_of_lt hlt]

theorem inRange_of_units {size : Nat} {it : Item} {a : List Nat} (h : it.units size = some a) :
    InRange size it := by
  cases it with
  | chr c | simple ch => trivial
  | oct ds | hex ds =>
    exact Classical.byContradiction fun hn => by rw [Item.units, if_neg (id hn : ¬ _ ≤ _)] at h; cases h

theorem flatten_wf {q : Nat} {parts : List Part} (hwf : ∀ p ∈ parts, ItemsWf q p.2) :
    ∀ it ∈ (parts.map (·.2)).flatten, it.wf q := by
  intro it hit
  obtain ⟨l, hl, hil⟩ := List.mem_flatten.1 hit
  obtain ⟨pt, hpt, rfl⟩ := List.mem_map.1 hl
  exact itemsWf_all (hwf pt hpt) it hil

theorem itemsUnits_eq {q size : Nat} (hs : size = 1 ∨ size = 2 ∨ size = 4) {items : List Item}
    (hwf : ∀ it ∈ items, it.wf q) (hr : ∀ it ∈ items, InRange size it) :
    itemsUnits size items = some (modelUnits size items) := by
  induction items with
  | nil => rfl
  | cons it items ih =>
    obtain ⟨hw, hwf⟩ := List.forall_mem_cons.1 hwf
    obtain ⟨hi, hr⟩ := List.forall_mem_cons.1 hr
    rw [itemsUnits, itemModelUnits_eq hs hw hi, ih hwf hr, modelUnits_cons]

theorem inRange_of_itemsUnits {size : Nat} {items : List Item} {us : List Nat}
    (h : itemsUnits size items = some us) : ∀ it ∈ items, InRange size it := by
  induction items generalizing us with
  | nil => nofun
  | cons it rest ih =>
    rw [itemsUnits] at h
    cases ha : it.units size <;> cases hb : itemsUnits size rest <;> rw [ha, hb] at h <;> try cases h
    exact List.forall_mem_cons.2 ⟨inRange_of_units ha, ih hb⟩

theorem itemModelUnits_length_le (size : Nat) (it : Item) :
    (itemModelUnits size it).length ≤ it.spell.length := by
  cases it with
  | chr c =>
    show (encode size c).length ≤ (utf8Encode c).length
    unfold encode utf8Encode utf16Encode utf32Encode
    repeat' split
    all_goals first | exact Nat.le_of_ble_eq_true rfl | omega
  | simple ch => exact Nat.le_of_ble_eq_true rfl
  | oct ds | hex ds => exact Nat.le_add_left ..

theorem modelUnits_length_le (size : Nat) (items : List Item) :
    (modelUnits size items).length ≤ (spellAll items).length := by
  induction items with
  | nil => exact Nat.le_refl _
  | cons it items ih =>
    rw [modelUnits_cons, spellAll_cons, List.length_append, List.length_append]
    exact Nat.add_le_add (itemModelUnits_length_le size it) ih

def spellChar (p : Prefix) (it : Item) : List Nat := p.spell ++ 0x27 :: (it.spell ++ [0x27])

/-- The prefix `switch` of `primaryexpr`, and the body once `decodechar` has succeeded. -/
theorem charconst_prefix (t : Target) (p : Prefix) (s : List Nat) {r : Nat × Bool × Nat} (h : decodechar s = .ok r) :
    charconst t (p.spell ++ 0x27 :: s) =
      if (s.drop r.2.2).headD 0 ≠ 0x27 then .error .multiChar
      else .ok (charConstType t p, charValue t (charConstObjType t p) r.1) := by
  cases p <;> simp [charconst, charconstBody, Prefix.spell, charConstType, charConstObjType, h]

theorem charconst_spelled (t : Target) (p : Prefix) {it : Item} (hwf : it.wf 0x27) :
    charconst t (spellChar p it) =
      .ok (charConstType t p, charValue t (charConstObjType t p) (itemChr it)) := by
  rw [spellChar, charconst_prefix t p _ (decodechar_item hwf [0x27] (noExtend_quote (Or.inr rfl) it []))]
  simp only [List.drop_left, List.headD_cons, ne_eq, not_true_eq_false, if_false]

theorem or_high (v s : Nat) (hs : s = 1 ∨ s = 4) (hlt : v < 2 ^ (8 * s)) :
    v ||| ((2 ^ 64 - 1) <<< (s * 8)) % 2 ^ 64 = v + 2 ^ 64 - 2 ^ (8 * s) := by
  rcases hs with rfl | rfl
  · have : ((2 ^ 64 - 1) <<< (1 * 8)) % 2 ^ 64 = (2 ^ 56 - 1) * 2 ^ 8 := by decide
    rw [this, Nat.or_comm, or_eq_add _ _ _ (by omega)]; omega
  · have : ((2 ^ 64 - 1) <<< (4 * 8)) % 2 ^ 64 = (2 ^ 32 - 1) * 2 ^ 32 := by decide
    rw [this, Nat.or_comm, or_eq_add _ _ _ (by omega)]; omega

theorem charValue_eq (t : Target) (c : CType) (v : Nat) (hv : v ≤ maxUnit c.size) :
    charValue t c v = repr64 (c.wrap t v) := by
  unfold charValue CType.wrap repr64
  rw [tsigned_eq, tsize_eq]
  have hlt := lt_of_le_maxUnit hv
  have h64 : 2 ^ (8 * c.size) ≤ 2 ^ 32 := Nat.pow_le_pow_right (by decide) (by have := size_cases c; omega)
  dsimp only
  rw [Nat.mod_eq_of_lt hlt]
  by_cases hsg : c.signed t = true
  · have hs : c.size = 1 ∨ c.size = 4 := by cases c <;> simp [CType.size, CType.signed] at hsg ⊢
    simp only [hsg, Bool.true_and, true_and]
    rw [or_high v c.size hs hlt]
    have test : (v >>> (c.size * 8 - 1) == 1) = true ↔ 2 * v ≥ 2 ^ (8 * c.size) := by
      rcases hs with e | e <;> rw [e] at hlt ⊢ <;> simp only [Nat.shiftRight_eq_div_pow, beq_iff_eq] <;> omega
    by_cases h : 2 * v ≥ 2 ^ (8 * c.size)
    · rw [if_pos (test.2 h), if_pos h]; omega
    · rw [if_neg (mt test.1 h), if_neg h]; omega
  · simp only [Bool.not_eq_true] at hsg
    simp only [hsg, Bool.false_and, Bool.false_eq_true, false_and, if_false]
    omega

end CprocVerif.CharLit
