import CprocVerif.Model.CharLit

/-!
# `utf.c` against the Unicode encoding forms

The rows of the RFC 3629 table are split once, on the side of `utf8Encode` (`utf8Encode_two/three/four`): the decoder
(`utf8decR`, taken apart into `contLoop` and `accept`) and the ABNF `WellFormed8` both go through these.
-/

namespace CprocVerif.CharLit
open CprocVerif.Unicode

theorem utf8Encode_two {x t c : Nat} (hx : x < 32) (ht : isTail t) (hc : c = x * 64 + t % 64)
    (hlo : 0x80 ≤ c) : utf8Encode c = [0xC0 + x, t] := by
  unfold isTail at ht
  unfold utf8Encode
  rw [if_neg (by omega), if_pos (by omega)]
  simp only [List.cons.injEq, and_true]; omega

theorem utf8Encode_three {x t u c : Nat} (hx : x < 16) (ht : isTail t) (hu : isTail u)
    (hc : c = (x * 64 + t % 64) * 64 + u % 64) (hlo : 0x800 ≤ c) :
    utf8Encode c = [0xE0 + x, t, u] := by
  unfold isTail at ht hu
  unfold utf8Encode
  rw [if_neg (by omega), if_neg (by omega), if_pos (by omega)]
  simp only [List.cons.injEq, and_true]; omega

theorem utf8Encode_four {x t u v c : Nat} (ht : isTail t) (hu : isTail u) (hv : isTail v)
    (hc : c = ((x * 64 + t % 64) * 64 + u % 64) * 64 + v % 64) (hlo : 0x10000 ≤ c) :
    utf8Encode c = [0xF0 + x, t, u, v] := by
  unfold isTail at ht hu hv
  unfold utf8Encode
  rw [if_neg (by omega), if_neg (by omega), if_neg (by omega)]
  simp only [List.cons.injEq, and_true]; omega

theorem utf8Encode_length_le (c : Nat) : 1 ≤ (utf8Encode c).length ∧ (utf8Encode c).length ≤ 4 := by
  unfold utf8Encode; repeat' split
  all_goals exact ⟨Nat.le_of_ble_eq_true rfl, Nat.le_of_ble_eq_true rfl⟩

theorem utf8Encode_ne_nil (c : Nat) : utf8Encode c ≠ [] := fun h => by
  have := (utf8Encode_length_le c).1; rw [h] at this; cases this

theorem mem_utf8Encode {c b : Nat} (h : b ∈ utf8Encode c) : b = c ∨ 0x80 ≤ b := by
  unfold utf8Encode at h; repeat' split at h
  all_goals simp only [List.mem_cons, List.not_mem_nil, or_false] at h; omega

theorem isScalar_lt32 {c : Nat} (h : isScalar c) : c < 2 ^ 32 := by unfold isScalar at h; omega

theorem lead_eq : ∀ b, b < 256 → lead b =
    if 0xC0 ≤ b ∧ b < 0xE0 then some (b - 0xC0, 2)
    else if 0xE0 ≤ b ∧ b < 0xF0 then some (b - 0xE0, 3)
    else if 0xF0 ≤ b ∧ b < 0xF8 then some (b - 0xF0, 4) else none := by
  decide +kernel

theorem lead_iff {b x l : Nat} (hb : b < 256) :
    lead b = some (x, l) ↔
      (l = 2 ∧ x < 32 ∧ b = 0xC0 + x) ∨ (l = 3 ∧ x < 16 ∧ b = 0xE0 + x) ∨
        (l = 4 ∧ x < 8 ∧ b = 0xF0 + x) := by
  rw [lead_eq b hb]
  repeat' split
  all_goals simp only [Option.some.injEq, Prod.mk.injEq, reduceCtorEq, false_iff]; omega

theorem cont_bits : ∀ b, b < 256 → (b &&& 0xc0 = 0x80 ↔ isTail b) := by
  decide +kernel

theorem rd_lt (bs : List Nat) (i : Nat) : rd bs i < 256 := Nat.mod_lt _ (by decide)
theorem rd_tail (bs : List Nat) (i : Nat) : rd bs.tail i = rd bs (i + 1) := by
  cases bs <;> simp [rd]
theorem rd_cons_zero (a : Nat) (l : List Nat) : rd (a :: l) 0 = a % 256 := by simp [rd]
theorem rd_cons_succ (a : Nat) (l : List Nat) (i : Nat) : rd (a :: l) (i + 1) = rd l i := by simp [rd]

theorem rd_nil (i : Nat) : rd [] i = 0 := by simp [rd]

theorem rd_take (bs : List Nat) (k i : Nat) (h : i < k) : rd (bs.take k) i = rd bs i := by
  simp [rd, List.getD_eq_getElem?_getD, h]

theorem rd_eq_of_take {bs bs' : List Nat} {k : Nat} (h : bs'.take k = bs.take k) {i : Nat} (hi : i < k) :
    rd bs' i = rd bs i := by
  rw [← rd_take bs' k i hi, h, rd_take bs k i hi]

theorem contLoop_step (k : Nat) (bs : List Nat) (x r : Nat) :
    contLoop (k + 1) bs x r =
      if isTail (rd bs 0) then contLoop k bs.tail ((x * 64 + rd bs 0 % 64) % 2 ^ 32) (r + 1)
      else (none, r + 1) := by
  have hb := cont_bits _ (rd_lt bs 0)
  rw [contLoop]
  by_cases h : isTail (rd bs 0)
  · rw [if_neg (fun hne => hne (hb.2 h)), if_pos h, Nat.and_two_pow_sub_one_eq_mod _ 6,
      ← Nat.shiftLeft_add_eq_or_of_lt (Nat.mod_lt _ (by decide)), Nat.shiftLeft_eq]
  · rw [if_pos (fun e => h (hb.1 e)), if_neg h]

theorem contLoop_succ_some {k : Nat} {bs : List Nat} {x r y r' : Nat} (hx : x < 2 ^ 25) :
    contLoop (k + 1) bs x r = (some y, r') ↔
      isTail (rd bs 0) ∧ contLoop k bs.tail (x * 64 + rd bs 0 % 64) (r + 1) = (some y, r') := by
  rw [contLoop_step]
  by_cases h : isTail (rd bs 0)
  · rw [if_pos h, Nat.mod_eq_of_lt (by omega)]; exact ⟨fun e => ⟨h, e⟩, fun e => e.2⟩
  · rw [if_neg h]; exact ⟨fun e => (by cases e), fun e => absurd e.1 h⟩

theorem contLoop_zero_some {bs : List Nat} {x r y r' : Nat} :
    contLoop 0 bs x r = (some y, r') ↔ y = x ∧ r' = r := by
  rw [contLoop]
  exact ⟨fun e => by cases e; exact ⟨rfl, rfl⟩, fun ⟨a, b⟩ => by rw [a, b]⟩

/-- On an encoding of `c` the accumulator runs through `c / 64 ^ j`. -/
theorem contLoop_digit {k a r : Nat} {bs : List Nat} (ha : a < 2 ^ 31) :
    contLoop (k + 1) ((0x80 + a % 64) :: bs) (a / 64) r = contLoop k bs a (r + 1) := by
  have ht : isTail (0x80 + a % 64) := ⟨Nat.le_add_right .., by omega⟩
  have e : rd ((0x80 + a % 64) :: bs) 0 = 0x80 + a % 64 := by rw [rd_cons_zero]; omega
  rw [contLoop_step, e, if_pos ht, List.tail_cons,
    show (a / 64 * 64 + (0x80 + a % 64) % 64) % 2 ^ 32 = a by omega]

theorem contLoop_reads (k : Nat) : ∀ (bs : List Nat) (x r : Nat),
    r ≤ (contLoop k bs x r).2 ∧ (contLoop k bs x r).2 ≤ r + k ∧
    (∀ i, r + i + 1 < (contLoop k bs x r).2 → isTail (rd bs i)) ∧
    (∀ y, (contLoop k bs x r).1 = some y → (contLoop k bs x r).2 = r + k) ∧
    ∀ bs', (∀ i, r + i < (contLoop k bs x r).2 → rd bs' i = rd bs i) →
      contLoop k bs' x r = contLoop k bs x r := by
  induction k with
  | zero =>
    intro bs x r
    rw [contLoop]
    exact ⟨Nat.le_refl _, Nat.le_refl _, fun i h => absurd h (by dsimp only; omega), fun _ _ => rfl,
      fun _ _ => by rw [contLoop]⟩
  | succ k ih =>
    intro bs x r
    rw [contLoop_step]
    by_cases h0 : isTail (rd bs 0)
    · rw [if_pos h0]
      obtain ⟨a, b, c, d, e⟩ := ih bs.tail ((x * 64 + rd bs 0 % 64) % 2 ^ 32) (r + 1)
      refine ⟨by omega, by omega, fun i hi => ?_, fun y hy => by rw [d y hy]; omega, fun bs' ht => ?_⟩
      · cases i with
        | zero => exact h0
        | succ i => rw [← rd_tail]; exact c i (by omega)
      · rw [contLoop_step, ht 0 (by omega), if_pos h0]
        exact e bs'.tail fun i hi => by rw [rd_tail, rd_tail]; exact ht (i + 1) (by omega)
    · rw [if_neg h0]
      refine ⟨by omega, by omega, fun i hi => by omega, fun y hy => (by cases hy), fun bs' ht => ?_⟩
      rw [contLoop_step, ht 0 (by omega), if_neg h0]

/-- The C idiom `x - a < k` on `uint_least32_t` is the range test `a ≤ x < a + k` (nothing wraps when `a + k` fits). -/
theorem sub32_range {x a k : Nat} (hak : a + k ≤ 2 ^ 32) :
    sub32 x a < k ↔ a ≤ x % 2 ^ 32 ∧ x % 2 ^ 32 < a + k := by
  unfold sub32; omega

/-- The checks after the loop (`x >= 0x110000 || x - 0xd800 < 0x0800`, then `x < lo`), in arithmetic. -/
def accept (lo l : Nat) : Option Nat × Nat → Option (Nat × Nat) × Nat
  | (none, r) => (none, r)
  | (some x, r) =>
    if x ≥ 0x110000 ∨ (0xD800 ≤ x ∧ x < 0xE000) ∨ x < lo then (none, r) else (some (x, l), r)

theorem accept_snd (lo l : Nat) (p : Option Nat × Nat) : (accept lo l p).2 = p.2 := by
  rcases p with ⟨_ | x, r⟩ <;> unfold accept
  · rfl
  · dsimp only; split <;> rfl

theorem accept_some {lo l : Nat} {p : Option Nat × Nat} {c l' r : Nat} :
    accept lo l p = (some (c, l'), r) ↔
      p = (some c, r) ∧ l' = l ∧ c < 0x110000 ∧ ¬ (0xD800 ≤ c ∧ c < 0xE000) ∧ lo ≤ c := by
  rcases p with ⟨_ | x, r0⟩ <;> unfold accept <;> dsimp only
  · simp
  · split <;> simp <;> omega

theorem eq_mk_snd {α β : Type} {p : α × β} {a : α} (h : p.1 = a) : p = (a, p.2) := by rw [← h]

theorem utf8decR_one {bs : List Nat} {n : Nat}
    (h : rd bs 0 < 0x80 ∨ ∀ x l, lead (rd bs 0) = some (x, l) → n < l) :
    utf8decR bs n = (if rd bs 0 < 0x80 then some (rd bs 0, 1) else none, 1) := by
  unfold utf8decR
  by_cases h80 : rd bs 0 < 0x80
  · rw [if_pos h80, if_pos h80]
  · rw [if_neg h80, if_neg h80]
    cases hl : lead (rd bs 0) with
    | none => rfl
    | some xl => exact if_pos ((h.resolve_left h80) xl.1 xl.2 hl)

theorem utf8decR_multi {bs : List Nat} {n x l : Nat} (hl : lead (rd bs 0) = some (x, l)) (hn : l ≤ n) :
    utf8decR bs n =
      accept (if l = 2 then 0x80 else if l = 3 then 0x800 else 0x10000) l (contLoop (l - 1) bs.tail x 1) := by
  have h80 : ¬ rd bs 0 < 0x80 := by have := (lead_iff (rd_lt bs 0)).1 hl; omega
  unfold utf8decR
  rw [if_neg h80, hl]
  dsimp only
  rw [if_neg (Nat.not_lt.2 hn)]
  generalize (if l = 2 then 0x80 else if l = 3 then 0x800 else 0x10000) = lo
  rcases contLoop (l - 1) bs.tail x 1 with ⟨_ | y, r⟩ <;> unfold accept <;> dsimp only
  simp only [Bool.or_eq_true, decide_eq_true_eq, sub32_range (show 0xd800 + 0x0800 ≤ 2 ^ 32 by decide)]
  repeat' split
  all_goals first | rfl | omega

theorem utf8decR_cases (bs : List Nat) (n : Nat) :
    (rd bs 0 < 0x80 ∨ ∀ x l, lead (rd bs 0) = some (x, l) → n < l) ∨
      ∃ x l, lead (rd bs 0) = some (x, l) ∧ l ≤ n := by
  cases hl : lead (rd bs 0) with
  | none => exact Or.inl (Or.inr fun x l h => (by cases h))
  | some xl =>
    by_cases hn : xl.2 ≤ n
    · exact Or.inr ⟨xl.1, xl.2, rfl, hn⟩
    · exact Or.inl (Or.inr fun x l h => (by cases h; omega))

theorem utf8decR_encode {c : Nat} (hc : isScalar c) (rest : List Nat) {n : Nat}
    (hn : (utf8Encode c).length ≤ n) :
    utf8decR (utf8Encode c ++ rest) n = (some (c, (utf8Encode c).length), (utf8Encode c).length) := by
  have hs : c < 0x110000 ∧ ¬ (0xD800 ≤ c ∧ c < 0xE000) := by unfold isScalar at hc; omega
  have row : ∀ {b x l : Nat} {bs : List Nat}, b < 256 → lead b = some (x, l) → l ≤ n →
      contLoop (l - 1) bs x 1 = (some c, l) → (if l = 2 then 0x80 else if l = 3 then 0x800 else 0x10000) ≤ c →
      utf8decR (b :: bs) n = (some (c, l), l) := fun {b _ _ bs} hb hl hn hloop hlo => by
    have e : rd (b :: bs) 0 = b := by rw [rd_cons_zero, Nat.mod_eq_of_lt hb]
    rw [utf8decR_multi (e.symm ▸ hl) hn]; exact accept_some.2 ⟨hloop, rfl, hs.1, hs.2, hlo⟩
  revert hn
  unfold utf8Encode
  repeat' split
  all_goals intro hn; simp only [List.cons_append, List.nil_append]
  · have e0 : rd (c :: rest) 0 = c := by rw [rd_cons_zero]; omega
    rw [utf8decR_one (Or.inl (by omega)), e0, if_pos (by omega)]; rfl
  · have hb : 0xC0 + c / 64 < 256 := by omega
    refine row (l := 2) hb ((lead_iff hb).2 (Or.inl ⟨rfl, by omega, rfl⟩)) hn ?_ (Nat.le_of_not_lt ‹_›)
    rw [contLoop_digit (by omega)]; rfl
  · have hb : 0xE0 + c / 4096 < 256 := by omega
    refine row (l := 3) hb ((lead_iff hb).2 (Or.inr (Or.inl ⟨rfl, by omega, rfl⟩))) hn ?_ (Nat.le_of_not_lt ‹_›)
    rw [← Nat.div_div_eq_div_mul c 64 64, contLoop_digit (by omega), contLoop_digit (by omega)]; rfl
  · have hb : 0xF0 + c / 262144 < 256 := by omega
    refine row (l := 4) hb ((lead_iff hb).2 (Or.inr (Or.inr ⟨rfl, by omega, rfl⟩))) hn ?_ (Nat.le_of_not_lt ‹_›)
    rw [← Nat.div_div_eq_div_mul c 4096 64, contLoop_digit (by omega),
      ← Nat.div_div_eq_div_mul c 64 64, contLoop_digit (by omega), contLoop_digit (by omega)]
    rfl

theorem take_succ_rd {bs : List Nat} (hb : ∀ b ∈ bs, b < 256) {i : Nat} (hi : i < bs.length) :
    bs.take (i + 1) = bs.take i ++ [rd bs i] := by
  rw [List.take_add_one, rd, List.getD_eq_getElem?_getD, List.getElem?_eq_getElem hi, Option.getD_some,
    Nat.mod_eq_of_lt (hb _ (List.getElem_mem hi))]
  rfl

/-- `bs ≠ []` is needed: on the empty text `rd` delivers the terminator, which decodes as U+0000 of length 1, while
`[].take 1 = []`. -/
theorem utf8dec_eq_utf8Encode {bs : List Nat} {n c l : Nat} (hne : bs ≠ []) (hb : ∀ b ∈ bs, b < 256)
    (h : utf8dec bs n = some (c, l)) :
    isScalar c ∧ l = (utf8Encode c).length ∧ bs.take l = utf8Encode c := by
  have h := eq_mk_snd (show (utf8decR bs n).1 = _ from h)
  generalize (utf8decR bs n).2 = r at h
  have t1 : bs.take 1 = [rd bs 0] := take_succ_rd hb (List.length_pos_iff.2 hne)
  have tl : ∀ {i}, isTail (rd bs i) → i < bs.length := fun {i} ht => Classical.byContradiction fun hn => by
    rw [rd, List.getD_eq_getElem?_getD, List.getElem?_eq_none (by omega)] at ht
    exact absurd ht.1 (by decide)
  unfold isScalar
  rcases utf8decR_cases bs n with h1 | ⟨x, l0, hl, hn⟩
  · rw [utf8decR_one h1] at h
    by_cases h80 : rd bs 0 < 0x80
    · rw [if_pos h80] at h
      cases h
      rw [t1, show utf8Encode (rd bs 0) = [rd bs 0] from if_pos h80]
      exact ⟨by omega, rfl, rfl⟩
    · rw [if_neg h80] at h; cases h
  · rw [utf8decR_multi hl hn] at h
    obtain ⟨hloop, rfl, h1, h2, h3⟩ := accept_some.1 h
    refine ⟨by omega, ?_⟩
    rcases (lead_iff (rd_lt bs 0)).1 hl with ⟨rfl, hx, e0⟩ | ⟨rfl, hx, e0⟩ | ⟨rfl, hx, e0⟩ <;>
      obtain ⟨ht, hloop⟩ := (contLoop_succ_some (by omega)).1 hloop
    · obtain ⟨hc, -⟩ := contLoop_zero_some.1 hloop
      simp only [rd_tail, Nat.zero_add] at ht hc
      rw [utf8Encode_two hx ht hc h3, take_succ_rd hb (tl ht), t1, e0]
      exact ⟨rfl, rfl⟩
    · obtain ⟨hu, hloop⟩ := (contLoop_succ_some (by omega)).1 hloop
      obtain ⟨hc, -⟩ := contLoop_zero_some.1 hloop
      simp only [rd_tail, Nat.zero_add, Nat.reduceAdd] at ht hu hc
      rw [utf8Encode_three hx ht hu hc h3, take_succ_rd hb (tl hu), take_succ_rd hb (tl ht), t1, e0]
      exact ⟨rfl, rfl⟩
    · obtain ⟨hu, hloop⟩ := (contLoop_succ_some (by omega)).1 hloop
      obtain ⟨hv, hloop⟩ := (contLoop_succ_some (by omega)).1 hloop
      obtain ⟨hc, -⟩ := contLoop_zero_some.1 hloop
      simp only [rd_tail, Nat.zero_add, Nat.reduceAdd] at ht hu hv hc
      rw [utf8Encode_four ht hu hv hc h3, take_succ_rd hb (tl hv), take_succ_rd hb (tl hu),
        take_succ_rd hb (tl ht), t1, e0]
      exact ⟨rfl, rfl⟩

theorem wellFormed_encode {c : Nat} (hc : isScalar c) : WellFormed8 (utf8Encode c) := by
  have tl : ∀ d, isTail (0x80 + d % 64) := fun d => ⟨Nat.le_add_right .., by omega⟩
  unfold isScalar at hc
  unfold utf8Encode; repeat' split
  -- with the continuation bytes settled, the ABNF alternatives are conditions on the first two bytes
  all_goals simp only [WellFormed8, tl, and_true]; omega

theorem wellFormed_decode {w : List Nat} (h : WellFormed8 w) : ∃ c, isScalar c ∧ w = utf8Encode c := by
  unfold WellFormed8 at h
  split at h
  · rename_i a
    exact ⟨a, Or.inl (by omega), (if_pos (by omega)).symm⟩
  · rename_i a t
    unfold isTail at h
    obtain ⟨x, rfl⟩ : ∃ x, a = 0xC0 + x := ⟨a - 0xC0, by omega⟩
    exact ⟨_, Or.inl (by omega), (utf8Encode_two (by omega) h.2.2 rfl (by omega)).symm⟩
  · rename_i a t u
    unfold isTail at h
    obtain ⟨x, rfl⟩ : ∃ x, a = 0xE0 + x := ⟨a - 0xE0, by omega⟩
    have k : isTail t ∧ isTail u := by unfold isTail; omega
    exact ⟨_, by unfold isScalar; omega, (utf8Encode_three (by omega) k.1 k.2 rfl (by omega)).symm⟩
  · rename_i a t u v
    unfold isTail at h
    obtain ⟨x, rfl⟩ : ∃ x, a = 0xF0 + x := ⟨a - 0xF0, by omega⟩
    have k : isTail t ∧ isTail u ∧ isTail v := by unfold isTail; omega
    exact ⟨_, by unfold isScalar; omega, (utf8Encode_four k.1 k.2.1 k.2.2 rfl (by omega)).symm⟩
  · exact absurd h id

theorem or_eq_add (h k y : Nat) (hy : y < 2 ^ k) : (h * 2 ^ k) ||| y = h * 2 ^ k + y := by
  rw [← Nat.shiftLeft_eq, Nat.shiftLeft_add_eq_or_of_lt hy]

theorem tail_byte (y : Nat) : (0x80 ||| (y &&& 0x3f)) % 256 = 0x80 + y % 64 := by
  rw [Nat.and_two_pow_sub_one_eq_mod y 6, or_eq_add 2 6 _ (Nat.mod_lt _ (by decide))]
  omega

theorem utf8enc_eq (c : Nat) (hc : c < 2 ^ 32) :
    utf8enc c = if isScalar c then some (utf8Encode c) else none := by
  unfold utf8enc
  simp only [Bool.or_eq_true, decide_eq_true_eq, sub32_range (show 0xe000 + 0x2000 ≤ 2 ^ 32 by decide),
    sub32_range (show 0x10000 + 0x100000 ≤ 2 ^ 32 by decide), Nat.mod_eq_of_lt hc, tail_byte, Nat.shiftRight_eq_div_pow]
  by_cases hs : isScalar c
  · rw [if_pos hs]
    unfold isScalar at hs
    unfold utf8Encode
    by_cases h1 : c < 0x80
    · rw [if_pos h1, if_pos h1, Nat.mod_eq_of_lt (by omega)]
    by_cases h2 : c < 0x800
    · rw [if_neg h1, if_pos h2, if_neg h1, if_pos h2, or_eq_add 6 5 _ (by omega), Nat.mod_eq_of_lt (by omega)]
    by_cases h3 : c < 0x10000
    · rw [if_neg h1, if_neg h2, if_pos (by omega), if_neg h1, if_neg h2, if_pos h3, or_eq_add 14 4 _ (by omega),
        Nat.mod_eq_of_lt (by omega)]
    · rw [if_neg h1, if_neg h2, if_neg (by omega), if_pos (by omega), if_neg h1, if_neg h2, if_neg h3,
        or_eq_add 30 3 _ (by omega), Nat.mod_eq_of_lt (by omega)]
  · rw [if_neg hs]
    unfold isScalar at hs
    rw [if_neg (by omega), if_neg (by omega), if_neg (by omega), if_neg (by omega)]

theorem utf16enc_eq (c : Nat) (hc : c < 2 ^ 32) :
    utf16enc c = if isScalar c then some (utf16Encode c) else none := by
  unfold utf16enc
  simp only [Bool.or_eq_true, decide_eq_true_eq, sub32_range (show 0xe000 + 0x2000 ≤ 2 ^ 32 by decide),
    sub32_range (show 0x10000 + 0x100000 ≤ 2 ^ 32 by decide), Nat.mod_eq_of_lt hc, Nat.and_two_pow_sub_one_eq_mod _ 10,
    Nat.shiftRight_eq_div_pow]
  by_cases hs : isScalar c
  · rw [if_pos hs]
    unfold isScalar at hs
    unfold utf16Encode
    by_cases h1 : c < 0x10000
    · rw [if_pos (by omega), if_pos h1, Nat.mod_eq_of_lt h1]
    · have e : sub32 c 0x10000 = c - 0x10000 := by unfold sub32; omega
      rw [if_neg (by omega), if_pos (by omega), if_neg h1, e, or_eq_add 54 10 _ (Nat.mod_lt _ (by decide)),
        or_eq_add 55 10 _ (Nat.mod_lt _ (by decide))]
      simp only [Option.some.injEq, List.cons.injEq, and_true]; omega
  · rw [if_neg hs]
    unfold isScalar at hs
    rw [if_neg (by omega), if_neg (by omega)]
end CprocVerif.CharLit
