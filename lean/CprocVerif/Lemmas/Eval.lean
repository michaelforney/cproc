import CprocVerif.Model.Eval
import CprocVerif.Lemmas.CInt

/-!
The 64-bit carrier of `eval.c` against `Spec/CInt`.  `repr64` embeds the window of values of an integer type (`Lemmas/CInt`) into `[0, 2^64)`.  On that
basis `castInt` is `wrap` (`castInt_nat`), each case of `binaryRaw` is the mathematical operation
modulo `2^64` (`ofI_add`, `raw_*`), and `binary` is `bin` (`binary_correct`).
-/

namespace CprocVerif.Eval
open CprocVerif.CInt

variable {F : Type} (ops : FloatOps F)

theorem W_eq : W = 18446744073709551616 := by decide

theorem valid_cases {t : IntTy} (h : t.Valid) : t = IntTy.bool ∨ t.Arith := h

theorem repr64_lt (t : IntTy) (v : Int) : repr64 t v < W := by
  rw [W_eq]; simp only [repr64]; omega

/- `repr64` ignores its type argument, so the model's `ofI` and the spec's `repr64 t` are one function
up to `rfl`; below, lemmas about either are applied to the other without a rewriting step. -/
theorem ofI_lt (z : Int) : ofI z < W := repr64_lt ⟨0, false⟩ z

theorem ofI_eq_repr64 (t : IntTy) (z : Int) : ofI z = repr64 t z := rfl

theorem natCast_ofI (z : Int) : ((ofI z : Nat) : Int) = z % 2 ^ 64 := by
  simp only [ofI]; omega

theorem ofI_natCast {x : Nat} (h : x < W) : ofI (x : Int) = x := by
  rw [W_eq] at h; simp only [ofI]; omega

theorem toI_repr64 {t : IntTy} (h : t.Arith) {v : Int} (hv : InRange t v) (hs : t.signed = true) :
    toI (repr64 t v) = v := by
  have := (inRange_64 h hv).1 hs
  simp only [toI, repr64]; omega

theorem repr64_unsigned {t : IntTy} (h : t.Arith) {v : Int} (hv : InRange t v)
    (hs : t.signed = false) : ((repr64 t v : Nat) : Int) = v := by
  have := (inRange_64 h hv).2 hs
  simp only [repr64]; omega

theorem unsigned_nat {t : IntTy} (h : t.Arith) {v : Int} (hv : InRange t v) (hs : t.signed = false) :
    ∃ l : Nat, v = l ∧ repr64 t v = l ∧ l < W :=
  ⟨_, (repr64_unsigned h hv hs).symm, rfl, repr64_lt t v⟩

def valOf (sg : Bool) (u : Nat) : Int := if sg then toI u else (u : Int)

theorem valOf_repr64 {t : IntTy} (h : t.Arith) {v : Int} (hv : InRange t v) :
    valOf t.signed (repr64 t v) = v := by
  cases hs : t.signed
  · exact repr64_unsigned h hv hs
  · exact toI_repr64 h hv hs

theorem repr64_inj {t : IntTy} (h : t.Arith) {a b : Int} (ha : InRange t a) (hb : InRange t b) :
    repr64 t a = repr64 t b ↔ a = b := by
  refine ⟨fun e => ?_, fun e => e ▸ rfl⟩
  have e64 : a % 2 ^ 64 = b % 2 ^ 64 := by simp only [repr64] at e; omega
  -- `wrap` sees only the residue modulo `2^64`, and fixes the values of the type
  rw [← wrap_of_inRange (Or.inr h) ha, ← wrap_of_inRange (Or.inr h) hb, ← wrap_emod_W h a, e64,
    wrap_emod_W h]

theorem repr64_mod_bits {t : IntTy} (h : t.Arith) (a : Int) :
    repr64 t a % 2 ^ t.bits = toBits t a := by
  have h0 : (0 : Int) ≤ a % 2 ^ 64 := Int.emod_nonneg a (by decide)
  have hp : ((2 : Int) ^ t.bits).toNat = 2 ^ t.bits := by
    rw [show (2 : Int) = ((2 : Nat) : Int) from rfl, ← Int.natCast_pow, Int.toNat_natCast]
  rw [toBits, ← Int.emod_emod_of_dvd a (two_pow_dvd (bits_le h)),
    Int.toNat_emod h0 (Int.le_of_lt (two_pow_pos _)), hp]; rfl

theorem ofI_emod (z : Int) : ofI (z % 2 ^ 64) = ofI z := by
  rw [ofI, Int.emod_emod]; rfl

theorem eq_ofI {n : Nat} {z : Int} (h : (n : Int) = z % 2 ^ 64) : n = ofI z := by
  simp only [ofI]; omega

theorem ofI_add (a b : Int) : (ofI a + ofI b) % W = ofI (a + b) := by
  refine eq_ofI ?_
  rw [W_eq, Int.natCast_emod, Int.natCast_add, natCast_ofI, natCast_ofI]
  exact (Int.add_emod ..).symm

theorem ofI_sub (a b : Int) : (ofI a + W - ofI b) % W = ofI (a - b) := by
  refine eq_ofI ?_
  have hb := ofI_lt b
  rw [Int.natCast_emod, Int.natCast_sub (by omega), Int.natCast_add, natCast_ofI, natCast_ofI, W_eq]
  omega

theorem ofI_mul (a b : Int) : ofI a * ofI b % W = ofI (a * b) := by
  refine eq_ofI ?_
  rw [W_eq, Int.natCast_emod, Int.natCast_mul, natCast_ofI, natCast_ofI]
  exact (Int.mul_emod ..).symm

theorem xor_pow_lt {x k : Nat} (h : x < 2 ^ k) : x ^^^ 2 ^ k = 2 ^ k + x := by
  rw [← Nat.div_add_mod (x ^^^ 2 ^ k) (2 ^ k), Nat.xor_div_two_pow, Nat.xor_mod_two_pow,
    Nat.div_eq_of_lt h, Nat.mod_eq_of_lt h, Nat.div_self (Nat.two_pow_pos k), Nat.mod_self,
    Nat.xor_zero, show 0 ^^^ 1 = 1 from rfl, Nat.mul_one]

theorem xor_half {k y : Nat} (hk : 0 < k) (hy : y < 2 ^ k) :
    y ^^^ 2 ^ (k - 1) = (y + 2 ^ (k - 1)) % 2 ^ k := by
  have hm : 2 ^ (k - 1) * 2 = 2 ^ k := Nat.two_pow_pred_mul_two hk
  by_cases hc : y < 2 ^ (k - 1)
  · rw [xor_pow_lt hc, Nat.mod_eq_of_lt (by omega), Nat.add_comm]
  · -- `y = y' ^^^ 2^(k-1)` for `y' = y - 2^(k-1)`, and flipping twice is the identity
    have := xor_pow_lt (x := y - 2 ^ (k - 1)) (k := k - 1) (by omega)
    rw [show 2 ^ (k - 1) + (y - 2 ^ (k - 1)) = y by omega] at this
    rw [Nat.mod_eq_sub_mod (by omega), Nat.mod_eq_of_lt (by omega), show y + 2 ^ (k - 1) - 2 ^ k =
      y - 2 ^ (k - 1) by omega]
    conv => lhs; rw [← this, Nat.xor_assoc, Nat.xor_self, Nat.xor_zero]

/-- The mask reduces modulo `2^bits`, and the sign-extension idiom `(u ^ m) - m` of `eval.c` with `m = 2^(bits-1)` is
`(u + m) % 2^bits - m`, the signed case of `wrap`. -/
theorem castInt_nat {t : IntTy} (h : t.Arith) (x : Nat) :
    castInt (t.bits / 8) t.signed x = repr64 t (wrap t (x : Int)) := by
  have hy : x % 2 ^ t.bits < 2 ^ t.bits := Nat.mod_lt _ (Nat.two_pow_pos _)
  have hW : 2 ^ t.bits ≤ W := Nat.pow_le_pow_right (by decide) (bits_le h)
  have hmask : mask (t.bits / 8) = 2 ^ t.bits - 1 := by
    rcases h with h | h | h | h <;> rw [h] <;> decide
  have h8 : t.bits / 8 * 8 = t.bits := by rcases h with h | h | h | h <;> rw [h]
  simp only [castInt, hmask, Nat.and_two_pow_sub_one_eq_mod, h8, Nat.one_shiftLeft, wrap,
    if_neg (bits_ne_one h)]
  cases t.signed
  · rw [if_neg (by decide), if_neg (by decide), ← natCast_two_pow, ← Int.natCast_emod]
    exact (ofI_natCast (by omega)).symm
  · have hm : 2 ^ (t.bits - 1) < 2 ^ t.bits := Nat.pow_lt_pow_right (by decide) (by have := bits_pos h; omega)
    rw [if_pos rfl, if_pos rfl, xor_half (bits_pos h) hy, ← Int.emod_add_emod, ← natCast_two_pow,
      ← natCast_two_pow, ← Int.natCast_emod, ← Int.natCast_add, ← Int.natCast_emod]
    have := ofI_sub ((x % 2 ^ t.bits + 2 ^ (t.bits - 1)) % 2 ^ t.bits : Nat) (2 ^ (t.bits - 1) : Nat)
    rwa [ofI_natCast (by omega), ofI_natCast (by omega)] at this

theorem tyOf_arith {t : IntTy} (h : t.Arith) : tyOf t = .int (t.bits / 8) t.signed := by
  rw [tyOf, if_neg (bits_ne_one h)]

theorem castInt_ofI {t : IntTy} (h : t.Arith) (z : Int) :
    castInt (t.bits / 8) t.signed (ofI z) = repr64 t (wrap t z) := by
  rw [castInt_nat h, natCast_ofI, wrap_emod_W h]

theorem binary_of_raw {op : BinOp} {lty : Ty} {l r : Nat} {t' : IntTy} (h' : t'.Arith) {z : Int}
    (hraw : binaryRaw ops op lty l r = some (ofI z)) :
    binary ops op lty l r (tyOf t') = some (repr64 t' (wrap t' z)) := by
  simp only [binary, hraw, Option.map_some, tyOf_arith h', cast, castInt_ofI h']

theorem repr64_eq_zero {t : IntTy} (h : t.Valid) {b : Int} (hb : InRange t b) :
    repr64 t b = 0 ↔ b = 0 := by
  rcases h with rfl | h
  · rcases inRange_bool.1 hb with rfl | rfl <;> decide
  · exact repr64_inj h hb (inRange_zero t)

theorem raw_div_mod {t : IntTy} (h : t.Arith) (sz : Nat) {a b : Int} (ha : InRange t a)
    (hb : InRange t b) (hb0 : b ≠ 0) (hq : t.signed = true → InRange t (Int.tdiv a b)) :
    binaryRaw ops .div (.int sz t.signed) (repr64 t a) (repr64 t b) = some (ofI (Int.tdiv a b)) ∧
    binaryRaw ops .mod (.int sz t.signed) (repr64 t a) (repr64 t b) = some (ofI (Int.tmod a b)) := by
  have hr0 : ¬ repr64 t b = 0 := mt (repr64_eq_zero (Or.inr h) hb).1 hb0
  cases hs : t.signed
  · obtain ⟨l, rfl, hl, hlt⟩ := unsigned_nat h ha hs
    obtain ⟨r, rfl, hr, -⟩ := unsigned_nat h hb hs
    simp only [hl, hr] at hr0 ⊢
    simp only [binaryRaw, Ty.isSigned, if_neg hr0, Bool.false_eq_true, if_false,
      ← Int.ofNat_tdiv, ← Int.ofNat_tmod]
    exact ⟨congrArg some (ofI_natCast (Nat.lt_of_le_of_lt (Nat.div_le_self ..) hlt)).symm,
      congrArg some (ofI_natCast (Nat.lt_of_le_of_lt (Nat.mod_le ..) hlt)).symm⟩
  · -- `LLONG_MIN / -1 = 2^63` is no value of a signed type
    have hg : ¬ (repr64 t b = 0 ∨ a = -(2 ^ 63) ∧ b = -1) := by
      rintro (hg | ⟨rfl, rfl⟩)
      · exact hr0 hg
      · exact absurd ((inRange_64 h (hq hs)).1 hs).2 (by decide)
    simp only [binaryRaw, Ty.isSigned, toI_repr64 h ha hs, toI_repr64 h hb hs, if_true, if_neg hg,
      and_self]

theorem and63 {n : Nat} (h : n < 64) : n &&& 63 = n := by
  rw [show 63 = 2 ^ 6 - 1 from rfl, Nat.and_two_pow_sub_one_eq_mod]; exact Nat.mod_eq_of_lt h

theorem raw_shl (sz : Nat) (sg : Bool) (a : Int) {n : Nat} (hn : n < 64) :
    binaryRaw ops .shl (.int sz sg) (ofI a) n = some (ofI (a * 2 ^ n)) := by
  have h2 : ofI ((2 ^ n : Nat) : Int) = 2 ^ n := ofI_natCast (Nat.pow_lt_pow_right (by decide) hn)
  have := congrArg some (ofI_mul a ((2 ^ n : Nat) : Int))
  rw [h2, natCast_two_pow] at this
  simpa only [binaryRaw, and63 hn, Nat.shiftLeft_eq] using this

theorem raw_shr {t : IntTy} (h : t.Arith) (sz : Nat) {a : Int} (ha : InRange t a) {n : Nat}
    (hn : n < 64) :
    binaryRaw ops .shr (.int sz t.signed) (repr64 t a) n = some (ofI (Int.fdiv a (2 ^ n))) := by
  rw [Int.fdiv_eq_ediv_of_nonneg _ (Int.le_of_lt (two_pow_pos n))]
  cases hs : t.signed
  · obtain ⟨l, rfl, hl, hlt⟩ := unsigned_nat h ha hs
    rw [hl]
    simp only [binaryRaw, Ty.isSigned, and63 hn, Bool.false_eq_true, if_false,
      Nat.shiftRight_eq_div_pow]
    rw [← natCast_two_pow, ← Int.natCast_ediv]
    exact congrArg some (ofI_natCast (Nat.lt_of_le_of_lt (Nat.div_le_self ..) hlt)).symm
  · simp only [binaryRaw, Ty.isSigned, and63 hn, if_true, toI_repr64 h ha hs,
      Int.shiftRight_eq_div_pow, Int.natCast_pow]
    rfl

theorem repr64_b2i (t : IntTy) (c : Bool) : repr64 t (b2i c) = b2n c := by
  cases c <;> rfl

theorem binary_cmp {op : BinOp} {lty : Ty} {l r : Nat} {c : Bool}
    (hraw : binaryRaw ops op lty l r = some (b2n c)) :
    binary ops op lty l r (tyOf IntTy.int) = some (b2n c) := by
  rw [binary, hraw]; cases c <;> rfl

theorem ord_repr64 {t : IntTy} (h : t.Arith) {a b : Int} (ha : InRange t a) (hb : InRange t b) :
    (if t.signed then decide (toI (repr64 t a) < toI (repr64 t b))
      else decide (repr64 t a < repr64 t b)) = decide (a < b) ∧
    (if t.signed then decide (toI (repr64 t a) ≤ toI (repr64 t b))
      else decide (repr64 t a ≤ repr64 t b)) = decide (a ≤ b) := by
  cases hs : t.signed
  · simp only [Bool.false_eq_true, if_false, ← Int.ofNat_lt, ← Int.ofNat_le,
      repr64_unsigned h ha hs, repr64_unsigned h hb hs, and_self]
  · simp only [if_true, toI_repr64 h ha hs, toI_repr64 h hb hs, and_self]

theorem binary_bitop {op : BinOp} {t : IntTy} (h : t.Arith) (f : Nat → Nat → Nat)
    (hf : ∀ x y, f x y % 2 ^ t.bits = f (x % 2 ^ t.bits) (y % 2 ^ t.bits))
    (hlt : ∀ x y, x < W → y < W → f x y < W) (a b : Int)
    (hraw : ∀ l r, binaryRaw ops op (.int (t.bits / 8) t.signed) l r = some (f l r)) :
    binary ops op (tyOf t) (repr64 t a) (repr64 t b) (tyOf t)
      = some (repr64 t (wrap t (ofBits t (f (toBits t a) (toBits t b))))) := by
  have hraw := hraw (repr64 t a) (repr64 t b)
  rw [← ofI_natCast (hlt _ _ (repr64_lt t a) (repr64_lt t b)), ← tyOf_arith h] at hraw
  rw [binary_of_raw ops h hraw, ofBits, wrap_wrap (Or.inr h), ← wrap_natCast_mod h, hf,
    repr64_mod_bits h, repr64_mod_bits h]

theorem binary_of_raw_wrap {op : BinOp} {t : IntTy} (h : t.Arith) {l r : Nat} {z v : Int}
    (hraw : binaryRaw ops op (.int (t.bits / 8) t.signed) l r = some (ofI z))
    (hw : wrap t v = wrap t z) :
    binary ops op (tyOf t) l r (tyOf t) = some (repr64 t (wrap t v)) := by
  rw [hw, ← binary_of_raw ops h hraw, tyOf_arith h]

/-- The conclusion carries `wrap`, because that is what the final `cast` of `binary` makes of the raw
64-bit result (`binary_of_raw`); `wrap … v = v` by `bin_inRange`, and `foldBin_correct` states it so. -/
theorem binary_correct {t tr : IntTy} (ht : t.Arith) (htr : tr.Arith) (op : BinOp)
    (hop : op ≠ .lor ∧ op ≠ .land) (hty : op.isShift = false → tr = t)
    {a b v : Int} (ha : InRange t a) (hb : InRange tr b) (h : bin op t a b = some v) :
    binary ops op (tyOf t) (repr64 t a) (repr64 tr b) (tyOf (binResTy op t))
      = some (repr64 (binResTy op t) (wrap (binResTy op t) v)) := by
  have hv := Or.inr ht (a := t = IntTy.bool)
  have hr {n : Nat} (hn : n < t.bits) : n < 64 ∧ repr64 tr (n : Int) = n :=
    have h64 := Nat.lt_of_lt_of_le hn (bits_le ht)
    ⟨h64, ofI_natCast (Nat.lt_trans h64 (by decide))⟩
  cases hc : op.isCmp
  · rw [binResTy_ncmp hc]
    cases op <;> try exact absurd hc (by decide)
    case shl =>
      obtain ⟨n, rfl, hn, hl⟩ := shl_defined h
      rw [(hr hn).2]
      exact binary_of_raw_wrap ops ht (raw_shl ops _ _ a (hr hn).1) (arith_some hv hl).2.1
    case shr =>
      obtain ⟨n, rfl, hn, rfl⟩ := shr_defined h
      rw [(hr hn).2]
      exact binary_of_raw_wrap ops ht (raw_shr ops ht _ ha (hr hn).1) rfl
    all_goals obtain rfl : tr = t := hty rfl
    case add => exact binary_of_raw_wrap ops ht (congrArg some (ofI_add a b)) (arith_some hv h).2.1
    case sub => exact binary_of_raw_wrap ops ht (congrArg some (ofI_sub a b)) (arith_some hv h).2.1
    case mul => exact binary_of_raw_wrap ops ht (congrArg some (ofI_mul a b)) (arith_some hv h).2.1
    case div =>
      obtain ⟨hb0, hd⟩ := div_defined h
      exact binary_of_raw_wrap ops ht (raw_div_mod ops ht _ ha hb hb0 (arith_some hv hd).2.2).1
        (arith_some hv hd).2.1
    case mod =>
      obtain ⟨hb0, hq, rfl⟩ := mod_defined h
      exact binary_of_raw_wrap ops ht (raw_div_mod ops ht _ ha hb hb0 hq).2 rfl
    case band =>
      cases h
      exact binary_bitop ops ht (· &&& ·) (fun _ _ => Nat.and_mod_two_pow)
        (fun _ _ hx _ => Nat.lt_of_le_of_lt Nat.and_le_left hx) a b
        (fun _ _ => rfl)
    case bor =>
      cases h
      exact binary_bitop ops ht (· ||| ·) (fun _ _ => Nat.or_mod_two_pow)
        (fun _ _ => Nat.or_lt_two_pow) a b (fun _ _ => rfl)
    case bxor =>
      cases h
      exact binary_bitop ops ht (· ^^^ ·) (fun _ _ => Nat.xor_mod_two_pow)
        (fun _ _ => Nat.xor_lt_two_pow) a b (fun _ _ => rfl)
  · rw [binResTy_cmp hc]
    cases op <;> try exact absurd hc (by decide)
    case lor => exact absurd rfl hop.1
    case land => exact absurd rfl hop.2
    all_goals
      obtain rfl : tr = t := hty rfl
      rw [← Option.some.inj h, wrap_of_inRange (Or.inr int_arith) (inRange_b2i_int _), repr64_b2i]
      refine binary_cmp ops ?_
      rw [tyOf_arith ht]
      refine congrArg (fun c => some (b2n c)) ?_
    case lt => exact (ord_repr64 ht ha hb).1
    case gt => exact (ord_repr64 ht hb ha).1
    case le => exact (ord_repr64 ht ha hb).2
    case ge => exact (ord_repr64 ht hb ha).2
    case eq => exact decide_eq_decide.2 (repr64_inj ht ha hb)
    case ne => exact decide_eq_decide.2 (not_congr (repr64_inj ht ha hb))

theorem unaryNeg_correct {t : IntTy} (ht : t.Arith) {a v : Int} (h : un .neg t a = some v) :
    unaryNeg ops (tyOf t) (tyOf t) (repr64 t a) = repr64 t (wrap t v) := by
  simp only [un] at h
  rw [(arith_some (Or.inr ht) h).2.1]
  have e : (W - repr64 t a) % W = ofI (-a) := by
    have := ofI_sub 0 a
    rwa [show ofI 0 = 0 from rfl, Nat.zero_add, Int.zero_sub] at this
  simp only [unaryNeg, tyOf_arith ht, Ty.isFlt, Bool.false_eq_true, if_false, cast, e, castInt_ofI ht]

theorem xor_two_pow_sub_one {x k : Nat} (h : x < 2 ^ k) : x ^^^ (2 ^ k - 1) = 2 ^ k - 1 - x := by
  apply Nat.eq_of_testBit_eq
  intro i
  rw [Nat.sub_sub, Nat.add_comm 1, Nat.testBit_xor, Nat.testBit_two_pow_sub_one,
    Nat.testBit_two_pow_sub_succ h]
  by_cases hi : i < k
  · simp [hi]
  · have : x < 2 ^ i := Nat.lt_of_lt_of_le h (Nat.pow_le_pow_right (by omega) (by omega))
    simp [hi, Nat.testBit_lt_two_pow this]

end CprocVerif.Eval
