import CprocVerif.Lemmas.Linkage

/-!
`declare` compares the label of a declaration with the label of one entry (`differentAsm`) and copies
it; the label clauses of `judge` come last and yield `unspecified`, which obliges the model to nothing;
`aggCons` touches the field `label` only.  So what the step check says of a declaration follows from
what it says of the same declaration without its label (`Form.unl`), and the table need not run over
labelled forms (`sim_label`).
-/
namespace CprocVerif.Linkage
open CprocVerif.Link

def Form.unl (f : Form) : Form := { f with asm := none }

def setAsm (a : Option Label) (d : Ent) : Ent := { d with asm := a }

def Eff.setAsm (a : Option Label) (e : Eff) : Eff := { e with ent := Linkage.setAsm a e.ent }

/-- the entry whose label `declcommon` compares with the label of `f`, always one with linkage: the same-scope entry (one without
linkage is rejected before labels are looked at), or, for a declaration with linkage inside a function body that is the first in
its block, the file-scope entry -/
def labelPrior (v : View) (f : Form) : Option Ent :=
  match v.same with
  | some p => if p.link = .none then none else some p
  | none =>
    if getlinkage f.kind f.sc (if decide (f.scope = .file) = true then none else v.parent)
        (decide (f.scope = .file)) ≠ .none ∧ ¬ decide (f.scope = .file) = true then
      v.file.filter (·.link ≠ .none)
    else none

theorem declcommon_label (v : View) (f : Form) (μ : Label) (hf : f.asm = some μ) :
    match declcommon v f.unl with
    | .error _ => isError (declcommon v f) = true
    | .ok d0 =>
      if (labelPrior v f).any (·.asm ≠ some μ) then isError (declcommon v f) = true
      else declcommon v f = .ok (setAsm (some μ) d0) := by
  rcases f with ⟨k, sc, fl, s, hd, as⟩
  subst hf
  -- reduce `f.unl` before unfolding: the `Decidable` instances in the two copies differ otherwise
  rw [show (Form.mk k sc fl s hd (some μ)).unl = ⟨k, sc, fl, s, hd, none⟩ from rfl]
  rcases v with ⟨_ | p, vp, vf⟩
  · obtain ⟨l, hl⟩ : ∃ l, getlinkage k sc (if (decide (s = Scope.file)) = true then none else vp)
        (decide (s = .file)) = l := ⟨_, rfl⟩
    simp only [declcommon, labelPrior, hl]
    by_cases hc : l ≠ .none ∧ ¬ (decide (s = Scope.file)) = true
    · simp only [hc]
      rcases vf with _ | q
      · simp [mkEnt, setAsm]
      · by_cases hq : q.link ≠ .none
        · by_cases h1 : q.kind ≠ k
          · simp [h1, hc.1, hq, isError]
          by_cases h2 : q.link ≠ l
          · simp [h1, h2, hc.1, hq, isError]
          by_cases h3 : k = Kind.obj ∧ (q.dur = Dur.thread) ≠ (fl = true)
          · have hk : q.kind = k := Decidable.not_not.1 h1
            simp [hk, h2, h3, hc.1, hq, isError]
          simp only [h1, h2, h3, if_false]
          by_cases h4 : q.asm = some μ <;> simp [h4, hc.1, hq, mkEnt, setAsm, isError]
        · simp only [hq, if_false]
          simp [hc.1, hq, mkEnt, setAsm]
    · simp only [hc, if_false]
      simp [mkEnt, setAsm]
  · simp only [declcommon, labelPrior]
    by_cases h1 : p.link = .none
    · simp [h1, isError]
    by_cases h2 : p.link ≠ getlinkage k sc (some p) (decide (s = .file))
    · simp [h1, h2, isError]
    simp only [h1, h2, if_false]
    by_cases h4 : p.asm = some μ <;> simp [h4, setAsm, isError]
    rw [← h4]

theorem map_ok {α β ε} (g : α → β) (x : α) : Except.map g (.ok x : Except ε α) = .ok (g x) := rfl
theorem map_error {α β ε} (g : α → β) (e : ε) : Except.map g (.error e : Except ε α) = .error e := rfl

/-- what follows `declcommon` neither reads nor changes the label (`declFunc` refuses a definition with a label, one of the
forms `localViol` excludes) -/
theorem declare_setAsm {v : View} {f : Form} {d0 : Ent} (a : Option Label) (hl : localViol f = false)
    (h1 : declcommon v f = .ok (setAsm a d0)) (h0 : declcommon v f.unl = .ok d0) :
    declare v f = (declare v f.unl).map (Eff.setAsm a) := by
  rcases f with ⟨k, sc, fl, s, hd, as⟩
  rw [show (Form.mk k sc fl s hd as).unl = ⟨k, sc, fl, s, hd, none⟩ from rfl] at h0 ⊢
  cases k <;> simp only [declare]
  · unfold declObj
    rw [h1, h0]
    dsimp only
    simp only [apply_ite (Except.map (Eff.setAsm a)), map_ok, map_error, Eff.setAsm, apply_ite (setAsm a)]
    rfl
  · unfold declFunc
    rw [h1, h0]
    dsimp only
    simp only [apply_ite (Except.map (Eff.setAsm a)), map_ok, map_error, Eff.setAsm]
    cases hd
    · rfl
    · have has : as.isSome = false := by simp [localViol] at hl; simp [hl.1.2]
      rw [has]
      rfl

theorem declare_error {v : View} {f : Form} (h : isError (declcommon v f) = true) :
    isError (declare v f) = true := by
  cases hd : declcommon v f with
  | ok d => rw [hd] at h; cases h
  | error e =>
    unfold declare
    cases f.kind
    · simp only [declObj, hd]
      split
      · rfl
      · split <;> rfl
    · simp only [declFunc, hd]
      split
      · rfl
      · split <;> rfl

theorem declare_label (v : View) (f : Form) (μ : Label) (hf : f.asm = some μ) (hl : localViol f = false) :
    match declare v f.unl with
    | .error _ => isError (declare v f) = true
    | .ok e0 =>
      if (labelPrior v f).any (·.asm ≠ some μ) then isError (declare v f) = true
      else declare v f = .ok (e0.setAsm (some μ)) := by
  have hc := declcommon_label v f μ hf
  cases h0 : declcommon v f.unl with
  | error e =>
    rw [h0] at hc
    have e0 : isError (declare v f.unl) = true := declare_error (by rw [h0]; rfl)
    cases h : declare v f.unl with
    | error _ => exact declare_error hc
    | ok e => rw [h] at e0; cases e0
  | ok d0 =>
    rw [h0] at hc
    by_cases hcf : (labelPrior v f).any (·.asm ≠ some μ) = true
    · simp only [hcf, if_true] at hc ⊢
      cases declare v f.unl <;> exact declare_error hc
    · simp only [hcf] at hc ⊢
      rw [declare_setAsm _ hl hc h0]
      cases declare v f.unl <;> rfl

/-- one clause of `judgeA` whose condition does not read the label: the same on both sides of `judgeA_label` (`T` is what the
verdict `ok` of the form without label turns into) -/
theorem ite_pass {c : Prop} [Decidable c] {w x y T : Verdict} (hw : w ≠ .ok)
    (h : x = match y with | .ok => T | w => w) :
    (if c then w else x) = match (if c then w else y) with | .ok => T | w => w := by
  by_cases hc : c
  · rw [if_pos hc, if_pos hc]; cases w <;> first | exact absurd rfl hw | rfl
  · rw [if_neg hc, if_neg hc]; exact h

/-- what the three label clauses at the end of `judge` ask -/
def labelOK (f : Form) (a : Agg) : Prop :=
  ¬ (f.asm.isSome ∧ (c11Link f (a.visLink f) = .none ∨ (a.linkedM.isEmpty ∧ f.scope ≠ .file) ∨
      (¬ a.linkedM.isEmpty ∧ a.label ≠ f.asm)))

instance (f : Form) (a : Agg) : Decidable (labelOK f a) := inferInstanceAs (Decidable (¬ _))

theorem judgeA_label (f : Form) (a : Agg) (hl : localViol f = false) :
    judgeA f a = match judgeA f.unl a with
      | .ok => if labelOK f a then .ok else .unspecified .asmLabel
      | w => w := by
  rcases f with ⟨k, sc, fl, s, hd, as⟩
  have h2 : ¬ (k = .func ∧ hd = true ∧ as.isSome = true) := by
    intro h
    simp [localViol, h] at hl
  rw [show (Form.mk k sc fl s hd as).unl = ⟨k, sc, fl, s, hd, none⟩ from rfl]
  unfold judgeA
  dsimp only
  refine ite_pass ?_ ?_
  · nofun
  rw [if_neg h2, if_neg (show ¬ (k = .func ∧ hd = true ∧ (none : Option Label).isSome = true) by simp)]
  iterate 10
    refine ite_pass ?_ ?_
    · nofun
  refine ite_pass ?_ ?_
  · split <;> nofun
  simp only [Option.isSome_none, Bool.false_eq_true, false_and, if_false, labelOK]
  by_cases h : as.isSome = true
  · by_cases h1 : c11Link ⟨k, sc, fl, s, hd, as⟩ (a.visLink ⟨k, sc, fl, s, hd, as⟩) = .none
    · simp [h, h1]
    by_cases h3 : a.linkedM.isEmpty = true <;> by_cases h4 : s = .file <;> by_cases h5 : a.label = as <;>
      simp [h, h1, h3, h4, h5]
  · simp [h]

theorem aggCons_label (f : Form) (l : Link) (a : Agg) :
    aggCons ⟨f, l⟩ a = { aggCons ⟨f.unl, l⟩ a with
      label := if l ≠ .none then (if a.linkedM.isEmpty then f.asm else a.label) else a.label } := by
  simp only [aggCons, Form.unl, Decl.atFile, Decl.linked]
  cases l <;> rfl

theorem mustReject_label (f : Form) (a : Agg) (hl : localViol f = false) :
    mustReject (judgeA f a) = mustReject (judgeA f.unl a) := by
  rw [judgeA_label f a hl]
  cases judgeA f.unl a <;> try rfl
  simp only; split <;> rfl

theorem unl_of_none {f : Form} (h : f.asm = none) : f.unl = f := by
  cases f; simp only [Form.unl] at h ⊢; rw [h]

theorem declare_unl_error {v : View} {f : Form} (hl : localViol f = false)
    (h : isError (declare v f.unl) = true) : isError (declare v f) = true := by
  rcases hasm : f.asm with _ | μ
  · rwa [unl_of_none hasm] at h
  · have hd := declare_label v f μ hasm hl
    cases h' : declare v f.unl with
    | error e => rw [h'] at hd; exact hd
    | ok e => rw [h'] at h; cases h

theorem labelPrior_mem {v : View} {f : Form} {p : Ent} (h : labelPrior v f = some p) :
    p.link ≠ .none ∧ (v.same = some p ∨ v.file = some p) := by
  unfold labelPrior at h
  split at h
  · rename_i q hq
    by_cases hl : q.link = .none
    · rw [if_pos hl] at h; cases h
    · rw [if_neg hl] at h; cases h; exact ⟨hl, Or.inl hq⟩
  · have := Option.filter_eq_some_iff.1 (Option.ite_none_right_eq_some.1 h).2
    exact ⟨by simpa using this.2, Or.inr this.1⟩

theorem related_label {a : Agg} {file top : Option Ent} (hr : related a file top = true) {p : Ent}
    (hp : file = some p ∨ top = some p) (hl : p.link ≠ .none) : p.asm = a.label ∧ a.linkedM.isEmpty = false := by
  obtain ⟨hv, ha⟩ := related_elim hr
  have hL : ∀ k l, (ghostOf a).lent = some (k, l) → a.linkedM.isEmpty = false := by
    intro k l h
    rw [ha]
    simp [G, lentM, h]
  simp only [valid, Bool.and_eq_true] at hv
  obtain ⟨⟨_, hF⟩, hT⟩ := hv
  rcases hp with rfl | rfl
  · simp only [validFile, Bool.and_eq_true, decide_eq_true_eq] at hF
    obtain ⟨⟨⟨_, hlent⟩, hasm⟩, _⟩ := hF
    exact ⟨hasm, hL _ _ hlent⟩
  · simp only [validTop, hl, if_false, Bool.and_eq_true, decide_eq_true_eq] at hT
    obtain ⟨_, ⟨⟨hlent, hasm⟩, _⟩, _⟩ := hT
    exact ⟨hasm, hL _ _ hlent⟩

theorem viewOf_file (file top : Option Ent) (sc : Scope) : (viewOf file top sc).file = file := by
  cases sc <;> cases top <;> rfl

theorem viewOf_same {file top : Option Ent} {sc : Scope} {p : Ent} (h : (viewOf file top sc).same = some p) :
    file = some p ∨ top = some p := by
  cases sc <;> cases top <;> simp_all [viewOf]

theorem related_relabel {a0 : Agg} {d : Ent} (x : Option Label) (h : related a0 (some d) none = true) :
    related { a0 with label := x } (some (setAsm x d)) none = true := by
  simp only [related, relL, relF, relT, Bool.and_eq_true, beq_iff_eq, validFile, decide_eq_true_eq] at h ⊢
  obtain ⟨⟨⟨⟨⟨hg, h1⟩, h2⟩, h3⟩, ⟨⟨⟨hf, h4⟩, h5⟩, h6⟩⟩, ht⟩ := h
  obtain ⟨⟨⟨hdl, hlent⟩, hasm⟩, hk⟩ := hf
  have hlent' : (ghostOf { a0 with label := x }).lent = some (d.kind, d.link) := hlent
  refine ⟨⟨⟨⟨⟨?_, h1⟩, h2⟩, h3⟩, ⟨⟨⟨⟨⟨⟨hdl, hlent⟩, rfl⟩, hk⟩, h4⟩, h5⟩, h6⟩⟩, ht⟩
  simp only [validGhost, hlent] at hg
  simp only [validGhost, hlent']
  exact hg

theorem sim_label {a : Agg} {file top : Option Ent} {f : Form} (hr : related a file top = true)
    (hf : localViol f = false)
    (h0 : StepOK f.unl a file top) : StepOK f a file top := by
  refine ⟨fun hok => ?_, fun hm => declare_unl_error hf (h0.2 (by rwa [← mustReject_label f a hf]))⟩
  rcases hasm : f.asm with _ | μ
  · rw [unl_of_none hasm] at h0
    exact h0.1 hok
  have hd := declare_label (viewOf file top f.scope) f μ hasm hf
  have hj : judgeA f.unl a = .ok ∧ labelOK f a := by
    rw [judgeA_label f a hf] at hok
    cases h : judgeA f.unl a <;> rw [h] at hok <;> try cases hok
    simp only at hok
    split at hok
    · exact ⟨rfl, ‹_›⟩
    · cases hok
  obtain ⟨hj0, hlab⟩ := hj
  -- `c11Link`, `visLink` and the scope do not read the label
  have hA : Accepts f.unl a (aggCons ⟨f.unl, c11Link f (a.visLink f)⟩ a) (c11Link f (a.visLink f))
      (viewOf file top f.scope) file := h0.1 hj0
  unfold Accepts at hA ⊢
  by_cases hdT : devTStep f a = true
  · rw [if_pos hdT]
    rw [if_pos (show devTStep f.unl a = true from hdT)] at hA
    exact declare_unl_error hf hA
  rw [if_neg hdT]
  rw [if_neg (show ¬ devTStep f.unl a = true from hdT)] at hA
  obtain ⟨e0, hdec0, hrel0, heff0, hemit0⟩ := hA
  rw [hdec0] at hd
  dsimp only at hd
  simp only [labelOK, hasm, Option.isSome_some, true_and, not_or, not_and, Decidable.not_not] at hlab
  obtain ⟨hl1, hl2, hl3⟩ := hlab
  generalize c11Link f (a.visLink f) = l at *
  -- the entry `declcommon` compares labels with carries the entity's label
  have hnc : ¬ (Option.any (fun x => decide (x.asm ≠ some μ)) (labelPrior (viewOf file top f.scope) f) = true) := by
    intro h
    obtain ⟨p, hp, hpa⟩ := (Option.any_eq_true _ _).1 h
    obtain ⟨hpl, hs⟩ := labelPrior_mem hp
    obtain ⟨h1, h2⟩ := related_label hr (hs.elim viewOf_same fun h => Or.inl (viewOf_file file top f.scope ▸ h)) hpl
    have := hl3 (by simp [h2])
    simp [h1, this] at hpa
  rw [if_neg hnc] at hd
  refine ⟨_, hd, ?_⟩
  have heff := heff0
  simp only [effOK, hl1, if_false, Bool.and_eq_true, decide_eq_true_eq] at heff0
  obtain ⟨⟨hlink, _⟩, hasm0, hgl⟩ := heff0
  by_cases hLe : a.linkedM.isEmpty = true
  · -- the first declaration with linkage: at file scope, and it brings the label
    have hsc : f.unl.scope = .file := hl2 hLe
    have ha' : aggCons ⟨f, l⟩ a = { aggCons ⟨f.unl, l⟩ a with label := some μ } := by
      rw [aggCons_label f l a]
      simp [hl1, hLe, hasm]
    rw [ha']
    simp only [hsc, if_true] at hrel0
    simp only [show f.scope = .file from hsc, if_true]
    refine ⟨related_relabel (some μ) hrel0, ?_, hemit0⟩
    simp [effOK, hl1, hLe, hlink, hgl, Eff.setAsm, setAsm]
  · have hLf : a.linkedM.isEmpty = false := by simpa using hLe
    have hlab0 : (aggCons ⟨f.unl, l⟩ a).label = a.label := by simp [aggCons, hLf]
    have ha' : aggCons ⟨f, l⟩ a = aggCons ⟨f.unl, l⟩ a := by
      rw [aggCons_label f l a]
      apply Agg.ext <;> try rfl
      simp [hLf, hlab0]
    have he : Eff.setAsm (some μ) e0 = e0 := by
      have : e0.ent.asm = some μ := by
        rw [hasm0, hlab0, hl3 hLe]
      rcases e0 with ⟨⟨ek, el, ed, et, ei, eu, ea, ⟨⟩⟩, eg, em⟩
      simp only [Eff.setAsm, setAsm] at this ⊢
      rw [this]
    rw [he, ha']
    exact ⟨hrel0, heff, hemit0⟩

end CprocVerif.Linkage
