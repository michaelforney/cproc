/-
  C01, fragment 𝔽₂ — the simulation statement `SimStmt` for `Lower2.funcstmt`, whose side condition `frag` follows
  from `callsOK`/`arrsOK`/`ptrsOK`, and `FuncSimOf` for an emitted function, which `sim_func` proves and a call assumes of
  its callee; the statements that emit nothing or a label; the cast and `store` that end an assignment.
-/
import CprocVerif.Lemmas.Lower2Ctl

set_option linter.unusedSimpArgs false

namespace CprocVerif.LowerMach2
open CprocVerif.Qbe CprocVerif.Lower CprocVerif.Lower2 CprocVerif.CSem CprocVerif.CSem2 CprocVerif.CInt
open CprocVerif.LowerArith CprocVerif.LowerMach CprocVerif.LowerMem

theorem wt_noDead (vtys : List CSem.Ty) (ret : CSem.Ty) (st : Stmt) : ∀ (lb lc : Bool) (nd nd' : Nat),
    Stmt.wt vtys ret lb lc nd st = some nd' → noDead st = true ∧ nd' = nd + (declTys st).length := by
  induction st
  all_goals
    intro lb lc nd nd' h
    simp only [Stmt.wt, Option.ite_none_right_eq_some, Option.ite_none_left_eq_some, Option.some.injEq,
      Option.bind_eq_some_iff, noDead, declTys, List.length_nil, List.length_cons, List.length_append,
      Nat.add_zero, Bool.and_eq_true, Bool.or_eq_true, Bool.not_eq_true'] at h ⊢
  case skip | case_ | default_ => exact ⟨trivial, h.symm⟩
  case seq a b iha ihb =>
    obtain ⟨hej, n1, h1, h2⟩ := h
    obtain ⟨a1, rfl⟩ := iha _ _ _ _ h1
    obtain ⟨b1, rfl⟩ := ihb _ _ _ _ h2
    refine ⟨⟨⟨?_, a1⟩, b1⟩, Nat.add_assoc _ _ _⟩
    cases he : a.endsJump
    · exact Or.inl rfl
    · cases hb : b.startsLabel
      · exact absurd ⟨he, hb⟩ hej
      · exact Or.inr rfl
  case itee a b iha ihb =>
    obtain ⟨_, n1, h1, h2⟩ := h
    obtain ⟨a1, rfl⟩ := iha _ _ _ _ h1
    obtain ⟨b1, rfl⟩ := ihb _ _ _ _ h2
    exact ⟨⟨a1, b1⟩, Nat.add_assoc _ _ _⟩
  case ite ih | while_ ih => exact ih _ _ _ _ h.2
  case dowhile ih =>
    obtain ⟨_, n1, h1, _, rfl⟩ := h
    exact ih _ _ _ _ h1
  case for_ step b _ ihb =>
    obtain ⟨⟨_, hs, _⟩, n1, h1, _, _, rfl⟩ := h
    obtain ⟨b1, rfl⟩ := ihb _ _ _ _ h1
    rw [declTys_simple hs]
    exact ⟨⟨hs, b1⟩, rfl⟩
  case switch_ ih => exact ⟨⟨h.1.2.2.1, (ih _ _ _ _ h.2).1⟩, (ih _ _ _ _ h.2).2⟩
  all_goals exact ⟨trivial, h.2.symm⟩

/-- Every call names a function of the program `P` with the declared types (`CSem2.callsOK`), nothing being required
    when `P` is empty; the array statements agree with the layout `cnts` (`CSem2.arrsOK`), for an expression both
    together being `eok`; and (`CSem2.ptrsOK`) an array parameter is used only in `x = p[i]`, which
    names its window in `W`: elsewhere `W.length ≤ i` (the array parameters are the first variables). -/
def frag (P : List CSem2.Func) (cnts : List Nat) (W : List (CSem.Ty × Nat × Nat)) : Stmt → Bool
  | .decl i _ (some e) | .assign i _ e => eok P cnts e && decide (W.length ≤ i)
  | .expr e | .ret e => eok P cnts e
  | .decl i _ none | .incdec i _ _ => decide (W.length ≤ i)
  | .skip | .break_ | .continue_ => true
  | .seq a b => frag P cnts W a && frag P cnts W b
  | .ite c a => eok P cnts c && frag P cnts W a
  | .itee c a b => eok P cnts c && (frag P cnts W a && frag P cnts W b)
  | .while_ c b => eok P cnts c && frag P cnts W b
  | .dowhile b c => eok P cnts c && frag P cnts W b
  | .for_ none st b => frag P cnts W st && frag P cnts W b
  | .for_ (some c) st b => eok P cnts c && (frag P cnts W st && frag P cnts W b)
  | .case_ _ | .default_ => true
  | .switch_ e b => eok P cnts e && frag P cnts W b
  | .call dst rt fn args =>
    (P.isEmpty || callsOK P (.call dst rt fn args)) &&
      (match dst with
       | some (i, _) => decide (W.length ≤ i)
       | none => true)
  | .adecl i t n xb => arrsOK cnts (.adecl i t n xb) && decide (W.length ≤ i)
  | .aload d dt a t n xb x =>
    arrsOK cnts (.aload d dt a t n xb x) && (decide (W.length ≤ d) && decide (W.length ≤ a))
  | .astore a _ n xb _ v =>
    ((decide (1 ≤ n) && decide (cnts[a]? = some n) && decide (xb = xbase cnts a)) && eok P cnts v) &&
      decide (W.length ≤ a)
  | .ainit a _ n xb j v =>
    ((decide (j < n) && decide (cnts[a]? = some n) && decide (xb = xbase cnts a)) && eok P cnts v) &&
      decide (W.length ≤ a)
  | .pload d _ k t w c0 _ => decide (W.length ≤ d) && decide (W[k]? = some (t, w, c0))
  | .callp dst rt fn pargs args =>
    ((P.isEmpty || callsOK P (.callp dst rt fn pargs args)) && arrsOK cnts (.callp dst rt fn pargs args)) &&
      ((match dst with
        | some (i, _) => decide (W.length ≤ i)
        | none => true) && pargs.all fun a => decide (W.length ≤ a.1))

/-- the windows of a function: element type, length, first cell -/
def funcW (f : CSem2.Func) : List (CSem.Ty × Nat × Nat) :=
  (List.range f.pwin.length).map fun j => ((f.pwin.getD j default).1, (f.pwin.getD j default).2, f.wbase j)

theorem funcW_length (f : CSem2.Func) : (funcW f).length = f.pwin.length := by simp [funcW]

theorem funcW_get (f : CSem2.Func) {k : Nat} {t : CSem.Ty} {w c0 : Nat} :
    (funcW f)[k]? = some (t, w, c0) ↔ f.pwin[k]? = some (t, w) ∧ c0 = f.wbase k := by
  unfold funcW
  by_cases hk : k < f.pwin.length
  · simp only [List.getElem?_map, List.getElem?_range hk, Option.map_some, Option.some.injEq, Prod.mk.injEq,
      List.getD, List.getElem?_eq_getElem hk, Option.getD_some]
    constructor
    · rintro ⟨h1, h2, h3⟩; exact ⟨by rw [← h1, ← h2], h3.symm⟩
    · rintro ⟨h1, h2⟩
      have : f.pwin[k] = (t, w) := h1
      rw [this]; exact ⟨rfl, rfl, h2.symm⟩
  · have h1 : (List.map (fun j => ((f.pwin.getD j default).1, (f.pwin.getD j default).2, f.wbase j))
        (List.range f.pwin.length))[k]? = none := by
      rw [List.getElem?_eq_none]; simp; omega
    rw [h1, List.getElem?_eq_none (by omega)]
    simp

theorem frag_of (P : List CSem2.Func) (f : CSem2.Func) (st : Stmt)
    (h : P.isEmpty = true ∨ callsOK P st = true)
    (ha : arrsOK f.cnts st = true) (hp : ptrsOK f.pwin f.wbase st = true) :
    frag P f.cnts (funcW f) st = true := by
  induction st
  all_goals try cases ‹Option _›
  all_goals
    simp only [frag, eok, callsOK, arrsOK, ptrsOK, funcW_length, funcW_get, Bool.and_eq_true, Bool.or_eq_true,
      decide_eq_true_eq] at h ha hp ⊢
  case decl.none | incdec => exact hp
  case decl.some | assign | callp.none | callp.some => exact ⟨⟨h, ha⟩, hp⟩
  case expr | ret => exact ⟨h, ha⟩
  case call.none => exact ⟨h, trivial⟩
  case call.some => exact ⟨h, hp⟩
  case seq iha ihb | for_.none iha ihb =>
    exact ⟨iha (h.imp_right And.left) ha.1 hp.1, ihb (h.imp_right And.right) ha.2 hp.2⟩
  case ite ih | while_ ih | dowhile ih | switch_ ih =>
    exact ⟨⟨h.imp_right And.left, ha.1⟩, ih (h.imp_right And.right) ha.2 hp⟩
  case itee iha ihb | for_.some iha ihb _ =>
    exact ⟨⟨h.imp_right (·.1.1), ha.1.1⟩, iha (h.imp_right (·.1.2)) ha.1.2 hp.1,
      ihb (h.imp_right And.right) ha.2 hp.2⟩
  case adecl | aload => exact ⟨ha, hp⟩
  case astore | ainit => exact ⟨⟨ha.1, h, ha.2⟩, hp⟩
  case pload => exact ⟨hp.1.1, hp.1.2, hp.2⟩

theorem frag_of_callsOK (P : List CSem2.Func) (f : CSem2.Func) (st : Stmt) (h : callsOK P st = true)
    (ha : arrsOK f.cnts st = true) (hp : ptrsOK f.pwin f.wbase st = true) :
    frag P f.cnts (funcW f) st = true := frag_of P f st (Or.inr h) ha hp

/-- in a single function (`P = []`) no call is ever executed: nothing is required of it -/
theorem frag_nil (f : CSem2.Func) (st : Stmt) (ha : arrsOK f.cnts st = true)
    (hp : ptrsOK f.pwin f.wbase st = true) : frag [] f.cnts (funcW f) st = true :=
  frag_of [] f st (Or.inl rfl) ha hp

/-- Executions with fuel `fuel` of the statement `st` in the activation `T` are simulated (see `Post`).  A jump the
    lowering of the statement leaves set on the open block is the terminator of that block (`TermAt`).  `lp`: the flags
    of `Stmt.wt`, whether `break` / `continue` may occur here; only then `brk` / `cont` have to be labels. -/
def SimOf (T : Stat) (fuel : Nat) (st : Stmt) : Prop :=
  ∀ (s : Store) (out : CSem2.Outcome) (lp : Bool × Bool) (brk cont : String) (c : SCtx)
    (nd nd' : Nat) (pre post : List Item) (env : Env) (M : Mem),
    exec T.S.cs T.P fuel s st = some out →
    frag T.P T.cnts T.W st = true →
    Stmt.wt T.vtys T.ret lp.1 lp.2 nd st = some nd' →
    Pos T c nd pre →
    Ext T (funcstmt T.S.cs brk cont st c).ctx →
    T.S.its = pre ++ (funcstmt T.S.cs brk cont st c).items ++ post →
    (∀ j, (funcstmt T.S.cs brk cont st c).ctx.jump = some j →
      TermAt T (pre ++ (funcstmt T.S.cs brk cont st c).items) j) →
    ((lp.1 = true → CanJump T.S brk) ∧ (lp.2 = true → CanJump T.S cont)) →
    SInv T.M0 T.S.cs T.cnts T.W T.σ T.vtys s env M →
    Post T brk cont (T.at env M pre) (pre ++ (funcstmt T.S.cs brk cont st c).items)
      (funcstmt T.S.cs brk cont st c).ctx out

def SimStmt (T : Stat) (fuel : Nat) : Prop := ∀ st, SimOf T fuel st

/-- Executions with fuel `n` of the body of `g`, a function of the C program `P`, are simulated in the IL program `p`
    as activations of the emitted function, on top of any frames (`rest`) and any memory `M` of a caller with room for
    `d` activations: entered with the parameters bound in `env0` and the stack pointer lowered by the frame cost, the
    activation runs to a `ret` that delivers a representation of the returned value to the frames below, with the
    memory `M`.  `ρ`: the arguments of the C execution, `ρm`: those of the machine (they differ in the array
    arguments: C passes windows, where it has no integer, the machine addresses). -/
def FuncSimOf (cs : Bool) (P : List CSem2.Func) (p : Prog) (ext : Qbe.Ext) (K d : Nat) (g : CSem2.Func) (n : Nat) :
    Prop :=
  ∀ (sid : Nat) (ρ ρm : List Int) (ws : List (Option Int)) (v : Int) (M : Mem)
    (rest : List Qbe.Frame) (tr : Array String) (env0 : Env),
  EnvOK cs g.params ρ → MemInv M → Room K d M → M.sp ≤ stackTop →
  (∀ k, g.pwin.length ≤ k → ρm[k]? = ρ[k]?) → ρm.length = g.params.length →
  (∀ (k : Nat) (t : CSem.Ty) (v' : Int), g.params[k]? = some t → ρm[k]? = some v' →
    ∃ r, env0[tmpName (2 * k + 1)]? = some r ∧ StoreVal t v' r) →
  WinOK cs g ws ρm M →
  exec cs P n (initStore g ρ ws) g.body = some (.ret v) →
  ∃ k st r, Reach p ext k
      (mkSt ⟨FuncInfo.of (Lower2.emitFunc cs sid g), M.stack.size, M.sp, rest, tr⟩ env0
        { M with sp := M.sp - frameCost } 0 0) st ∧
    step p ext st = retCont p rest M tr (.scalar r) ∧ RetRep g.ret v r ∧ InRange (g.ret.intTy cs) v

theorem Stat.at_nil (T : Stat) (env : Env) (M : Mem) (pre : List Item) : T.at env M pre = T.at env M (pre ++ []) := by
  rw [List.append_nil]

section Leaves
variable (T : Stat) {s : Store} {c : SCtx} {nd : Nat} {pre post : List Item} {env : Env} {M : Mem}

theorem sim_skip (n : Nat) : SimOf T (n + 1) .skip := by
  intro s out lp brk cont c nd nd' pre post env M hex _ _ hp _ _ _ _ inv
  -- unfolding `exec` here makes its equations once for all the files that follow
  simp only [exec, Option.some.injEq] at hex
  subst hex
  exact ⟨⟨0, env, M, T.at_nil env M pre, inv⟩, fun _ _ => hp.jump⟩

/-- `funcjmp(l)` where nothing is emitted -/
theorem sim_jump (hp : Pos T c nd pre) {l : String}
    (hterm : ∀ j, (c.setJump (.jmp l)).jump = some j → TermAt T (pre ++ []) j) (hl : CanJump T.S l) :
    ∃ st, T.Reach 1 (T.at env M pre) st ∧ AtLabel T.S l env M st := by
  obtain ⟨st, hs, hat⟩ := (hterm (.jmp l) (by
    show some (c.jump.getD (.jmp l)) = _
    rw [hp.jump]; rfl)).jmp hl env M
  rw [← T.at_nil env M pre] at hs
  exact ⟨st, Reach.one hs, hat⟩

theorem sim_break (n : Nat) : SimOf T (n + 1) .break_ := by
  intro s out lp brk cont c nd nd' pre post env M hex _ hwt hp _ _ hterm hlp inv
  cases Option.some.inj hex
  have hlp1 : lp.1 = true := by
    cases h : lp.1
    · have : (if lp.1 = true then some nd else none) = some nd' := hwt
      rw [h] at this; cases this
    · rfl
  obtain ⟨st, hr, hat⟩ := sim_jump T (env := env) (M := M) hp hterm (hlp.1 hlp1)
  exact ⟨⟨1, env, M, st, inv, hr, hat⟩, fun _ h => by cases h⟩

theorem sim_continue (n : Nat) : SimOf T (n + 1) .continue_ := by
  intro s out lp brk cont c nd nd' pre post env M hex _ hwt hp _ _ hterm hlp inv
  cases Option.some.inj hex
  have hlp2 : lp.2 = true := by
    cases h : lp.2
    · have : (if lp.2 = true then some nd else none) = some nd' := hwt
      rw [h] at this; cases this
    · rfl
  obtain ⟨st, hr, hat⟩ := sim_jump T (env := env) (M := M) hp hterm (hlp.2 hlp2)
  exact ⟨⟨1, env, M, st, inv, hr, hat⟩, fun _ h => by cases h⟩

/-- `case u:` / `default:` reached by falling through from the statement before -/
theorem sim_label (n : Nat) (st : Stmt) (hst : (∃ u, st = .case_ u) ∨ st = .default_) : SimOf T (n + 1) st := by
  intro s out lp brk cont c nd nd' pre post env M hex _ _ hp _ hits _ _ inv
  have hj := hp.jump
  obtain ⟨l, b, cur, j, sl⟩ := c
  cases hj
  rcases hst with ⟨u, rfl⟩ | rfl <;> cases Option.some.inj hex <;>
    exact ⟨⟨1, env, M, Reach.one (step_fall_item T (hits.trans (List.append_assoc _ _ _)) env M), inv⟩,
      fun _ _ => rfl⟩

theorem sim_decl_none (n : Nat) (i : Nat) (t : CSem.Ty) : SimOf T (n + 1) (.decl i t none) := by
  intro s out lp brk cont c nd nd' pre post env M hex _ _ hp _ _ _ _ inv
  cases Option.some.inj hex
  exact ⟨⟨0, env, M, T.at_nil env M pre, inv.forget i⟩, fun _ _ => hp.jump⟩

theorem sim_store (k : Nat) (t : CSem.Ty) (val : Val) (slot : Nat) {pos : List Item}
    (hits : T.S.its = pos ++ storeIns t val slot :: post) (hslot : T.σ.getD k 0 = slot)
    (hkt : T.vtys[k]? = some t) (hWk : T.W.length ≤ k) {v : Int} {r : RVal}
    (hval : readVal T.S.p env val = .ok r)
    (hv : InRange (t.intTy T.S.cs) v) (hr : StoreVal t v r)
    (inv : SInv T.M0 T.S.cs T.cnts T.W T.σ T.vtys s env M) :
    ∃ M', T.Reach 1 (T.at env M pos) (T.at env M' (pos ++ [storeIns t val slot])) ∧
      SInv T.M0 T.S.cs T.cnts T.W T.σ T.vtys (s.set k (some v)) env M' := by
  obtain ⟨a, M', h1, h2, h3⟩ := inv.store hkt hWk hv hr
  rw [hslot] at h1
  exact ⟨M', run_nores T hits (readVals_two hval (readVal_tmp h1)) h2, h3⟩

end Leaves

theorem readVal_tmp_inv {p : Prog} {env : Env} {n : String} {v : RVal}
    (h : readVal p env (.tmp n) = .ok v) : env[n]? = some v := by
  simp only [readVal] at h
  split at h
  · rename_i x hx
    rw [hx, Except.ok.inj h]
  · cases h

theorem castOut_le {cs : Bool} {c1 : Ctx} {t rt : CSem.Ty} {l : Val} {ov : Out}
    (hov : (if t = rt then (⟨[], l, c1⟩ : Out) else convert cs c1 t rt l) = ov) : c1.lastid ≤ ov.ctx.lastid := by
  subst hov
  split
  · exact Nat.le_refl _
  · exact (convert_straight _ _ _ _ _).lastid

/-- the cast of a value to the type of the assigned variable (`mkassignexpr`: only between different types) -/
theorem sim_castOut (T : Stat) (c1 : Ctx) (t rt : CSem.Ty) (l : Val) {ov : Out}
    (hov : (if t = rt then (⟨[], l, c1⟩ : Out) else convert T.S.cs c1 t rt l) = ov)
    {pos post : List Item} {env2 : Env} {M : Mem} {v : Int} {r' : RVal}
    (hits : T.S.its = pos ++ ov.items ++ post)
    (hl : readVal T.S.p env2 l = .ok r') (hrep : Rep rt v r') (hrg : InRange (rt.intTy T.S.cs) v) :
    ∃ n env3 r3, T.Reach n (T.at env2 M pos) (T.at env3 M (pos ++ ov.items)) ∧
      Frame c1.lastid ov.ctx.lastid env2 env3 ∧ readVal T.S.p env3 ov.val = .ok r3 ∧
      Rep t (conv (rt.intTy T.S.cs) (t.intTy T.S.cs) v) r3 := by
  subst hov
  by_cases h : t = rt
  · subst h
    simp only [if_true, List.append_nil]
    refine ⟨0, env2, r', rfl, Frame.refl _ _ _, hl, ?_⟩
    show Rep t (wrap (t.intTy T.S.cs) v) r'
    rw [wrap_of_inRange (ty_valid T.S.cs t) hrg]
    exact hrep
  · simp only [if_neg h] at hits ⊢
    obtain ⟨n, env3, hreach, hfr, r3, hval, hrep3, _⟩ := sim_convert (setM T.S M) c1 t rt l pos post env2 v r'
      hits hl hrep hrg
    exact ⟨n, env3, r3, hreach, hfr, hval, hrep3⟩

section
variable (T : Stat) {s : Store} {c : SCtx} {nd : Nat} {pre post : List Item}

/-- the tail of every statement that assigns the result of a call or the element of an array -/
theorem sim_cast_store (hp : Pos T c nd pre) (c1 : Ctx) (hc1 : c.lastid ≤ c1.lastid) (t rt : CSem.Ty) (l : Val)
    (i : Nat) {ov : Out} (hov : (if t = rt then (⟨[], l, c1⟩ : Out) else convert T.S.cs c1 t rt l) = ov)
    (hext : Ext T (c.upd ov.ctx)) {pos : List Item}
    (hits : T.S.its = pos ++ (ov.items ++ storeIns t ov.val (c.slots.getD i 0) :: post))
    (hi : i < nd) (hkt : T.vtys[i]? = some t) (hW : T.W.length ≤ i) {env2 : Env} {v : Int} {r' : RVal}
    (hl : readVal T.S.p env2 l = .ok r') (hrep : Rep rt v r') (hrg : InRange (rt.intTy T.S.cs) v)
    (inv2 : SInv T.M0 T.S.cs T.cnts T.W T.σ T.vtys s env2 M) :
    ∃ n env3 M', T.Reach n (T.at env2 M pos)
        (T.at env3 M' (pos ++ ov.items ++ [storeIns t ov.val (c.slots.getD i 0)])) ∧
      SInv T.M0 T.S.cs T.cnts T.W T.σ T.vtys
        (s.set i (some (conv (rt.intTy T.S.cs) (t.intTy T.S.cs) v))) env3 M' := by
  have h1 := its_app hits
  obtain ⟨n3, env3, r3, hreach3, hfr3, hval3, hrep3⟩ := sim_castOut T c1 t rt l hov h1 hl hrep hrg
  have inv3 := inv2.frame hp hext rfl (Nat.le_refl _) (hfr3.mono hc1 (Nat.le_refl _))
  obtain ⟨M', hr4, inv4⟩ := sim_store T i t ov.val (c.slots.getD i 0) h1 ((hp.ext hext rfl).1 i hi) hkt hW hval3
    (wrap_inRange (ty_valid T.S.cs t) _) (storeVal_of_rep hrep3) inv3
  exact ⟨n3 + 1, env3, M', hreach3.trans hr4, inv4⟩

end

end CprocVerif.LowerMach2
