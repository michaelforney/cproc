/-
  C01, fragment 𝔽₂ — local arrays: `T a[n];`, `x = a[i];` (`a[i] = e;` is in `Lemmas/Lower2Leaf3.lean`).  The element
  address is computed as the parser built it (`(unsigned long)i * sizeof *a`, added to the slot address of `a`),
  the load / store goes to the bytes of element `i` inside the one allocation of `a`.
-/
import CprocVerif.Lemmas.Lower2Leaf

set_option linter.unusedSimpArgs false

namespace CprocVerif.LowerMach2
open CprocVerif.Qbe CprocVerif.Lower CprocVerif.Lower2 CprocVerif.CSem CprocVerif.CSem2 CprocVerif.CInt
open CprocVerif.LowerArith CprocVerif.LowerMach CprocVerif.LowerMem

theorem wrap_ulong (cs : Bool) (v : Int) (h0 : 0 ≤ v) (hlt : v < 2 ^ 64) :
    wrap (CSem.Ty.ulong.intTy cs) v = v := by
  have hI : CSem.Ty.ulong.intTy cs = ⟨64, false⟩ := by cases cs <;> rfl
  rw [hI]
  simp only [wrap, Nat.reduceEqDiff, if_false, Bool.false_eq_true]
  exact Int.emod_eq_of_lt h0 hlt

theorem offOf_eval (cs : Bool) (vt : List CSem.Ty) (s : Store) (t : CSem.Ty) (idx : Expr) (iv : Int)
    (hwt : idx.wt vt = true) (hev : evalE cs s idx = some iv) (h0 : 0 ≤ iv)
    (hlt : iv * (t.size : Int) < 2 ^ 64) :
    (offOf t idx).wt vt = true ∧ evalE cs s (offOf t idx) = some (iv * (t.size : Int)) := by
  have hsz := ty_size_bounds t
  have hiv : iv < 2 ^ 64 := by
    have : iv * 1 ≤ iv * (t.size : Int) := Int.mul_le_mul_of_nonneg_left (by omega) h0
    omega
  have hw1 := wrap_ulong cs iv h0 hiv
  have hw2 := wrap_ulong cs (t.size : Int) (by omega) (by omega)
  have hw3 := wrap_ulong cs (iv * (t.size : Int)) (Int.mul_nonneg h0 (by omega)) hlt
  have hus : (CSem.Ty.ulong.intTy cs).signed = false := by cases cs <;> rfl
  have hcw : (Expr.const .ulong t.size).wt vt = true := by
    simp only [Expr.wt, Bool.and_eq_true, decide_eq_true_eq, Bool.or_eq_true, bne_iff_ne, ne_eq]
    exact ⟨by omega, Or.inl (by decide)⟩
  unfold offOf
  by_cases hty : idx.ty = .ulong
  · rw [if_pos hty]
    constructor
    · have e : Expr.wt vt (.bin .mul .ulong idx (.const .ulong t.size)) =
          (idx.wt vt && (Expr.const .ulong t.size).wt vt &&
            (idx.ty == .ulong && (Expr.const .ulong t.size).ty == .ulong && CSem.Ty.ulong.promoted)) := rfl
      rw [e, hwt, hcw, hty]; rfl
    · simp only [evalE, hev, Option.bind_some]
      rw [hty]
      simp only [bin, arith, hus, Bool.false_eq_true, if_false, hw2, hw3]
  · rw [if_neg hty]
    constructor
    · have e : Expr.wt vt (.bin .mul .ulong (.cast .ulong idx) (.const .ulong t.size)) =
          (idx.wt vt && (Expr.const .ulong t.size).wt vt &&
            ((Expr.cast .ulong idx).ty == .ulong && (Expr.const .ulong t.size).ty == .ulong &&
              CSem.Ty.ulong.promoted)) := rfl
      rw [e, hwt, hcw]; rfl
    · simp only [evalE, hev, Option.map_some, Option.bind_some, Expr.ty, conv, hw1, bin, arith, hus,
        Bool.false_eq_true, if_false, hw2, hw3]

theorem sim_addr (T : Stat) (slots : List Nat) (vt : List CSem.Ty) (s : Store) (M : Mem)
    (hrange : ∀ (i : Nat) (t : CSem.Ty) (v' : Int), vt[i]? = some t → s[i]? = some (some v') →
      InRange (t.intTy T.S.cs) v')
    (k : Ctx) (slot : Nat) (t : CSem.Ty) (idx : Expr) (iv : Int) (a : UInt64) {pre post : List Item}
    {env : Env} (hwt : idx.wt vt = true) (hev : evalE T.S.cs s idx = some iv) (h0 : 0 ≤ iv)
    (hlt : a.toNat + iv.toNat * t.size < 2 ^ 64)
    (hits : T.S.its = pre ++ (lowerAddr T.S.cs slots k slot t idx).items ++ post)
    (hcur : curOf T.S.o0 pre = k.cur) (hcok : CurOK k)
    (hn : ∀ (i : Nat) (t : CSem.Ty), vt[i]? = some t → slots.getD i 0 ≤ k.lastid)
    (hvars : VarsIn (setM T.S M) slots vt s env)
    (hslot : env[tmpName slot]? = some ⟨.l, a⟩) (hsl : slot ≤ k.lastid) :
    ∃ n env' ra, T.Reach n (T.at env M pre) (T.at env' M (pre ++ (lowerAddr T.S.cs slots k slot t idx).items)) ∧
      Frame k.lastid (lowerAddr T.S.cs slots k slot t idx).ctx.lastid env env' ∧
      readVal T.S.p env' (lowerAddr T.S.cs slots k slot t idx).val = .ok ⟨.l, ra⟩ ∧
      ra.toNat = a.toNat + iv.toNat * t.size := by
  have hivn : ((iv.toNat : Nat) : Int) = iv := Int.toNat_of_nonneg h0
  have hlt' : iv * (t.size : Int) < 2 ^ 64 := by
    have : ((iv.toNat * t.size : Nat) : Int) < 2 ^ 64 := by
      have : iv.toNat * t.size < 2 ^ 64 := by omega
      exact_mod_cast this
    rw [Int.natCast_mul, hivn] at this
    exact this
  obtain ⟨hwo, heo⟩ := offOf_eval T.S.cs vt s t idx iv hwt hev h0 hlt'
  have g := funcexpr2_good T.S.cs slots (offOf t idx) k
  simp only [lowerAddr, Out.seq] at hits ⊢
  have hits1 := its_mid hits
  have h1 := run_expr2 (setM T.S M) slots vt s hrange (offOf t idx) k pre _ env _ hwo heo hits1 hcur hcok hn
    hvars
  have hl := g.lastid
  have hR : RunsTo (setM T.S M) k.lastid
      (funcinst (funcexpr2 T.S.cs slots (offOf t idx) k).ctx .add .l
        [.tmp (tmpName slot), (funcexpr2 T.S.cs slots (offOf t idx) k).val]).ctx.lastid env pre
      ((funcexpr2 T.S.cs slots (offOf t idx) k).items ++
        (funcinst (funcexpr2 T.S.cs slots (offOf t idx) k).ctx .add .l
          [.tmp (tmpName slot), (funcexpr2 T.S.cs slots (offOf t idx) k).val]).items)
      (funcinst (funcexpr2 T.S.cs slots (offOf t idx) k).ctx .add .l
        [.tmp (tmpName slot), (funcexpr2 T.S.cs slots (offOf t idx) k).val]).val
      (fun r => ∃ ra : UInt64, r = ⟨.l, ra⟩ ∧ ra.toNat = a.toNat + iv.toNat * t.size) := by
    refine RunsTo.seq h1 hl (Nat.le_succ _) ?_
    intro env1 r1 hfr1 hv1 ⟨hrep1, _⟩
    have hrep1' : LRep (iv * (t.size : Int)) r1 := by
      have : (offOf t idx).ty = .ulong := rfl
      rw [this] at hrep1
      simpa [Rep, Ty.size] using hrep1
    obtain ⟨x, hx, hxv⟩ := hrep1'
    have hxn : x.toNat = iv.toNat * t.size := by
      have h2 : (x.toNat : Int) = iv * (t.size : Int) := by
        rw [hxv]; exact Int.emod_eq_of_lt (Int.mul_nonneg h0 (by omega)) hlt'
      have h3 : (x.toNat : Int) = ((iv.toNat * t.size : Nat) : Int) := by
        rw [Int.natCast_mul, hivn]; exact h2
      exact_mod_cast h3
    have hs1 : env1[tmpName slot]? = some ⟨.l, a⟩ := by
      rw [hfr1 slot (Or.inl hsl)]; exact hslot
    refine run_funcinst (setM T.S M) _ .add .l _ (its_app hits1)
      (readVals_two (readVal_tmp hs1) hv1)
      (exec_arith (Or.inl rfl) _ none (x := a) (y := x) (z := a + x) rfl hx rfl) ?_
    refine ⟨a + x, rfl, ?_⟩
    rw [UInt64.toNat_add, hxn]
    exact Nat.mod_eq_of_lt hlt
  obtain ⟨n, env', hreach, hfr, r, hval, ra, hr, hra⟩ := hR
  subst hr
  exact ⟨n, env', ra, hreach, hfr, hval, hra⟩

section
variable (T : Stat) {s : Store} {out : CSem2.Outcome} {lp : Bool × Bool} {brk cont : String} {c : SCtx}
  {nd nd' : Nat} {pre post : List Item} {env : Env} {M : Mem}

/-- `T a[n];`: the `alloc` has been executed in the start block; the elements hold no value -/
theorem sim_adecl (n : Nat) (i : Nat) (t : CSem.Ty) (cnt xb : Nat) :
    SimOf T (n + 1) (.adecl i t cnt xb) := by
  intro s out lp brk cont c nd nd' pre post env M hex _ _ hp _ _ _ _ inv
  simp only [exec, Option.some.injEq] at hex
  subst hex
  simp only [funcstmt, List.append_nil]
  exact ⟨⟨0, env, M, rfl, inv.clear _⟩, fun _ _ => hp.jump⟩

/-- the tail of `x = a[i];` and of `x = p[i];` -/
theorem sim_load_store (hp : Pos T c nd pre) (ca : Ctx) (hca : c.lastid ≤ ca.lastid) (av : Val) (t dt : CSem.Ty)
    (dst : Nat) {ol ov : Out} (hol : funcinst ca (.load (loadOf T.S.cs t)) (cls t) [av] = ol)
    (hov : (if dt = t then (⟨[], ol.val, ol.ctx⟩ : Out) else convert T.S.cs ol.ctx dt t ol.val) = ov)
    (hext : Ext T (c.upd ov.ctx)) {pos : List Item}
    (hits : T.S.its = pos ++ (ol.items ++ (ov.items ++ storeIns dt ov.val (c.slots.getD dst 0) :: post)))
    (hdst : dst < nd) (hdt : T.vtys[dst]? = some dt) (hWd : T.W.length ≤ dst) {env1 : Env} {ra : UInt64} {v : Int}
    (hval1 : readVal T.S.p env1 av = .ok ⟨.l, ra⟩)
    (hload : ∃ r, execOp (.load (loadOf T.S.cs t)) (some (cls t)) [⟨.l, ra⟩] M none = .ok (r, M) ∧ Rep t v r)
    (hrgv : InRange (t.intTy T.S.cs) v) (inv1 : SInv T.M0 T.S.cs T.cnts T.W T.σ T.vtys s env1 M) :
    ∃ n env3 M', T.Reach n (T.at env1 M pos)
        (T.at env3 M' (pos ++ ol.items ++ ov.items ++ [storeIns dt ov.val (c.slots.getD dst 0)])) ∧
      SInv T.M0 T.S.cs T.cnts T.W T.σ T.vtys
        (s.set dst (some (conv (t.intTy T.S.cs) (dt.intTy T.S.cs) v))) env3 M' := by
  obtain ⟨r, hxl, hrep⟩ := hload
  have h1 := its_app hits
  subst hol
  obtain ⟨n2, env2, hreach2, hfr2, r2, hval2, hrep2⟩ := run_funcinst (setM T.S M) ca
    (.load (loadOf T.S.cs t)) (cls t) [av] (P := fun r => Rep t v r) h1 (readVals_one hval1) hxl hrep
  have hle := castOut_le hov
  have inv2 := inv1.frame hp hext rfl hle (hfr2.mono hca (Nat.le_refl _))
  obtain ⟨n3, env3, M', hreach3, inv3⟩ := sim_cast_store T hp _ (Nat.le_succ_of_le hca) dt t _ dst hov hext h1
    hdst hdt hWd hval2 hrep2 hrgv inv2
  exact ⟨n2 + n3, env3, M', hreach2.trans hreach3, inv3⟩

theorem sim_aload (n : Nat) (dst : Nat) (dt : CSem.Ty) (arr : Nat) (t : CSem.Ty) (cnt xb : Nat) (idx : Expr) :
    SimOf T (n + 1) (.aload dst dt arr t cnt xb idx) := by
  intro s out lp brk cont c nd nd' pre post env M hex hfr hwt hp hext hits _ _ inv
  simp only [exec, Option.bind_eq_some_iff] at hex
  obtain ⟨iv, hev, hex⟩ := hex
  split at hex
  · rename_i hiv
    simp only [Option.map_eq_some_iff] at hex
    obtain ⟨v, hv, rfl⟩ := hex
    simp only [frag, arrsOK, Bool.and_eq_true, decide_eq_true_eq] at hfr
    obtain ⟨⟨⟨hc1, hcn⟩, hxb⟩, hWd, -⟩ := hfr
    subst hxb
    simp only [Stmt.wt] at hwt
    split at hwt
    · rename_i hw
      obtain ⟨hdst, hdt, harr, hkt, hwi⟩ := hw
      have he : iv.toNat < T.cnts.getD arr 1 := by simp only [List.getD, hcn, Option.getD_some]; omega
      have hvv := join_some hv
      obtain ⟨a, ha1, habound, hload⟩ := inv.a.loadAt T.S.cs (lt_of_get hkt) hkt he hvv
      obtain ⟨oa, hoa⟩ : ∃ oa, lowerAddr T.S.cs c.slots c.ctx (c.slots.getD arr 0) t idx = oa := ⟨_, rfl⟩
      obtain ⟨ol, hol⟩ : ∃ ol, funcinst oa.ctx (.load (loadOf T.S.cs t)) (cls t) [oa.val] = ol := ⟨_, rfl⟩
      obtain ⟨ov, hov⟩ : ∃ ov, (if dt = t then (⟨[], ol.val, ol.ctx⟩ : Out)
        else convert T.S.cs ol.ctx dt t ol.val) = ov := ⟨_, rfl⟩
      simp only [funcstmt, funcopen_none hp.jump, List.nil_append, hoa, hol, hov] at hext hits ⊢
      simp only [List.append_assoc, List.cons_append, List.nil_append] at hits
      have hl1 : c.lastid ≤ oa.ctx.lastid := hoa ▸ (lowerAddr_isGood T.S.cs c.slots c.ctx (c.slots.getD arr 0) t idx).lastid
      have hpre := (hp.ext hext rfl).1
      obtain ⟨hvars, hrange⟩ := inv.vars hpre
      have hle : oa.ctx.lastid ≤ ov.ctx.lastid :=
        Nat.le_trans (hol ▸ Nat.le_succ _) (castOut_le hov)
      obtain ⟨n1, env1, ra, hreach1, hfr1, hval1, hra⟩ := sim_addr T c.slots (T.vtys.take nd) s M hrange c.ctx
        (c.slots.getD arr 0) t idx iv a hwi hev hiv.1 habound (hoa ▸ its_app hits) hp.cur hp.curOK
        (fun i t' ht => hp.le i (take_get ht).2) hvars (hpre arr harr ▸ ha1) (hp.le arr harr)
      rw [hoa] at hreach1 hfr1 hval1
      have inv1 := inv.frame hp hext rfl hle hfr1
      obtain ⟨n2, env3, M', hreach2, inv3⟩ := sim_load_store T hp oa.ctx hl1 oa.val t dt dst hol hov hext
        (its_app hits) hdst hdt hWd hval1 (hload ra hra) (inv.xrange arr iv.toNat t v hkt he hvv) inv1
      exact ⟨⟨n1 + n2, env3, M', by
        simpa only [List.append_assoc, List.cons_append, List.nil_append] using hreach1.trans hreach2, inv3⟩,
        fun _ _ => hp.jump⟩
    · cases hwt
  · cases hex

end

end CprocVerif.LowerMach2
