import CprocVerif.Spec.Lex

/-! Lemmas about the 6.4 reference itself (no model involved): closed forms for the longest
identifier / pp-number prefix (`ppTailLen`, greedy), and where `findCommentEnd` and
`dropWhile (· ≠ NL)` stop on a comment of the grammar. -/

namespace CprocVerif.Spec.Lex

theorem forall_uint8 {P : UInt8 → Prop} (h : ∀ n : Fin 256, P (UInt8.ofNat n.val)) : ∀ c, P c := by
  intro c
  have := h ⟨c.toNat, c.toNat_lt⟩
  simpa using this

theorem prefix_all_le_takeWhile (p : UInt8 → Bool) :
    ∀ (r v : List UInt8), v <+: r → (∀ x ∈ v, p x = true) → v.length ≤ (r.takeWhile p).length
  | _, [], _, _ => Nat.zero_le _
  | [], _ :: _, hv, _ => nomatch List.prefix_nil.mp hv
  | a :: r, b :: v, hv, hall => by
    obtain ⟨rfl, hv'⟩ := List.cons_prefix_cons.mp hv
    rw [List.takeWhile_cons, if_pos (hall b (List.mem_cons_self ..))]
    exact Nat.succ_le_succ
      (prefix_all_le_takeWhile p r v hv' fun x hx => hall x (List.mem_cons_of_mem _ hx))

theorem isLongest_ident (c : UInt8) (r : List UInt8) (hc : isNondigit c = true) :
    IsLongest IsIdentifier (c :: r) (c :: r.takeWhile isIdentCont) := by
  refine ⟨?_, ⟨c, _, rfl, hc, ?_⟩, ?_⟩
  · exact List.cons_prefix_cons.mpr ⟨rfl, List.takeWhile_prefix _⟩
  · exact List.all_eq_true.mp List.all_takeWhile
  · intro v hv ⟨c', r', hv', _, hall⟩
    subst hv'
    have h := List.cons_prefix_cons.mp hv
    have := prefix_all_le_takeWhile isIdentCont r r' h.2 hall
    simp only [List.length_cons]; omega

theorem IsIdentifier.head {c : UInt8} {r : List UInt8} (h : IsIdentifier (c :: r)) :
    isNondigit c = true := by
  obtain ⟨c', r', h1, h2, _⟩ := h
  cases h1; exact h2

def isItem (c : UInt8) : Bool := isDigit c || isNondigit c || c = c! '.'

/-- length of the longest `PPTail` prefix (greedy) -/
def ppTailLen : List UInt8 → Nat
  | [] => 0
  | [c] => if isItem c then 1 else 0
  | e :: s :: r =>
    if isExpLetter e ∧ isSign s then 2 + ppTailLen r
    else if isItem e then 1 + ppTailLen (s :: r) else 0

theorem isItem_iff (c : UInt8) :
    isItem c = true ↔ (isDigit c = true ∨ isNondigit c = true ∨ c = c! '.') := by
  simp [isItem, Bool.or_eq_true, or_assoc]

theorem sign_not_item {s : UInt8} (h : isSign s = true) : isItem s = false := by
  simp only [isSign, Bool.or_eq_true, decide_eq_true_eq] at h
  rcases h with rfl | rfl <;> rfl

theorem sign_not_exp {s : UInt8} (h : isSign s = true) : isExpLetter s = false := by
  simp only [isSign, Bool.or_eq_true, decide_eq_true_eq] at h
  rcases h with rfl | rfl <;> rfl

theorem exp_is_item {e : UInt8} (h : isExpLetter e = true) : isItem e = true := by
  simp only [isExpLetter, Bool.or_eq_true, decide_eq_true_eq] at h
  rcases h with ((rfl | rfl) | rfl) | rfl <;> rfl

theorem ppTail_take : ∀ cs : List UInt8, PPTail (cs.take (ppTailLen cs)) := by
  intro cs
  fun_induction ppTailLen cs with
  | case1 => exact .nil
  | case2 c h => simp only [List.take_succ_cons, List.take_zero]; exact .one _ _ ((isItem_iff c).mp h) .nil
  | case3 c h => exact .nil
  | case4 e s r h ih =>
    simp only [show 2 + ppTailLen r = (ppTailLen r + 1) + 1 by omega, List.take_succ_cons]
    exact .exp _ _ _ h.1 h.2 ih
  | case5 e s r h hi ih =>
    simp only [show 1 + ppTailLen (s :: r) = ppTailLen (s :: r) + 1 by omega, List.take_succ_cons]
    exact .one _ _ ((isItem_iff e).mp hi) ih
  | case6 e s r h hi => exact .nil

/-- `ppTailLen` when the previous character was an exponent letter -/
def ppTailLenExp : List UInt8 → Nat
  | s :: r => if isSign s then 1 + ppTailLen r else ppTailLen (s :: r)
  | [] => 0

theorem ppTailLen_cons (c : UInt8) (r : List UInt8) :
    ppTailLen (c :: r) =
      if isExpLetter c then 1 + ppTailLenExp r else if isItem c then 1 + ppTailLen r else 0 := by
  cases r with
  | nil => by_cases h : isExpLetter c = true <;> simp [ppTailLen, ppTailLenExp, h, exp_is_item]
  | cons s r =>
    rw [ppTailLen, ppTailLenExp]
    by_cases h : isExpLetter c = true <;> by_cases hs : isSign s = true <;>
      simp [h, hs, exp_is_item] <;> omega

theorem ppTailLen_le_exp : ∀ cs : List UInt8, ppTailLen cs ≤ ppTailLenExp cs
  | [] => Nat.le_refl _
  | s :: r => by
    rw [ppTailLenExp]
    split
    · rename_i hs
      rw [ppTailLen_cons, sign_not_exp hs, sign_not_item hs]
      exact Nat.zero_le _
    · exact Nat.le_refl _

theorem ppTail_le : ∀ (v : List UInt8), PPTail v → ∀ cs, v <+: cs → v.length ≤ ppTailLen cs := by
  intro v hv
  induction hv with
  | nil => intro cs _; exact Nat.zero_le _
  | one c v hi _ ih =>
    intro cs hp
    cases cs with
    | nil => cases List.prefix_nil.mp hp
    | cons c' cs' =>
      obtain ⟨rfl, hp'⟩ := List.cons_prefix_cons.mp hp
      have := ih cs' hp'
      have := ppTailLen_le_exp cs'
      rw [ppTailLen_cons, (isItem_iff c).mpr hi, if_pos rfl, List.length_cons]
      split <;> omega
  | exp e s v he hs _ ih =>
    intro cs hp
    match cs, hp with
    | [], hp => cases List.prefix_nil.mp hp
    | [_], hp => cases List.prefix_nil.mp (List.cons_prefix_cons.mp hp).2
    | e' :: s' :: r, hp =>
      obtain ⟨rfl, h2⟩ := List.cons_prefix_cons.mp hp
      obtain ⟨rfl, h3⟩ := List.cons_prefix_cons.mp h2
      have := ih r h3
      rw [ppTailLen_cons, he, if_pos rfl, ppTailLenExp, if_pos hs]
      simp only [List.length_cons]; omega

theorem ppTailLen_le (cs : List UInt8) : ppTailLen cs ≤ cs.length := by
  fun_induction ppTailLen cs <;> simp only [List.length_cons, List.length_nil] at * <;> omega

theorem isLongest_ppTail (cs : List UInt8) : IsLongest PPTail cs (cs.take (ppTailLen cs)) :=
  ⟨List.take_prefix _ _, ppTail_take cs, fun v hv hp => by
    have h1 := ppTail_le v hp cs hv
    have h2 := ppTailLen_le cs
    simp only [List.length_take]; omega⟩

theorem digit_ne_dot {d : UInt8} (h : isDigit d = true) : d ≠ c! '.' := by
  rintro rfl; exact absurd h (by decide)

theorem isLongest_ppNumber_digit (d : UInt8) (r : List UInt8) (hd : isDigit d = true) :
    IsLongest PPNumber (d :: r) (d :: r.take (ppTailLen r)) := by
  refine ⟨List.cons_prefix_cons.mpr ⟨rfl, List.take_prefix _ _⟩, .digit d _ hd (ppTail_take r), ?_⟩
  intro v hv hp
  cases hp with
  | digit d' v' _ ht =>
    exact Nat.succ_le_succ ((isLongest_ppTail r).2.2 v' (List.cons_prefix_cons.mp hv).2 ht)
  | dot d' v' _ _ => exact absurd (List.cons_prefix_cons.mp hv).1.symm (digit_ne_dot hd)

theorem isLongest_ppNumber_dot (d : UInt8) (r : List UInt8) (hd : isDigit d = true) :
    IsLongest PPNumber (c! '.' :: d :: r) (c! '.' :: d :: r.take (ppTailLen r)) := by
  refine ⟨List.cons_prefix_cons.mpr ⟨rfl, List.cons_prefix_cons.mpr ⟨rfl, List.take_prefix _ _⟩⟩,
    .dot d _ hd (ppTail_take r), ?_⟩
  intro v hv hp
  cases hp with
  | digit d' v' hd' _ => exact absurd (List.cons_prefix_cons.mp hv).1 (digit_ne_dot hd')
  | dot d' v' _ ht =>
    have h2 := List.cons_prefix_cons.mp (List.cons_prefix_cons.mp hv).2
    exact Nat.succ_le_succ (Nat.succ_le_succ ((isLongest_ppTail r).2.2 v' h2.2 ht))

theorem findCommentEnd_first : ∀ (body rest : List UInt8), ¬ (b!"*/" <:+: body ++ [c! '*']) →
    findCommentEnd (body ++ b!"*/" ++ rest) = some (body.length + 2)
  | [], rest, _ => by simp [findCommentEnd]
  | a :: body, rest, h => by
    have h' : ¬ (b!"*/" <:+: body ++ [c! '*']) := fun ⟨x, y, e⟩ => h ⟨a :: x, y, by simp [← e]⟩
    obtain ⟨b, t, hb⟩ : ∃ b t, body ++ b!"*/" ++ rest = b :: t := by
      cases body <;> exact ⟨_, _, rfl⟩
    have hne : ¬ (a = c! '*' ∧ b = c! '/') := by
      rintro ⟨rfl, rfl⟩
      cases body with
      | nil => cases hb
      | cons b' body' => cases hb; exact h ⟨[], body' ++ [c! '*'], rfl⟩
    rw [List.cons_append, List.cons_append, hb, findCommentEnd, if_neg hne, ← hb,
      findCommentEnd_first body rest h']
    rfl

theorem findCommentEnd_ge : ∀ (t : List UInt8) (k : Nat), findCommentEnd t = some k →
    2 ≤ k ∧ k ≤ t.length
  | [], _, h => by simp [findCommentEnd] at h
  | [_], _, h => by simp [findCommentEnd] at h
  | a :: b :: r, k, h => by
    rw [findCommentEnd] at h
    split at h
    · cases h; simp
    · cases hf : findCommentEnd (b :: r) with
      | none => rw [hf] at h; cases h
      | some k' =>
        rw [hf] at h; cases h
        have := findCommentEnd_ge (b :: r) k' hf
        simp only [List.length_cons] at this ⊢; omega

theorem dropWhile_ne_nl (body rest : List UInt8) (h : NL ∉ body)
    (hr : rest = [] ∨ rest.head? = some NL) : (body ++ rest).dropWhile (· ≠ NL) = rest := by
  rw [List.dropWhile_append_of_pos fun a ha => by simpa using fun e : a = NL => h (e ▸ ha)]
  rcases hr with rfl | hr
  · rfl
  · cases rest with
    | nil => cases hr
    | cons a r => cases hr; simp

end CprocVerif.Spec.Lex
