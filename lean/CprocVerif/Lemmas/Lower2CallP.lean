/-
  C01, fragment 𝔽₂ — calls as statements.  `callp` passes local arrays to read-only array parameters: the array
  argument decays to the address in its slot; the callee sees the elements through the window cells of its store.
  `[x =] f(args);` (`sim_call`) is the instance without array arguments.
-/
import CprocVerif.Lemmas.Lower2Call

set_option linter.unusedSimpArgs false

namespace CprocVerif.LowerMach2
open CprocVerif.Qbe CprocVerif.Lower CprocVerif.Lower2 CprocVerif.CSem CprocVerif.CSem2 CprocVerif.CInt
open CprocVerif.LowerArith CprocVerif.LowerMach CprocVerif.LowerMem

theorem windows_get (s : Store) : ∀ (pw : List (CSem.Ty × Nat)) (pa : List (Nat × CSem.Ty × Nat × Nat)) (j : Nat)
    (t : CSem.Ty) (w : Nat) (a : Nat × CSem.Ty × Nat × Nat),
    pw[j]? = some (t, w) → pa[j]? = some a → ∀ e, e < w →
    (windows s pw pa)[((pw.take j).map (·.2)).sum + e]? = some ((s[ecell a.1 a.2.2.2 e]?).join) := by
  intro pw
  induction pw with
  | nil => intro pa j t w a h; simp at h
  | cons q pw ih =>
    intro pa j t w a hq ha e he
    obtain ⟨t0, w0⟩ := q
    cases pa with
    | nil => simp at ha
    | cons a0 pa =>
      obtain ⟨arr, t1, n1, xb⟩ := a0
      simp only [windows]
      cases j with
      | zero =>
        simp only [List.getElem?_cons_zero, Option.some.injEq, Prod.mk.injEq] at hq ha
        obtain ⟨rfl, rfl⟩ := hq
        subst ha
        simp only [List.take_zero, List.map_nil, List.sum_nil, Nat.zero_add]
        rw [List.getElem?_append_left (by simpa using he)]
        simp [List.getElem?_range he]
      | succ j =>
        simp only [List.getElem?_cons_succ] at hq ha
        simp only [List.take_succ_cons, List.map_cons, List.sum_cons]
        rw [List.getElem?_append_right (by simp; omega)]
        simp only [List.length_map, List.length_range]
        have : w0 + ((pw.take j).map (·.2)).sum + e - w0 = ((pw.take j).map (·.2)).sum + e := by omega
        rw [this]
        exact ih pa j t w a hq ha e he

theorem argReps_ptrs : ∀ (prs : List UInt64),
    ArgReps (List.replicate prs.length CSem.Ty.ulong) (prs.map fun x => (x.toNat : Int))
      (prs.map fun x => (⟨.l, x⟩ : RVal)) := by
  intro prs
  induction prs with
  | nil => simp [ArgReps]
  | cons x prs ih =>
    simp only [List.length_cons, List.replicate_succ, List.map_cons, ArgReps]
    refine ⟨?_, ih⟩
    show (if CSem.Ty.ulong.size = 8 then LRep _ _ else _)
    rw [if_pos (show CSem.Ty.ulong.size = 8 from rfl)]
    refine ⟨x, by simp [RVal.asL], ?_⟩
    have := x.toNat_lt
    omega

theorem envOK_ptrs (cs : Bool) (m : Nat) {ts : List CSem.Ty} {vs : List Int} (h : EnvOK cs ts vs) :
    EnvOK cs (List.replicate m CSem.Ty.ulong ++ ts) (List.replicate m 0 ++ vs) := by
  refine ⟨by simp [h.1], ?_⟩
  intro i t v ht hv
  by_cases hi : i < m
  · rw [List.getElem?_append_left (by simpa using hi), List.getElem?_replicate] at ht hv
    simp only [hi, if_true, Option.some.injEq] at ht hv
    subst ht; subst hv
    cases cs <;> decide
  · rw [List.getElem?_append_right (by simpa using hi)] at ht hv
    simp only [List.length_replicate] at ht hv
    exact h.2 _ t v ht hv

theorem sim_pargs (T : Stat) {s : Store} {env : Env} {M : Mem}
    (inv : SInv T.M0 T.S.cs T.cnts T.W T.σ T.vtys s env M) (slots : List Nat) (nd : Nat)
    (hpre : ∀ i, i < nd → T.σ.getD i 0 = slots.getD i 0) :
    ∀ (pargs : List (Nat × CSem.Ty × Nat × Nat)),
      pargs.all (fun a => decide (a.1 < nd) && (T.vtys[a.1]? == some a.2.1)) = true →
      ∃ prs : List UInt64, prs.length = pargs.length ∧
        readVals T.S.p env (pargs.map fun a => Val.tmp (tmpName (slots.getD a.1 0))) =
          .ok (prs.map fun x => (⟨.l, x⟩ : RVal)) ∧
        ∀ (j : Nat) (a : Nat × CSem.Ty × Nat × Nat), pargs[j]? = some a →
          ∃ x, prs[j]? = some x ∧ env[tmpName (T.σ.getD a.1 0)]? = some ⟨.l, x⟩ := by
  intro pargs
  induction pargs with
  | nil => intro _; exact ⟨[], rfl, rfl, by intro j a h; simp at h⟩
  | cons a pargs ih =>
    intro hall
    simp only [List.all_cons, Bool.and_eq_true, decide_eq_true_eq, beq_iff_eq] at hall
    obtain ⟨⟨hnd, hkt⟩, hrest⟩ := hall
    obtain ⟨prs, hl, hrd, hget⟩ := ih (by simpa [Bool.and_eq_true] using hrest)
    obtain ⟨x, h1, _⟩ := inv.a.window (lt_of_get hkt) hkt
    refine ⟨x :: prs, by simp [hl], ?_, ?_⟩
    · simp only [List.map_cons]
      exact readVals_cons (readVal_tmp (by rw [← hpre a.1 hnd]; exact h1)) hrd
    · intro j a' hj
      cases j with
      | zero =>
        simp only [List.getElem?_cons_zero, Option.some.injEq] at hj
        subst hj
        exact ⟨x, rfl, h1⟩
      | succ j =>
        simp only [List.getElem?_cons_succ] at hj ⊢
        exact hget j a' hj

/-- `pargs` as in `Stmt.callp` (`Model/CSem2`): per array argument the variable, the element type, the length, `xbase`.
    `hpwz` and `hparr` are the conjuncts of `callsOK` and `arrsOK` on it, as `simp` leaves them in `sim_callcoreP`. -/
theorem SInv.winOK {T : Stat} {s : Store} {env : Env} {M : Mem}
    (inv : SInv T.M0 T.S.cs T.cnts T.W T.σ T.vtys s env M) {g : CSem2.Func}
    {pargs : List (Nat × CSem.Ty × Nat × Nat)} {prs : List UInt64} (rest : List Int)
    (hpwl : g.pwin.length = pargs.length) (hprl : prs.length = pargs.length)
    (hpwz : (List.zipWith (fun (pw : CSem.Ty × Nat) (pa : Nat × CSem.Ty × Nat × Nat) =>
      pw.1 == pa.2.1 && decide (pw.2 ≤ pa.2.2.1)) g.pwin pargs).all id = true)
    (hparr : pargs.all (fun a => decide (1 ≤ a.2.2.1) && decide (T.cnts[a.1]? = some a.2.2.1) &&
      decide (a.2.2.2 = xbase T.cnts a.1)) = true)
    (hpwt : ∀ a ∈ pargs, T.vtys[a.1]? = some a.2.1)
    (hprget : ∀ (j : Nat) (a : Nat × CSem.Ty × Nat × Nat), pargs[j]? = some a →
      ∃ x, prs[j]? = some x ∧ env[tmpName (T.σ.getD a.1 0)]? = some ⟨.l, x⟩) :
    WinOK T.S.cs g (windows s g.pwin pargs) ((prs.map fun x => (x.toNat : Int)) ++ rest) M := by
  intro j t w hq
  have hj : j < pargs.length := by rw [← hpwl]; exact lt_of_get hq
  obtain ⟨a, ha⟩ : ∃ a, pargs[j]? = some a := ⟨pargs[j], List.getElem?_eq_getElem hj⟩
  have hz : (t == a.2.1 && decide (w ≤ a.2.2.1)) = true :=
    List.all_eq_true.1 hpwz _ (List.mem_of_getElem? (by rw [List.getElem?_zipWith, hq, ha]; rfl))
  simp only [Bool.and_eq_true, beq_iff_eq, decide_eq_true_eq] at hz
  obtain ⟨rfl, hwn⟩ := hz
  have harr := List.all_eq_true.1 hparr a (List.mem_of_getElem? ha)
  simp only [Bool.and_eq_true, decide_eq_true_eq] at harr
  obtain ⟨⟨hn1, hcn⟩, hxb⟩ := harr
  have hkt := hpwt a (List.mem_of_getElem? ha)
  have hcd : T.cnts.getD a.1 1 = a.2.2.1 := by simp [List.getD, hcn]
  obtain ⟨x, hx, hxe⟩ := hprget j a ha
  obtain ⟨x', h1, hwin⟩ := inv.a.window (lt_of_get hkt) hkt
  cases (RVal.mk.inj (Option.some.inj (hxe.symm.trans h1))).2
  have hws : ∀ e v', e < w → (windows s g.pwin pargs)[((g.pwin.take j).map (·.2)).sum + e]? = some (some v') →
      s[ecell a.1 (xbase T.cnts a.1) e]? = some (some v') := fun e v' he hv' => by
    rw [windows_get s g.pwin pargs j _ w a hq ha e he] at hv'
    exact hxb ▸ join_some (Option.some.inj hv')
  refine ⟨x, ?_, hwin.mono (hcd ▸ hwn) hws, fun e v' he hv' =>
    inv.xrange a.1 e a.2.1 v' hkt (by rw [hcd]; omega) (hws e v' he hv')⟩
  rw [List.getElem?_append_left (by simp [hprl]; exact hj), List.getElem?_map, hx]; rfl

section
variable (T : Stat) {s : Store} {lp : Bool × Bool} {brk cont : String} {c : SCtx}
  {nd : Nat} {pre post : List Item} {env : Env} {M : Mem}

/-- The machine passes the addresses in the slots of the arrays; the C execution shows the callee their elements as
    windows and passes 0 in their place (`exec`; `initStore` drops the arguments of the array parameters). -/
theorem sim_callcoreP (n : Nat) (hf : FuncSim T n) {dst : Option (Nat × CSem.Ty)} {rt : CSem.Ty} {fn : String}
    {pargs : List (Nat × CSem.Ty × Nat × Nat)} {args : List Expr} {g : CSem2.Func} {vs : List Int} {v : Int}
    (hlk : lookup T.P fn = some g) (hcall : callsOK T.P (.callp dst rt fn pargs args) = true)
    (hparr : arrsOK T.cnts (.callp dst rt fn pargs args) = true)
    (hpwt : pargs.all (fun a => decide (a.1 < nd) && (T.vtys[a.1]? == some a.2.1)) = true)
    (hvs : evalArgs T.S.cs s args = some vs)
    (hbody : exec T.S.cs T.P n (initStore g (List.replicate g.pwin.length 0 ++ vs) (windows s g.pwin pargs))
      g.body = some (.ret v))
    (hwa : args.all (fun e => e.wt (T.vtys.take nd)) = true) (hp : Pos T c nd pre)
    (hpre : ∀ i, i < nd → T.σ.getD i 0 = c.slots.getD i 0) {la : List Item × List (Qbe.Ty × Val) × Ctx}
    (hla : lowerArgs T.S.cs c.slots args c.ctx = la)
    (hfut : ∀ k, nd ≤ k → k < T.vtys.length → la.2.2.lastid + 1 < T.σ.getD k 0)
    (hits : T.S.its = pre ++ la.1 ++ .ins (.call (some (tmpName (la.2.2.lastid + 1), .base (cls rt)))
      (.glob fn false) (pargs.map (fun a => ((Qbe.Ty.base .l, Val.tmp (tmpName (c.slots.getD a.1 0))) :
        Qbe.Ty × Val)) ++ la.2.1) none) :: post)
    (inv : SInv T.M0 T.S.cs T.cnts T.W T.σ T.vtys s env M) :
    ∃ k env2 r', T.Reach k (T.at env M pre) (T.at env2 M (pre ++ la.1 ++
        [.ins (.call (some (tmpName (la.2.2.lastid + 1), .base (cls rt))) (.glob fn false)
          (pargs.map (fun a => ((Qbe.Ty.base .l, Val.tmp (tmpName (c.slots.getD a.1 0))) : Qbe.Ty × Val)) ++
            la.2.1) none)])) ∧
      SInv T.M0 T.S.cs T.cnts T.W T.σ T.vtys s env2 M ∧
      readVal T.S.p env2 (.tmp (tmpName (la.2.2.lastid + 1))) = .ok r' ∧
      Rep rt v r' ∧ InRange (rt.intTy T.S.cs) v := by
  subst hla
  simp only [callsOK, hlk, Bool.and_eq_true, beq_iff_eq] at hcall
  obtain ⟨⟨⟨hret, hpar⟩, hpwl⟩, hpwz⟩ := hcall
  simp only [arrsOK] at hparr
  obtain ⟨hvars, hrange⟩ := inv.vars hpre
  obtain ⟨n1, env1, rs, hreach1, hfr1, hrd1, hreps1, htys1, hok1⟩ := sim_args T c.slots (T.vtys.take nd) s M hrange
    args c.ctx pre _ env vs hwa hvs hits hp.cur hp.curOK (fun i t ht => hp.le i (take_get ht).2) hvars
  have hl1 := lowerArgs_lastid T.S.cs c.slots args c.ctx
  have inv1 : SInv T.M0 T.S.cs T.cnts T.W T.σ T.vtys s env1 M :=
    inv.env (slots_kept hp hpre (fun k hk hkv => Nat.lt_of_succ_lt (hfut k hk hkv)) hfr1)
  obtain ⟨prs, hprl, hprd, hprget⟩ := sim_pargs T inv1 c.slots nd hpre pargs hpwt
  obtain ⟨k, r', hreach2, hrep', hrg⟩ := sim_invoke T n hf hlk hret hits inv1
    (rs := (prs.map fun x => (⟨.l, x⟩ : RVal)) ++ rs) (ρm := (prs.map fun x => (x.toNat : Int)) ++ vs)
    (by rw [List.map_append, List.map_map]; exact readVals_append hprd hrd1)
    (by
      rw [List.map_append, List.map_map, htys1, hpar, List.map_append, List.map_map, List.map_replicate]
      exact congrArg (· ++ _) (List.map_eq_replicate_iff.2 fun _ _ => rfl))
    (hpar ▸ hprl ▸ (argReps_ptrs prs).append hreps1)
    (hpar ▸ hpwl ▸ envOK_ptrs T.S.cs _ hok1)
    (fun k hk => by
      rw [List.getElem?_append_right (by simp [hprl, ← hpwl]; exact hk),
        List.getElem?_append_right (by simpa using hk)]
      simp [hprl, hpwl])
    (inv1.winOK vs hpwl hprl hpwz hparr (fun a ha => by
      have := List.all_eq_true.1 hpwt a ha
      simp only [Bool.and_eq_true, beq_iff_eq] at this
      exact this.2) hprget)
    hbody
  have hfr2 : Frame c.lastid ((lowerArgs T.S.cs c.slots args c.ctx).2.2.lastid + 1) env1
      (env1.insert (tmpName ((lowerArgs T.S.cs c.slots args c.ctx).2.2.lastid + 1)) r') :=
    Frame.insert env1 r' (Nat.lt_succ_of_le hl1) (Nat.le_refl _)
  exact ⟨n1 + k, _, r', hreach1.trans hreach2, inv1.env (slots_kept hp hpre hfut hfr2),
    readVal_insert_self _ _ _ _, hrep', hrg⟩

theorem sim_callp (n : Nat) (hf : FuncSim T n) (dst : Option (Nat × CSem.Ty)) (rt : CSem.Ty)
    (fn : String) (pargs : List (Nat × CSem.Ty × Nat × Nat)) (args : List Expr) :
    SimOf T (n + 1) (.callp dst rt fn pargs args) := by
  intro s out lp brk cont c nd nd' pre post env M hex hfr hwt hp hext hits _ _ inv
  obtain ⟨g, vs, v, hlk, hvs, hbody, rfl⟩ := exec_callp_some hex
  have hne := isEmpty_of_lookup hlk
  simp only [frag, hne, Bool.false_or, Bool.and_eq_true] at hfr
  obtain ⟨⟨hcall, hparr⟩, hdst, -⟩ := hfr
  simp only [Stmt.wt] at hwt
  split at hwt
  · rename_i hw
    obtain ⟨la, hla⟩ : ∃ la, lowerArgs T.S.cs c.slots args c.ctx = la := ⟨_, rfl⟩
    simp only [dstOK, Bool.and_eq_true, decide_eq_true_eq, beq_iff_eq] at hw
    cases dst with
    | none =>
      simp only [funcstmt, funcopen_none hp.jump, List.nil_append, hla] at hext hits ⊢
      obtain ⟨hpre, hfut⟩ := hp.ext hext rfl
      obtain ⟨k, env2, r', hreach, inv2, -⟩ := sim_callcoreP T (post := post) n hf hlk hcall hparr hw.2.2
        hvs hbody hw.1 hp hpre hla hfut
        (by rw [hits]; simp only [List.append_assoc, List.singleton_append, List.nil_append]) inv
      exact ⟨⟨k, env2, M, List.append_assoc _ _ _ ▸ hreach, inv2⟩, fun _ _ => hp.jump⟩
    | some d =>
      obtain ⟨i, t⟩ := d
      simp only [decide_eq_true_eq] at hdst
      simp only [Bool.and_eq_true, decide_eq_true_eq, beq_iff_eq] at hw
      simp only [funcstmt, funcopen_none hp.jump, List.nil_append, hla] at hext hits ⊢
      obtain ⟨ov, hov⟩ : ∃ ov, (if t = rt then (⟨[], .tmp (tmpName (la.2.2.lastid + 1)),
          ⟨la.2.2.lastid + 1, la.2.2.blockid, la.2.2.cur⟩⟩ : Out)
        else convert T.S.cs ⟨la.2.2.lastid + 1, la.2.2.blockid, la.2.2.cur⟩ t rt
          (.tmp (tmpName (la.2.2.lastid + 1)))) = ov := ⟨_, rfl⟩
      simp only [hov] at hext hits ⊢
      simp only [List.append_assoc, List.cons_append, List.nil_append] at hits
      have h1 := its_app hits
      obtain ⟨hpre, hfut⟩ := hp.ext hext rfl
      have hl1 : c.lastid ≤ la.2.2.lastid := hla ▸ lowerArgs_lastid T.S.cs c.slots args c.ctx
      obtain ⟨k, env2, r', hreach, inv2, hval2, hrep2, hrg⟩ := sim_callcoreP T n hf hlk hcall hparr
        hw.2.2 hvs hbody hw.1 hp hpre hla
        (fun k hk hkv => Nat.lt_of_le_of_lt (castOut_le hov) (hfut k hk hkv)) h1 inv
      obtain ⟨n3, env3, M', hreach3, inv4⟩ := sim_cast_store T hp _ (Nat.le_succ_of_le hl1) t rt _ i hov hext
        (its_snoc h1) hw.2.1.1 hw.2.1.2 hdst hval2 hrep2 hrg inv2
      exact ⟨⟨k + n3, env3, M', by
        simpa only [List.append_assoc, List.cons_append, List.nil_append] using hreach.trans hreach3, inv4⟩,
        fun _ _ => hp.jump⟩
  · cases hwt

/-- `[x =] f(args);` is the call with no array argument -/
theorem sim_call (n : Nat) (hf : FuncSim T n) (dst : Option (Nat × CSem.Ty)) (rt : CSem.Ty)
    (fn : String) (args : List Expr) :
    SimOf T (n + 1) (.call dst rt fn args) := by
  intro s out lp brk cont c nd nd' pre post env M hex hfr hwt hp hext hits hterm hlp inv
  cases hlk : lookup T.P fn with
  | none => simp only [exec, hlk] at hex; cases hex
  | some g =>
    have hne := isEmpty_of_lookup hlk
    simp only [frag, hne, Bool.false_or, callsOK, hlk, Bool.and_eq_true, beq_iff_eq, List.isEmpty_iff] at hfr
    obtain ⟨⟨⟨hret, hpar⟩, hpw⟩, hdst⟩ := hfr
    -- `funcstmt` on `.call dst rt fn args` and on `.callp dst rt fn [] args` unfold to the same output: `hext`, `hits`,
    -- `hterm` pass as they are
    refine sim_callp T n hf dst rt fn [] args s out lp brk cont c nd nd' pre post env M ?_ ?_ ?_ hp hext hits hterm
      hlp inv
    · rw [← hex]
      simp only [exec, hlk, hpw]
      rfl
    · simp only [frag, hne, Bool.false_or, callsOK, hlk, arrsOK, hret, ← hpar, hpw, hdst, List.length_nil,
        List.replicate_zero, List.nil_append, List.zipWith_nil_left, List.all_nil, Bool.and_true, beq_self_eq_true]
    · simp only [Stmt.wt] at hwt ⊢
      split at hwt
      · rename_i hw
        rw [if_pos ⟨hw.1, hw.2, rfl⟩]; exact hwt
      · cases hwt

end

end CprocVerif.LowerMach2
