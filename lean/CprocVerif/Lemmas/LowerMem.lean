/-
  C01 — the memory of `Spec/Qbe` as far as the slots of parameters and locals need it: little-endian
  load after store, the binary search of `Mem.find`, and the invariant of the stack allocations
  (`MemInv`) under which an address inside one of them is found, loaded from and stored to.
-/
import CprocVerif.Spec.Qbe

namespace CprocVerif.LowerMem
open CprocVerif.Qbe

theorem get!_eq (b : ByteArray) (i : Nat) : b.get! i = b[i]! := by
  cases b with
  | mk bs =>
    show bs[i]! = (ByteArray.mk bs)[i]!
    by_cases h : i < bs.size
    · rw [getElem!_pos bs i h, getElem!_pos (ByteArray.mk bs) i h]; rfl
    · rw [getElem!_neg bs i h, getElem!_neg (ByteArray.mk bs) i h]

theorem storeLE_size (b : ByteArray) (off : Nat) (v : UInt64) (n : Nat) :
    (storeLE b off v n).size = b.size := by
  induction n generalizing b off v with
  | zero => rfl
  | succ n ih => simp only [storeLE]; rw [ih, ByteArray.size_set!]

theorem storeLE_get_lt (b : ByteArray) (off : Nat) (v : UInt64) (n k : Nat) (hk : k < off) :
    (storeLE b off v n).get! k = b.get! k := by
  induction n generalizing b off v with
  | zero => rfl
  | succ n ih =>
    simp only [storeLE]
    rw [ih _ _ _ (by omega), get!_eq, get!_eq, ByteArray.getElem!_set!_ne _ _ _ _ (by omega)]

theorem or_shift8 (x y : Nat) (hx : x < 2 ^ 8) : x ||| y <<< 8 = x + y * 2 ^ 8 := by
  rw [Nat.or_comm, ← Nat.shiftLeft_add_eq_or_of_lt hx, Nat.shiftLeft_eq]
  omega

theorem load_store (n : Nat) (hn : n ≤ 8) : ∀ (b : ByteArray) (off : Nat) (v : UInt64),
    off + n ≤ b.size → (loadLE (storeLE b off v n) off n).toNat = v.toNat % 2 ^ (8 * n) := by
  induction n with
  | zero => intro b off v _; simp [loadLE]; exact (Nat.mod_one _).symm
  | succ n ih =>
    intro b off v hsz
    simp only [storeLE, loadLE]
    have ih' := ih (by omega) (b.set! off v.toUInt8) (off + 1) (v >>> 8)
      (by rw [ByteArray.size_set!]; omega)
    have hget : (storeLE (b.set! off v.toUInt8) (off + 1) (v >>> 8) n).get! off = v.toUInt8 := by
      rw [storeLE_get_lt _ _ _ _ _ (by omega), get!_eq, ByteArray.getElem!_set!_self _ _ _ (by omega)]
    rw [hget, UInt64.toNat_or, UInt64.toNat_shiftLeft, ih']
    have h8 : (8 : UInt64).toNat % 64 = 8 := by decide
    have hshr : (v >>> 8).toNat = v.toNat / 2 ^ 8 := by
      rw [UInt64.toNat_shiftRight, h8, Nat.shiftRight_eq_div_pow]
    rw [h8, hshr, UInt8.toNat_toUInt64, UInt64.toNat_toUInt8]
    have hlt : v.toNat / 2 ^ 8 % 2 ^ (8 * n) < 2 ^ 56 := by
      have h1 : v.toNat / 2 ^ 8 % 2 ^ (8 * n) < 2 ^ (8 * n) := Nat.mod_lt _ (Nat.pow_pos (by decide))
      have h2 : 2 ^ (8 * n) ≤ 2 ^ 56 := Nat.pow_le_pow_right (by decide) (by omega)
      omega
    have hm : (v.toNat / 2 ^ 8 % 2 ^ (8 * n)) <<< 8 % 2 ^ 64 = (v.toNat / 2 ^ 8 % 2 ^ (8 * n)) <<< 8 := by
      apply Nat.mod_eq_of_lt
      rw [Nat.shiftLeft_eq]
      omega
    rw [hm, or_shift8 _ _ (Nat.mod_lt _ (by decide))]
    have e : 2 ^ (8 * (n + 1)) = 2 ^ 8 * 2 ^ (8 * n) := by
      rw [← Nat.pow_add]; congr 1; omega
    rw [e, Nat.mod_mul]
    omega

theorem pushZeros_size (b : ByteArray) (n : Nat) : (pushZeros b n).size = b.size + n := by
  induction n generalizing b with
  | zero => rfl
  | succ n ih => simp only [pushZeros]; rw [ih, ByteArray.size_push]; omega

theorem bsearch_spec (p : Nat → Bool) (j : Nat) : ∀ (fuel lo hi : Nat), hi - lo < 2 ^ fuel →
    lo ≤ j → j ≤ hi → (∀ i, lo ≤ i → i < hi → (p i = true ↔ j ≤ i)) → bsearch p fuel lo hi = j := by
  intro fuel
  induction fuel with
  | zero => intro lo hi h1 h2 h3 _; simp only [bsearch]; simp at h1; omega
  | succ f ih =>
    intro lo hi h1 h2 h3 hp
    simp only [bsearch]
    by_cases hlt : lo < hi
    · simp only [hlt, if_true]
      have hmid1 : lo ≤ (lo + hi) / 2 := by omega
      have hmid2 : (lo + hi) / 2 < hi := by omega
      have h2f : 2 ^ (f + 1) = 2 * 2 ^ f := by rw [Nat.pow_succ]; omega
      by_cases hpm : p ((lo + hi) / 2) = true
      · simp only [hpm, if_true]
        have := (hp _ hmid1 hmid2).1 hpm
        exact ih lo ((lo + hi) / 2) (by omega) h2 this (fun i h4 h5 => hp i h4 (by omega))
      · simp only [hpm, Bool.false_eq_true, if_false]
        have : ¬ j ≤ (lo + hi) / 2 := fun h => hpm ((hp _ hmid1 hmid2).2 h)
        exact ih ((lo + hi) / 2 + 1) hi (by omega) (by omega) h3 (fun i h4 h5 => hp i (by omega) h5)
    · simp only [hlt, if_false]; omega

theorem bsearchBase_eq (a : Array Alloc) (addr : Nat) (le : Bool) : ∀ (fuel lo hi : Nat),
    bsearchBase a addr le fuel lo hi =
      bsearch (fun i => if le then decide ((a.getD i default).base ≤ addr)
        else decide ((a.getD i default).base > addr)) fuel lo hi := by
  intro fuel
  induction fuel with
  | zero => intro lo hi; rfl
  | succ f ih =>
    intro lo hi
    simp only [bsearchBase, bsearch]
    split
    · cases le <;> simp only [Bool.false_eq_true, if_false, if_true, decide_eq_true_eq, ih]
    · rfl

structure MemInv (M : Mem) : Prop where
  sorted : ∀ (i j : Nat) (hi : i < M.stack.size) (hj : j < M.stack.size), i < j →
    M.stack[j].base + M.stack[j].size ≤ M.stack[i].base
  above : ∀ (i : Nat) (hi : i < M.stack.size), M.sp ≤ M.stack[i].base
  low : stackLimit ≤ M.sp
  small : M.stack.size < 2 ^ 64

theorem find_stack {M : Mem} (inv : MemInv M) {j : Nat} (hj : j < M.stack.size) {addr n : Nat}
    (hn : 0 < n) (h1 : M.stack[j].base ≤ addr) (h2 : addr + n ≤ M.stack[j].base + M.stack[j].size) :
    M.find addr n = some (.stack, j) := by
  have hlow : stackLimit ≤ addr := by
    have := inv.above j hj; have := inv.low; omega
  unfold Mem.find
  simp only [ge_iff_le, hlow, if_true]
  have hb : bsearchBase M.stack addr true 64 0 M.stack.size = j := by
    rw [bsearchBase_eq]
    apply bsearch_spec _ j 64 0 M.stack.size (by have := inv.small; omega) (Nat.zero_le _) (Nat.le_of_lt hj)
    intro i _ hi
    simp only [if_true, Array.getD_eq_getD_getElem?, Array.getElem?_eq_getElem hi, Option.getD_some,
      decide_eq_true_eq]
    constructor
    · intro h
      rcases Nat.lt_or_ge i j with hij | hij
      · have := inv.sorted i j hi hj hij; omega
      · exact hij
    · intro h
      rcases Nat.lt_or_ge j i with hji | hji
      · have := inv.sorted j i hj hi hji; omega
      · have : i = j := by omega
        subst this; exact h1
  rw [hb, Array.getElem?_eq_getElem hj]
  simp [h1, h2]

theorem elem_le {e n sz size : Nat} (he : e < n) (hn : n * sz ≤ size) : e * sz + sz ≤ size :=
  Nat.le_trans (by rw [← Nat.succ_mul]; exact Nat.mul_le_mul_right _ he) hn

/-- The allocation is given the way the invariants hold it (`M.stack[j]? = some al`: `AInv.slots`, `AInv.wins`), the
    place by the element number. -/
theorem load_elem {M : Mem} (inv : MemInv M) {j : Nat} {al : Alloc} (hal : M.stack[j]? = some al) {sz e n : Nat}
    (hsz : 0 < sz) (he : e < n) (hn : n * sz ≤ al.size) :
    M.load (al.base + e * sz) sz = .ok (loadLE al.bytes (e * sz) sz) := by
  obtain ⟨hj, rfl⟩ := Array.getElem?_eq_some_iff.1 hal
  have := elem_le he hn
  unfold Mem.load
  rw [find_stack inv hj hsz (Nat.le_add_right _ _) (by omega)]
  simp [Array.getElem?_eq_getElem hj]

theorem store_elem {M : Mem} (inv : MemInv M) {j : Nat} {al : Alloc} (hal : M.stack[j]? = some al) {sz e n : Nat}
    (hsz : 0 < sz) (he : e < n) (hn : n * sz ≤ al.size) (x : UInt64) :
    M.store (al.base + e * sz) sz x = .ok ⟨M.globals,
      M.stack.modify j (fun a => { a with bytes := storeLE a.bytes (al.base + e * sz - a.base) x sz }), M.sp⟩ := by
  obtain ⟨hj, rfl⟩ := Array.getElem?_eq_some_iff.1 hal
  have := elem_le he hn
  unfold Mem.store
  rw [find_stack inv hj hsz (Nat.le_add_right _ _) (by omega)]

/-- The bytes `Mem.alloc` gives a fresh allocation of `n` bytes (no `init`). -/
def zeros (n : Nat) : ByteArray := pushZeros (ByteArray.emptyWithCapacity n) n

theorem zeros_size (n : Nat) : (zeros n).size = n := by
  unfold zeros
  rw [pushZeros_size]
  show 0 + n = n
  omega

theorem modify_inv {M : Mem} (inv : MemInv M) (j : Nat) (f : Alloc → Alloc)
    (hf : ∀ a, (f a).base = a.base ∧ (f a).size = a.size) :
    MemInv ⟨M.globals, M.stack.modify j f, M.sp⟩ := by
  have hget : ∀ (i : Nat) (hi : i < M.stack.size),
      ((M.stack.modify j f)[i]'(by simpa using hi)).base = M.stack[i].base ∧
      ((M.stack.modify j f)[i]'(by simpa using hi)).size = M.stack[i].size := by
    intro i hi
    rw [Array.getElem_modify]
    split
    · exact hf _
    · exact ⟨rfl, rfl⟩
  refine ⟨?_, ?_, inv.low, by simpa using inv.small⟩
  · intro i k hi hk hik
    simp only [Array.size_modify] at hi hk
    rw [(hget i hi).1, (hget k hk).1, (hget k hk).2]
    exact inv.sorted i k hi hk hik
  · intro i hi
    simp only [Array.size_modify] at hi
    rw [(hget i hi).1]
    exact inv.above i hi

end CprocVerif.LowerMem
