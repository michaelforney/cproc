/-
  C01 — a function of 𝔽₁ is the function of 𝔽₂ whose body is `return e;`: same emitted function, same
  value, so the theorem about 𝔽₂ gives the one about 𝔽₁.
-/
import CprocVerif.Lemmas.Lower2Main

namespace CprocVerif.LowerMach
open CprocVerif.Qbe CprocVerif.Lower CprocVerif.CSem CprocVerif.CInt CprocVerif.LowerArith

def embed (f : CSem.Func) : CSem2.Func :=
  { name := f.name, ret := f.ret, params := f.params, locals := [], body := .ret (.pure f.body) }

theorem funcexpr_eq (cs : Bool) (ptys : List CSem.Ty) (e : Expr) (hwt : e.wt ptys = true) :
    ∀ c, funcexpr cs e c = Lower2.funcexpr2 cs (Lower2.paramSlots ptys.length) e c := by
  induction e with
  | const t u => intro c; rfl
  | param t i =>
    intro c
    simp only [Expr.wt, beq_iff_eq] at hwt
    simp only [funcexpr, Lower2.funcexpr2, LowerMach2.paramSlots_getD (List.getElem?_eq_some_iff.1 hwt).1]
  | cast t e ih =>
    intro c
    simp only [Expr.wt] at hwt
    simp only [funcexpr, Lower2.funcexpr2, ih hwt]
  | neg t e ih =>
    intro c
    simp only [Expr.wt, Bool.and_eq_true] at hwt
    simp only [funcexpr, Lower2.funcexpr2, ih hwt.2]
  | bin op t l r ihl ihr =>
    intro c
    simp only [Expr.wt, Bool.and_eq_true] at hwt
    simp only [funcexpr, Lower2.funcexpr2, ihl hwt.1.1, ihr hwt.1.2]
  | cond t e a b ihe iha ihb =>
    intro c
    simp only [Expr.wt, Bool.and_eq_true] at hwt
    simp only [funcexpr, Lower2.funcexpr2, ihe hwt.1.1.1.1, iha hwt.1.1.1.2, ihb hwt.1.1.2]

theorem emitFunc_eq (cs : Bool) (startid : Nat) (f : CSem.Func) (hwt : f.body.wt f.params = true) :
    Lower2.emitFunc cs startid (embed f) = Lower.emitFunc cs startid f := by
  have hb : Lower2.bodyOut cs startid (embed f) =
      ⟨(Lower.bodyOut cs startid f).items, [],
        (Lower2.SCtx.upd (Lower2.bodyCtx startid (embed f)) (Lower.bodyOut cs startid f).ctx).setJump
          (.ret (some (Lower.bodyOut cs startid f).val)), [], none⟩ := by
    simp only [Lower2.bodyOut, embed, Lower2.funcstmt, Lower2.lowerE3, Lower2.funcopen, Lower2.bodyCtx,
      Lower2.funcexpr3, List.nil_append, Lower.bodyOut, funcexpr_eq cs f.params f.body hwt]
    rfl
  simp only [Lower2.emitFunc, Lower.emitFunc, Lower2.finalJump, Lower2.funcItems, Lower.funcItems, hb,
    List.append_nil]
  rfl

theorem evalE_eq (cs : Bool) (ρ : List Int) (e : Expr) :
    CSem2.evalE cs (ρ.map some) e = evalC cs ρ e := by
  induction e with
  | const t u => rfl
  | param t i => simp only [CSem2.evalE, evalC, List.getElem?_map]; cases ρ[i]? <;> rfl
  | cast t e ih => simp only [CSem2.evalE, evalC, ih]
  | neg t e ih => simp only [CSem2.evalE, evalC, ih]
  | bin op t l r ihl ihr => cases op <;> simp only [CSem2.evalE, evalC, ihl, ihr]
  | cond t c a b ihc iha ihb => simp only [CSem2.evalE, evalC, ihc, iha, ihb]

theorem embed_extra (f : CSem.Func) : (embed f).extra = 0 := by
  simp only [CSem2.Func.extra, CSem2.Func.cnts, embed, CSem2.xcount, List.length_nil, List.range_zero,
    List.map_nil, List.append_nil, List.length_map]
  induction f.params with
  | nil => rfl
  | cons t ts ih => simpa using ih

theorem embed_initStore (f : CSem.Func) (ρ : List Int) : CSem2.initStore (embed f) ρ = ρ.map some := by
  simp only [CSem2.initStore, embed_extra]
  simp [embed]

theorem embed_wt (f : CSem.Func) (hwt : CSem.WT f) : CSem2.WT (embed f) := by
  simp only [CSem.WT, CSem.Func.wt, Bool.and_eq_true, beq_iff_eq] at hwt
  simp only [CSem2.WT, CSem2.Func.wt, embed_extra]
  simp [embed, CSem2.Func.vtys, CSem2.Stmt.wt, hwt.1, hwt.2,
    CSem2.Stmt.labelFree, CSem2.arrsOK, CSem2.declsOK, CSem2.ptrsOK, CSem2.Func.wtotal,
    CSem2.Expr3.wt, CSem2.Expr3.ty, CSem2.Expr3.arrsOK]

theorem lower_correct_prog (cs : Bool) (startid : Nat) (f : CSem.Func) (ρ : List Int) (v : Int)
    (hwt : WT f) (henv : EnvOK cs f.params ρ) (hsmall : f.params.length ≤ 1000000)
    (hev : evalC cs ρ f.body = some v)
    (p : Prog) (ext : Ext)
    (hfun : p.funcs[f.name]? = some (FuncInfo.of (emitFunc cs startid f)))
    (hstack : p.initMem.stack = #[]) (hsp : p.initMem.sp = stackTop) :
    ∃ fuel₀ r, RetRep f.ret v r ∧
      ∀ fuel, fuel₀ ≤ fuel →
        runFunc p ext f.name (argsOf f.params ρ) fuel = ⟨#[], .ret (.scalar r)⟩ := by
  have hw := hwt
  simp only [CSem.WT, CSem.Func.wt, Bool.and_eq_true, beq_iff_eq] at hw
  refine LowerMach2.lower2_correct_prog cs startid (embed f) ρ v (embed_wt f hwt) rfl henv
    (by simpa [embed] using hsmall) 1 ?_ p ext (by rw [emitFunc_eq cs startid f hw.2]; exact hfun)
    hstack hsp
  show CSem2.exec cs [] 1 (CSem2.initStore (embed f) ρ) (.ret (.pure f.body)) = _
  simp [CSem2.exec, CSem2.evalE3, embed_initStore, evalE_eq, hev]

end CprocVerif.LowerMach
