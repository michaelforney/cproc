import CprocVerif.Lemmas.InitRefDesig
import CprocVerif.Lemmas.InitRefItem

/-!
# The simulation `parseinit ⊑ InitRef.ref`

One statement, `PSim`, a function of the call of the reference, proved by induction on the derivation `Ref` of the call
(`sim`).  The reference hands back the items it did not consume; the statement returns a machine state from which the run
over the items of the list (`Run`) continues with those.
The places are of known size but for `loopB`, whose place may be the outermost array of unknown size (its sub-objects are
of known size, so the other four never meet it).
The statement assumes that the call leaves `nswitch` unchanged (finding `union-member-switch`); `nswitch` only grows
(`ref_nsw`), so `nsw_mid` gives the same for the calls inside.
-/

namespace CprocVerif.InitSim
open CprocVerif.Init CprocVerif.Image CprocVerif.InitRef

/-- the model's log (an `initclear` read as a write of zeros) and the reference's writes denote
the same image -/
def LogEq (st : St) (rst : RSt) : Prop := ImgEq (st.log.map evWrite) rst.log

def HeadPlain (its : Items) : Prop := ∃ i r, its = .cons [] i r

/-- machine and reference are in step, the list of slot `c` being open -/
structure Sim (st : St) (rst : RSt) (c : Nat) : Prop where
  cur : st.cur = some c
  curok : CurOK st
  log : LogEq st rst

/-- the machine stands inside sub-object `pos` of slot `k`, the object at `pl`, with the items `its` to come: if the
first of them has no designator, every slot above `k` is used up, so that `advance` comes back to `k` -/
structure Inside (st : St) (k : Nat) (pl : Place) (pos : Nat) (its : Items) : Prop where
  sub : k < st.sub
  lvl : ∃ ch, Lvl st k pl pos ch
  exh : HeadPlain its → ∀ j, k < j → j < st.sub → Exh st j

/-- the machine after the object at slot `m` has been initialised (the items `rest'` follow) -/
structure After (m : Nat) (st st' : St) (rest' : Items) : Prop where
  same : Same m st st'
  le : m ≤ st'.sub
  exh : HeadPlain rest' → ∀ j, m ≤ j → j < st'.sub → Exh st' j

theorem After.frame {m : Nat} {st st' : St} {rest' : Items} (h : After m st st' rest') : Frame m st st' := h.same.frame

theorem After.from {k : Nat} {st st3 st' : St} {rest' : Items} (h0 : Same k st st3) (h : After k st3 st' rest') :
    After k st st' rest' := ⟨h0.trans h.same, h.le, h.exh⟩

theorem After.inside {k : Nat} {stp st3 : St} {pl ch : Place} {pos : Nat} {rest1 : Items}
    (h : After (k + 1) stp st3 rest1) (hl : Lvl st3 k pl pos ch) : Inside st3 k pl pos rest1 :=
  ⟨h.le, ⟨ch, hl⟩, h.exh⟩

/-- `itemBody`, with the fuel of `placeExpr` free for an expression: under brace elision the same expression is run again
one slot further down with one unit less (`exprBody_down`), and the statement for `initOne` has to hold of that run too -/
def BodyRun (pf : Nat) (st : St) (ini : Ini) (st1 : St) : Prop :=
  match ini with
  | .expr e => exprBody pf st e = .ok st1
  | .list its => itemBody st (.list its) = .ok st1

theorem bodyRun_of_itemBody {st sta : St} {i : Ini} (h : itemBody st i = .ok sta) : BodyRun 34 st i sta := by
  cases i <;> exact h

/-- how a call that hands back the items `rest'` ends: the run to `stf` goes on over them from a state `st'` in step with
the reference again, the object at slot `m` initialised -/
def Ret (m c : Nat) (st : St) (rst' : RSt) (rest' : Items) (stf : St) : Prop :=
  ∃ st', Run st' rest' stf ∧ After m st st' rest' ∧ Sim st' rst' c

theorem Ret.from {m c : Nat} {st st3 stf : St} {rst' : RSt} {rest' : Items} (h0 : Same m st st3)
    (h : Ret m c st3 rst' rest' stf) : Ret m c st rst' rest' stf :=
  have ⟨st', h1, h2, h3⟩ := h
  ⟨st', h1, h2.from h0, h3⟩

/-- where the machine is when the items of the list of the current object `c` go on at sub-object
`pos`: before the first item it stands at `c` itself and the reference knows the object to be zero (of
the array of unknown size it has stored nothing at all); later it is inside the sub-object `pos - 1`, as for `contAgg` -/
inductive LoopAt (st : St) (c : Nat) (pl : Place) (rst : RSt) (its : Items) : Nat → Prop
  | first : st.sub = c → ZeroReg rst.log pl.off pl.ty.size → (pl.unb = true → rst.log = []) → LoopAt st c pl rst its 0
  | later {p : Nat} : Inside st c pl p its → LoopAt st c pl rst its (p + 1)

/-- the machine is past the `{` of the list `its` for the object at `pl`, which stands at slot `sub` (no `cur` yet at the
outermost list), with `initclear` logged unless the object is a scalar; the list runs to its `}` -/
def Past (pl : Place) (its : Items) (rst rst' : RSt) : Prop :=
  ∀ st st5, (∀ c, st.cur = some c → c < st.sub) → Flat st st.sub → CurOK st → SP st st.sub pl →
    ImgEq (st.log.map evWrite) (if isScalarTy pl.ty then rst.log else (zeroed rst pl).log) → listTail st its = .ok st5 →
    LogEq st5 rst' ∧ st5.sub = st.sub ∧ Same st.sub st st5

/-- What the simulation says of a successful call of the reference that switches no union member (`nswitch` unchanged), by the
kind of call.  On the left the reference's states before and after the call; on the right `parseinit`'s cursor machine
(`init.c`) where it stands when the call begins, and the run `Run .. stf` over the items still to come, which goes on from a
state `st'` that agrees with the reference again (`Sim`) and stands where the call began (`After`).  `initOne` at `pl`: the
machine stands at the object (`SP`), or, the item being a list, is past its `{`.  `contAgg`, `loopB` at `(pl, pos)`: the machine
has just moved to sub-object `pos` (`AtChild`), or stands inside sub-object `pos - 1` (`Inside`, `LoopAt`); only `loopB` may be
at the outermost array of unknown size, where `t->size` follows the reference's `top`.  `braced`: past the `{`, with
`initclear` logged (`cur` may be `none`: the outermost list).  `desigPath`: the slots pushed by `designator()` are the path (`DRel`). -/
def PSim : Call → RSt → Items → RSt → Prop
  | .one pl ini rest, rst, rest', rst' => rst'.nswitch = rst.nswitch → PlWf pl →
      (∀ st st1 stf pf c, Sim st rst c → c < st.sub → (st.obj st.sub).iscur = false →
        SP st st.sub pl → BodyRun pf st ini st1 → Run st1 rest stf →
        Ret st.sub c st rst' rest' stf) ∧
      -- (the first item of an array's list gets past its `{` by `focus`)
      (∀ its, ini = .list its → Past pl its rst rst')
  | .cont pl pos its, rst, rest', rst' => rst'.nswitch = rst.nswitch → PlWf pl →
      (∀ i rest ch st stp sta stf k c pf, its = .cons [] i rest → childAt pl pos true = some ch → Sim st rst c → c < k → k ≤ st.sub →
        (st.obj k).iscur = false → (st.obj k).ty = pl.ty → (st.obj k).offset = pl.off → AtChild st stp k pl pos ch →
        BodyRun pf stp i sta → Run sta rest stf → Ret k c st rst' rest' stf) ∧
      (∀ p st stf k c, pos = p + 1 → Sim st rst c → c < k → Inside st k pl p its → Run st its stf → Ret k c st rst' rest' stf)
  | .desig pl ps ds i rest, rst, rest', rst' => rst'.nswitch = rst.nswitch → PlWf pl →
      ∀ st st1 stf m c, DRel st m pl ps ds → Sim st rst c → c < m →
        (st.obj st.sub).iscur = false → BodyRun 34 st i st1 → Run st1 rest stf → Ret m c st rst' rest' stf
  | .braced pl its, rst, _, rst' => rst'.nswitch = rst.nswitch → PlWf pl → Past pl its rst rst'
  | .loop pl pos its, rst, _, rst' => rst'.nswitch = rst.nswitch → PlOk pl →
      ∀ st stf c, Sim st rst c → Sz st c pl pos → (pl.unb = true → st.top = rst.top) →
        (st.obj c).ty = pl.ty → (st.obj c).offset = pl.off → LoopAt st c pl rst its pos → Run st its stf →
      LogEq stf rst' ∧ Step c st stf ∧ (stf.obj c).ty = (st.obj c).ty ∧ (stf.obj c).offset = (st.obj c).offset ∧
        (pl.unb = false → stf.top = st.top) ∧ (pl.unb = true → stf.top = rst'.top)

theorem initOne_leaf {f : Nat} {pl : Place} {e : Expr} {rest : Items} {rst : RSt} {r : Items × RSt} (hw : PlWf pl)
    (he : elides pl.ty e = false) (h : initOne f pl (.expr e) rest rst = .ok r) :
    ∃ v, r = (rest, wr rst ⟨pl.off, pl.off + pl.ty.size, pl.before, pl.after, v⟩) ∧
      ∀ st : St, (st.obj st.sub).ty = pl.ty → st.tinc st.sub = false → hit st e = .ok (.add v, st) := by
  cases f with
  | zero => rw [initOne.eq_1] at h; cases h
  | succ f =>
  rcases expr_cases pl.ty e with ⟨size, k, hty⟩ | ⟨n, es, cls, sg, w, scls, cs, hty, rfl⟩ |
      ⟨isU, tag, size, ms, hty, rfl⟩ | he'
  · rw [initOne.eq_3 _ _ _ _ _ _ _ hty] at h
    cases hcv : convScalar size k e with
    | none => rw [hcv] at h; cases h
    | some v =>
      rw [hcv] at h; cases h
      exact ⟨v, by rw [hty]; rfl, fun st hst _ => by rw [hit_scalar (hst.trans hty), hcv]⟩
  · rw [initOne.eq_4 _ _ _ _ _ _ _ _ _ _ _ hty] at h
    split at h
    · cases h
    · rename_i hbad
      simp only [hw.unb, Bool.false_eq_true, if_false] at h
      cases h
      obtain ⟨hb, ha⟩ := hw.bits (by rw [hty]; rfl)
      exact ⟨.str w cs, by rw [hty, hb, ha]; rfl, fun st hst hi => by rw [hit_str (hst.trans hty) hi, if_neg hbad]⟩
  · rw [initOne.eq_5 _ _ _ _ _ _ _ _ _ hty, if_pos rfl] at h
    cases h
    obtain ⟨hb, ha⟩ := hw.bits (by rw [hty]; rfl)
    exact ⟨.other, by rw [hty, hb, ha]; rfl, fun st hst _ => hit_aggeq (hst.trans hty)⟩
  · rw [he'] at he; cases he

theorem leaf_add {st st1 : St} {pl : Place} {e : Expr} {v : Val} {pf : Nat} {rst : RSt} {rest : Items}
    (hh : hit st e = .ok (.add v, st)) (hsp : SP st st.sub pl) (hp : Flat st st.sub) (hc : CurOK st)
    (hl : LogEq st rst) (hb : exprBody pf st e = .ok st1) :
    After st.sub st st1 rest ∧ CurOK st1 ∧ st1.cur = st.cur ∧
      LogEq st1 (wr rst ⟨pl.off, pl.off + pl.ty.size, pl.before, pl.after, v⟩) := by
  cases pf with
  | zero => exact absurd hb (exprBody_zero _ _ _)
  | succ pf =>
    rw [exprBody_add pf hh hsp.bits hp] at hb
    cases hb
    refine ⟨⟨⟨⟨rfl, rfl, rfl, fun _ _ => rfl⟩, rfl, rfl⟩, Nat.le_refl _, ?_⟩, hc, rfl, ?_⟩
    · intro _ j h1 h2
      have : (addSt st pl.before pl.after v).sub = st.sub := rfl
      omega
    · show ImgEq ((st.log ++ [Ev.add _]).map evWrite) (rst.log ++ [_])
      rw [map_evWrite_append, hp.tsize, hsp.ty, hsp.off]
      exact hl.snoc _

theorem braceClear_logEq {st : St} {rst : RSt} {pl : Place} {c : Nat} (hc : st.cur = some c) (hp : Flat st st.sub)
    (hw : PlWf pl) (hty : (st.obj st.sub).ty = pl.ty) (hoff : (st.obj st.sub).offset = pl.off) (h : LogEq st rst) :
    ImgEq ((braceClear st).log.map evWrite) (if isScalarTy pl.ty then rst.log else (zeroed rst pl).log) := by
  cases hs : isScalarTy pl.ty with
  | true =>
    rw [braceClear_scalar (by rw [hty]; exact hs)]
    exact h
  | false =>
    rw [braceClear_clear hc hp (by rw [hty]; exact hs)]
    simp only [Bool.false_eq_true, if_false]
    rw [zeroed_log, hw.unb, map_evWrite_append, evWrite_clear, hoff, hty]
    exact imgEq_clear_zlog h _ _

theorem listBody_open {st st5 : St} {its : Items} {pl : Place} {rst : RSt} (hp : Flat st st.sub) (hsp : SP st st.sub pl)
    (hle : ImgEq (st.log.map evWrite) (if isScalarTy pl.ty then rst.log else (zeroed rst pl).log))
    (hb : listBody st its = .ok st5) :
    ∃ st4, Run (openSt st) its st4 ∧ st5 = closeBrace st4 ∧ Flat (openSt st) (openSt st).sub ∧
      SP (openSt st) (openSt st).sub pl ∧ LogEq (openSt st) (if isScalarTy pl.ty then rst else zeroed rst pl) := by
  rw [listBody] at hb
  cases hpi : parseItems (openSt st) its with
  | error er => rw [hpi] at hb; cases hb
  | ok st4 =>
    rw [hpi] at hb
    cases hb
    exact ⟨st4, hpi, rfl, openSt_flat hp, openSt_sp hsp, by unfold LogEq; rw [apply_ite RSt.log]; exact hle⟩

theorem Ret.past {st st1 stf : St} {rst' : RSt} {rest : Items} {c : Nat} (hcur : st.cur = some c) (hco : CurOK st)
    (hcs : c < st.sub) (h1 : LogEq st1 rst') (h3 : st1.sub = st.sub) (h2 : Same st.sub st st1) (hrun : Run st1 rest stf) :
    Ret st.sub c st rst' rest stf :=
  ⟨st1, hrun, ⟨h2, Nat.le_of_eq h3.symm, fun _ j h4 h5 => by omega⟩, h2.frame.cur.trans hcur,
    curOK_frame hco h2.frame rfl h3 (fun c' hc' => by rw [hcur] at hc'; cases hc'; exact hcs), h1⟩

theorem Past.ret {pl : Place} {its rest : Items} {rst rst' : RSt} {st st1 stf : St} {c : Nat} (h : Past pl its rst rst')
    (hw : PlWf pl) (hs : Sim st rst c) (hcs : c < st.sub) (hsp : SP st st.sub pl)
    (hb : itemBody st (.list its) = .ok st1) (hrun : Run st1 rest stf) : Ret st.sub c st rst' rest stf := by
  obtain ⟨hcur, hco, hle⟩ := hs
  have hp : Flat st st.sub := flat_pos st (by omega)
  have hlb := braceClear_logEq hcur hp hw hsp.ty hsp.off hle
  rw [itemBody_list_below (by rw [hcur]; intro h; cases h; omega)] at hb
  obtain ⟨il, lg, hbe⟩ := braceClear_eq st
  rw [hbe] at hlb hb
  obtain ⟨r1, r3, r2⟩ := h { st with il := il, log := lg } st1
    (fun c' hc' => by rw [show st.cur = some c from hcur] at hc'; cases hc'; exact hcs) ⟨hp.tinc, hp.tsize⟩ hco
    ⟨hsp.ty, hsp.off, hsp.bits⟩ hlb hb
  exact Ret.past hcur hco hcs r1 r3 ⟨⟨r2.frame.cur, r2.frame.top, r2.frame.inc, r2.frame.low⟩, r2.ty, r2.off⟩ hrun

/-- sub-object `pos` of the object at slot `k` (at `pl`) has been initialised, from `st` and `rst`: the run goes on over `rest1`
from a state that still stands inside that sub-object -/
def Moved (k c pos : Nat) (pl : Place) (st : St) (rst rst1 : RSt) (rest1 : Items) (stf : St) : Prop :=
  ∃ st3, Run st3 rest1 stf ∧ Sim st3 rst1 c ∧ Inside st3 k pl pos rest1 ∧ Step k st st3 ∧
    st3.top = gtop pl pos st.top ∧ rst1.top = gtop pl pos rst.top

theorem Ret.moved {cl : Call} {pl ch : Place} {rest1 : Items} {rst rst1 : RSt} {pos : Nat}
    (hi : Ref cl (grow (enter rst pl pos) pl pos) rest1 rst1) (hu : cl.pl.unb = false)
    {st stp stf : St} {c k : Nat} (hl : Lvl stp k pl pos ch) (hst : Step k st stp) (ht : stp.top = gtop pl pos st.top)
    (h : Ret (k + 1) c stp rst1 rest1 stf) : Moved k c pos pl st rst rst1 rest1 stf := by
  obtain ⟨st3, hrun3, haf3, hs3⟩ := h
  refine ⟨st3, hrun3, hs3, haf3.inside (hl.frame haf3.frame (Nat.lt_succ_self _)),
    hst.trans haf3.frame.step (Nat.le_succ _), haf3.frame.top.trans ht, ?_⟩
  rw [ref_top hi hu, grow_top, enter_top]

theorem child_item {pl ch : Place} {i : Ini} {rest rest1 : Items} {rst rst1 : RSt} {pos : Nat}
    (hi : Ref (.one ch i rest) (grow (enter rst pl pos) pl pos) rest1 rst1) (ihI : PSim (.one ch i rest) (grow (enter rst pl pos) pl pos) rest1 rst1)
    (e1 : (grow (enter rst pl pos) pl pos).nswitch = rst.nswitch)
    (e2 : rst1.nswitch = (grow (enter rst pl pos) pl pos).nswitch) (hok : PlOk pl)
    {st stp sta stf : St} {c k pf : Nat} (hs : Sim st rst c) (hck : c ≤ k) (hk : k ≤ st.sub)
    (hfresh : c < k → (st.obj k).iscur = false) (ha : AtChild st stp k pl pos ch)
    (hb : BodyRun pf stp i sta) (hrun : Run sta rest stf) : Moved k c pos pl st rst rst1 rest1 stf := by
  have hsub := ha.sub
  refine Ret.moved hi (childAt_not_unb ha.lvl.child) ha.lvl ha.step ha.top ?_
  rw [← hsub]
  exact (ihI e2 (hok.child ha.lvl.child)).1 stp sta stf pf c
    ⟨ha.step.cur.trans hs.cur, curOK_step hs.curok hs.cur hck hk ha.step ha.iscur hsub hfresh,
      by unfold LogEq; rw [ha.log, child_log e1]; exact hs.log⟩
    (by rw [hsub]; omega) (by rw [hsub]; exact ha.fresh) (by rw [hsub]; exact ha.sp) hb hrun

theorem loop_rest {pl : Place} {q p : Nat} {rest1 : Items} {rst rst1 rst' : RSt}
    (ihL : PSim (.loop pl (q + 1) rest1) rst1 .nil rst') (e3 : rst'.nswitch = rst1.nswitch) (hok : PlOk pl)
    {st stf : St} {c : Nat} (hsz : Sz st c pl p) (htr : pl.unb = true → st.top = rst.top)
    (hty : (st.obj c).ty = pl.ty) (hoff : (st.obj c).offset = pl.off) (h : Moved c c q pl st rst rst1 rest1 stf) :
    LogEq stf rst' ∧ Step c st stf ∧ (stf.obj c).ty = (st.obj c).ty ∧ (stf.obj c).offset = (st.obj c).offset ∧
      (pl.unb = false → stf.top = st.top) ∧ (pl.unb = true → stf.top = rst'.top) := by
  obtain ⟨st3, hrun3, hs3, hin3, hst3, ht3, hr1⟩ := h
  obtain ⟨ch, hl3⟩ := hin3.lvl
  obtain ⟨r1, r2, r4, r5, r6, r7⟩ := ihL e3 hok st3 stf c hs3
    (hsz.next hst3 ht3 (by rw [hl3.ty, hty])) (fun hu => by rw [ht3, hr1, htr hu]) hl3.ty hl3.off (.later hin3) hrun3
  exact ⟨r1, hst3.trans r2 (Nat.le_refl _), by rw [r4, hl3.ty, hty], by rw [r5, hl3.off, hoff],
    fun hu => (r6 hu).trans (ht3.trans (gtop_known hu _ _)), r7⟩

theorem cont_rest {pl : Place} {pos : Nat} {rest1 rest' : Items} {rst rst1 rst' : RSt}
    (ihC : PSim (.cont pl (pos + 1) rest1) rst1 rest' rst') (e3 : rst'.nswitch = rst1.nswitch) (hw : PlWf pl)
    {st stf : St} {k c : Nat} (hck : c < k) (hty : (st.obj k).ty = pl.ty) (hoff : (st.obj k).offset = pl.off)
    (h : Moved k c pos pl st rst rst1 rest1 stf) : Ret k c st rst' rest' stf := by
  obtain ⟨st3, hrun3, hs3, hin3, hst3, ht3, _⟩ := h
  obtain ⟨ch3, hl3⟩ := hin3.lvl
  exact ((ihC e3 hw).2 pos st3 stf k c rfl hs3 hck hin3 hrun3).from
    ⟨frame_iff.2 ⟨hst3, ht3.trans (gtop_known hw.unb _ _)⟩, hl3.ty.trans hty.symm, hl3.off.trans hoff.symm⟩

/-- the machine still stands at the current object: a struct or union is entered by `preStep`, an
array only when the item is looked at -/
theorem first_item {pl ch : Place} {i : Ini} {rest rest1 : Items}
    {rst rst1 : RSt} (hi : Ref (.one ch i rest) (grow (enter rst pl 0) pl 0) rest1 rst1)
    (ih1 : PSim (.one ch i rest) (grow (enter rst pl 0) pl 0) rest1 rst1)
    (e1 : (grow (enter rst pl 0) pl 0).nswitch = rst.nswitch)
    (e2 : rst1.nswitch = (grow (enter rst pl 0) pl 0).nswitch) (hok : PlOk pl) (hc : childAt pl 0 true = some ch)
    {st stp sta stf : St} (hs : Sim st rst st.sub) (hsz : Sz st st.sub pl 0)
    (hty : (st.obj st.sub).ty = pl.ty) (hoff : (st.obj st.sub).offset = pl.off)
    (hz : ZeroReg rst.log pl.off pl.ty.size) (hzu : pl.unb = true → rst.log = [])
    (hpre : preStep st [] = .ok stp) (hbody : itemBody stp i = .ok sta) (hrun2 : Run sta rest stf) :
    Moved st.sub st.sub 0 pl st rst rst1 rest1 stf := by
  obtain ⟨hcur, hco, hle⟩ := hs
  have hwc : PlWf ch := hok.child hc
  have fin := fun {stp' : St} {pf : Nat} => child_item (stp := stp') (sta := sta) (stf := stf) (pf := pf)
    hi ih1 e1 e2 hok ⟨hcur, hco, hle⟩ (Nat.le_refl _) (Nat.le_refl _)
    (fun h => absurd h (Nat.lt_irrefl _))
  rw [preStep_nil_cur hcur rfl] at hpre
  cases hpt : pl.ty with
  | scalar s k => rw [childAt_scalar hpt] at hc; cases hc
  | agg u tag size ms =>
    rw [hty, hpt] at hpre
    obtain ⟨ch2, hch2, ha⟩ := focus_step hsz hok hty hoff hpre
    rw [hc] at hch2; cases hch2
    exact fin ha (bodyRun_of_itemBody hbody) hrun2
  | array n el =>
    rw [hty, hpt] at hpre
    cases hpre
    have hch : ch = { ty := el, off := pl.off + 0 * el.size, depth := pl.depth + 1 } := by
      rw [hok.child0 hpt] at hc
      cases hc; rfl
    cases i with
    | expr e =>
      have hb : exprBody 34 st e = .ok sta := hbody
      rcases array_expr n el e with ⟨es, cls, sg, w, scls, cs, rfl, rfl⟩ | he
      · -- a string for the whole array is the one item of its list (`braced`), never the
        -- initialiser of its first element
        exfalso
        subst hch
        cases hi with
        | @leaf f _ _ _ _ _ _ hi =>
          cases f with
          | zero => rw [initOne.eq_1] at hi; cases hi
          | succ f =>
            rw [initOne.eq_3 _ _ _ _ _ _ _ rfl] at hi
            simp [convScalar] at hi
        | elide he _ => cases he
      · obtain ⟨pf', st2, ch2, hch2, ha, hb'⟩ := elide_step hsz hok hty hoff (hpt ▸ he) hb
        rw [hc] at hch2; cases hch2
        exact fin ha hb' hrun2
    | list its' =>
      cases hi with
      | list hbr =>
        have hb : itemBody st (.list its') = .ok sta := hbody
        rw [itemBody_list_array hcur (hty.trans hpt)] at hb
        obtain ⟨il, lg, hbe⟩ := braceClear_eq st
        -- `{` logs an `initclear` of the whole array when its size is known: the reference knows the array to be zero
        have hM : ImgEq (lg.map evWrite) rst.log := by
          rw [show lg = (braceClear st).log by rw [hbe]]
          cases hsz with
          | known hu hp =>
            rw [braceClear_clear hcur hp (by rw [hty, hpt]; rfl)]
            show ImgEq ((st.log ++ [_]).map evWrite) _
            rw [map_evWrite_append, evWrite_clear, hoff, hty]
            exact (hle.snoc _).trans (imgEq_zw_noop hz (Nat.le_refl _) (Nat.le_refl _))
          | unb hU h0 hinc hw =>
            rw [show braceClear st = st by unfold braceClear; simp [tinc_zero h0 hinc]]
            exact hle
        rw [hbe] at hb
        cases hfo : focus { st with il := il, log := lg } with
        | error er => rw [hfo] at hb; cases hb
        | ok st2 =>
        rw [hfo] at hb
        obtain ⟨ch2, hch2, (ha : AtChild _ st2 st.sub pl 0 ch2)⟩ := focus_step (st := { st with il := il, log := lg })
          (hsz.frame ⟨rfl, rfl, rfl, fun _ _ => rfl⟩ rfl) hok hty hoff hfo
        rw [hc] at hch2; cases hch2
        have hs2 := ha.sub
        -- the element lies within the array, or nothing has been stored yet
        have hzc : ZeroReg rst.log ch.off ch.ty.size := by
          cases hsz with
          | known hu hp =>
            refine hz.sub (by rw [hch]; simp) ?_
            rw [hch, hpt]
            simp only [Ty.size, Nat.zero_mul, Nat.add_zero]
            have := Nat.le_mul_of_pos_left el.size (wf_array (hok.wf hu) hpt).1
            omega
          | unb hU _ _ _ => rw [hzu hU.unb]; exact ZeroReg.nil _ _
        have hlogeq : ImgEq (st2.log.map evWrite)
            (if isScalarTy ch.ty then (grow (enter rst pl 0) pl 0).log
              else (zeroed (grow (enter rst pl 0) pl 0) ch).log) := by
          rw [ha.log, zeroed_log, hwc.unb, child_log e1]
          split
          · exact hM
          · exact hM.trans (imgEq_zlog_noop hzc (Nat.le_refl _) (Nat.le_refl _)).symm
        have hcur2 : st2.cur = some st.sub := ha.step.cur.trans hcur
        have hco2 : CurOK st2 := curOK_step hco hcur (Nat.le_refl _) (Nat.le_refl _)
          ⟨ha.step.cur, ha.step.inc, ha.step.low⟩ ha.iscur hs2 (fun h => absurd h (Nat.lt_irrefl _))
        obtain ⟨r1, r3, r2⟩ := (ih1 e2 hwc).2 its' rfl st2 sta
          (fun c' hc' => by rw [hcur2] at hc'; cases hc'; omega) (flat_pos st2 (by omega)) hco2
          (by rw [hs2]; exact ha.sp) hlogeq hb
        exact Ret.moved (.list hbr) hwc.unb ha.lvl ⟨ha.step.cur, ha.step.inc, ha.step.low⟩ ha.top
          (hs2 ▸ Ret.past hcur2 hco2 (by omega) r1 r3 r2 hrun2)

theorem sim {c : Call} {rst : RSt} {rest' : Items} {rst' : RSt} (h : Ref c rst rest' rst') : PSim c rst rest' rst' := by
  induction h with
  | @list pl its rest st0 st' hbr ih =>
    intro hn hw
    exact ⟨fun st st1 stf _ c hs hcs _ hsp hb hrun => (ih hn hw).ret hw hs hcs hsp hb hrun,
      fun its' h => by cases h; exact ih hn hw⟩
  | @leaf f pl e rest rst r he hi =>
    intro hn hw
    refine ⟨?_, fun _ h => by cases h⟩
    intro st st1 stf pf c ⟨hcur, hco, hle⟩ hcs hic hsp hb hrun
    have hp : Flat st st.sub := flat_pos st (by omega)
    obtain ⟨v, hrv, hh⟩ := initOne_leaf hw he hi
    subst hrv
    obtain ⟨h1, h2, h3, h4⟩ := leaf_add (rest := rest) (hh st hsp.ty hp.tinc) hsp hp hco hle hb
    exact ⟨_, hrun, h1, h3.trans hcur, h2, h4⟩
  | @elide pl e rest st0 rest' st' he hc ih =>
    -- brace elision: `focus`, then the same expression one level down
    intro hn hw
    refine ⟨?_, fun _ h => by cases h⟩
    intro st st1 stf pf c hs hcs hic hsp hb hrun
    obtain ⟨pf', st2, ch, hch, ha, hb'⟩ :=
      elide_step (.known hw.unb (flat_pos st (by omega))) (.known hw) hsp.ty hsp.off he hb
    exact (ih hn hw).1 _ rest ch st st2 st1 stf st.sub c pf' rfl hch hs hcs (Nat.le_refl _) hic
      hsp.ty hsp.off ha hb' hrun
  | stop hnone =>
    intro hn hw
    refine ⟨fun i rest ch st stp sta stf k c pf hits hch => (by rw [hnone i rest hits] at hch; cases hch), ?_⟩
    intro p st stf k c hp hs hck hin hrun
    subst hp
    obtain ⟨ch, hl⟩ := hin.lvl
    refine ⟨st, hrun, ⟨.refl _ _, Nat.le_of_lt hin.sub, ?_⟩, hs⟩
    intro hh j h1 h2
    by_cases hjk : j = k
    · obtain ⟨i, r, rfl⟩ := hh
      subst hjk; exact ⟨_, p, ch, hw, hl, hnone i r rfl⟩
    · exact hin.exh hh j (by omega) h2
  | @next pl pos i rest ch rest1 st0 st1 rest' st' hch hi hc ih1 ih2 =>
    intro hn hw
    obtain ⟨e1, e2, e3⟩ := nsw_mid (child_nswitch_le st0 pl pos) (ref_nsw hi) (ref_nsw hc) hn
    have first : ∀ st stp sta stf k c pf, Sim st st0 c → c < k → k ≤ st.sub →
        (st.obj k).iscur = false → (st.obj k).ty = pl.ty → (st.obj k).offset = pl.off → AtChild st stp k pl pos ch →
        BodyRun pf stp i sta → Run sta rest stf → Ret k c st st' rest' stf := by
      intro st stp sta stf k c pf hs hck hk hfresh hty hoff ha hb hrun
      exact cont_rest ih2 e3 hw hck hty hoff
        (child_item hi ih1 e1 e2 (.known hw) hs (Nat.le_of_lt hck) hk (fun _ => hfresh) ha hb hrun)
    refine ⟨fun i' rest2 ch' st stp sta stf k c pf hits hch' => ?_, ?_⟩
    · cases hits
      rw [hch] at hch'; cases hch'
      exact first st stp sta stf k c pf
    · intro p st stf k c hp hs hck hin hrun
      subst hp
      obtain ⟨chp, hl⟩ := hin.lvl
      have hks := hin.sub
      obtain ⟨stp, sta, hpre, hbody, hrun2⟩ := run_cons hrun
      rw [preStep_nil_adv hs.cur (by omega)] at hpre
      exact first st stp sta stf k c 34 hs hck (Nat.le_of_lt hks) ((hs.curok.of_cur hs.cur).2.2 k hck hks) hl.ty hl.off
        (advance_to_next hks (.known hw.unb (flat_pos st (by omega))) (.known hw) hl (hin.exh ⟨i, rest, rfl⟩) hch hpre)
        (bodyRun_of_itemBody hbody) hrun2
  | empty hsc =>
    intro _ _ st st5 _ hp _ _ hle hb
    simp only [listTail, hp.tinc, Bool.false_eq_true, if_false] at hb
    cases hb
    rw [hsc] at hle
    exact ⟨hle, rfl, .refl _ _⟩
  | @whole pl e rst rest' rst' hna he h1 _ =>
    -- one expression that initialises the object itself (a scalar, a string for a character array)
    intro hn hw st st5 hlt hp hco hsp hle hb
    obtain ⟨st4, hpi, rfl, hp3, hsp3, hl3⟩ := listBody_open hp hsp hle hb
    cases h1 with
    | elide he' _ => rw [he] at he'; cases he'
    | leaf _ hi =>
    obtain ⟨v, hx, hh⟩ := initOne_leaf hw he hi
    subst hx
    obtain ⟨stp, sta, hpre, hbody, hrun2⟩ := run_cons hpi
    rw [preStep_nil_cur (show (openSt st).cur = some st.sub from rfl) rfl] at hpre
    split at hpre
    · rename_i u t s m hty; exact absurd (hsp3.ty.symm.trans hty) (hna u t s m)
    cases hpre
    cases run_nil hrun2
    obtain ⟨haf, _, _, hle4⟩ := leaf_add (rest := .nil) (hh _ hsp3.ty hp3.tinc) hsp3 hp3 (openSt_curOK st) hl3 hbody
    obtain ⟨c1, c2⟩ := close_tail hlt hco haf.same hp
    exact ⟨by unfold LogEq; rw [c1]; exact hle4, c2⟩
  | @items pl its rst rst' hnsc hl ih =>
    intro hn hw st st5 hlt hp hco hsp hle hb
    cases its with
    | nil =>
      simp only [listTail, hp.tinc, Bool.false_eq_true, if_false] at hb
      cases hb
      cases hl
      rw [hnsc] at hle
      exact ⟨hle, rfl, .refl _ _⟩
    | cons ds i rest =>
    obtain ⟨st4, hpi, rfl, hp3, hsp3, hl3⟩ := listBody_open hp hsp hle hb
    simp only [hnsc, Bool.false_eq_true, if_false] at hl3
    obtain ⟨r1, r2, r4, r5, r6, _⟩ := ih (by rw [hn, zeroed_nswitch]) (.known hw) (openSt st) st4 st.sub
      ⟨rfl, openSt_curOK st, hl3⟩ (.known hw.unb hp3)
      (fun h => by rw [hw.unb] at h; cases h) hsp3.ty hsp3.off
      (.first rfl (by rw [zeroed_log, hw.unb]; exact zeroReg_zlog _ _ _) (fun h => by rw [hw.unb] at h; cases h)) hpi
    obtain ⟨c1, c2⟩ := close_tail hlt hco ⟨frame_iff.2 ⟨r2, r6 hw.unb⟩, r4, r5⟩ hp
    exact ⟨by unfold LogEq; rw [c1]; exact r1, c2⟩
  | done =>
    intro hn hok st stf c hs hsz htr hty hoff hat hrun
    rw [run_nil hrun]
    exact ⟨hs.log, ⟨rfl, rfl, fun _ _ => rfl⟩, rfl, rfl, fun _ => rfl, htr⟩
  | @plain pl pos i rest ch rest1 rst rst1 rst' hc hi hr ih1 ih2 =>
    intro hn hok st stf c hs hsz htr hty hoff hat hrun
    obtain ⟨e1, e2, e3⟩ := nsw_mid (child_nswitch_le rst pl pos) (ref_nsw hi) (ref_nsw hr) hn
    obtain ⟨stp, sta, hpre, hbody, hrun2⟩ := run_cons hrun
    refine loop_rest ih2 e3 hok hsz htr hty hoff ?_
    cases hat with
    | later hin =>
      obtain ⟨chp, hlp⟩ := hin.lvl
      rw [preStep_nil_adv hs.cur (by have := hin.sub; omega)] at hpre
      exact child_item hi ih1 e1 e2 hok hs (Nat.le_refl c) (hs.curok.of_cur hs.cur).1
        (fun h => absurd h (Nat.lt_irrefl _)) (advance_to_next hin.sub hsz hok hlp (hin.exh ⟨i, rest, rfl⟩) hc hpre)
        (bodyRun_of_itemBody hbody) hrun2
    | first hs0 hz hzu =>
      subst hs0
      exact first_item hi ih1 e1 e2 hok hc hs hsz hty hoff hz hzu hpre hbody hrun2
  | @desig pl pos d ds i rest p ps ch rest1 rst rst1 rst' hres hc hi hr ih1 ih2 =>
    intro hn hok st stf c hs hsz htr hty hoff hat hrun
    obtain ⟨e1, e2, e3⟩ := nsw_mid (child_nswitch_le rst pl p) (ref_nsw hi) (ref_nsw hr) hn
    obtain ⟨stp, sta, hpre, hbody, hrun2⟩ := run_cons hrun
    rw [preStep_desig hs.cur] at hpre
    obtain ⟨p', ps', ch', hres', hc', hl, hd', hst, ht, hlog, hcop, hfr⟩ :=
      designator_loop hs.cur hty hoff hok hsz hs.curok hpre
    rw [hres] at hres'
    cases hres'
    rw [hc] at hc'
    cases hc'
    exact loop_rest ih2 e3 hok hsz htr hty hoff (Ret.moved hi (childAt_not_unb hc) hl hst ht
      (ih1 e2 (hok.child hc) stp sta stf (c + 1) c hd' ⟨hst.cur.trans hs.cur, hcop, by unfold LogEq; rw [hlog, child_log e1]; exact hs.log⟩
        (Nat.lt_succ_self _) hfr (bodyRun_of_itemBody hbody) hrun2))
  | here _ ih =>
    intro hn hw st st1 stf m c hd hs hcm hic hb hrun
    cases hd with
    | done hsm hsp =>
      subst hsm
      exact (ih hn hw).1 st st1 stf 34 c hs hcm hic hsp hb hrun
  | res hres _ _ ih =>
    intro hn hw st st1 stf m c hd hs hcm hic hb hrun
    cases hd with
    | res hres' hne hd' =>
      rw [hres] at hres'
      cases hres'
      exact ih hn hw st st1 stf m c hd' hs hcm hic hb hrun
  | @down pl p ps ds i rest ch rest1 st0 st1 rest' st' hch hi hr ih1 ih2 =>
    -- the path, then the designated sub-object, then "continue after it" at every level of the path (6.7.9p17)
    intro hn hw st sta stf m c hd hs hcm hic hb hrun
    cases hd with
    | step hl hd' =>
    rw [hl.child] at hch
    cases hch
    obtain ⟨e1, e2, e3⟩ := nsw_mid (enter_nswitch_le st0 pl p) (ref_nsw hi) (ref_nsw hr) hn
    obtain ⟨st3, hrun3, haf3, hs3⟩ := ih1 e2 (childAt_wf hw hl.child)
      st sta stf (m + 1) c hd' ⟨hs.cur, hs.curok, by unfold LogEq; rw [enter_log e1]; exact hs.log⟩ (by omega) hic hb hrun
    exact ((ih2 e3 hw).2 p st3 stf m c rfl hs3 hcm
      (haf3.inside (hl.frame haf3.frame (Nat.lt_succ_self _))) hrun3).from (haf3.frame.same (Nat.lt_succ_self _))

end CprocVerif.InitSim
