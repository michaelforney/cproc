/-
  C01, fragment 𝔽₂ — the statements that evaluate an expression with array reads and calls: expression statement,
  `return`, assignment, declaration with initialiser, assignment to an array element.
-/
import CprocVerif.Lemmas.Lower2Expr3

set_option linter.unusedSimpArgs false

namespace CprocVerif.LowerMach2
open CprocVerif.Qbe CprocVerif.Lower CprocVerif.Lower2 CprocVerif.CSem CprocVerif.CSem2 CprocVerif.CInt
open CprocVerif.LowerArith CprocVerif.LowerMach CprocVerif.LowerMem

section Leaves3
variable (T : Stat) {s : Store} {out : CSem2.Outcome} {lp : Bool × Bool} {brk cont : String} {c : SCtx}
  {nd nd' : Nat} {pre post : List Item} {env : Env} {M : Mem}

theorem sim_exprstmt (n : Nat) (hc : FuncSim T n) (e : Expr3) :
    SimOf T (n + 1) (.expr e) := by
  intro s out lp brk cont c nd nd' pre post env M hex hfr hwt hp hext hits _ _ inv
  simp only [exec, Option.map_eq_some_iff] at hex
  obtain ⟨v, hev, rfl⟩ := hex
  simp only [frag] at hfr
  simp only [Stmt.wt] at hwt
  split at hwt
  · rename_i hw
    simp only [funcstmt, lowerE3_eq T.S.cs hp.jump] at hext hits ⊢
    obtain ⟨k, env', r, hreach, inv', _, _, _, _⟩ := sim_exprOut3 T n hc hp e hext hw hfr hev hits inv
    exact ⟨⟨k, env', M, hreach, inv'⟩, fun _ _ => hp.jump⟩
  · cases hwt

theorem sim_ret (n : Nat) (hc : FuncSim T n) (e : Expr3) : SimOf T (n + 1) (.ret e) := by
  intro s out lp brk cont c nd nd' pre post env M hex hfr hwt hp hext hits hterm _ inv
  simp only [exec, Option.map_eq_some_iff] at hex
  obtain ⟨v, hev, rfl⟩ := hex
  simp only [frag] at hfr
  simp only [Stmt.wt] at hwt
  split at hwt
  · rename_i hw
    simp only [funcstmt, lowerE3_eq T.S.cs hp.jump] at hext hits hterm ⊢
    have hext' : Ext T (c.upd (exprOut3 T.S.cs c e).ctx) := hext
    obtain ⟨k, env', r, hreach, inv', _, hval, hrep, hrg⟩ := sim_exprOut3 T n hc hp e hext' hw.2 hfr hev hits inv
    rw [hw.1] at hrep hrg
    obtain ⟨r', hco, hrep'⟩ := rep_coerce hrep
    have hstep := (hterm _ (by simp only [setJump_jump, upd_jump, hp.jump, Option.getD_none])).ret M hval hco
      inv'.a.popTo
    exact ⟨⟨hrg, k, _, r', hreach, hstep, hrep', coerce_kind hco⟩, fun _ h => by cases h⟩
  · cases hwt

theorem sim_assign (n : Nat) (hc : FuncSim T n) (i : Nat) (t : CSem.Ty) (e : Expr3) :
    SimOf T (n + 1) (.assign i t e) := by
  intro s out lp brk cont c nd nd' pre post env M hex hfr hwt hp hext hits _ _ inv
  simp only [exec, Option.map_eq_some_iff] at hex
  obtain ⟨v, hev, rfl⟩ := hex
  simp only [frag, Bool.and_eq_true, decide_eq_true_eq] at hfr
  obtain ⟨hfr, hWi⟩ := hfr
  simp only [Stmt.wt] at hwt
  split at hwt
  · rename_i hw
    obtain ⟨hi, hkt, hty, hwe⟩ := hw
    simp only [funcstmt, lowerE3_eq T.S.cs hp.jump] at hext hits ⊢
    have hits1 := its_mid hits
    obtain ⟨k, env', r, hreach, inv', -, hval, hrep, hrange⟩ := sim_exprOut3 T n hc hp e hext hwe hfr hev hits1 inv
    obtain ⟨M', hr2, inv2⟩ := sim_store T i t _ _ hits1 ((hp.ext hext rfl).1 i hi) hkt hWi hval (hty ▸ hrange)
      (storeVal_of_rep (hty ▸ hrep)) inv'
    exact ⟨⟨k + 1, env', M', List.append_assoc _ _ _ ▸ hreach.trans hr2, inv2⟩, fun _ _ => hp.jump⟩
  · cases hwt

theorem sim_decl_init (n : Nat) (hc : FuncSim T n) (i : Nat) (t : CSem.Ty) (e : Expr3) :
    SimOf T (n + 1) (.decl i t (some e)) := by
  intro s out lp brk cont c nd nd' pre post env M hex hfr hwt hp hext hits _ _ inv
  simp only [exec, Option.map_eq_some_iff] at hex
  obtain ⟨v, hev, rfl⟩ := hex
  simp only [frag, Bool.and_eq_true, decide_eq_true_eq] at hfr
  obtain ⟨hfr, hWi⟩ := hfr
  simp only [Stmt.wt] at hwt
  split at hwt
  · rename_i hw
    obtain ⟨hi, hkt, hwe⟩ := hw
    subst hi
    simp only [optWt3, Bool.and_eq_true, beq_iff_eq] at hwe
    obtain ⟨hty, hwe⟩ := hwe
    -- the context after `funcalloc`
    obtain ⟨c1, hc1⟩ : ∃ c1 : SCtx, c1 = ⟨c.lastid + 1, c.blockid, c.cur, c.jump, c.slots ++ [c.lastid + 1]⟩ :=
      ⟨_, rfl⟩
    have hget : c1.slots.getD i 0 = c.lastid + 1 := by
      rw [hc1]
      show (c.slots ++ [c.lastid + 1]).getD i 0 = _
      rw [getD_append_right _ _ (by rw [hp.nslots]; exact Nat.le_refl _), hp.nslots, Nat.sub_self]; rfl
    have hp1 : Pos T c1 (i + 1) pre := by
      refine ⟨hc1 ▸ hp.jump, hc1 ▸ hp.cur, hc1 ▸ hp.curOK, by rw [hc1]; simp [hp.nslots], ?_⟩
      intro j hj
      by_cases hji : j < i
      · rw [hc1]
        show (c.slots ++ [c.lastid + 1]).getD j 0 ≤ c.lastid + 1
        rw [getD_append_left _ _ (by rw [hp.nslots]; exact hji)]
        exact Nat.le_succ_of_le (hp.le j hji)
      · rw [show j = i by omega, hget, hc1]; exact Nat.le_refl _
    simp only [funcstmt, ← hc1, lowerE3_eq T.S.cs hp1.jump] at hext hits ⊢
    have hits1 := its_mid hits
    obtain ⟨k, env', r, hreach, inv', -, hval, hrep, hrange⟩ := sim_exprOut3 T n hc hp1 e hext hwe hfr hev hits1
      (inv.forget i)
    obtain ⟨M', hr2, inv2⟩ := sim_store T i t _ _ hits1
      (((hp1.ext hext rfl).1 i (Nat.lt_succ_self i)).trans hget) hkt hWi hval (hty ▸ hrange)
      (storeVal_of_rep (hty ▸ hrep)) inv'
    refine ⟨⟨k + 1, env', M', List.append_assoc _ _ _ ▸ hreach.trans hr2, ?_⟩, fun _ _ => hp1.jump⟩
    have : (s.set i none).set i (some v) = s.set i (some v) := by simp
    exact this ▸ inv2
  · cases hwt

theorem sim_astore (n : Nat) (hc : FuncSim T n) (arr : Nat) (t : CSem.Ty) (cnt xb : Nat) (idx : Expr)
    (e : Expr3) :
    SimOf T (n + 1) (.astore arr t cnt xb idx e) := by
  intro s out lp brk cont c nd nd' pre post env M hex hfr hwt hp hext hits _ _ inv
  simp only [exec, Option.bind_eq_some_iff] at hex
  obtain ⟨v, hevv, iv, hev, hex⟩ := hex
  split at hex
  · rename_i hiv
    simp only [Option.some.injEq] at hex
    subst hex
    simp only [frag, Bool.and_eq_true, decide_eq_true_eq] at hfr
    obtain ⟨⟨⟨⟨hc1, hcn⟩, hxb⟩, hfe⟩, hWa⟩ := hfr
    subst hxb
    simp only [Stmt.wt] at hwt
    split at hwt
    · rename_i hw
      obtain ⟨harr, hkt, hwi, hty, hwe⟩ := hw
      have he : iv.toNat < T.cnts.getD arr 1 := by simp only [List.getD, hcn, Option.getD_some]; omega
      obtain ⟨oe, hle, hoe, hl1, -⟩ := expr_out T.S.cs hp.jump e
      obtain ⟨oa, hoa⟩ : ∃ oa, lowerAddr T.S.cs c.slots oe.ctx (c.slots.getD arr 0) t idx = oa := ⟨_, rfl⟩
      simp only [funcstmt, hle, upd_slots, upd_ctx, hoa] at hext hits ⊢
      simp only [List.append_assoc, List.cons_append, List.nil_append] at hits
      have ge := hoe ▸ exprOut3_good T.S.cs c e
      have hl2 : oe.ctx.lastid ≤ oa.ctx.lastid := hoa ▸ (lowerAddr_isGood T.S.cs c.slots oe.ctx _ t idx).lastid
      have hpre := (hp.ext hext rfl).1
      obtain ⟨n1, env1, r, hreach1, inv1, hfr1, hval1, hrep1, hrgv⟩ := sim_exprOut3 T n hc hp e
        (hoe ▸ (hext.before (new := []) (by simp) (by simp) hl2 : Ext T (c.upd oe.ctx))) hwe hfe hevv
        (hoe ▸ its_app hits) inv
      rw [hoe] at hreach1 hfr1 hval1
      rw [hty] at hrep1 hrgv
      obtain ⟨a, ha1, hwa⟩ := inv1.a.window (lt_of_get hkt) hkt
      obtain ⟨M', hst, inv2⟩ := inv1.storeAt hkt hWa he hrgv (storeVal_of_rep hrep1) ha1
      obtain ⟨hvars, hrange⟩ := inv1.vars hpre
      have h2 := its_app (its_app hits)
      obtain ⟨n2, env2, ra, hreach2, hfr2, hval2, hra⟩ := sim_addr T c.slots (T.vtys.take nd) s M hrange
        oe.ctx (c.slots.getD arr 0) t idx iv a hwi hev hiv.1 (hwa.elem_lt he) (hoa ▸ h2)
        (ge.cur T.S.o0 pre hp.cur) (ge.curOK hp.curOK)
        (fun i t' ht => Nat.le_trans (hp.le i (take_get ht).2) hl1) hvars (hpre arr harr ▸ ha1)
        (Nat.le_trans (hp.le arr harr) hl1)
      rw [hoa] at hreach2 hfr2 hval2
      have hr3 := run_nores T h2 (readVals_two ((readVal_agree ge.val hfr2.agree).trans hval1) hval2)
        (hst ⟨.l, ra⟩ (by rw [← hra]; simp))
      exact ⟨⟨n1 + n2 + 1, env2, M', by
        simpa only [List.append_assoc, List.cons_append, List.nil_append] using (hreach1.trans hreach2).trans hr3,
        inv2.frame hp hext rfl (Nat.le_refl _) (Frame.mono hfr2 hl1 (Nat.le_refl _))⟩, fun _ _ => hp.jump⟩
    · cases hwt
  · cases hex

end Leaves3

end CprocVerif.LowerMach2
