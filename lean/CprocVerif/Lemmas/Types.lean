import CprocVerif.Lemmas.TypesArith
import CprocVerif.Lemmas.TypesCompat
import CprocVerif.Spec.Constraints

/-! The operators of the typing model (`Model/Types.lean`) against the type rules of `Spec/Conv.lean`: the binary operators by
`binopType_iff` (the model types exactly as `binopOk`), one two-sided lemma for each alternative, and `binopOk_split` (a typing
entails the Constraints paragraph and determines the type); what the other typing functions return when they accept. -/

namespace CprocVerif.Types.Lemmas
open CprocVerif.Types CprocVerif.Spec

def OperandOk (o : Operand) : Prop :=
  match o.ty with
  | .arith a => a.wf = true ∧ validWidth a o.width
  | _ => True

theorem OperandOk.arith {o : Operand} {a : ATy} (ok : OperandOk o) (h : o.ty = .arith a) :
    a.wf = true ∧ validWidth a o.width := by
  unfold OperandOk at ok; rw [h] at ok; exact ok

theorem isInt_eq_isIntegerT (t : Ty) (hwf : ∀ a, t = .arith a → a.wf = true) : t.isInt = isIntegerT t := by
  cases t <;> first | rfl | exact ATy.isInt_eq _ (hwf _ rfl)

theorem OperandOk.isInt {o : Operand} (ok : OperandOk o) : o.ty.isInt = isIntegerT o.ty :=
  isInt_eq_isIntegerT _ fun _ h => (OperandOk.arith ok h).1

theorem isIntegerT_shape {t : Ty} (h : isIntegerT t = true) : t.isArith = true ∧ t.isPtr = false := by
  cases t <;> first | exact ⟨rfl, rfl⟩ | cases h

theorem arithOk_iff {cs : Bool} {l r : Operand} {t : Ty} : arithOk cs l r t = true ↔
    ∃ a b, l.ty = .arith a ∧ r.ty = .arith b ∧ t = .arith (commonReal cs a l.width b r.width) := by
  unfold arithOk
  split
  · rename_i a b c hl hr
    simp only [usualArith, beq_iff_eq, hl, hr, Ty.arith.injEq, exists_and_left, exists_eq_left']
  · rename_i hn
    simp only [Bool.false_eq_true, false_iff, not_exists, not_and]
    intro a b hl hr ht
    exact hn a b _ hl hr ht

theorem commonreal_of_arithOk {sc : Bool} {l r : Operand} {t : Ty} (ol : OperandOk l) (or' : OperandOk r)
    (h : arithOk sc l r t = true) : commonreal sc l r = some (t, exprconvert l t, exprconvert r t) := by
  obtain ⟨a, b, hl, hr, rfl⟩ := arithOk_iff.1 h
  have ⟨f1, w1⟩ := OperandOk.arith ol hl
  have ⟨f2, w2⟩ := OperandOk.arith or' hr
  simp only [commonreal, hl, hr, commonreal_ok sc a b l.width r.width f1 f2 w1 w2]

theorem exprconvert_ty_arith (l : Operand) (a p : ATy) (hl : l.ty = .arith a) :
    (exprconvert l (.arith p)).ty = .arith p := by
  unfold exprconvert
  split
  · rename_i h
    simp only [hl, typecompatible, Ty.isEnum, Bool.and_eq_true, beq_iff_eq] at h
    rcases ATy.compat_cases h.1 with rfl | ⟨i, x, rfl, rfl⟩ | ⟨i, x, rfl, rfl⟩
    · exact hl
    · simp [ATy.isEnum] at h
    · simp [ATy.isEnum] at h
  · rfl

theorem Qual.union_self (q : Qual) : q.union q = q := by
  cases q; simp [Qual.union]

theorem decay_id (x : Operand) (hna : ∀ q l p b, x.ty ≠ .arr q l p b) (hnf : x.ty.isFunc = false) :
    decay x = x := by
  unfold decay
  cases h : x.ty <;> first
    | rfl
    | (exact absurd h (hna _ _ _ _))
    | (simp [h, Ty.isFunc] at hnf)

theorem ptrEqOk_iff (lb rb : Ty) : ptrEqOk lb rb = true ↔
    typecompatible lb rb = true ∨ (rb = .void ∧ lb.isFunc = false) ∨ (lb = .void ∧ rb.isFunc = false) := by
  have hvoid : ∀ t : Ty, t.isVoid = true ↔ t = .void := fun t => by cases t <;> simp [Ty.isVoid]
  unfold ptrEqOk
  by_cases hl : lb = .void
  · subst hl
    cases rb <;> simp [Ty.isVoid, Ty.isFunc, typecompatible]
  · have hl' : lb.isVoid = false := by simpa using mt (hvoid lb).1 hl
    by_cases hr : rb = .void
    · subst hr
      cases lb <;> simp [Ty.isVoid, Ty.isFunc, typecompatible] at hl ⊢
    · have hr' : rb.isVoid = false := by simpa using mt (hvoid rb).1 hr
      simp [hl', hr', hl, hr]

theorem ptrToCompleteObject_isPtr {t : Ty} (h : ptrToCompleteObject t = true) : t.isPtr = true := by
  cases t <;> first | rfl | cases h

/-! C11 words each clause of 6.5.5-6.5.14 as a Constraints paragraph and a Semantics paragraph that names the type of the
result.  `binopOk` says both at once; `Constraints.binop` is the first; `binopResTy` is the second, as a function of the
operands. -/

/-- the type 6.3.1.8 gives two arithmetic operands (`void` where they are not both arithmetic) -/
def arithTy (cs : Bool) (l r : Operand) : Ty :=
  match l.ty, r.ty with
  | .arith a, .arith b => .arith (commonReal cs a l.width b r.width)
  | _, _ => .void

def binopResTy (cs : Bool) (op : BinOp) (l r : Operand) : Ty :=
  match op with
  | .lor | .land | .eql | .neq | .less | .greater | .leq | .geq => Ty.int
  | .bor | .xor | .band | .mod | .mul | .div => arithTy cs l r
  | .add => if l.ty.isPtr then l.ty else if r.ty.isPtr then r.ty else arithTy cs l r
  | .sub => if l.ty.isPtr then (if r.ty.isPtr then .arith (.basic ptrdiffT) else l.ty) else arithTy cs l r
  | .shl | .shr => match l.ty with | .arith a => .arith (intPromote cs a l.width) | _ => .void

theorem arithOk_split {cs : Bool} {l r : Operand} {t : Ty} (h : arithOk cs l r t = true) :
    (l.ty.isArith = true ∧ r.ty.isArith = true) ∧ l.ty.isPtr = false ∧ r.ty.isPtr = false ∧ t = arithTy cs l r := by
  obtain ⟨a, b, hl, hr, rfl⟩ := arithOk_iff.1 h
  simp only [arithTy, hl, hr, Ty.isArith, Ty.isPtr, and_self]

theorem arithOk_unique {sc : Bool} {l r : Operand} {t t' : Ty} (h : arithOk sc l r t = true)
    (h' : arithOk sc l r t' = true) : t = t' :=
  (arithOk_split h).2.2.2.trans (arithOk_split h').2.2.2.symm

/-- About `Spec/Conv.lean` and `Spec/Constraints.lean` alone: no function of the model occurs. -/
theorem binopOk_split {cs : Bool} {op : BinOp} {l r : Operand} {t : Ty} (h : binopOk cs op l r t = true) :
    Constraints.binop op l r = true ∧ t = binopResTy cs op l r := by
  cases op <;> simp only [binopOk, bothInteger, Bool.and_eq_true, Bool.or_eq_true, beq_iff_eq] at h
  case lor | land => exact ⟨Bool.and_eq_true _ _ ▸ h.1, h.2⟩
  case bor | xor | band | mod => exact ⟨Bool.and_eq_true _ _ ▸ h.1, (arithOk_split h.2).2.2.2⟩
  case mul | div => exact ⟨Bool.and_eq_true _ _ ▸ (arithOk_split h).1, (arithOk_split h).2.2.2⟩
  case shl | shr =>
    refine ⟨Bool.and_eq_true _ _ ▸ h.1, ?_⟩
    obtain ⟨_, h⟩ := h
    split at h
    · rename_i hl; simp only [binopResTy, hl]; exact beq_iff_eq.1 h
    · cases h
  case add =>
    rcases h with (h | h) | h
    · obtain ⟨ha, pl, pr, rfl⟩ := arithOk_split h
      simp [Constraints.binop, binopResTy, ha, pl, pr]
    · simp [Constraints.binop, binopResTy, h.1.1, h.1.2, ptrToCompleteObject_isPtr h.1.1, h.2]
    · simp [Constraints.binop, binopResTy, h.1.1, h.1.2, ptrToCompleteObject_isPtr h.1.1, (isIntegerT_shape h.1.2).2, h.2]
  case sub =>
    rcases h with (h | h) | h
    · obtain ⟨ha, pl, pr, rfl⟩ := arithOk_split h
      simp [Constraints.binop, binopResTy, ha, pl]
    · simp [Constraints.binop, binopResTy, h.1.1, h.1.2, ptrToCompleteObject_isPtr h.1.1, (isIntegerT_shape h.1.2).2, h.2]
    · split at h <;> first | (cases h; done) | skip
      rename_i hl hr
      simp only [Bool.and_eq_true, beq_iff_eq, hl, hr] at h
      simp [Constraints.binop, binopResTy, h.1.1.1, h.1.1.2, Constraints.ptrsToCompatible, hl, hr, h.1.2, h.2, Ty.isPtr]
  case less | greater | leq | geq =>
    refine ⟨?_, h.1⟩
    rcases h.2 with h | h
    · simp [Constraints.binop, h.1, h.2]
    · split at h <;> first | (cases h; done) | skip
      rename_i hl hr
      simp only [Bool.and_eq_true, Bool.not_eq_true'] at h
      -- compatible types are both function types or neither
      have := compat_isFunc _ _ (spec_compatible_eq _ _ ▸ h.1)
      simp [Constraints.binop, Constraints.ptrsToCompatible, Constraints.ptrToObject, hl, hr, h.1, h.2, ← this]
  case eql | neq =>
    refine ⟨?_, h.1⟩
    rcases h.2 with ((h | h) | h) | h
    · simp [Constraints.binop, h.1, h.2]
    · split at h <;> first | (cases h; done) | skip
      rename_i hl hr
      simp only [Bool.or_eq_true, Bool.and_eq_true, beq_iff_eq, Bool.not_eq_true'] at h
      rcases h with (h | h) | h
      · simp [Constraints.binop, Constraints.ptrsToCompatible, hl, hr, h]
      · simp [Constraints.binop, Constraints.ptrToObject, Constraints.isVoidPtrAny, hl, hr, h.1, h.2]
      · simp [Constraints.binop, Constraints.ptrToObject, Constraints.isVoidPtrAny, hl, hr, h.1, h.2]
    · simp [Constraints.binop, h.1, h.2]
    · simp [Constraints.binop, h.1, h.2]

/-! `mkbinaryexpr` types exactly as 6.5.5-6.5.14: one two-sided lemma for each alternative of `binopType`, stated for its
first operator (the operators that share an alternative unfold to the same term).  Each goes by the arithmetic guard
first; off it, by the shape of the operand the C code looks at first. -/

theorem isPtr_cases {t : Ty} (h : t.isPtr = true) : ∃ q b, t = .ptr q b := by
  cases t <;> first | exact ⟨_, _, rfl⟩ | cases h

theorem commonreal_total {sc : Bool} {l r : Operand} (ol : OperandOk l) (or' : OperandOk r)
    (h : (l.ty.isArith && r.ty.isArith) = true) :
    ∃ T, arithOk sc l r T = true ∧ commonreal sc l r = some (T, exprconvert l T, exprconvert r T) := by
  rw [Bool.and_eq_true] at h
  cases hl : l.ty <;> rw [hl] at h <;> first | (cases h.1; done) | skip
  cases hr : r.ty <;> rw [hr] at h <;> first | (cases h.2; done) | skip
  have ha := (arithOk_iff (cs := sc)).2 ⟨_, _, hl, hr, rfl⟩
  exact ⟨_, ha, commonreal_of_arithOk ol or' ha⟩

/-- the arithmetic alternative of `* / % + - & | ^` -/
theorem binop_arith_iff {sc : Bool} {l r : Operand} (ol : OperandOk l) (or' : OperandOk r) (t : Ty)
    (hg : (l.ty.isArith && r.ty.isArith) = true) :
    (commonreal sc l r).map (·.1) = some t ↔ arithOk sc l r t = true := by
  obtain ⟨T, hT, hc⟩ := commonreal_total (sc := sc) ol or' hg
  rw [hc, Option.map_some, Option.some.injEq]
  exact ⟨fun e => e ▸ hT, fun h => arithOk_unique hT h⟩

theorem arithOk_guard {sc : Bool} {l r : Operand} {t : Ty} (hg : ¬ (l.ty.isArith && r.ty.isArith) = true) :
    arithOk sc l r t = false :=
  Bool.eq_false_iff.2 fun h => hg (by rw [(arithOk_split h).1.1, (arithOk_split h).1.2]; rfl)

theorem binop_logical_iff (sc : Bool) (l r : Operand) (t : Ty) :
    binopType sc .lor l r = some t ↔ binopOk sc .lor l r t = true := by
  rw [eq_comm]
  simp [binopType, binopOk, and_comm]

theorem binop_muldiv_iff (sc : Bool) (l r : Operand) (ol : OperandOk l) (or' : OperandOk r) (t : Ty) :
    binopType sc .mul l r = some t ↔ binopOk sc .mul l r t = true := by
  by_cases hg : (l.ty.isArith && r.ty.isArith) = true
  · simp only [binopType, binopOk, hg, if_true, binop_arith_iff ol or' t hg]
  · simp [binopType, binopOk, hg, arithOk_guard hg]

theorem binop_intarith_iff (sc : Bool) (l r : Operand) (ol : OperandOk l) (or' : OperandOk r) (t : Ty) :
    binopType sc .bor l r = some t ↔ binopOk sc .bor l r t = true := by
  simp only [binopType, binopOk, bothInteger, OperandOk.isInt ol, OperandOk.isInt or']
  by_cases hi : (isIntegerT l.ty && isIntegerT r.ty) = true
  · have hg : (l.ty.isArith && r.ty.isArith) = true := by
      rw [Bool.and_eq_true] at hi ⊢; exact ⟨(isIntegerT_shape hi.1).1, (isIntegerT_shape hi.2).1⟩
    simp only [hi, if_true, binop_arith_iff ol or' t hg, Bool.true_and]
  · simp [hi]

theorem binop_shift_iff (sc : Bool) (l r : Operand) (ol : OperandOk l) (or' : OperandOk r) (t : Ty) :
    binopType sc .shl l r = some t ↔ binopOk sc .shl l r t = true := by
  simp only [binopType, binopOk, bothInteger, OperandOk.isInt ol, OperandOk.isInt or']
  by_cases hi : (isIntegerT l.ty && isIntegerT r.ty) = true
  · rw [Bool.and_eq_true] at hi
    cases hl : l.ty <;> rw [hl] at hi <;> first | (cases hi.1; done) | skip
    rename_i a
    have ⟨f, w⟩ := OperandOk.arith ol hl
    simp only [hi.1, hi.2, Bool.and_self, if_true, exprpromote, hl, Option.map_some, exprconvert_ty_arith l a _ hl,
      typepromote_int sc a l.width f w hi.1, Option.some.injEq, Bool.true_and, beq_iff_eq]
    exact eq_comm
  · simp [hi]

theorem binop_rel_iff (sc : Bool) (l r : Operand) (ol : OperandOk l) (or' : OperandOk r) (t : Ty) :
    binopType sc .less l r = some t ↔ binopOk sc .less l r t = true := by
  rw [eq_comm]
  by_cases hg : (l.ty.isArith && r.ty.isArith) = true
  · obtain ⟨T, _, hc⟩ := commonreal_total (sc := sc) ol or' hg
    simp [binopType, binopOk, hg, hc]
  simp only [binopType, binopOk, hg, Bool.false_or, if_false, Bool.false_eq_true]
  -- model and rule look at the same pair of types
  split
  · rename_i hl hr
    simp [hl, hr, spec_compatible_eq, and_comm]
  · rename_i hn
    split
    · rename_i hl hr; exact absurd hr (hn _ _ _ _ hl)
    · simp

theorem binop_eq_iff (sc : Bool) (l r : Operand) (ol : OperandOk l) (or' : OperandOk r) (t : Ty) :
    binopType sc .eql l r = some t ↔ binopOk sc .eql l r t = true := by
  rw [eq_comm]
  by_cases hg : (l.ty.isArith && r.ty.isArith) = true
  · obtain ⟨T, _, hc⟩ := commonreal_total (sc := sc) ol or' hg
    simp [binopType, binopOk, hg, hc]
  simp only [binopType, binopOk, hg, Bool.false_or, if_false, Bool.false_eq_true]
  -- `if (l->type->kind != TYPEPOINTER) e = l, l = r, r = e;`
  by_cases hp : l.ty.isPtr = true
  · obtain ⟨q, lb, hl⟩ := isPtr_cases hp
    simp only [hp, if_true]
    simp only [hl]
    cases hr : r.ty <;> simp [Ty.isPtr, ptrEqOk_iff, spec_compatible_eq]
    all_goals first | exact and_comm | skip
    cases r.nullconst <;> cases l.nullconst <;> simp [and_comm, or_assoc]
  · simp only [hp, if_false, Bool.false_eq_true, Bool.false_and, Bool.or_false]
    cases hr : r.ty <;> simp [Ty.isPtr]
    cases hl : l.ty <;> simp [hl, Ty.isPtr] at hp ⊢ <;> cases l.nullconst <;> simp [and_comm]

theorem binop_add_iff (sc : Bool) (l r : Operand) (ol : OperandOk l) (or' : OperandOk r) (t : Ty) :
    binopType sc .add l r = some t ↔ binopOk sc .add l r t = true := by
  rw [eq_comm]
  by_cases hg : (l.ty.isArith && r.ty.isArith) = true
  · have hp : ∀ {x : Ty}, x.isArith = true → ptrToCompleteObject x = false := fun {x} h => by
      cases x <;> first | rfl | cases h
    have e := binop_arith_iff (sc := sc) ol or' t hg
    rw [Bool.and_eq_true] at hg
    simp only [binopType, binopOk, hg.1, hg.2, Bool.and_self, if_true, hp hg.1, hp hg.2, Bool.false_and, Bool.or_false]
    rw [eq_comm]; exact e
  simp only [binopType, binopOk, hg, arithOk_guard hg, Bool.false_or, if_false, Bool.false_eq_true,
    ← OperandOk.isInt ol, ← OperandOk.isInt or']
  -- `if (r->type->kind == TYPEPOINTER) e = l, l = r, r = e;`
  by_cases hp : r.ty.isPtr = true
  · obtain ⟨q, b, hr⟩ := isPtr_cases hp
    have e : (Ty.ptr q b).isInt = false := rfl
    simp [hr, e, Ty.isPtr, ptrToCompleteObject, and_assoc, and_left_comm]
  · simp only [hp, Bool.false_eq_true, if_false, Bool.eq_false_iff.2 (mt ptrToCompleteObject_isPtr hp), Bool.false_and,
      Bool.or_false]
    cases hl : l.ty <;> simp [ptrToCompleteObject, and_assoc, and_left_comm]

theorem binop_sub_iff (sc : Bool) (l r : Operand) (ol : OperandOk l) (or' : OperandOk r) (t : Ty) :
    binopType sc .sub l r = some t ↔ binopOk sc .sub l r t = true := by
  by_cases hg : (l.ty.isArith && r.ty.isArith) = true
  · have e := binop_arith_iff (sc := sc) ol or' t hg
    rw [Bool.and_eq_true] at hg
    cases hl : l.ty <;> rw [hl] at hg <;> first | (cases hg.1; done) | skip
    simp only [binopType, binopOk, hl, hg.1, hg.2, Bool.and_self, if_true, e, ptrToCompleteObject,
      Bool.false_and, Bool.or_false]
  rw [eq_comm]
  simp only [binopType, binopOk, hg, arithOk_guard hg, Bool.false_or, if_false, Bool.false_eq_true, ← OperandOk.isInt or']
  cases hl : l.ty <;> simp only [ptrToCompleteObject, Bool.false_and, Bool.false_or, reduceCtorEq]
  rename_i q lb
  cases hr : r.ty <;> simp [Ty.isInt, Ty.isPtr, spec_compatible_eq, Ty.long, ptrdiffT, tLong]
  · rename_i a
    by_cases hi : a.isInt = true <;> simp [hi, and_comm]
  · -- `typecompatible` relates no function type to an object type, so the right base is no function either
    exact ⟨fun ⟨⟨a, b⟩, c, d, e⟩ => ⟨⟨⟨⟨a, b⟩, d, compat_isFunc _ _ c ▸ b⟩, c⟩, e⟩,
      fun ⟨⟨⟨ab, d, _⟩, c⟩, e⟩ => ⟨ab, c, d, e⟩⟩

theorem binopType_iff (sc : Bool) (op : BinOp) (l r : Operand) (ol : OperandOk l) (or' : OperandOk r) (t : Ty) :
    binopType sc op l r = some t ↔ binopOk sc op l r t = true := by
  cases op
  case lor | land => exact binop_logical_iff sc l r t
  case eql | neq => exact binop_eq_iff sc l r ol or' t
  case less | greater | leq | geq => exact binop_rel_iff sc l r ol or' t
  case bor | xor | band | mod => exact binop_intarith_iff sc l r ol or' t
  case mul | div => exact binop_muldiv_iff sc l r ol or' t
  case add => exact binop_add_iff sc l r ol or' t
  case sub => exact binop_sub_iff sc l r ol or' t
  case shl | shr => exact binop_shift_iff sc l r ol or' t

/-! What the guard chains of `castexpr`, `sizeof`, member access, the unary operators and `?:` return when they accept:
the guards that held, and the operand built.  `Props/C05.lean` reads the operand off these, `Props/C10.lean` the guards. -/

theorem castType_some {t : Ty} {e o : Operand} :
    castType t e = some o ↔
      (t = .void ∨ (t.isScalar = true ∧ e.ty.isScalar = true)) ∧
      o = { ty := t, nullconst := e.nullconst && (t.isInt || t.isVoidPtr),
            constval := if t.isInt then e.constval else none } := by
  simp only [castType, Option.ite_none_left_eq_some, Option.some.injEq, Bool.and_eq_true, bne_iff_ne, ne_eq,
    Bool.not_eq_true', not_and, Bool.not_eq_false, @eq_comm _ _ o]
  rw [← and_assoc]
  refine and_congr_left' ?_
  by_cases hv : t = .void
  · simp [hv]
  · simp only [hv, not_false_eq_true, true_imp_iff, false_or]

theorem sizeofType_some {t r : Ty} :
    Types.sizeofType t = some r ↔ t.incomplete = false ∧ t.isFunc = false ∧ r = Ty.ulong := by
  simp only [Types.sizeofType, Option.ite_none_left_eq_some, Option.some.injEq, Bool.not_eq_true, @eq_comm _ _ r]

/-- `⟨mty, q, true, none, false, none, none⟩` is `{ ty := mty, qual := q, lvalue := true }` with the defaults of `Operand`
written out (the form `decay` is applied to in `memberType`). -/
theorem memberType_some {arrow : Bool} {e o : Operand} {mty : Ty} {mq : Qual} {bits : Option Nat}
    (h : memberType arrow e mty mq bits = some o) :
    Constraints.member arrow e = true ∧
      ∃ r, r = decay ⟨mty, (if arrow then (match e.ty with | .ptr q _ => q | _ => {}) else e.qual).union mq,
                      true, none, false, none, none⟩ ∧
        o = { r with lvalue := if r.decayedFrom.isSome then false else (arrow || e.lvalue),
                     width := memberWidth mty bits } := by
  cases arrow <;> cases he : e.ty <;>
    simp [memberType, Constraints.member, he, Ty.isStructUnion] at h ⊢ <;>
    first | exact h.symm | exact ⟨h.1, h.2.symm⟩

theorem unaryOp_deref_some {sc : Bool} {e o : Operand} :
    unaryOp sc .deref e = some o ↔ ∃ q b, e.ty = .ptr q b ∧ o = decay { ty := b, qual := q, lvalue := true } := by
  simp only [unaryOp]
  split
  · rename_i q b he
    rw [he]
    exact ⟨fun h => ⟨q, b, rfl, (Option.some.inj h).symm⟩, fun ⟨_, _, hq, ho⟩ => by cases hq; rw [ho]⟩
  · rename_i hn; simp only [reduceCtorEq, false_iff]; rintro ⟨q, b, he, _⟩; exact hn q b he

theorem unaryOp_sizeof_some {sc : Bool} {op : UnOp} (hop : op = .sizeofE ∨ op = .alignofE) {e o : Operand} :
    unaryOp sc op e = some o ↔
      (match e.decayedFrom with
        | some (t, _) => t.incomplete = false ∧ t.isFunc = false
        | none => e.width.isSome = false ∧ e.ty.incomplete = false ∧ e.ty.isFunc = false) ∧ o = rvalue Ty.ulong := by
  rcases hop with rfl | rfl <;> cases hd : e.decayedFrom <;>
    simp [unaryOp, hd, and_assoc, @eq_comm _ o]

theorem unaryOp_addr_some {sc : Bool} {e o : Operand} (h : unaryOp sc .addr e = some o) :
    (e.decayedFrom.isSome = true ∨ (e.width.isSome = false ∧ (e.lvalue = true ∨ e.ty.isFunc = true))) ∧
      o = rvalue (match e.decayedFrom with | some (t, q) => .ptr q t | none => .ptr e.qual e.ty) := by
  cases hd : e.decayedFrom with
  | some p =>
    simp only [unaryOp, hd, Option.isNone_some, Bool.false_and, Bool.not_true, Bool.false_eq_true, if_false,
      Option.some.injEq] at h
    exact ⟨.inl rfl, h.symm⟩
  | none =>
    simp only [unaryOp, hd, Option.ite_none_left_eq_some, Option.some.injEq, Option.isNone_none, Bool.true_and,
      Bool.and_eq_true, Bool.not_eq_true', not_and, Bool.not_eq_false] at h
    obtain ⟨h1, _, h3, h4⟩ := h
    refine ⟨.inr ⟨Bool.eq_false_iff.2 h3, ?_⟩, h4.symm⟩
    cases hl : e.lvalue
    · exact .inr (h1 hl)
    · exact .inl rfl

theorem unaryOp_guard {sc : Bool} {op : UnOp} {e o : Operand} (h : unaryOp sc op e = some o) :
    (op = .plus ∨ op = .minus → e.ty.isArith = true) ∧ (op = .bnot → e.ty.isInt = true) ∧
      (op = .lnot → e.ty.isScalar = true) := by
  refine ⟨?_, ?_, ?_⟩ <;> intro hop
  · rcases hop with rfl | rfl <;>
      (simp only [unaryOp, Option.ite_none_left_eq_some, Bool.not_eq_true', Bool.not_eq_false] at h; exact h.1)
  · subst hop; simp only [unaryOp, Option.ite_none_left_eq_some, Bool.not_eq_true', Bool.not_eq_false] at h; exact h.1
  · subst hop; simp only [unaryOp, Option.ite_none_left_eq_some, Bool.not_eq_true', Bool.not_eq_false] at h; exact h.1

theorem condType_nonconst {sc : Bool} {c l r : Operand} (hs : c.ty.isScalar = true) (hc : c.constval = none) :
    condType sc c l r = (condRes sc l r).map (·.1) := by
  unfold condType
  rw [hs, hc]
  cases condRes sc l r <;> rfl

theorem condType_some {sc : Bool} {c l r : Operand} {t : Ty} (h : condType sc c l r = some t) :
    c.ty.isScalar = true ∧ ∃ x, condRes sc l r = some x := by
  simp only [condType, Option.ite_none_left_eq_some, Bool.not_eq_true', Bool.not_eq_false] at h
  refine ⟨h.1, ?_⟩
  cases hr : condRes sc l r with
  | none => simp [hr] at h
  | some x => exact ⟨x, rfl⟩

end CprocVerif.Types.Lemmas
