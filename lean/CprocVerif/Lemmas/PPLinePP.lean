import CprocVerif.Lemmas.PPLineTok
import CprocVerif.Lemmas.PPLineFuel
import CprocVerif.Lemmas.ScanTokens
import CprocVerif.Lemmas.Keyword
import CprocVerif.Lemmas.PPLineScan

/-! The preprocessor layer (`directive`, `nextinto`, `next`, the run): every delivered token and
every token a diagnostic points at carries the presumed location of its first byte, given the line
directives that had taken effect; and no loop of the model runs out of fuel. -/

namespace CprocVerif.PPLine
open CprocVerif.Scan CprocVerif.Gen.TokenKinds CprocVerif.Spec.Presumed

variable {file0 : List UInt8} {text : List UInt8}

def dirsOf (p : PS) : List LineDir := p.dirs.map toDir

/-- the preprocessor state describes the text correctly under the directives it has logged -/
structure PInv (file0 : List UInt8) (text : List UInt8) (p : PS) : Prop where
  inv : Inv text (shiftOf text (dirsOf p)) p.s
  file : p.file = curFile file0 (dirsOf p)
  bound : ∀ d ∈ dirsOf p, d.endOff ≤ off p.s
  sorted : (dirsOf p).Pairwise (fun a b => a.endOff < b.endOff)

theorem init_pinv (file0 text : List UInt8) : PInv file0 text (PS.init file0 text) :=
  ⟨init_inv text, rfl, by simp [dirsOf, PS.init], by simp [dirsOf, PS.init]⟩

def Ext {α : Type} (D : List (Nat × α)) (o : Nat) (D' : List (Nat × α)) : Prop :=
  ∃ new, D' = D ++ new ∧ ∀ d ∈ new, o < d.1

theorem Ext.refl {α : Type} (D : List (Nat × α)) (o : Nat) : Ext D o D :=
  ⟨[], by simp, by simp⟩

theorem Ext.trans {α : Type} {D D1 D2 : List (Nat × α)} {o o1 : Nat}
    (h1 : Ext D o D1) (h2 : Ext D1 o1 D2) (hle : o ≤ o1) : Ext D o D2 := by
  obtain ⟨n1, e1, b1⟩ := h1
  obtain ⟨n2, e2, b2⟩ := h2
  refine ⟨n1 ++ n2, by rw [e2, e1, List.append_assoc], ?_⟩
  intro d hd
  rcases List.mem_append.mp hd with h | h
  · exact b1 d h
  · have := b2 d h; omega

theorem SpecOK.stable {D : List LineDir} {t : PTok} (h : SpecOK file0 text D t)
    (new : List LineDir) (hn : ∀ d ∈ new, t.off < d.endOff) : SpecOK file0 text (D ++ new) t := by
  obtain ⟨e1, e2⟩ := presumed_stable (text := text) file0 D new t.off hn
  unfold SpecOK
  rw [e1, e2]
  exact h

theorem SpecOK.ext {D D' : List (Nat × Nat × Option (List UInt8))} {o : Nat} {t : PTok}
    (h : SpecOK file0 text (D.map toDir) t) (hx : Ext D o D') (hlt : t.off ≤ o) :
    SpecOK file0 text (D'.map toDir) t := by
  obtain ⟨new, e, b⟩ := hx
  rw [e, List.map_append]
  refine h.stable _ fun d hd => ?_
  obtain ⟨x, hx, rfl⟩ := List.mem_map.mp hd
  exact Nat.lt_of_le_of_lt hlt (b x hx)

/-- the location a diagnostic prints is right under the directives `D` and lies at or behind
offset `b`; a diagnostic of scan.c (`tok = none`) names the line after a new-line byte -/
structure ErrAt (file0 text : List UInt8) (D : List LineDir) (b : Nat) (e : PErr) : Prop where
  tok : ∀ t, e.tok = some t → SpecOK file0 text D t ∧ b ≤ t.off ∧
    e.file = t.file ∧ e.line = t.line ∧ e.col = t.col
  scan : e.tok = none → ∀ k, e.kind = .scan k → ∃ o, b ≤ o ∧ o ≤ text.length ∧
    e.file = presumedFile file0 D o ∧
    e.line = presumedLine text D o + if text[o]? = some NL then 1 else 0

theorem ErrAt.mono {D : List LineDir} {b b' : Nat} {e : PErr} (h : ErrAt file0 text D b e)
    (hle : b' ≤ b) : ErrAt file0 text D b' e :=
  ⟨fun t ht => by
    obtain ⟨a, c, d⟩ := h.tok t ht
    exact ⟨a, Nat.le_trans hle c, d⟩, fun hn k hk => by
    obtain ⟨o, a, c⟩ := h.scan hn k hk
    exact ⟨o, Nat.le_trans hle a, c⟩⟩

/-- a diagnostic raised from state `p` on -/
structure ErrGood (file0 : List UInt8) (text : List UInt8) (p : PS) (e : PErr) : Prop where
  nf : NF e
  ext : Ext p.dirs (off p.s) e.dirs
  sorted : (e.dirs.map toDir).Pairwise (fun a b => a.endOff < b.endOff)
  loc : ErrAt file0 text (e.dirs.map toDir) (off p.s) e

abbrev Res (file0 : List UInt8) (text : List UInt8) (p : PS) {α : Type} (okP : α → Prop) :
    Except PErr α → Prop := Outcome (ErrGood file0 text p) okP

structure PMoved (file0 : List UInt8) (text : List UInt8) (p0 p : PS) : Prop where
  inv : PInv file0 text p
  ext : Ext p0.dirs (off p0.s) p.dirs
  mono : off p0.s ≤ off p.s
  len : p.s.len ≤ p0.s.len

theorem PMoved.trans {p0 p p' : PS} (h : PMoved file0 text p0 p) (h' : PMoved file0 text p p') :
    PMoved file0 text p0 p' :=
  ⟨h'.inv, h.ext.trans h'.ext h.mono, Nat.le_trans h.mono h'.mono, Nat.le_trans h'.len h.len⟩

theorem ErrGood.of_moved {p0 p : PS} {e : PErr} (he : ErrGood file0 text p e)
    (h : PMoved file0 text p0 p) : ErrGood file0 text p0 e :=
  ⟨he.nf, h.ext.trans he.ext h.mono, he.sorted, he.loc.mono h.mono⟩

structure NextOK (file0 : List UInt8) (text : List UInt8) (p0 : PS) (t : PTok) (p : PS) : Prop
    extends PMoved file0 text p0 p where
  tok : Scanned file0 text (dirsOf p) t
  ge : off p0.s ≤ t.off
  lt : t.kind ≠ .TEOF → t.off < off p.s
  eq : t.kind = .TEOF → t.off = off p.s
  prog : Prog p0 (t, p)

theorem PMoved.next {p0 p p' : PS} {t : PTok} (h : PMoved file0 text p0 p)
    (h' : NextOK file0 text p t p') : NextOK file0 text p0 t p' :=
  ⟨h.trans h'.toPMoved, h'.tok, Nat.le_trans h.mono h'.ge, h'.lt, h'.eq, h'.prog.trans h.len⟩

structure Reach (file0 : List UInt8) (text : List UInt8) (p0 : PS) (t : PTok) (p : PS) : Prop
    extends NextOK file0 text p0 t p where
  dirs : p.dirs = p0.dirs

theorem Reach.trans {p0 p p' : PS} {t t' : PTok} (h : Reach file0 text p0 t p)
    (h' : Reach file0 text p t' p') : Reach file0 text p0 t' p' :=
  ⟨h.toPMoved.next h'.toNextOK, by rw [h'.dirs, h.dirs]⟩

theorem Reach.newline {p0 p : PS} {t : PTok} (h : Reach file0 text p0 t p) (b : Bool) :
    Reach file0 text p0 t { p with newline := b } :=
  { h with inv := ⟨h.inv.inv, h.inv.file, h.inv.bound, h.inv.sorted⟩ }

theorem errTok_good {p0 p : PS} {t : PTok} (h : NextOK file0 text p0 t p) {k : PErrKind}
    (h1 : k ≠ .fuel := by nofun) (h2 : k ≠ .scan .fuel := by nofun) :
    ErrGood file0 text p0 (errTok p t k) :=
  ⟨⟨h1, h2⟩, h.ext, h.inv.sorted, ⟨fun t' ht' => by
    cases ht'
    exact ⟨h.tok.specOK, h.ge, rfl, rfl, rfl⟩, fun h => nomatch h⟩⟩

theorem scanP_ok {p : PS} (h : PInv file0 text p) :
    Res file0 text p (fun r : PTok × PS => Reach file0 text p r.1 r.2) (scanP p) := by
  have hg := scan_good h.inv
  unfold scanP
  rcases scan_cases p.s with ⟨e, he, hk⟩ | ⟨t, s', he, hp⟩ <;> rw [he] at hg ⊢
  · obtain ⟨o, b1, b2, b3⟩ := hg
    have hb : ∀ d ∈ dirsOf p, d.endOff ≤ o := fun d hd => Nat.le_trans (h.bound d hd) b1
    exact ⟨⟨nofun, fun e => hk (PErrKind.scan.inj e)⟩, Ext.refl _ _, h.sorted, ⟨(fun _ h => nomatch h),
      fun _ _ _ => ⟨o, b1, b2, h.file.trans (presumedFile_cur file0 hb).symm, line_presumed hb b3⟩⟩⟩
  · have a : ScanOK text _ (off p.s) t.kind t.loc (t.start - 2 * p.s.skipped) s' := hg
    have hb : ∀ d ∈ dirsOf p, d.endOff ≤ t.start - 2 * p.s.skipped :=
      fun d hd => Nat.le_trans (h.bound d hd) a.ge
    exact {
      inv := ⟨a.inv, h.file, fun d hd => Nat.le_trans (hb d hd) a.le, h.sorted⟩
      ext := Ext.refl _ _
      mono := Nat.le_trans a.ge a.le
      len := Prog.le (p := p) (r := (_, ⟨s', _, _, _⟩)) hp
      tok := ⟨a.loc, h.file, Nat.le_trans a.le a.inv.off_le, a.eof, a.nl, hb⟩
      ge := a.ge, lt := a.lt, eq := a.eq, prog := hp, dirs := rfl }

theorem Reach.scanP {p0 p : PS} {t : PTok} (h : Reach file0 text p0 t p) :
    Res file0 text p0 (fun r : PTok × PS => Reach file0 text p0 r.1 r.2 ∧ Prog p r) (scanP p) :=
  (scanP_ok h.inv).mono (fun _ he => he.of_moved h.toPMoved) (fun _ hr => ⟨h.trans hr, hr.prog⟩)

theorem Inv.reloc {δ δ' : Int} {s : S} (h : Inv text δ s) (l' : Loc) (hcol : l'.col = s.loc.col)
    (hline : (l'.line : Int) = s.loc.line + (δ' - δ)) : Inv text δ' { s with loc := l' } := by
  have hrel : ∀ q, LocRel δ s.loc q → LocRel δ' l' q := fun q hq =>
    ⟨by have := hq.1; omega, by rw [hcol]; exact hq.2⟩
  refine { h with loc := hrel _ h.loc, ahead := fun hne => ?_ }
  have := h.ahead hne
  show LocRel δ' (advSplice l' s.skipped) (physAt text s.pos)
  unfold advSplice at this ⊢
  split
  · rename_i hs; rw [if_pos hs] at this; exact hrel _ this
  · rename_i hs
    rw [if_neg hs] at this
    exact ⟨by have := this.1; simp only [Int.natCast_add] at this ⊢; omega, this.2⟩

theorem curFile_append (file0 : List UInt8) (D : List LineDir) (d : LineDir) :
    curFile file0 (D ++ [d]) = d.file.getD (curFile file0 D) := by
  unfold curFile
  rw [List.filterMap_append]
  cases hf : d.file <;> simp [hf]

theorem shiftOf_append (text : List UInt8) (D : List LineDir) (d : LineDir) :
    shiftOf text (D ++ [d]) = (d.line : Int) - (1 + newlines text 0 d.endOff) := by
  simp [shiftOf]

theorem skipNumbers_ok {p0 : PS} : ∀ (n : Nat) (t : PTok) (p : PS), Reach file0 text p0 t p →
    Fuel n t p → Res file0 text p0 (fun r : PTok × PS => Reach file0 text p0 r.1 r.2) (skipNumbers n t p)
  | 0, _, _, _, hf => absurd hf Fuel.ne_zero
  | n + 1, t, p, h, hf => by
    unfold skipNumbers
    refine Outcome.ite (fun hk => ?_) (fun _ => h)
    match scanP p, h.scanP with
    | .error _, hs => exact hs
    | .ok (t', p'), hs => exact skipNumbers_ok n t' p' hs.1 (hf.step (by rw [hk]; decide) hs.2)

/-- the new-line `t` that ends a line directive has been read, `scansetloc` runs: the shift
becomes that of the new directive because `s->loc.line - t.line` is the number of line breaks
between the byte behind the new-line and the current character -/
theorem lineDirEnd_ok {p0 : PS} (n : Nat) (f : Option (List UInt8)) (file1 : List UInt8)
    (hfile1 : file1 = curFile file0 (dirsOf p0)) {t2 : PTok} {p2 : PS}
    (h : Reach file0 text p0 t2 p2) :
    Res file0 text p0 (PMoved file0 text p0) (lineDirEnd n f file1 t2 p2) := by
  unfold lineDirEnd
  match skipNumbers (p2.s.inp.length + 2) t2 p2, skipNumbers_ok _ _ _ h (Or.inl (Nat.le_refl _)) with
  | .error _, hs => exact hs
  | .ok (t, p3), (hr : Reach file0 text p0 t p3) =>
    dsimp only
    refine Outcome.ite (fun _ => errTok_good hr.toNextOK) (fun hk => ?_)
    have hk : t.kind = .TNEWLINE := Decidable.not_not.mp hk
    have hlt : t.off < off p3.s := hr.lt (by rw [hk]; decide)
    have hD : dirsOf ({ setloc p3 n (f.getD file1) t.line with
        dirs := (setloc p3 n (f.getD file1) t.line).dirs ++ [(t.off + 1, n, f)] } : PS) =
        dirsOf p3 ++ [⟨t.off + 1, n, f⟩] := List.map_append
    refine { inv := ⟨?inv, ?file, ?bound, ?sorted⟩, ext := ?ext, mono := hr.mono, len := hr.len }
    case inv =>
      rw [hD, shiftOf_append]
      refine hr.inv.inv.reloc ⟨n + (p3.s.loc.line - t.line), p3.s.loc.col⟩ rfl ?_
      have hT : (t.line : Int) = _ := hr.tok.loc.1
      rw [locAt_some text t.off _ (hr.tok.nl.mp hk), physAt_line] at hT
      have hL := hr.inv.inv.loc.1
      rw [locAt_line, physAt_line] at hL
      have := newlines_split text 0 (t.off + 1) (off p3.s) (Nat.zero_le _) hlt
      show ((n + (p3.s.loc.line - t.line) : Nat) : Int) =
        p3.s.loc.line + ((n : Int) - (1 + newlines text 0 (t.off + 1)) - shiftOf text (dirsOf p3))
      omega
    case file =>
      rw [hD, curFile_append, hfile1, show dirsOf p3 = dirsOf p0 from congrArg (List.map toDir) hr.dirs]; rfl
    case bound =>
      rw [hD]
      intro d hd
      rcases List.mem_append.mp hd with hm | hm
      · exact hr.inv.bound d hm
      · cases List.mem_singleton.mp hm; exact hlt
    case sorted =>
      rw [hD]
      refine List.pairwise_append.mpr ⟨hr.inv.sorted, List.pairwise_singleton _ _, fun a ha b hb => ?_⟩
      cases List.mem_singleton.mp hb
      exact Nat.lt_succ_of_le (hr.tok.bound a ha)
    case ext => exact hr.ext.trans (o1 := t.off) ⟨[_], rfl, by simp⟩ hr.ge

theorem lineDir_ok {p0 : PS} (num : PTok) {t0 : PTok} {p : PS} (h : Reach file0 text p0 t0 p) :
    Res file0 text p0 (PMoved file0 text p0) (lineDir num p) := by
  unfold lineDir
  match scanP p, h.scanP with
  | .error _, hs => exact hs
  | .ok (t1, p1), (⟨h1, _⟩ : Reach file0 text p0 t1 p1 ∧ _) =>
    have hf1 : t1.file = curFile file0 (dirsOf p0) := by
      rw [h1.tok.file, dirsOf, h1.dirs]; rfl
    dsimp only
    refine Outcome.ite (fun _ => ?_) (fun _ => lineDirEnd_ok _ _ _ hf1 h1)
    match scanP p1, h1.scanP with
    | .error _, hs => exact hs
    | .ok (t2, p2), hs => exact lineDirEnd_ok _ _ _ hf1 hs.1

theorem pragmaLoop_ok {p0 : PS} : ∀ (n : Nat) (t : PTok) (p : PS), Reach file0 text p0 t p →
    Fuel n t p → Res file0 text p0 (fun r : PTok × PS => Reach file0 text p0 r.1 r.2) (pragmaLoop n t p)
  | 0, _, _, _, hf => absurd hf Fuel.ne_zero
  | n + 1, t, p, h, hf => by
    unfold pragmaLoop
    refine Outcome.ite (fun _ => h) (fun hk => ?_)
    match scanP p, h.scanP with
    | .error _, hs => exact hs
    | .ok (t', p'), (hs : Reach file0 text p0 t' p' ∧ Prog p (t', p')) =>
      have hf' : Fuel n t' { p' with newline := decide (t'.kind = .TNEWLINE) } :=
        hf.step (fun e => hk (Or.inr e)) hs.2
      exact Outcome.ite (fun _ => errTok_good hs.1.toNextOK) fun _ =>
        pragmaLoop_ok n t' _ (hs.1.newline _) hf'

/-- no branch condition of `directive()` matters -/
theorem directive_ok {p : PS} (h : PInv file0 text p) :
    Res file0 text p (PMoved file0 text p) (directive p) := by
  unfold directive
  match scanP p, scanP_ok h with
  | .error _, hs => exact hs
  | .ok (t, p1), (hr : Reach file0 text p t p1) =>
    dsimp only
    refine .ite (fun _ => hr.toPMoved) fun _ => .ite (fun _ => lineDir_ok t hr) fun _ =>
      .ite (fun _ => errTok_good hr.toNextOK) fun _ => .ite (fun _ => errTok_good hr.toNextOK) fun _ =>
      .ite (fun _ => errTok_good hr.toNextOK) fun _ => .ite (fun _ => ?line) fun _ =>
      .ite (fun _ => ?pragma) fun _ => errTok_good hr.toNextOK
    case line =>
      match scanP p1, hr.scanP with
      | .error _, hs => exact hs
      | .ok (t2, p2), (⟨hs, _⟩ : Reach file0 text p t2 p2 ∧ _) =>
        exact .ite (fun _ => errTok_good hs.toNextOK) (fun _ => lineDir_ok t2 hs)
    case pragma =>
      match pragmaLoop (p1.s.inp.length + 2) t p1, pragmaLoop_ok _ _ _ hr (Or.inl (Nat.le_refl _)) with
      | .error _, hs => exact hs
      | .ok (t2, p2), (hs : Reach file0 text p t2 p2) =>
        exact .ite (fun _ => errTok_good hs.toNextOK) (fun _ => hs.toPMoved)

theorem nextinto_ok : ∀ (n : Nat) (p : PS), PInv file0 text p → p.s.len + 1 ≤ n →
    Res file0 text p (fun r : PTok × PS => NextOK file0 text p r.1 r.2) (nextinto n p)
  | 0, _, _, hn => by omega
  | n + 1, p, h, hn => by
    unfold nextinto
    match scanP p, scanP_ok h with
    | .error _, hs => exact hs
    | .ok (t, p1), (hr : Reach file0 text p t p1) =>
      refine Outcome.ite (fun hh => ?_) (fun _ => (hr.newline _).toNextOK)
      have hlt : p1.s.len < p.s.len := hr.prog.lt (by rw [hh.2]; decide)
      match directive p1, directive_ok hr.inv with
      | .error _, hd => exact hd.of_moved hr.toPMoved
      | .ok p2, (hd : PMoved file0 text p1 p2) =>
        have hm := hr.toPMoved.trans hd
        have := hd.len
        exact (nextinto_ok n p2 hd.inv (by omega)).mono (fun _ he => he.of_moved hm)
          (fun _ hn => hm.next hn)

theorem keyword_plain (lit : List UInt8) (k : Kind) (h : keyword lit = some k) : Plain k := by
  have hall : ∀ e ∈ Gen.Keywords.table, Plain e.2 := by decide +kernel
  exact hall _ ((bsearch_mem Gen.Keywords.table keywords_sorted lit k).mp h)

theorem toKeyword_eq_or (t : PTok) : t.toKeyword = t ∨
    ∃ k, Plain k ∧ t.kind = .TIDENT ∧ t.toKeyword = { t with kind := k, lit := none } := by
  unfold PTok.toKeyword
  by_cases hk : t.kind = .TIDENT
  · rw [if_pos hk]
    cases hkw : t.lit.bind keyword with
    | none => exact Or.inl rfl
    | some k =>
      obtain ⟨l, _, hl⟩ := Option.bind_eq_some_iff.mp hkw
      exact Or.inr ⟨k, keyword_plain l k hl, hk, rfl⟩
  · rw [if_neg hk]; exact Or.inl rfl

theorem NextOK.toKeyword {p0 p : PS} {t : PTok} (h : NextOK file0 text p0 t p) :
    NextOK file0 text p0 t.toKeyword p := by
  rcases toKeyword_eq_or t with e | ⟨k, ⟨h1, h2⟩, hk, e⟩ <;> rw [e]
  · exact h
  · have hne : text[t.off]? ≠ none := fun e => by have := h.tok.eof.mpr e; rw [hk] at this; cases this
    have hnn : text[t.off]? ≠ some (c! '\n') := fun e => by have := h.tok.nl.mpr e; rw [hk] at this; cases this
    exact { h with
      tok := { h.tok with eof := ⟨fun e => absurd e h1, fun e => absurd e hne⟩,
                          nl := ⟨fun e => absurd e h2, fun e => absurd e hnn⟩ }
      lt := fun _ => h.lt (by rw [hk]; decide)
      eq := fun e => absurd e h1
      prog := h.prog.imp_right fun e => by rw [hk] at e; cases e.1 }

theorem next_ok (nl : Bool) : ∀ (n : Nat) (p : PS), PInv file0 text p → p.s.len + 1 ≤ n →
    Res file0 text p (fun r : PTok × PS => NextOK file0 text p r.1 r.2) (next nl n p)
  | 0, _, _, hn => by omega
  | n + 1, p, h, hn => by
    unfold next
    match nextinto (p.s.inp.length + 2) p, nextinto_ok _ p h (Nat.le_succ _) with
    | .error _, hn => exact hn
    | .ok (t, p1), (hr : NextOK file0 text p t p1) =>
      refine Outcome.ite (fun hh => ?_) (fun _ => hr.toKeyword)
      have hlt : p1.s.len < p.s.len := hr.prog.lt (by rw [hh.1]; decide)
      exact (next_ok nl n p1 hr.inv (by omega)).mono (fun _ he => he.of_moved hr.toPMoved)
        (fun _ hn => hr.toPMoved.next hn)

/-- what a run started at offset `o` under the directives `D0` delivers (`b` is where the scanner
stood when the failing `next()` was entered) -/
structure RunOK (file0 text : List UInt8) (D0 : List (Nat × Nat × Option (List UInt8))) (o : Nat)
    (r : Run) : Prop where
  ext : Ext D0 o r.dirs
  sorted : (r.dirs.map toDir).Pairwise (fun a b => a.endOff < b.endOff)
  toks : ∀ t ∈ r.toks, o ≤ t.off ∧ SpecOK file0 text (r.dirs.map toDir) t
  incr : r.toks.Pairwise (fun a b => a.off < b.off)
  err : ∀ e, r.err = some e → NF e ∧ ∃ b, o ≤ b ∧ (∀ t ∈ r.toks, t.off < b) ∧
    ErrAt file0 text (r.dirs.map toDir) b e
  eof : r.err = none → ∃ ts t, r.toks = ts ++ [t] ∧ t.kind = .TEOF ∧ ∀ x ∈ ts, x.kind ≠ .TEOF

theorem runLoop_ok (nl : Bool) : ∀ (n : Nat) (p : PS), PInv file0 text p → p.s.len + 1 ≤ n →
    RunOK file0 text p.dirs (off p.s) (runLoop nl n p)
  | 0, _, _, hn => by omega
  | n + 1, p, h, hn => by
    unfold runLoop
    match next nl (p.s.inp.length + 2) p, next_ok nl _ p h (Nat.le_succ _) with
    | .error e, (he : ErrGood file0 text p e) =>
      exact {
        ext := he.ext, sorted := he.sorted, incr := .nil
        toks := fun _ h => nomatch h
        err := fun _ h => by cases h; exact ⟨he.nf, _, Nat.le_refl _, (fun _ h => nomatch h), he.loc⟩
        eof := fun h => nomatch h }
    | .ok (t, p1), (hr : NextOK file0 text p t p1) =>
      dsimp only
      by_cases hk : t.kind = .TEOF
      · rw [if_pos hk]
        exact {
          ext := hr.ext, sorted := hr.inv.sorted, incr := List.pairwise_singleton _ _
          toks := fun t' ht' => by cases List.mem_singleton.mp ht'; exact ⟨hr.ge, hr.tok.specOK⟩
          err := fun _ he => nomatch he
          eof := fun _ => ⟨[], t, rfl, hk, fun _ h => nomatch h⟩ }
      · rw [if_neg hk]
        have hlt := hr.lt hk
        have hlen : p1.s.len < p.s.len := hr.prog.lt hk
        have ih := runLoop_ok nl n p1 hr.inv (by omega)
        refine {
          ext := hr.ext.trans ih.ext hr.mono, sorted := ih.sorted
          incr := List.pairwise_cons.mpr ⟨fun t' ht' => Nat.lt_of_lt_of_le hlt (ih.toks t' ht').1, ih.incr⟩
          toks := fun t' ht' => ?_, err := fun e he => ?_, eof := fun hnone => ?_ }
        · rcases List.mem_cons.mp ht' with rfl | ht'
          · exact ⟨hr.ge, hr.tok.specOK.ext ih.ext (Nat.le_of_lt hlt)⟩
          · exact ⟨Nat.le_trans hr.mono (ih.toks t' ht').1, (ih.toks t' ht').2⟩
        · obtain ⟨hnf, b, hb, hbt, hat⟩ := ih.err e he
          exact ⟨hnf, b, Nat.le_trans hr.mono hb,
            List.forall_mem_cons.mpr ⟨Nat.lt_of_lt_of_le hlt hb, hbt⟩, hat⟩
        · obtain ⟨ts, tl, e1, e2, e3⟩ := ih.eof hnone
          exact ⟨t :: ts, tl, congrArg (t :: ·) e1, e2, List.forall_mem_cons.mpr ⟨hk, e3⟩⟩

end CprocVerif.PPLine
