/-
  C01, fragment 𝔽₂ — what `Lower2.funcstmt` emits in code without statements after a jump (`noDead`: `funcopen`
  never acts): `SGood`, which is `Good` without a value and says besides that a statement that does not end in
  `return`/`break`/`continue` leaves no jump pending, and that the slots it adds are numbered inside its own range
  of temporaries, with one `alloc` each in `allocs`.  What `funcstmt` returns on a statement with sub-statements is
  named with its parts as parameters (`iteOut` … `switchOut`), with one equation of `funcstmt` each.
-/
import CprocVerif.Lemmas.Lower2Struct

set_option linter.unusedSimpArgs false

namespace CprocVerif.LowerMach2
open CprocVerif.Qbe CprocVerif.Lower CprocVerif.Lower2 CprocVerif.CSem CprocVerif.CSem2 CprocVerif.CInt
open CprocVerif.LowerMach

/-- No statement other than one that begins with a `case`/`default` label follows a `return`/`break`/`continue`
    in the same block, and a `switch` body begins with a label (so `funcopen` never opens a `dead` block); the
    third clause of `for` is an expression statement. -/
def noDead : Stmt → Bool
  | .seq a b => (!a.endsJump || b.startsLabel) && noDead a && noDead b
  | .switch_ _ b => b.startsLabel && noDead b
  | .ite _ a => noDead a
  | .itee _ a b => noDead a && noDead b
  | .while_ _ b => noDead b
  | .dowhile b _ => noDead b
  | .for_ _ st b => st.isSimple && noDead b
  | _ => true

theorem noDead_of_simple {st : Stmt} (h : st.isSimple = true) : noDead st = true := by
  cases st <;> first | rfl | exact absurd h Bool.false_ne_true

/-- Types and element counts of the objects a statement declares, in the order of the `alloc`s. -/
def declTys : Stmt → List (CSem.Ty × Nat)
  | .decl _ t _ => [(t, 1)]
  | .adecl _ t n _ => [(t, n)]
  | .seq a b => declTys a ++ declTys b
  | .ite _ a => declTys a
  | .itee _ a b => declTys a ++ declTys b
  | .while_ _ b => declTys b
  | .dowhile b _ => declTys b
  | .for_ _ st b => declTys b ++ declTys st
  | .switch_ _ b => declTys b
  | _ => []

theorem declTys_simple {st : Stmt} (h : st.isSimple = true) : declTys st = [] := by
  cases st <;> first | rfl | exact absurd h Bool.false_ne_true

theorem funcopen_none {c : SCtx} (h : c.jump = none) : funcopen c = ([], c) := by
  unfold funcopen; rw [h]

def exprOut (cs : Bool) (c : SCtx) (e : Expr) : Out := funcexpr2 cs c.slots e c.ctx

theorem lowerE_eq (cs : Bool) {c : SCtx} (h : c.jump = none) (e : Expr) :
    lowerE cs c e = ⟨(exprOut cs c e).items, (exprOut cs c e).val, c.upd (exprOut cs c e).ctx⟩ := by
  simp only [lowerE, funcopen_none h, List.nil_append, exprOut]

def exprOut3 (cs : Bool) (c : SCtx) (e : Expr3) : Out := funcexpr3 cs c.slots e c.ctx

theorem lowerE3_eq (cs : Bool) {c : SCtx} (h : c.jump = none) (e : Expr3) :
    lowerE3 cs c e = ⟨(exprOut3 cs c e).items, (exprOut3 cs c e).val, c.upd (exprOut3 cs c e).ctx⟩ := by
  simp only [lowerE3, funcopen_none h, List.nil_append, exprOut3]

def jnzOut (cs : Bool) (c : SCtx) (t : CSem.Ty) (v : Val) : Out := jnzArg cs c.ctx t v

theorem lowerJnz_eq (cs : Bool) {c : SCtx} (h : c.jump = none) (t : CSem.Ty) (v : Val) :
    lowerJnz cs c t v = ⟨(jnzOut cs c t v).items, (jnzOut cs c t v).val, c.upd (jnzOut cs c t v).ctx⟩ := by
  simp only [lowerJnz, funcopen_none h, List.nil_append, jnzOut]

@[simp] theorem upd_lastid (c : SCtx) (x : Ctx) : (c.upd x).lastid = x.lastid := rfl
@[simp] theorem upd_blockid (c : SCtx) (x : Ctx) : (c.upd x).blockid = x.blockid := rfl
@[simp] theorem upd_cur (c : SCtx) (x : Ctx) : (c.upd x).cur = x.cur := rfl
@[simp] theorem upd_jump (c : SCtx) (x : Ctx) : (c.upd x).jump = c.jump := rfl
@[simp] theorem upd_slots (c : SCtx) (x : Ctx) : (c.upd x).slots = c.slots := rfl
@[simp] theorem upd_ctx (c : SCtx) (x : Ctx) : (c.upd x).ctx = x := rfl
@[simp] theorem ctx_lastid (c : SCtx) : c.ctx.lastid = c.lastid := rfl
@[simp] theorem ctx_blockid (c : SCtx) : c.ctx.blockid = c.blockid := rfl
@[simp] theorem ctx_cur (c : SCtx) : c.ctx.cur = c.cur := rfl
@[simp] theorem atLabel_lastid (c : SCtx) (l : String) : (c.atLabel l).lastid = c.lastid := rfl
@[simp] theorem atLabel_blockid (c : SCtx) (l : String) : (c.atLabel l).blockid = c.blockid := rfl
@[simp] theorem atLabel_cur (c : SCtx) (l : String) : (c.atLabel l).cur = l := rfl
@[simp] theorem atLabel_jump (c : SCtx) (l : String) : (c.atLabel l).jump = none := rfl
@[simp] theorem atLabel_slots (c : SCtx) (l : String) : (c.atLabel l).slots = c.slots := rfl
@[simp] theorem addBlocks_lastid (c : SCtx) (n : Nat) : (c.addBlocks n).lastid = c.lastid := rfl
@[simp] theorem addBlocks_blockid (c : SCtx) (n : Nat) : (c.addBlocks n).blockid = c.blockid + n := rfl
@[simp] theorem addBlocks_cur (c : SCtx) (n : Nat) : (c.addBlocks n).cur = c.cur := rfl
@[simp] theorem addBlocks_jump (c : SCtx) (n : Nat) : (c.addBlocks n).jump = c.jump := rfl
@[simp] theorem addBlocks_slots (c : SCtx) (n : Nat) : (c.addBlocks n).slots = c.slots := rfl
@[simp] theorem setJump_lastid (c : SCtx) (j : Jump) : (c.setJump j).lastid = c.lastid := rfl
@[simp] theorem setJump_blockid (c : SCtx) (j : Jump) : (c.setJump j).blockid = c.blockid := rfl
@[simp] theorem setJump_cur (c : SCtx) (j : Jump) : (c.setJump j).cur = c.cur := rfl
@[simp] theorem setJump_jump (c : SCtx) (j : Jump) : (c.setJump j).jump = some (c.jump.getD j) := rfl
@[simp] theorem setJump_slots (c : SCtx) (j : Jump) : (c.setJump j).slots = c.slots := rfl

macro "unf" loc:(Lean.Parser.Tactic.location)? : tactic =>
  `(tactic| try dsimp only [SCtx.atLabel, SCtx.upd, SCtx.addBlocks, SCtx.setJump, SCtx.ctx] $[$loc]?)

structure SGood (st : Stmt) (c : SCtx) (o : SOut) : Prop where
  lastid : c.lastid ≤ o.ctx.lastid
  blockid : c.blockid ≤ o.ctx.blockid
  labels : LabelsIn (fun j => c.blockid < j ∧ j ≤ o.ctx.blockid) (itemLabels o.items)
  cur : ∀ (ol : Open) (pre : List Item), curOf ol pre = c.cur → curOf ol (pre ++ o.items) = o.ctx.cur
  curOK : CurOK c.ctx → CurOK o.ctx.ctx
  jump : st.endsJump = false → o.ctx.jump = none
  sorted : ∀ new, o.ctx.slots = c.slots ++ new → new.Pairwise (· < ·)
  slots : ∃ new, o.ctx.slots = c.slots ++ new ∧ new.length = (declTys st).length ∧
    (∀ sl ∈ new, c.lastid < sl ∧ sl ≤ o.ctx.lastid) ∧ o.allocs = List.zipWith allocIns (declTys st) new

theorem curOK_mono {c : Ctx} {n : Nat} (h : CurOK c) (hn : c.blockid ≤ n) (l : Nat) :
    CurOK ⟨l, n, c.cur⟩ := by
  obtain ⟨name, j, h1, h2⟩ := h
  exact ⟨name, j, h1, by simp only; omega⟩

theorem curOK_label (name : String) (j n l : Nat) (h : j ≤ n) : CurOK ⟨l, n, lblName name j⟩ :=
  ⟨name, j, rfl, h⟩

theorem exprOut_good (cs : Bool) (c : SCtx) (e : Expr) : Good c.ctx (exprOut cs c e) :=
  funcexpr2_good cs c.slots e c.ctx

theorem exprOut3_good (cs : Bool) (c : SCtx) (e : Expr3) : Good c.ctx (exprOut3 cs c e) :=
  funcexpr3_good cs c.slots e c.ctx

theorem itemLabels_single_ins (i : Ins) : itemLabels [Item.ins i] = [] := rfl

theorem curOf_nil_append (ol : Open) (pre : List Item) : curOf ol (pre ++ []) = curOf ol pre := by
  rw [List.append_nil]

theorem initAddr_straight (c : Ctx) (slot : Nat) (t : CSem.Ty) (j : Nat) :
    Straight c (initAddr c slot t j) := by
  unfold initAddr
  split
  · exact Straight.refl _ _
  · exact funcinst_straight _ _ _ _

theorem lowerArgs_lastid (cs : Bool) (σ : List Nat) (es : List Expr) (c : Ctx) :
    c.lastid ≤ (lowerArgs cs σ es c).2.2.lastid :=
  (lowerArgs_emits cs σ es c).lastid

theorem ladder_emits (w : Bool) (v : Val) (lab : Nat → String) (dl : String) (t : Tree.T) :
    ∀ c : Ctx, Emits0 c (ladder w v lab dl t c).1 (ladder w v lab dl t c).2 := by
  induction t with
  | nil => intro c; exact Emits.nil c
  | node k h l r ihl ihr =>
    intro c
    simp only [ladder]
    exact (((((((((Emits.nil c).mkblock 3).andThen (Emits.ins _ _)).lbl _ "switch_ne" (c.blockid + 1) [] (by simp)).andThen
      (Emits.ins _ _)).lbl _ "switch_lt" (c.blockid + 2) [] (by simp)).andThen (ihl _)).lbl _ "switch_gt"
      (c.blockid + 3) [] (by simp)).andThen (ihr _)).close

/-- The fields `sorted` and `slots` of `SGood` together (`SGood.of_emits`, `SGood.slotsGood`), between any two slot
    lists and counters. -/
def SlotsGood (tys : List (CSem.Ty × Nat)) (sl0 : List Nat) (l0 : Nat) (sl1 : List Nat) (l1 : Nat)
    (al : List Item) : Prop :=
  l0 ≤ l1 ∧ ∃ new, sl1 = sl0 ++ new ∧ new.length = tys.length ∧ (∀ sl ∈ new, l0 < sl ∧ sl ≤ l1) ∧
    al = List.zipWith allocIns tys new ∧ new.Pairwise (· < ·)

theorem SGood.slotsGood {st : Stmt} {c : SCtx} {o : SOut} (g : SGood st c o) :
    SlotsGood (declTys st) c.slots c.lastid o.ctx.slots o.ctx.lastid o.allocs := by
  obtain ⟨new, h1, h2, h3, h4⟩ := g.slots
  exact ⟨g.lastid, new, h1, h2, h3, h4, g.sorted new h1⟩

theorem SlotsGood.nil (sl : List Nat) {l l' : Nat} (h : l ≤ l') : SlotsGood [] sl l sl l' [] :=
  ⟨h, [], (List.append_nil _).symm, rfl, by simp, rfl, List.Pairwise.nil⟩

theorem SlotsGood.single (d : CSem.Ty × Nat) (sl : List Nat) {l l' : Nat} (h : l + 1 ≤ l') :
    SlotsGood [d] sl l (sl ++ [l + 1]) l' [allocIns d (l + 1)] :=
  ⟨by omega, [l + 1], rfl, rfl, by simp; omega, rfl, List.pairwise_singleton _ _⟩

theorem SlotsGood.mono {tys : List (CSem.Ty × Nat)} {sl0 sl1 : List Nat} {l0 l1 l0' l1' : Nat} {al : List Item}
    (h : SlotsGood tys sl0 l0 sl1 l1 al) (h0 : l0' ≤ l0) (h1 : l1 ≤ l1') : SlotsGood tys sl0 l0' sl1 l1' al := by
  obtain ⟨hl, new, e1, e2, e3, e4, e5⟩ := h
  exact ⟨by omega, new, e1, e2, fun sl hsl => by have := e3 sl hsl; omega, e4, e5⟩

theorem SlotsGood.append {t1 t2 : List (CSem.Ty × Nat)} {sl0 sl1 sl2 : List Nat} {l0 l1 l1' l2 : Nat}
    {a1 a2 : List Item} (h1 : SlotsGood t1 sl0 l0 sl1 l1 a1) (h2 : SlotsGood t2 sl1 l1' sl2 l2 a2)
    (h11 : l1 ≤ l1') : SlotsGood (t1 ++ t2) sl0 l0 sl2 l2 (a1 ++ a2) := by
  obtain ⟨hl1, n1, e1, e2, e3, e4, e5⟩ := h1
  obtain ⟨hl2, n2, f1, f2, f3, f4, f5⟩ := h2
  refine ⟨by omega, n1 ++ n2, by rw [f1, e1, List.append_assoc], by simp [e2, f2], ?_, ?_, ?_⟩
  · intro sl hsl
    rcases List.mem_append.1 hsl with h | h
    · have := e3 sl h; omega
    · have := f3 sl h; omega
  · rw [e4, f4, List.zipWith_append e2.symm]
  · rw [List.pairwise_append]
    exact ⟨e5, f5, fun x hx y hy => by have := e3 x hx; have := f3 y hy; omega⟩

theorem SGood.emits {st : Stmt} {c : SCtx} {o : SOut} (g : SGood st c o) : Emits0 c.ctx o.items o.ctx.ctx :=
  ⟨g.lastid, g.blockid, fun _ h => h.elim, fun _ h => h.elim, g.labels.weaken fun _ h => ⟨Or.inr h, id⟩, g.cur⟩

theorem straight_ite {c : Ctx} {p : Prop} [Decidable p] {a b : Out} (ha : Straight c a) (hb : Straight c b) :
    Straight c (if p then a else b) := by
  split <;> assumption

/-- `l1` is the counter after the slots of the statement's own declaration were added. -/
theorem SGood.of_emits {st : Stmt} {c : SCtx} {l1 : Nat} {its al : List Item} {c' : Ctx} {j : Option Jump}
    {sl : List Nat} {cases : List (Nat × String)} {dflt : Option String}
    (E : Emits0 ⟨l1, c.blockid, c.cur⟩ its c') (hj : st.endsJump = false → j = none)
    (hs : l1 ≤ c'.lastid → SlotsGood (declTys st) c.slots c.lastid sl c'.lastid al) :
    SGood st c ⟨its, al, ⟨c'.lastid, c'.blockid, c'.cur, j, sl⟩, cases, dflt⟩ := by
  obtain ⟨lastid, new, e1, e2, e3, e4, e5⟩ := hs E.lastid
  exact ⟨lastid, E.blockid, E.labelsIn, E.cur, E.curOK, hj, fun new' h => List.append_cancel_left (e1 ▸ h) ▸ e5,
    new, e1, e2, e3, e4⟩

/-! ## The compound statements

What `funcstmt` returns for a statement with sub-statements, named with its parts (the lowered controlling
expression `oe`, the value branched on `oj`, the lowered sub-statements) and its labels as parameters, and one
equation per form.  Each equation holds by computation once the context has no jump pending literally (`funcopen`
reduces); `rfl` is also the cheap proof: Lean makes the equation lemmas of `funcstmt` anew in every declaration of the
first module that asks for them (0.9 M heartbeats each), and only import makes them free. -/

def iteOut (lt lf : String) (oe oj : Out) (oa : SOut) : SOut :=
  ⟨oe.items ++ oj.items ++ [.lbl (some (.jnz oj.val lt lf)) lt []] ++ oa.items ++ [labelItem oa.ctx lf],
   oa.allocs, oa.ctx.atLabel lf, [], none⟩

/-- `lj` is made after `a` was lowered. -/
def iteeOut (lt lf lj : String) (oe oj : Out) (oa ob : SOut) : SOut :=
  ⟨oe.items ++ oj.items ++ [.lbl (some (.jnz oj.val lt lf)) lt []] ++ oa.items ++
     [labelItem ((oa.ctx.addBlocks 1).setJump (.jmp lj)) lf] ++ ob.items ++ [labelItem ob.ctx lj],
   oa.allocs ++ ob.allocs, ob.ctx.atLabel lj, [], none⟩

def whileOut (c : SCtx) (lc lb lj : String) (oe oj : Out) (ob : SOut) : SOut :=
  ⟨[labelItem c lc] ++ oe.items ++ oj.items ++ [.lbl (some (.jnz oj.val lb lj)) lb []] ++ ob.items ++
     [labelItem (ob.ctx.setJump (.jmp lc)) lj],
   ob.allocs, ob.ctx.atLabel lj, [], none⟩

def doOut (c : SCtx) (lb lc lj : String) (ob : SOut) (oe oj : Out) : SOut :=
  ⟨[labelItem c lb] ++ ob.items ++ [labelItem ob.ctx lc] ++ oe.items ++ oj.items ++
     [.lbl (some (.jnz oj.val lb lj)) lj []],
   ob.allocs, (((ob.ctx.atLabel lc).upd oe.ctx).upd oj.ctx).atLabel lj, [], none⟩

/-- `hd` is what the head emits (condition and branch, or nothing) up to and including the label of the body. -/
def forOut (c : SCtx) (lc lt lj : String) (hd : List Item) (ob os : SOut) : SOut :=
  ⟨[labelItem c lc] ++ hd ++ ob.items ++ [labelItem ob.ctx lt] ++ os.items ++
     [labelItem (os.ctx.setJump (.jmp lc)) lj],
   ob.allocs ++ os.allocs, os.ctx.atLabel lj, [], none⟩

/-- The pair `hd` of `funcstmt` on `for`: the head of a pass, lowered at `for_cond` (`c1`), and the context of the body. -/
def forHead (cs : Bool) (c1 : SCtx) (lb lj : String) : Option Expr3 → List Item × SCtx
  | none => ([.lbl none lb []], c1.atLabel lb)
  | some e =>
    let oe := exprOut3 cs c1 e
    let oj := jnzOut cs (c1.upd oe.ctx) e.ty oe.val
    (oe.items ++ oj.items ++ [.lbl (some (.jnz oj.val lb lj)) lb []], ((c1.upd oe.ctx).upd oj.ctx).atLabel lb)

/-- `lad` is the comparison ladder, `dl` where it ends. -/
def switchOut (lc lj dl : String) (oe : Out) (ob : SOut) (lad : List Item × Ctx) : SOut :=
  ⟨oe.items ++ ob.items ++ [labelItem (ob.ctx.setJump (.jmp lj)) lc] ++ lad.1 ++ [.lbl (some (.jmp dl)) lj []],
   ob.allocs, (((ob.ctx.setJump (.jmp lj)).atLabel lc).upd lad.2).atLabel lj, [], none⟩

section Equations
variable (cs : Bool) (brk cont : String) {c : SCtx} {e : Expr3} {oe oj : Out}

theorem funcstmt_ite (hj : c.jump = none) {a : Stmt} {lt lf : String} {oa : SOut}
    (hoe : exprOut3 cs c e = oe) (hoj : jnzOut cs ((c.upd oe.ctx).addBlocks 2) e.ty oe.val = oj)
    (hlt : lblName "if_true" ((c.upd oe.ctx).blockid + 1) = lt)
    (hlf : lblName "if_false" ((c.upd oe.ctx).blockid + 2) = lf)
    (hoa : funcstmt cs brk cont a ((((c.upd oe.ctx).addBlocks 2).upd oj.ctx).atLabel lt) = oa) :
    funcstmt cs brk cont (.ite e a) c = iteOut lt lf oe oj oa := by
  subst hoe hoj hlt hlf hoa
  obtain ⟨l, bl, cur, j, sl⟩ := c
  cases hj
  rfl

theorem funcstmt_itee (hj : c.jump = none) {a b : Stmt} {lt lf lj : String} {oa ob : SOut}
    (hoe : exprOut3 cs c e = oe) (hoj : jnzOut cs ((c.upd oe.ctx).addBlocks 2) e.ty oe.val = oj)
    (hlt : lblName "if_true" ((c.upd oe.ctx).blockid + 1) = lt)
    (hlf : lblName "if_false" ((c.upd oe.ctx).blockid + 2) = lf)
    (hoa : funcstmt cs brk cont a ((((c.upd oe.ctx).addBlocks 2).upd oj.ctx).atLabel lt) = oa)
    (hlj : lblName "if_join" (oa.ctx.blockid + 1) = lj)
    (hob : funcstmt cs brk cont b (((oa.ctx.addBlocks 1).setJump (.jmp lj)).atLabel lf) = ob) :
    funcstmt cs brk cont (.itee e a b) c = iteeOut lt lf lj oe oj oa ob := by
  subst hoe hoj hlt hlf hoa hlj hob
  obtain ⟨l, bl, cur, j, sl⟩ := c
  cases hj
  rfl

theorem funcstmt_while (c : SCtx) {b : Stmt} {lc lb lj : String} {ob : SOut}
    (hlc : lblName "while_cond" (c.blockid + 1) = lc) (hlb : lblName "while_body" (c.blockid + 2) = lb)
    (hlj : lblName "while_join" (c.blockid + 3) = lj)
    (hoe : exprOut3 cs ((c.addBlocks 3).atLabel lc) e = oe)
    (hoj : jnzOut cs (((c.addBlocks 3).atLabel lc).upd oe.ctx) e.ty oe.val = oj)
    (hob : funcstmt cs lj lc b (((((c.addBlocks 3).atLabel lc).upd oe.ctx).upd oj.ctx).atLabel lb) = ob) :
    funcstmt cs brk cont (.while_ e b) c = whileOut c lc lb lj oe oj ob := by
  subst hlc hlb hlj hoe hoj hob
  rfl

theorem funcstmt_dowhile (c : SCtx) {b : Stmt} {lb lc lj : String} {ob : SOut}
    (hlb : lblName "do_body" (c.blockid + 1) = lb) (hlc : lblName "do_cond" (c.blockid + 2) = lc)
    (hlj : lblName "do_join" (c.blockid + 3) = lj)
    (hob : funcstmt cs lj lc b ((c.addBlocks 3).atLabel lb) = ob)
    (hoe : exprOut3 cs (ob.ctx.atLabel lc) e = oe)
    (hoj : jnzOut cs ((ob.ctx.atLabel lc).upd oe.ctx) e.ty oe.val = oj) :
    funcstmt cs brk cont (.dowhile b e) c = doOut c lb lc lj ob oe oj := by
  subst hlb hlc hlj hob hoe hoj
  rfl

theorem funcstmt_for (c : SCtx) {eo : Option Expr3} {step b : Stmt} {lc lb lt lj : String}
    {hd : List Item × SCtx} {ob os : SOut}
    (hlc : lblName "for_cond" (c.blockid + 1) = lc) (hlb : lblName "for_body" (c.blockid + 2) = lb)
    (hlt : lblName "for_cont" (c.blockid + 3) = lt) (hlj : lblName "for_join" (c.blockid + 4) = lj)
    (hhd : forHead cs ((c.addBlocks 4).atLabel lc) lb lj eo = hd)
    (hob : funcstmt cs lj lt b hd.2 = ob) (hos : funcstmt cs brk cont step (ob.ctx.atLabel lt) = os) :
    funcstmt cs brk cont (.for_ eo step b) c = forOut c lc lt lj hd.1 ob os := by
  subst hlc hlb hlt hlj hhd hob hos
  cases eo <;> rfl

theorem funcstmt_switch (hj : c.jump = none) {b : Stmt} {lc lj dl : String} {ob : SOut} {lad : List Item × Ctx}
    (hoe : exprOut3 cs (c.addBlocks 2) e = oe)
    (hlc : lblName "switch_cond" (c.blockid + 1) = lc) (hlj : lblName "switch_join" (c.blockid + 2) = lj)
    (hob : funcstmt cs lj cont b (((c.addBlocks 2).upd oe.ctx).setJump (.jmp lc)) = ob)
    (hdl : ob.dflt.getD lj = dl)
    (hlad : ladder (decide (e.ty.size ≤ 4)) oe.val (caseLabel e.ty ob.cases dl) dl (switchTree e.ty ob.cases)
      (((ob.ctx.setJump (.jmp lj)).atLabel lc).ctx) = lad) :
    funcstmt cs brk cont (.switch_ e b) c = switchOut lc lj dl oe ob lad := by
  subst hoe hlc hlj hob hdl hlad
  obtain ⟨l, bl, cur, j, sl⟩ := c
  cases hj
  rfl

end Equations

section Compound
variable {c : SCtx} {e : Expr3} {oe oj : Out}

theorem sgood_seq {a b : Stmt} {oa ob : SOut} {cases : List (Nat × String)} {dflt : Option String}
    (ga : SGood a c oa) (gb : SGood b oa.ctx ob) :
    SGood (.seq a b) c ⟨oa.items ++ ob.items, oa.allocs ++ ob.allocs, ob.ctx, cases, dflt⟩ :=
  SGood.of_emits (l1 := c.lastid) (c' := ob.ctx.ctx) (ga.emits.andThen gb.emits) gb.jump
    fun _ => ga.slotsGood.append gb.slotsGood (Nat.le_refl _)

theorem sgood_ite {a : Stmt} {oa : SOut} (ge : Good c.ctx oe)
    (sj : Straight ⟨oe.ctx.lastid, oe.ctx.blockid + 2, oe.ctx.cur⟩ oj)
    (ga : SGood a ⟨oj.ctx.lastid, oj.ctx.blockid, lblName "if_true" (oe.ctx.blockid + 1), none, c.slots⟩ oa) :
    SGood (.ite e a) c
      (iteOut (lblName "if_true" (oe.ctx.blockid + 1)) (lblName "if_false" (oe.ctx.blockid + 2)) oe oj oa) := by
  refine SGood.of_emits (l1 := c.lastid)
    (c' := ⟨oa.ctx.lastid, oa.ctx.blockid, lblName "if_false" (oe.ctx.blockid + 2)⟩) ?_ (fun _ => rfl)
    (fun _ => ga.slotsGood.mono (Nat.le_trans ge.lastid sj.lastid) (Nat.le_refl _))
  exact (((((ge.emits.mkblock 2).andThen sj.emits).lbl _ "if_true" (oe.ctx.blockid + 1) [] (by simp)).andThen
    ga.emits).lbl _ "if_false" (oe.ctx.blockid + 2) [] (by simp)).close

theorem sgood_itee {a b : Stmt} {oa ob : SOut} (ge : Good c.ctx oe)
    (sj : Straight ⟨oe.ctx.lastid, oe.ctx.blockid + 2, oe.ctx.cur⟩ oj)
    (ga : SGood a ⟨oj.ctx.lastid, oj.ctx.blockid, lblName "if_true" (oe.ctx.blockid + 1), none, c.slots⟩ oa)
    (gb : SGood b ⟨oa.ctx.lastid, oa.ctx.blockid + 1, lblName "if_false" (oe.ctx.blockid + 2), none,
      oa.ctx.slots⟩ ob) :
    SGood (.itee e a b) c
      (iteeOut (lblName "if_true" (oe.ctx.blockid + 1)) (lblName "if_false" (oe.ctx.blockid + 2))
        (lblName "if_join" (oa.ctx.blockid + 1)) oe oj oa ob) := by
  -- the block `if_join` is made after the first arm: its number is above those of `if_true`, `if_false`
  have hne : oa.ctx.blockid + 1 ≠ oe.ctx.blockid + 2 := by
    have := sj.blockid; have := ga.blockid
    simp only at *; omega
  refine SGood.of_emits (l1 := c.lastid)
    (c' := ⟨ob.ctx.lastid, ob.ctx.blockid, lblName "if_join" (oa.ctx.blockid + 1)⟩) ?_ (fun _ => rfl)
    (fun _ => (ga.slotsGood.mono (Nat.le_trans ge.lastid sj.lastid) (Nat.le_refl _)).append gb.slotsGood
      (Nat.le_refl _))
  exact ((((((((ge.emits.mkblock 2).andThen sj.emits).lbl _ "if_true" (oe.ctx.blockid + 1) [] (by simp)).andThen
    ga.emits).mkblock 1).lbl _ "if_false" (oe.ctx.blockid + 2) [] (by simp)).andThen gb.emits).lbl _ "if_join"
    (oa.ctx.blockid + 1) [] ⟨Or.inr ⟨Nat.lt_succ_self _, Nat.le_refl _⟩, hne⟩).close

theorem sgood_while {b : Stmt} {ob : SOut}
    (ge : Good ⟨c.lastid, c.blockid + 3, lblName "while_cond" (c.blockid + 1)⟩ oe) (sj : Straight oe.ctx oj)
    (gb : SGood b ⟨oj.ctx.lastid, oj.ctx.blockid, lblName "while_body" (c.blockid + 2), none, c.slots⟩ ob) :
    SGood (.while_ e b) c
      (whileOut c (lblName "while_cond" (c.blockid + 1)) (lblName "while_body" (c.blockid + 2))
        (lblName "while_join" (c.blockid + 3)) oe oj ob) := by
  refine SGood.of_emits (l1 := c.lastid)
    (c' := ⟨ob.ctx.lastid, ob.ctx.blockid, lblName "while_join" (c.blockid + 3)⟩) ?_ (fun _ => rfl)
    (fun _ => gb.slotsGood.mono (Nat.le_trans ge.lastid sj.lastid) (Nat.le_refl _))
  exact ((((((((Emits.nil c.ctx).mkblock 3).lbl _ "while_cond" (c.blockid + 1) [] (by simp)).andThen ge.emits).andThen
    sj.emits).lbl _ "while_body" (c.blockid + 2) [] (by simp)).andThen gb.emits).lbl _ "while_join" (c.blockid + 3) []
    (by simp)).close

theorem sgood_dowhile {b : Stmt} {ob : SOut}
    (gb : SGood b ⟨c.lastid, c.blockid + 3, lblName "do_body" (c.blockid + 1), none, c.slots⟩ ob)
    (ge : Good ⟨ob.ctx.lastid, ob.ctx.blockid, lblName "do_cond" (c.blockid + 2)⟩ oe) (sj : Straight oe.ctx oj) :
    SGood (.dowhile b e) c
      (doOut c (lblName "do_body" (c.blockid + 1)) (lblName "do_cond" (c.blockid + 2)) (lblName "do_join" (c.blockid + 3))
        ob oe oj) := by
  refine SGood.of_emits (l1 := c.lastid)
    (c' := ⟨oj.ctx.lastid, oj.ctx.blockid, lblName "do_join" (c.blockid + 3)⟩) ?_ (fun _ => rfl)
    (fun _ => gb.slotsGood.mono (Nat.le_refl _) (Nat.le_trans ge.lastid sj.lastid))
  exact ((((((((Emits.nil c.ctx).mkblock 3).lbl _ "do_body" (c.blockid + 1) [] (by simp)).andThen gb.emits).lbl _
    "do_cond" (c.blockid + 2) [] (by simp)).andThen ge.emits).andThen sj.emits).lbl _ "do_join" (c.blockid + 3) []
    (by simp)).close

/-- The head runs while `for_body`, `for_cont`, `for_join` are made and not yet labelled; `hh` says, for whatever set
    `U` of such blocks contains `for_body`, that it labels exactly that one. -/
theorem sgood_for {eo : Option Expr3} {step b : Stmt} {hd : List Item × SCtx} {ob os : SOut}
    (hh : ∀ {U : Nat → Prop}, U (c.blockid + 2) → (∀ j, U j → j ≤ c.blockid + 4) →
      Emits U ⟨c.lastid, c.blockid + 4, lblName "for_cond" (c.blockid + 1)⟩ hd.1 hd.2.ctx
        (fun x => U x ∧ x ≠ c.blockid + 2))
    (hsl : hd.2.slots = c.slots) (gb : SGood b hd.2 ob)
    (gs : SGood step ⟨ob.ctx.lastid, ob.ctx.blockid, lblName "for_cont" (c.blockid + 3), none, ob.ctx.slots⟩ os) :
    SGood (.for_ eo step b) c
      (forOut c (lblName "for_cond" (c.blockid + 1)) (lblName "for_cont" (c.blockid + 3))
        (lblName "for_join" (c.blockid + 4)) hd.1 ob os) := by
  have E1 := ((Emits.nil c.ctx).mkblock 4).lbl c.jump "for_cond" (c.blockid + 1) [] (by simp)
  have E2 := E1.seq (hh (by simp) E1.bound')
  refine SGood.of_emits (l1 := c.lastid)
    (c' := ⟨os.ctx.lastid, os.ctx.blockid, lblName "for_join" (c.blockid + 4)⟩) ?_ (fun _ => rfl)
    (fun _ => ((hsl ▸ gb.slotsGood).mono E2.lastid (Nat.le_refl _)).append gs.slotsGood (Nat.le_refl _))
  exact ((((E2.andThen gb.emits).lbl _ "for_cont" (c.blockid + 3) [] (by simp)).andThen gs.emits).lbl _ "for_join"
    (c.blockid + 4) [] (by simp)).close

theorem sgood_switch {b : Stmt} {ob : SOut} {w : Bool} {v : Val} {lab : Nat → String} {dl dl' : String}
    {tree : Tree.T} (ge : Good ⟨c.lastid, c.blockid + 2, c.cur⟩ oe)
    (gb : SGood b ⟨oe.ctx.lastid, oe.ctx.blockid, oe.ctx.cur, some (.jmp (lblName "switch_cond" (c.blockid + 1))),
      c.slots⟩ ob) :
    SGood (.switch_ e b) c
      (switchOut (lblName "switch_cond" (c.blockid + 1)) (lblName "switch_join" (c.blockid + 2)) dl oe ob
        (ladder w v lab dl' tree ⟨ob.ctx.lastid, ob.ctx.blockid, lblName "switch_cond" (c.blockid + 1)⟩)) := by
  have gl := ladder_emits w v lab dl' tree ⟨ob.ctx.lastid, ob.ctx.blockid, lblName "switch_cond" (c.blockid + 1)⟩
  refine SGood.of_emits (l1 := c.lastid)
    (c' := ⟨(ladder w v lab dl' tree ⟨ob.ctx.lastid, ob.ctx.blockid, lblName "switch_cond" (c.blockid + 1)⟩).2.lastid,
      (ladder w v lab dl' tree ⟨ob.ctx.lastid, ob.ctx.blockid, lblName "switch_cond" (c.blockid + 1)⟩).2.blockid,
      lblName "switch_join" (c.blockid + 2)⟩) ?_ (fun _ => rfl)
    (fun _ => gb.slotsGood.mono ge.lastid gl.lastid)
  exact (((((((Emits.nil c.ctx).mkblock 2).andThen ge.emits).andThen gb.emits).lbl _ "switch_cond" (c.blockid + 1) []
    (by simp)).andThen gl).lbl _ "switch_join" (c.blockid + 2) [] (by simp)).close

end Compound

theorem funcstmt_good (cs : Bool) (st : Stmt) : ∀ (brk cont : String) (c : SCtx),
    (c.jump = none ∨ st.startsLabel = true) →
    noDead st = true → SGood st c (funcstmt cs brk cont st c) := by
  induction st
  all_goals intro brk cont c hj0 hnd
  case seq a b iha ihb =>
    simp only [noDead, Bool.and_eq_true, Bool.or_eq_true, Bool.not_eq_true'] at hnd
    obtain ⟨⟨hea, hna⟩, hnb⟩ := hnd
    have ga := iha brk cont c hj0 hna
    -- the one request for the equation lemmas of `funcstmt` in this file: it makes them for the modules downstream
    simp only [funcstmt]
    exact sgood_seq ga (ihb brk cont _ (hea.imp ga.jump id) hnb)
  case case_ u =>
    exact SGood.of_emits (l1 := c.lastid) (c' := ⟨c.lastid, c.blockid + 1, lblName "switch_case" (c.blockid + 1)⟩)
      (((Emits.nil c.ctx).mkblock 1).lbl _ "switch_case" (c.blockid + 1) [] (by simp)).close (fun _ => rfl)
      (SlotsGood.nil _)
  case default_ =>
    exact SGood.of_emits (l1 := c.lastid) (c' := ⟨c.lastid, c.blockid + 1, lblName "switch_default" (c.blockid + 1)⟩)
      (((Emits.nil c.ctx).mkblock 1).lbl _ "switch_default" (c.blockid + 1) [] (by simp)).close (fun _ => rfl)
      (SlotsGood.nil _)
  -- every other statement starts in a block without pending jump; with `c` taken apart and its jump literally
  -- `none`, `funcopen` and `funcstmt` reduce, so that each case below is closed by its chain of `Emits` steps alone
  all_goals
    obtain ⟨l, bl, cur, j, sl⟩ := c
    cases hj0.resolve_right Bool.false_ne_true
  case skip => exact SGood.of_emits (Emits.nil _) (fun _ => rfl) (SlotsGood.nil _)
  case decl i t init =>
    cases init with
    | none =>
      exact SGood.of_emits (c := ⟨l, bl, cur, none, sl⟩) (Emits.nil ⟨l + 1, bl, cur⟩) (fun _ => rfl)
        (SlotsGood.single _ _)
    | some e =>
      exact SGood.of_emits (c := ⟨l, bl, cur, none, sl⟩) (l1 := l + 1)
        ((funcexpr3_good cs _ e _).emits.andThen (Emits.ins0 _ _)) (fun _ => rfl) (SlotsGood.single _ _)
  case adecl i t n xb =>
    exact SGood.of_emits (c := ⟨l, bl, cur, none, sl⟩) (Emits.nil ⟨l + 1, bl, cur⟩) (fun _ => rfl)
      (SlotsGood.single _ _)
  case assign i t e =>
    exact SGood.of_emits ((funcexpr3_good cs _ e _).emits.andThen (Emits.ins0 _ _)) (fun _ => rfl) (SlotsGood.nil _)
  case expr e => exact SGood.of_emits (funcexpr3_good cs _ e _).emits (fun _ => rfl) (SlotsGood.nil _)
  case ret e => exact SGood.of_emits (funcexpr3_good cs _ e _).emits (fun h => nomatch h) (SlotsGood.nil _)
  case break_ | continue_ => exact SGood.of_emits (Emits.nil _) (fun h => nomatch h) (SlotsGood.nil _)
  case incdec i t inc =>
    exact SGood.of_emits (((((Emits.nil _).andThen (funcinst_straight _ _ _ _).emits).andThen
      (funcinst_straight _ _ _ _).emits).andThen (straight_ite (convert_straight _ _ _ _ _) (Straight.refl _ _)).emits).andThen
      (Emits.ins0 _ _)) (fun _ => rfl) (SlotsGood.nil _)
  case ite e a iha =>
    exact sgood_ite (funcexpr3_good cs _ e _) (jnzArg_straight _ _ _ _) (iha brk cont _ (Or.inl rfl) hnd)
  case itee e a b iha ihb =>
    simp only [noDead, Bool.and_eq_true] at hnd
    exact sgood_itee (funcexpr3_good cs _ e _) (jnzArg_straight _ _ _ _) (iha brk cont _ (Or.inl rfl) hnd.1)
      (ihb brk cont _ (Or.inl rfl) hnd.2)
  case while_ e b ihb =>
    exact sgood_while (funcexpr3_good cs _ e _) (jnzArg_straight _ _ _ _) (ihb _ _ _ (Or.inl rfl) hnd)
  case dowhile b e ihb =>
    exact sgood_dowhile (ihb _ _ _ (Or.inl rfl) hnd) (funcexpr3_good cs _ e _) (jnzArg_straight _ _ _ _)
  case for_ e step b ihs ihb =>
    simp only [noDead, Bool.and_eq_true] at hnd
    have hsn := noDead_of_simple hnd.1
    cases e with
    | none =>
      exact sgood_for (c := ⟨l, bl, cur, none, sl⟩) (hd := ([Item.lbl none (lblName "for_body" (bl + 2)) []], _))
        (fun hU hb => ((Emits.nil _).frame hb).lbl none "for_body" (bl + 2) [] hU) rfl
        (ihb _ _ _ (Or.inl rfl) hnd.2) (ihs _ _ _ (Or.inl rfl) hsn)
    | some e =>
      exact sgood_for (c := ⟨l, bl, cur, none, sl⟩) (eo := some e)
        (fun hU hb => (((funcexpr3_good cs sl e ⟨l, bl + 4, lblName "for_cond" (bl + 1)⟩).emits.andThen
          (jnzArg_straight _ _ _ _).emits).frame hb).lbl _ "for_body" (bl + 2) [] hU) rfl
        (ihb (lblName "for_join" (bl + 4)) (lblName "for_cont" (bl + 3)) _ (Or.inl rfl) hnd.2)
        (ihs brk cont _ (Or.inl rfl) hsn)
  case switch_ e b ihb =>
    simp only [noDead, Bool.and_eq_true] at hnd
    exact sgood_switch (funcexpr3_good cs _ e _) (ihb _ _ _ (Or.inr hnd.1) hnd.2)
  case call dst rt fn args | callp dst rt fn pargs args =>
    cases dst with
    | none =>
      exact SGood.of_emits (((Emits.nil _).andThen (lowerArgs_emits cs sl args ⟨l, bl, cur⟩)).andThen
        (Emits.ins _ _)) (fun _ => rfl) (SlotsGood.nil _)
    | some d =>
      exact SGood.of_emits (((((Emits.nil _).andThen (lowerArgs_emits cs sl args ⟨l, bl, cur⟩)).andThen
        (Emits.ins _ _)).andThen (straight_ite (Straight.refl _ _) (convert_straight _ _ _ _ _)).emits).andThen
        (Emits.ins0 _ _)) (fun _ => rfl) (SlotsGood.nil _)
  case aload dst dt arr t n xb idx =>
    exact SGood.of_emits (((((Emits.nil _).andThen (lowerAddr_isGood cs sl ⟨l, bl, cur⟩ _ t idx).emits).andThen
      (funcinst_straight _ _ _ _).emits).andThen (straight_ite (Straight.refl _ _) (convert_straight _ _ _ _ _)).emits).andThen
      (Emits.ins0 _ _)) (fun _ => rfl) (SlotsGood.nil _)
  case ainit arr t n xb j e =>
    exact SGood.of_emits ((((Emits.nil _).andThen (initAddr_straight ⟨l, bl, cur⟩ _ t j).emits).andThen
      (funcexpr3_good cs sl e _).emits).andThen (Emits.ins0 _ _)) (fun _ => rfl) (SlotsGood.nil _)
  case astore arr t n xb idx e =>
    exact SGood.of_emits (((funcexpr3_good cs _ e _).emits.andThen (lowerAddr_isGood cs sl _ _ t idx).emits).andThen
      (Emits.ins0 _ _)) (fun _ => rfl) (SlotsGood.nil _)
  case pload dst dt k t w c0 idx =>
    exact SGood.of_emits (((((((Emits.nil ⟨l, bl, cur⟩).andThen (funcinst_straight _ _ _ _).emits).andThen
      (funcexpr2_good cs sl (offOf t idx) _).emits).andThen (funcinst_straight _ _ _ _).emits).andThen
      (funcinst_straight _ _ _ _).emits).andThen (straight_ite (Straight.refl _ _) (convert_straight _ _ _ _ _)).emits).andThen
      (Emits.ins0 _ _)) (fun _ => rfl) (SlotsGood.nil _)

end CprocVerif.LowerMach2
