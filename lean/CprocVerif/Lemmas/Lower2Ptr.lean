/-
  C01, fragment 𝔽₂ — `x = p[i];` where `p` is a read-only array parameter (a pointer into an allocation of a
  caller): the pointer is loaded from its slot, the offset is added, the element is loaded from the caller's
  array, converted and stored.
-/
import CprocVerif.Lemmas.Lower2Arr

set_option linter.unusedSimpArgs false

namespace CprocVerif.LowerMach2
open CprocVerif.Qbe CprocVerif.Lower CprocVerif.Lower2 CprocVerif.CSem CprocVerif.CSem2 CprocVerif.CInt
open CprocVerif.LowerArith CprocVerif.LowerMach CprocVerif.LowerMem

section
variable (T : Stat) {s : Store} {out : CSem2.Outcome} {lp : Bool × Bool} {brk cont : String} {c : SCtx}
  {nd nd' : Nat} {pre post : List Item} {env : Env} {M : Mem}

theorem sim_pload (n : Nat) (dst : Nat) (dt : CSem.Ty) (k : Nat) (t : CSem.Ty) (w c0 : Nat) (idx : Expr) :
    SimOf T (n + 1) (.pload dst dt k t w c0 idx) := by
  intro s out lp brk cont c nd nd' pre post env M hex hfr hwt hp hext hits _ _ inv
  simp only [exec, Option.bind_eq_some_iff] at hex
  obtain ⟨iv, hev, hex⟩ := hex
  split at hex
  · rename_i hiv
    simp only [Option.map_eq_some_iff] at hex
    obtain ⟨v, hv, rfl⟩ := hex
    simp only [frag, Bool.and_eq_true, decide_eq_true_eq] at hfr
    obtain ⟨hWd, hWk⟩ := hfr
    simp only [Stmt.wt] at hwt
    split at hwt
    · rename_i hw
      obtain ⟨hdst, hdt, hknd, hkt, hwi⟩ := hw
      have he : iv.toNat < w := by omega
      have hvv : s[c0 + iv.toNat]? = some (some v) := join_some hv
      have hrgv : InRange (t.intTy T.S.cs) v := inv.wrange k iv.toNat t w c0 v hWk he hvv
      obtain ⟨a, pv, ha1, hxp, habound, hload⟩ := inv.a.loadWin T.S.cs hWk hkt he hvv
      obtain ⟨op, hop⟩ : ∃ op, funcinst c.ctx (.load .l) .l [.tmp (tmpName (c.slots.getD k 0))] = op := ⟨_, rfl⟩
      obtain ⟨oa, hoa⟩ : ∃ oa, lowerAddr T.S.cs c.slots op.ctx (c.ctx.lastid + 1) t idx = oa := ⟨_, rfl⟩
      obtain ⟨ol, hol⟩ : ∃ ol, funcinst oa.ctx (.load (loadOf T.S.cs t)) (cls t) [oa.val] = ol := ⟨_, rfl⟩
      obtain ⟨ov, hov⟩ : ∃ ov, (if dt = t then (⟨[], ol.val, ol.ctx⟩ : Out)
        else convert T.S.cs ol.ctx dt t ol.val) = ov := ⟨_, rfl⟩
      -- the address computation of the model is `lowerAddr` on the loaded pointer
      have hshape : funcstmt T.S.cs brk cont (.pload dst dt k t w c0 idx) c =
          ⟨op.items ++ oa.items ++ ol.items ++ ov.items ++ [storeIns dt ov.val (c.slots.getD dst 0)], [],
            c.upd ov.ctx, [], none⟩ := by
        subst hoa hol hov hop
        simp only [funcstmt, funcopen_none hp.jump, List.nil_append, lowerAddr, Out.seq, List.append_assoc]
        rfl
      rw [hshape] at hext hits ⊢
      simp only [List.append_assoc, List.cons_append, List.nil_append] at hits
      have hl1 : op.ctx.lastid ≤ oa.ctx.lastid := hoa ▸ (lowerAddr_isGood T.S.cs c.slots op.ctx (c.ctx.lastid + 1) t idx).lastid
      subst hop
      have hopl : (funcinst c.ctx (.load .l) .l [.tmp (tmpName (c.slots.getD k 0))]).ctx.lastid = c.lastid + 1 := rfl
      have hpre := (hp.ext hext rfl).1
      obtain ⟨hvars, hrange⟩ := inv.vars hpre
      have hle : oa.ctx.lastid ≤ ov.ctx.lastid := Nat.le_trans (hol ▸ Nat.le_succ _) (castOut_le hov)
      obtain ⟨n0, env0, hreach0, hfr0, r0, hval0, hr0⟩ := run_funcinst (setM T.S M) c.ctx
        (.load .l) .l [.tmp (tmpName (c.slots.getD k 0))] (P := fun r => r = ⟨.l, pv⟩) (its_app hits)
        (readVals_one (readVal_tmp (hpre k hknd ▸ ha1))) hxp rfl
      subst hr0
      obtain ⟨n1, env1, ra, hreach1, hfr1, hval1, hra⟩ := sim_addr T c.slots (T.vtys.take nd) s M hrange _
        (c.ctx.lastid + 1) t idx iv pv hwi hev hiv.1 habound (hoa ▸ its_app (its_app hits))
        ((curOf_ins _ _ _).trans hp.cur) (by obtain ⟨name, j, h1, h2⟩ := hp.curOK; exact ⟨name, j, h1, h2⟩)
        (fun i t' ht => Nat.le_succ_of_le (hp.le i (take_get ht).2))
        (hvars.agree hfr0.agree (fun i t' ht => hp.le i (take_get ht).2)) (readVal_tmp_inv hval0)
        (Nat.le_refl _)
      rw [hoa] at hreach1 hfr1 hval1
      have inv1 := inv.frame hp hext rfl hle
        (Frame.trans hfr0 hfr1 (Nat.le_refl _) (hopl ▸ Nat.le_succ _) (hopl ▸ hl1) (Nat.le_refl _))
      obtain ⟨n2, env3, M', hreach2, inv3⟩ := sim_load_store T hp oa.ctx
        (Nat.le_trans (hopl ▸ Nat.le_succ _) hl1) oa.val t dt dst hol hov hext
        (its_app (its_app hits)) hdst hdt hWd hval1 (hload ra hra) hrgv inv1
      have hr : T.Reach _ (T.at env M pre) _ := (hreach0.trans hreach1).trans hreach2
      exact ⟨⟨n0 + n1 + n2, env3, M', by
        simpa only [List.append_assoc, List.cons_append, List.nil_append] using hr, inv3⟩, fun _ _ => hp.jump⟩
    · cases hwt
  · cases hex

end

end CprocVerif.LowerMach2
