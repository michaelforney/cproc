/-
  C01, fragment 𝔽₂ — entering a `switch` body at a label: the machine arrives at the block of the label
  (from the comparison ladder), the C execution continues with the statements after the label (`CSem2.after`); what
  stands before the label is skipped on both sides.  (The statement `;` is `sim_skip` in `Lower2Leaf`.)
-/
import CprocVerif.Lemmas.Lower2Seq

set_option linter.unusedSimpArgs false

namespace CprocVerif.LowerMach2
open CprocVerif.Qbe CprocVerif.Lower CprocVerif.Lower2 CprocVerif.CSem CprocVerif.CSem2 CprocVerif.CInt
open CprocVerif.LowerArith CprocVerif.LowerMach CprocVerif.LowerMem

def isLabel : Stmt → Bool
  | .case_ _ | .default_ => true
  | _ => false

/-- The block label of the first label on the spine that satisfies `p`, when the spine is lowered
    starting from `c`. -/
def targetLabel (cs : Bool) (brk cont : String) (p : Stmt → Bool) : Stmt → SCtx → Option String
  | .seq a b, c =>
    match targetLabel cs brk cont p a c with
    | some l => some l
    | none => targetLabel cs brk cont p b (funcstmt cs brk cont a c).ctx
  | .case_ u, c => if p (.case_ u) then some (lblName "switch_case" (c.blockid + 1)) else none
  | .default_, c => if p .default_ then some (lblName "switch_default" (c.blockid + 1)) else none
  | _, _ => none

theorem spine_ind {motive : Stmt → Prop} (seq : ∀ a b, motive a → motive b → motive (.seq a b))
    (leaf : ∀ st, (∀ a b, st ≠ .seq a b) → motive st) : ∀ st, motive st := by
  intro st
  induction st with
  | seq a b iha ihb => exact seq a b iha ihb
  | _ => exact leaf _ (by intro a b h; cases h)

theorem isLabel_cases {st : Stmt} (h : isLabel st = true) : (∃ u, st = .case_ u) ∨ st = .default_ := by
  cases st with
  | case_ u => exact Or.inl ⟨u, rfl⟩
  | default_ => exact Or.inr rfl
  | _ => cases h

theorem after_leaf (p : Stmt → Bool) {st : Stmt} (hs : ∀ a b, st ≠ .seq a b) :
    after p st = if p st then some .skip else none := by
  cases st <;> first | rfl | exact absurd rfl (hs _ _)

theorem leaf_noreg (cs : Bool) (brk cont : String) {st : Stmt} (c : SCtx) (hl : isLabel st = false)
    (hs : ∀ a b, st ≠ .seq a b) :
    (funcstmt cs brk cont st c).cases = [] ∧ (funcstmt cs brk cont st c).dflt = none ∧
      (∀ p, targetLabel cs brk cont p st c = none) ∧ caseVals st = [] := by
  cases st with
  | seq a b => exact absurd rfl (hs a b)
  | case_ u => cases hl
  | default_ => cases hl
  | decl i t init => cases init <;> exact ⟨rfl, rfl, fun _ => rfl, rfl⟩
  | call dst rt fn args => rcases dst with _ | ⟨i, t⟩ <;> exact ⟨rfl, rfl, fun _ => rfl, rfl⟩
  | callp dst rt fn pargs args => rcases dst with _ | ⟨i, t⟩ <;> exact ⟨rfl, rfl, fun _ => rfl, rfl⟩
  | _ => exact ⟨rfl, rfl, fun _ => rfl, rfl⟩

theorem target_leaf (cs : Bool) (brk cont : String) {p : Stmt → Bool}
    (hp : ∀ st, p st = true → isLabel st = true) {st : Stmt} (c : SCtx) (hs : ∀ a b, st ≠ .seq a b) :
    targetLabel cs brk cont p st c = if p st then some (funcstmt cs brk cont st c).ctx.cur else none := by
  cases hl : isLabel st with
  | true => rcases isLabel_cases hl with ⟨u, rfl⟩ | rfl <;> rfl
  | false =>
    rw [(leaf_noreg cs brk cont c hl hs).2.2.1, if_neg]
    intro h; rw [hp _ h] at hl; cases hl

theorem target_item (cs : Bool) (brk cont : String) {p : Stmt → Bool}
    (hp : ∀ st, p st = true → isLabel st = true) (b : Stmt) :
    ∀ c l, targetLabel cs brk cont p b c = some l →
      ∃ pr t q, (funcstmt cs brk cont b c).items = pr ++ .lbl t l [] :: q := by
  induction b using spine_ind with
  | seq x y ihx ihy =>
    intro c l h
    simp only [targetLabel] at h
    simp only [funcstmt]
    cases hx : targetLabel cs brk cont p x c with
    | some l' =>
      rw [hx] at h; cases h
      obtain ⟨pr, t, q, e⟩ := ihx c l hx
      exact ⟨pr, t, q ++ (funcstmt cs brk cont y (funcstmt cs brk cont x c).ctx).items, by
        rw [e]; simp only [List.append_assoc, List.cons_append]⟩
    | none =>
      rw [hx] at h
      obtain ⟨pr, t, q, e⟩ := ihy _ l h
      exact ⟨(funcstmt cs brk cont x c).items ++ pr, t, q, by rw [e]; simp only [List.append_assoc]⟩
  | leaf st hs =>
    intro c l h
    rw [target_leaf cs brk cont hp c hs] at h
    split at h
    · rename_i hq
      cases h
      rcases isLabel_cases (hp _ hq) with ⟨u, rfl⟩ | rfl <;> exact ⟨[], c.jump, [], rfl⟩
    · cases h

theorem target_isSome (cs : Bool) (brk cont : String) (p : Stmt → Bool)
    (hp : ∀ st, p st = true → isLabel st = true) (b : Stmt) :
    ∀ c, (targetLabel cs brk cont p b c).isSome = (after p b).isSome := by
  induction b using spine_ind with
  | seq x y ihx ihy =>
    intro c
    simp only [targetLabel, after]
    have hx := ihx c
    cases hax : after p x <;> cases htx : targetLabel cs brk cont p x c <;> rw [hax, htx] at hx <;> cases hx
    · exact ihy _
    · rfl
  | leaf st hs =>
    intro c
    rw [after_leaf p hs, target_leaf cs brk cont hp c hs]
    split <;> rfl

theorem after_none_target (cs : Bool) (brk cont : String) (p : Stmt → Bool)
    (hp : ∀ st, p st = true → isLabel st = true) (b : Stmt) (c : SCtx) (h : after p b = none) :
    targetLabel cs brk cont p b c = none :=
  Option.isNone_iff_eq_none.1 (Option.isSome_eq_false_iff.1 (by rw [target_isSome cs brk cont p hp b c, h]; rfl))

theorem after_some_target (cs : Bool) (brk cont : String) (p : Stmt → Bool)
    (hp : ∀ st, p st = true → isLabel st = true) (b : Stmt) (c : SCtx) (b' : Stmt) (h : after p b = some b') :
    ∃ l, targetLabel cs brk cont p b c = some l :=
  Option.isSome_iff_exists.1 (by rw [target_isSome cs brk cont p hp b c, h]; rfl)

section
variable (T : Stat)

theorem sim_enter (n : Nat) (ih : ∀ m, m ≤ n → SimStmt T m) (p : Stmt → Bool)
    (hpl : ∀ st, p st = true → isLabel st = true) (b : Stmt) :
    ∀ (m : Nat), m ≤ n → ∀ (b' : Stmt) (s : Store) (out : CSem2.Outcome) (lp : Bool × Bool)
      (brk cont : String) (c : SCtx) (nd nd' : Nat) (pre post : List Item) (env : Env) (M : Mem)
      (st0 : State),
    after p b = some b' → exec T.S.cs T.P m s b' = some out →
    frag T.P T.cnts T.W b = true → Stmt.wt T.vtys T.ret lp.1 lp.2 nd b = some nd' →
    PosS T c nd pre → (c.jump = none ∨ b.startsLabel = true) →
    Ext T (funcstmt T.S.cs brk cont b c).ctx →
    T.S.its = pre ++ (funcstmt T.S.cs brk cont b c).items ++ post →
    (∀ j, (funcstmt T.S.cs brk cont b c).ctx.jump = some j →
      TermAt T (pre ++ (funcstmt T.S.cs brk cont b c).items) j) →
    ((lp.1 = true → CanJump T.S brk) ∧ (lp.2 = true → CanJump T.S cont)) →
    SInv T.M0 T.S.cs T.cnts T.W T.σ T.vtys s env M →
    (∀ l, targetLabel T.S.cs brk cont p b c = some l → AtLabel T.S l env M st0) →
    Post T brk cont st0 (pre ++ (funcstmt T.S.cs brk cont b c).items)
      (funcstmt T.S.cs brk cont b c).ctx out := by
  induction b using spine_ind with
  | seq x y ihx ihy =>
    intro m hm b' s out lp brk cont c nd nd' pre post env M st0 haf hex hfr hwt hp hjs hext hits hterm hlp inv hat
    simp only [frag, Bool.and_eq_true] at hfr
    obtain ⟨n1, hwa, hwb, hca, ga, hdis, hexta, hitsa⟩ := seq_parts T hwt hjs hext hits
    have hjy := hdis.imp ga.jump id
    simp only [after] at haf
    cases hax : after p x with
    | some x' =>
      rw [hax] at haf
      cases haf
      cases m with
      | zero => simp only [exec] at hex; cases hex
      | succ m =>
        simp only [exec] at hex
        cases hea : exec T.S.cs T.P m s x' with
        | none => rw [hea] at hex; cases hex
        | some oa =>
          rw [hea] at hex
          have pa := ihx m (by omega) x' s oa lp brk cont c nd n1 pre _ env M st0 hax hea hfr.1 hwa hp
            (by simpa [Stmt.startsLabel] using hjs) hexta hitsa (seq_term T ga hdis hitsa) hlp inv (by
              intro l hl
              apply hat
              simp only [targetLabel, hl])
          have hres : seqRes T.S.cs T.P m y oa = some out := by
            cases oa <;> simpa [seqRes] using hex
          exact seq_cont T m (ih m (by omega)) x y hfr.2 hwt hp hjs hext hits hterm hlp pa hres
    | none =>
      rw [hax] at haf
      have py := ihy m hm b' s out lp brk cont _ n1 nd' _ post env M st0 haf hex hfr.2 hwb
        (hp.after ga hca) hjy hext (its_app hitsa)
        (by simpa only [funcstmt, List.append_assoc] using hterm) hlp inv (by
          intro l hl
          apply hat
          simp only [targetLabel, after_none_target T.S.cs brk cont p hpl x c hax, hl])
      simp only [funcstmt]
      rw [← List.append_assoc]
      exact py
  | leaf st hs =>
    intro m hm b' s out lp brk cont c nd nd' pre post env M st0 haf hex _ _ hp _ _ hits _ _ inv hat
    rw [after_leaf p hs] at haf
    split at haf
    · rename_i hq
      cases haf
      cases m with
      | zero => simp only [exec] at hex; cases hex
      | succ m =>
        simp only [exec, Option.some.injEq] at hex
        subst hex
        have hat' := hat _ (by rw [target_leaf T.S.cs brk cont hpl c hs, if_pos hq])
        rcases isLabel_cases (hpl _ hq) with ⟨u, rfl⟩ | rfl <;>
        · simp only [funcstmt] at hits hat' ⊢
          rw [atLabel_item T (t := c.jump) (hits.trans (List.append_assoc _ _ _)) hat']
          exact ⟨⟨0, env, M, rfl, inv⟩, fun _ _ => rfl⟩
    · cases haf

end

end CprocVerif.LowerMach2
