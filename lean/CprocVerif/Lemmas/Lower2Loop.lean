/-
  C01, fragment 𝔽₂ — the loops (stmt.c `case TWHILE`, `TDO`, `TFOR`).  A loop in the IL is a position `pc` to which control
  returns: a pass from `pc` ends the loop or is back at `pc` with less fuel (`loop_passes`).  In each pass the body runs with
  `break` → the join label and `continue` → the label where the rest of the pass begins (`Done.ofBody`).  The passes of
  `while` and `for` start at the test, those of `do` at the body.
-/
import CprocVerif.Lemmas.Lower2If

set_option linter.unusedSimpArgs false

namespace CprocVerif.LowerMach2
open CprocVerif.Qbe CprocVerif.Lower CprocVerif.Lower2 CprocVerif.CSem CprocVerif.CSem2 CprocVerif.CInt
open CprocVerif.LowerArith CprocVerif.LowerMach CprocVerif.LowerMem

theorem take_mono_wt {vtys : List CSem.Ty} {n m : Nat} (h : n ≤ m) (e : Expr)
    (hw : e.wt (vtys.take n) = true) : e.wt (vtys.take m) = true :=
  take_mono_wt3 h (.pure e) hw

/-- `X`: the rest of the pass, then the next one. -/
def loopNext (X : Store → Option CSem2.Outcome) : CSem2.Outcome → Option CSem2.Outcome
  | .normal s' => X s'
  | .cont s' => X s'
  | .brk s' => some (.normal s')
  | o => some o

/-- `L k s`: the C execution of the loop with fuel `k`; `N`: the fuel up to which the caller can simulate a pass (its
    induction hypotheses on body and controlling expression reach that far). -/
theorem loop_passes (T : Stat) (brk cont : String) (L : Nat → Store → Option CSem2.Outcome) (h0 : ∀ s, L 0 s = none)
    (N : Nat) {pc pj : List Item}
    (hpass : ∀ k, k ≤ N → ∀ s env M out, L (k + 1) s = some out → SInv T.M0 T.S.cs T.cnts T.W T.σ T.vtys s env M →
      Done T brk cont (T.at env M pc) pj out ∨
        ∃ m s'' env' M', T.Reach m (T.at env M pc) (T.at env' M' pc) ∧
          SInv T.M0 T.S.cs T.cnts T.W T.σ T.vtys s'' env' M' ∧ L k s'' = some out) :
    ∀ k, k ≤ N + 1 → ∀ s env M out, L k s = some out → SInv T.M0 T.S.cs T.cnts T.W T.σ T.vtys s env M →
      Done T brk cont (T.at env M pc) pj out := by
  intro k
  induction k with
  | zero => intro _ s env M out h; rw [h0] at h; cases h
  | succ k ih =>
    intro hk s env M out h inv
    rcases hpass k (by omega) s env M out h inv with dn | ⟨m, s'', env', M', hr, inv', h'⟩
    · exact dn
    · exact (ih (by omega) s'' env' M' out h' inv').prepend hr

theorem Done.ofBody {T : Stat} {brk cont lj lc : String} {st0 : State} {pt pj : List Item} {ob out : CSem2.Outcome}
    (dn : Done T lj lc st0 pt ob)
    (hcont : ∀ env M st, AtLabel T.S lc env M st → st = T.at env M pt)
    (hjoin : ∀ env M st, AtLabel T.S lj env M st → st = T.at env M pj)
    {X : Store → Option CSem2.Outcome} (h : loopNext X ob = some out) :
    Done T brk cont st0 pj out ∨ ∃ s' m env' M', X s' = some out ∧ T.Reach m st0 (T.at env' M' pt) ∧
      SInv T.M0 T.S.cs T.cnts T.W T.σ T.vtys s' env' M' := by
  cases ob with
  | normal s' => obtain ⟨m, env', M', hr, inv'⟩ := dn; exact Or.inr ⟨s', m, env', M', h, hr, inv'⟩
  | cont s' =>
    obtain ⟨m, env', M', st', inv', hr, hat⟩ := dn
    exact Or.inr ⟨s', m, env', M', h, hcont _ _ _ hat ▸ hr, inv'⟩
  | brk s' =>
    obtain ⟨m, env', M', st', inv', hr, hat⟩ := dn
    cases h
    exact Or.inl ⟨m, env', M', hjoin _ _ _ hat ▸ hr, inv'⟩
  | ret v => cases h; exact Or.inl dn

theorem frag_for {P : List CSem2.Func} {cnts : List Nat} {W : List (CSem.Ty × Nat × Nat)} {e : Option Expr3}
    {st b : Stmt} (h : frag P cnts W (.for_ e st b) = true) :
    (∀ e', e = some e' → eok P cnts e' = true) ∧ frag P cnts W st = true ∧ frag P cnts W b = true := by
  cases e <;> simp only [frag, Bool.and_eq_true] at h
  · exact ⟨nofun, h⟩
  · exact ⟨fun _ h' => Option.some.inj h' ▸ h.1, h.2⟩

section
variable (T : Stat) {s : Store} {out : CSem2.Outcome} {lp : Bool × Bool} {brk cont : String} {c : SCtx}
  {nd nd' : Nat} {pre post : List Item} {env : Env} {M : Mem}

theorem sim_while (n : Nat) (hc : ∀ m, m ≤ n → FuncSim T m) (ih : ∀ m, m ≤ n → SimStmt T m) (e : Expr3)
    (b : Stmt) :
    SimOf T (n + 1) (.while_ e b) := by
  intro s out lp brk cont c nd nd' pre post env M hex hfr hwt hp hext hits _ _ inv
  simp only [frag, Bool.and_eq_true] at hfr
  simp only [Stmt.wt] at hwt
  split at hwt
  · rename_i hwe
    obtain ⟨hnb, -⟩ := wt_noDead _ _ b _ _ _ _ hwt
    obtain ⟨lc, hlc⟩ : ∃ l, lblName "while_cond" (c.blockid + 1) = l := ⟨_, rfl⟩
    obtain ⟨lb, hlb⟩ : ∃ l, lblName "while_body" (c.blockid + 2) = l := ⟨_, rfl⟩
    obtain ⟨lj, hlj'⟩ : ∃ l, lblName "while_join" (c.blockid + 3) = l := ⟨_, rfl⟩
    obtain ⟨oe, -, hoe, l1, b1⟩ := expr_out T.S.cs (c := (c.addBlocks 3).atLabel lc) rfl e
    obtain ⟨oj, hoj, l2, b2⟩ := jnz_out T.S.cs (((c.addBlocks 3).atLabel lc).upd oe.ctx) e.ty oe.val
    obtain ⟨ob, hob, gb⟩ := stmt_out T.S.cs b lj lc
      (((((c.addBlocks 3).atLabel lc).upd oe.ctx).upd oj.ctx).atLabel lb) rfl hnb
    rw [funcstmt_while T.S.cs brk cont c hlc hlb hlj' hoe hoj hob] at hext hits ⊢
    simp only [whileOut] at hext hits ⊢
    simp only [List.append_assoc, List.cons_append, List.nil_append, labelItem, hp.jump, setJump_jump] at hits
    -- splits at the label items: `hits` at `while_cond`, `h1` at `while_body` (it carries the `jnz`), `h3` at
    -- `while_join`
    have h0 := its_snoc hits
    have h1 := its_app (its_app h0)
    have h2 := its_snoc h1
    have h3 := its_app h2
    have hextb : Ext T ob.ctx := hext.congr rfl rfl
    unf at l1 b1 l2 b2
    have hpc := hp.toS.label (c' := c.addBlocks 3) rfl (Nat.le_refl _) hlc (by unf; omega) pre none
    have hlp' : ((true, true).1 = true → CanJump T.S lj) ∧ ((true, true).2 = true → CanJump T.S lc) :=
      ⟨fun _ => canJump_item T.S h3, fun _ => canJump_item T.S hits⟩
    have dn := loop_passes T brk cont (fun k s => exec T.S.cs T.P k s (.while_ e b)) (fun _ => rfl) n
      (pj := pre ++ [.lbl none lc []] ++ oe.items ++ oj.items ++ [.lbl (some (.jnz oj.val lb lj)) lb []] ++ ob.items ++
        [.lbl (some (ob.ctx.jump.getD (.jmp lc))) lj []]) (by
      intro k hk s env M out h inv
      rw [exec, Option.bind_eq_some_iff] at h
      obtain ⟨v, hv, h⟩ := h
      obtain ⟨m, env1, hreach, inv1⟩ := sim_branch T k (hc k hk) hpc e 0 hoe hoj
        ((hextb.first gb).congr rfl rfl) hwe.1 hfr.1 hv h1 h1 h3 inv
      by_cases hv0 : v = 0
      · rw [if_pos hv0] at h
        rw [if_neg (by simpa using hv0)] at hreach
        cases h
        exact Or.inl ⟨m, env1, M, hreach, inv1⟩
      · rw [if_neg hv0] at h
        rw [if_pos hv0] at hreach
        cases hb : exec T.S.cs T.P k s b with
        | none => rw [hb] at h; cases h
        | some ob' =>
          rw [hb] at h
          -- the `jmp` after the body goes to `while_cond`, where `continue` goes too
          rcases ((sim_sub T k (ih k hk) b hob hb hfr.2 hwt (hp.toS.label
            (c' := (((c.addBlocks 3).atLabel lc).upd oe.ctx).upd oj.ctx) rfl (by unf; omega) hlb (by unf; omega) _ _) hextb
            (fun j hj => by rw [hj]; rfl) h3 hlp' inv1).closeJmpAt h3 hits).ofBody (brk := brk) (cont := cont)
            (X := fun s' => exec T.S.cs T.P k s' (.while_ e b))
            (fun env M st hat => atLabel_item T hits hat) (fun env M st hat => atLabel_item T h3 hat)
            (by cases ob' <;> exact h) with dn | ⟨s', m', env', M', hX, hr, inv'⟩
          · exact Or.inl (dn.prepend hreach)
          · exact Or.inr ⟨_, s', env', M', hreach.trans hr, inv', hX⟩)
      (n + 1) (Nat.le_refl _) s env M out hex inv
    have := (dn.prepend (Reach.one (step_fall_item T hits env M))).post (o := ob.ctx.atLabel lj) rfl
    simpa only [List.append_assoc, List.cons_append, List.nil_append, labelItem, hp.jump, setJump_jump]
      using this
  · cases hwt

theorem sim_dowhile (n : Nat) (hc : ∀ m, m ≤ n → FuncSim T m) (ih : ∀ m, m ≤ n → SimStmt T m) (b : Stmt)
    (e : Expr3) :
    SimOf T (n + 1) (.dowhile b e) := by
  intro s out lp brk cont c nd nd' pre post env M hex hfr hwt hp hext hits _ _ inv
  simp only [frag, Bool.and_eq_true] at hfr
  obtain ⟨hwb, hwe⟩ : Stmt.wt T.vtys T.ret true true nd b = some nd' ∧ e.wt (T.vtys.take nd) = true := by
    simp only [Stmt.wt] at hwt
    split at hwt
    · simp only [Option.bind_eq_some_iff] at hwt
      obtain ⟨n1, h1, h2⟩ := hwt
      split at h2
      · cases h2; exact ⟨h1, ‹_›⟩
      · cases h2
    · cases hwt
  obtain ⟨hnb, hcb⟩ := wt_noDead _ _ b _ _ _ _ hwb
  obtain ⟨lb, hlb⟩ : ∃ l, lblName "do_body" (c.blockid + 1) = l := ⟨_, rfl⟩
  obtain ⟨lc, hlc⟩ : ∃ l, lblName "do_cond" (c.blockid + 2) = l := ⟨_, rfl⟩
  obtain ⟨lj, hlj'⟩ : ∃ l, lblName "do_join" (c.blockid + 3) = l := ⟨_, rfl⟩
  obtain ⟨ob, hob, gb⟩ := stmt_out T.S.cs b lj lc ((c.addBlocks 3).atLabel lb) rfl hnb
  obtain ⟨oe, -, hoe, l1, b1⟩ := expr_out T.S.cs (c := ob.ctx.atLabel lc) rfl e
  obtain ⟨oj, hoj, l2, b2⟩ := jnz_out T.S.cs ((ob.ctx.atLabel lc).upd oe.ctx) e.ty oe.val
  rw [funcstmt_dowhile T.S.cs brk cont c hlb hlc hlj' hob hoe hoj] at hext hits ⊢
  simp only [doOut] at hext hits ⊢
  simp only [List.append_assoc, List.cons_append, List.nil_append, labelItem, hp.jump] at hits
  -- splits at the label items: `hits` at `do_body`, `h1` at `do_cond`, `h3` at `do_join` (it carries the `jnz`)
  have h0 := its_snoc hits
  have h1 := its_app h0
  have h2 := its_snoc h1
  have h3 := its_app (its_app h2)
  have b3 := gb.blockid
  unf at l1 b1 l2 b2 b3
  have hextc : Ext T (((ob.ctx.atLabel lc).upd oe.ctx).upd oj.ctx) := hext.congr rfl rfl
  have hextb : Ext T ob.ctx := hextc.before (new := []) (by simp) (by simp) (by unf; omega)
  have hpb := hp.toS.label (c' := c.addBlocks 3) rfl (Nat.le_refl _) hlb (by unf; omega) pre none
  have hpc := (hpb.toS.after gb hcb).label (c' := ob.ctx) rfl (Nat.le_refl _) hlc (by omega)
    ((pre ++ [.lbl none lb []]) ++ ob.items) ob.ctx.jump
  have hlp' : ((true, true).1 = true → CanJump T.S lj) ∧ ((true, true).2 = true → CanJump T.S lc) :=
    ⟨fun _ => canJump_item T.S h3, fun _ => canJump_item T.S h1⟩
  have dn := loop_passes T brk cont (fun k s => exec T.S.cs T.P k s (.dowhile b e)) (fun _ => rfl) n
    (pj := pre ++ [.lbl none lb []] ++ ob.items ++ [.lbl ob.ctx.jump lc []] ++ oe.items ++ oj.items ++
      [.lbl (some (.jnz oj.val lb lj)) lj []]) (by
    intro k hk s env M out h inv
    rw [exec] at h
    cases hb : exec T.S.cs T.P k s b with
    | none => rw [hb] at h; cases h
    | some ob' =>
      rw [hb] at h
      rcases ((sim_sub T k (ih k hk) b hob hb hfr.2 hwb hpb hextb (fun _ h => h) h1 hlp' inv).close h1).ofBody
        (brk := brk) (cont := cont)
        (X := fun s' => (evalE3 T.S.cs (callOf T.P fun s' st' => exec T.S.cs T.P k s' st') s' e).bind fun v =>
          if v ≠ 0 then exec T.S.cs T.P k s' (.dowhile b e) else some (.normal s'))
        (fun env M st hat => atLabel_item T h1 hat) (fun env M st hat => atLabel_item T h3 hat)
        (by cases ob' <;> exact h) with dn | ⟨s', m, env', M', hX, hr, inv'⟩
      · exact Or.inl dn
      · obtain ⟨v, hv, hX⟩ := Option.bind_eq_some_iff.1 hX
        obtain ⟨m', env1, hreach, inv1⟩ := sim_branch T k (hc k hk) hpc e 0 hoe hoj hextc
          (take_mono_wt3 (by omega) e hwe) hfr.1 hv h3 hits h3 inv'
        by_cases hv0 : v ≠ 0
        · rw [if_pos hv0] at hX hreach
          exact Or.inr ⟨_, s', env1, M', hr.trans hreach, inv1, hX⟩
        · rw [if_neg hv0] at hX hreach
          cases hX
          exact Or.inl ⟨_, env1, M', hr.trans hreach, inv1⟩)
    (n + 1) (Nat.le_refl _) s env M out hex inv
  have := (dn.prepend (Reach.one (step_fall_item T hits env M))).post
    (o := (((ob.ctx.atLabel lc).upd oe.ctx).upd oj.ctx).atLabel lj) rfl
  simpa only [List.append_assoc, List.cons_append, List.nil_append, labelItem, hp.jump] using this

/-- `Stmt.wt` types the third clause of `for` before the declarations of the body (it cannot name them), `funcstmt` lowers
    it after them. -/
theorem wt_simple_mono {vtys : List CSem.Ty} {ret : CSem.Ty} {st : Stmt} (hs : st.isSimple = true)
    {lb lc lb' lc' : Bool} {nd nd2 n' : Nat} (h : Stmt.wt vtys ret lb lc nd st = some n') (hle : nd ≤ nd2) :
    Stmt.wt vtys ret lb' lc' nd2 st = some nd2 := by
  cases st <;> simp only [Stmt.isSimple, Bool.false_eq_true] at hs
  · rfl
  · rename_i i t e
    simp only [Stmt.wt] at h ⊢
    split at h
    · rename_i hw
      rw [if_pos ⟨by omega, hw.2.1, hw.2.2.1, take_mono_wt3 hle e hw.2.2.2⟩]
    · cases h
  · rename_i i t inc
    simp only [Stmt.wt] at h ⊢
    split at h
    · rename_i hw
      rw [if_pos ⟨by omega, hw.2⟩]
    · cases h
  · rename_i e
    simp only [Stmt.wt] at h ⊢
    split at h
    · rename_i hw
      rw [if_pos (take_mono_wt3 hle e hw)]
    · cases h

def forTest (cs : Bool) (P : List CSem2.Func) (e : Option Expr3) (k : Nat) (s : Store) : Option Int :=
  match e with
  | some e => evalE3 cs (callOf P fun s' st' => exec cs P k s' st') s e
  | none => some 1

theorem sim_forHead (n : Nat) (hc : ∀ m, m ≤ n → FuncSim T m) (e : Option Expr3) {c1 : SCtx} {kb : Nat}
    {lb lj : String} {hd : List Item × SCtx} (hhd : forHead T.S.cs c1 lb lj e = hd)
    (hlb : lblName "for_body" kb = lb) (hkb : kb ≤ c1.blockid) (hp : Pos T c1 nd pre)
    (hwe : optWtC (T.vtys.take nd) e = true) (hfe : ∀ e', e = some e' → eok T.P T.cnts e' = true)
    (hits : T.S.its = pre ++ hd.1 ++ post)
    {pj rj : List Item} {tj : Option Jump} (hj : T.S.its = pj ++ .lbl tj lj [] :: rj) :
    Pos T hd.2 nd (pre ++ hd.1) ∧ c1.blockid ≤ hd.2.blockid ∧
      (Ext T hd.2 → ∀ m, m ≤ n → ∀ (s : Store) (env : Env) (M : Mem) (v : Int),
        forTest T.S.cs T.P e m s = some v → SInv T.M0 T.S.cs T.cnts T.W T.σ T.vtys s env M →
        ∃ k env', T.Reach k (T.at env M pre)
            (T.at env' M (if v ≠ 0 then pre ++ hd.1 else pj ++ [.lbl tj lj []])) ∧
          SInv T.M0 T.S.cs T.cnts T.W T.σ T.vtys s env' M) := by
  subst hhd
  cases e with
  | none =>
    refine ⟨hp.toS.label rfl (Nat.le_refl _) hlb hkb _ _, Nat.le_refl _, fun _ m _ s env M v hv inv => ?_⟩
    cases hv
    exact ⟨1, env, Reach.one (step_fall_item T (hits.trans (List.append_assoc _ _ _)) env M), inv⟩
  | some e =>
    obtain ⟨oe, -, hoe, l1, b1⟩ := expr_out T.S.cs hp.jump e
    obtain ⟨oj, hoj, l2, b2⟩ := jnz_out T.S.cs (c1.upd oe.ctx) e.ty oe.val
    simp only [forHead, hoe, hoj] at hits ⊢
    unf at l1 b1 l2 b2
    have h1 : T.S.its = pre ++ oe.items ++ oj.items ++ .lbl (some (.jnz oj.val lb lj)) lb [] :: post := by
      simpa only [List.append_assoc, List.cons_append, List.nil_append] using hits
    refine ⟨?_, by unf; omega, fun hext m hm s env M v hv inv => ?_⟩
    · simpa only [List.append_assoc] using hp.toS.label (c' := (c1.upd oe.ctx).upd oj.ctx) rfl (by unf; omega)
        hlb (by unf; omega) (pre ++ oe.items ++ oj.items) (some (.jnz oj.val lb lj))
    · obtain ⟨k1, env1, hreach, inv1⟩ := sim_branch (k := 0) T m (hc m hm) hp e hoe hoj
        (hext.congr rfl rfl) hwe (hfe e rfl) hv h1 h1 hj inv
      exact ⟨k1, env1, by simpa only [List.append_assoc] using hreach, inv1⟩

theorem sim_for (n : Nat) (hc : ∀ m, m ≤ n → FuncSim T m) (ih : ∀ m, m ≤ n → SimStmt T m) (e : Option Expr3)
    (step b : Stmt) :
    SimOf T (n + 1) (.for_ e step b) := by
  intro s out lp brk cont c nd nd' pre post env M hex hfr hwt hp hext hits _ _ inv
  obtain ⟨hfe, hfs, hfb⟩ := frag_for hfr
  simp only [Stmt.wt] at hwt
  split at hwt
  · rename_i hcw
    obtain ⟨hwe, hsimple, -⟩ := hcw
    simp only [Option.bind_eq_some_iff, Option.some.injEq] at hwt
    obtain ⟨n1, hwb, n2, hws, rfl⟩ := hwt
    obtain ⟨hnb, hcb⟩ := wt_noDead _ _ b _ _ _ _ hwb
    obtain ⟨lc, hlc⟩ : ∃ l, lblName "for_cond" (c.blockid + 1) = l := ⟨_, rfl⟩
    obtain ⟨lb, hlb⟩ : ∃ l, lblName "for_body" (c.blockid + 2) = l := ⟨_, rfl⟩
    obtain ⟨lt, hlt⟩ : ∃ l, lblName "for_cont" (c.blockid + 3) = l := ⟨_, rfl⟩
    obtain ⟨lj, hlj⟩ : ∃ l, lblName "for_join" (c.blockid + 4) = l := ⟨_, rfl⟩
    obtain ⟨hd, hhd⟩ : ∃ hd, forHead T.S.cs ((c.addBlocks 4).atLabel lc) lb lj e = hd := ⟨_, rfl⟩
    obtain ⟨ob, hob⟩ : ∃ ob, funcstmt T.S.cs lj lt b hd.2 = ob := ⟨_, rfl⟩
    obtain ⟨os, hos, gs⟩ := stmt_out T.S.cs step brk cont (ob.ctx.atLabel lt) rfl (noDead_of_simple hsimple)
    rw [funcstmt_for T.S.cs brk cont c hlc hlb hlt hlj hhd hob hos] at hext hits ⊢
    simp only [forOut] at hext hits ⊢
    simp only [List.append_assoc, List.cons_append, List.nil_append, labelItem, hp.jump, setJump_jump] at hits
    -- splits at the label items: `hits` at `for_cond`, `h2` at `for_cont`, `h4` at `for_join`
    have h0 := its_snoc hits
    have h1 := its_app h0
    have h2 := its_app h1
    have h3 := its_snoc h2
    have h4 := its_app h3
    obtain ⟨hph, hbk, hhead⟩ := sim_forHead T n hc e hhd hlb (by unf; omega)
      (hp.toS.label (c' := c.addBlocks 4) rfl (Nat.le_refl _) hlc (by unf; omega) pre none) hwe hfe h1 h4
    have gb := hob ▸ funcstmt_good T.S.cs b lj lt hd.2 (Or.inl hph.jump) hnb
    have hexts : Ext T os.ctx := hext.congr rfl rfl
    have hextb : Ext T ob.ctx := (hexts.first gs).congr rfl rfl
    have b3 := gb.blockid
    unf at hbk
    have hlp' : ((true, true).1 = true → CanJump T.S lj) ∧ ((true, true).2 = true → CanJump T.S lt) :=
      ⟨fun _ => canJump_item T.S h4, fun _ => canJump_item T.S h2⟩
    have hps := (hph.toS.after gb hcb).label (c' := ob.ctx) rfl (Nat.le_refl _) hlt (by omega)
      (pre ++ [.lbl none lc []] ++ hd.1 ++ ob.items) ob.ctx.jump
    have hws' : Stmt.wt T.vtys T.ret false false n1 step = some n1 := wt_simple_mono hsimple hws (by omega)
    have dn := loop_passes T brk cont (fun k s => exec T.S.cs T.P k s (.for_ e step b)) (fun _ => rfl) n
      (pj := pre ++ [.lbl none lc []] ++ hd.1 ++ ob.items ++ [.lbl ob.ctx.jump lt []] ++ os.items ++
        [.lbl (some (os.ctx.jump.getD (.jmp lc))) lj []]) (by
      intro k hk s env M out h inv
      simp only [exec, Option.bind_eq_some_iff] at h
      obtain ⟨v, hv, h⟩ := h
      obtain ⟨m, env1, hreach, inv1⟩ := hhead (hextb.first gb) k hk s env M v hv inv
      by_cases hv0 : v = 0
      · rw [if_pos hv0] at h
        rw [if_neg (by simpa using hv0)] at hreach
        cases h
        exact Or.inl ⟨m, env1, M, hreach, inv1⟩
      · rw [if_neg hv0] at h
        rw [if_pos hv0] at hreach
        cases hb : exec T.S.cs T.P k s b with
        | none => rw [hb] at h; cases h
        | some ob' =>
          rw [hb] at h
          rcases ((sim_sub T k (ih k hk) b hob hb hfb hwb hph hextb (fun _ h => h) h2 hlp' inv1).close h2).ofBody
            (brk := brk) (cont := cont)
            (X := fun s' => match exec T.S.cs T.P k s' step with
              | some (.normal s'') => exec T.S.cs T.P k s'' (.for_ e step b)
              | _ => none)
            (fun env M st hat => atLabel_item T h2 hat) (fun env M st hat => atLabel_item T h4 hat)
            (by cases ob' <;> exact h) with dn | ⟨s', m', env', M', hX, hr, inv'⟩
          · exact Or.inl (dn.prepend hreach)
          · cases hes : exec T.S.cs T.P k s' step with
            | none => rw [hes] at hX; cases hX
            | some os' =>
              rw [hes] at hX
              cases os' with
              | normal s1 =>
                -- the third clause ends in the `jmp` back to `for_cond`
                obtain ⟨⟨k2, env2, M2, hr2, inv2⟩, hjs⟩ := sim_sub T k (ih k hk) step hos hes hfs hws' hps hexts
                  (fun j hj => by rw [hj]; rfl) h4 (lp := (false, false)) ⟨nofun, nofun⟩ inv'
                rw [hjs _ rfl] at h4
                obtain ⟨st3, hs3, hat3⟩ := step_jmp_item T h4 (canJump_item T.S hits) env2 M2
                rw [atLabel_item T hits hat3] at hs3
                exact Or.inr ⟨_, s1, env2, M2, (hreach.trans hr).trans (hr2.trans (Reach.one hs3)), inv2, hX⟩
              | brk _ => cases hX
              | cont _ => cases hX
              | ret _ => cases hX)
      (n + 1) (Nat.le_refl _) s env M out hex inv
    have := (dn.prepend (Reach.one (step_fall_item T hits env M))).post (o := os.ctx.atLabel lj) rfl
    simpa only [List.append_assoc, List.cons_append, List.nil_append, labelItem, hp.jump, setJump_jump]
      using this
  · cases hwt

end

end CprocVerif.LowerMach2
