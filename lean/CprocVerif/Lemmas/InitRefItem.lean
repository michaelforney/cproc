import CprocVerif.Lemmas.InitMach
import CprocVerif.Lemmas.InitRefMach

/-!
# One item of the main loop of `parseinit` on states described by `Flat`, `CurOK`, `SP`

The pieces of `parseItem` (`Lemmas/InitMach.lean`) where the slot is of known size.
-/

namespace CprocVerif.InitSim
open CprocVerif.Init CprocVerif.Image CprocVerif.InitRef

theorem exprBody_add {st : St} {e : Expr} {v : Val} {b a : Nat} (pf : Nat) (hh : hit st e = .ok (.add v, st))
    (hb : curBits st = .ok (b, a)) (hp : Flat st st.sub) : exprBody (pf + 1) st e = .ok (addSt st b a v) := by
  unfold exprBody
  rw [placeExpr, hh]
  simp only [hb]
  have : (addSt st b a v).tinc st.sub = false := hp.tinc
  unfold addSt at this
  simp only [this]
  rfl

theorem braceClear_clear {st : St} {c : Nat} (hc : st.cur = some c) (hp : Flat st st.sub)
    (hs : isScalarTy (st.obj st.sub).ty = false) :
    braceClear st = { st with
      il := st.il.clear (st.obj st.sub).offset ((st.obj st.sub).offset + (st.obj st.sub).ty.size),
      log := st.log ++ [.clear (st.obj st.sub).offset ((st.obj st.sub).offset + (st.obj st.sub).ty.size)] } := by
  unfold braceClear
  simp only [hc, hp.tinc, hp.tsize]
  cases hty : (st.obj st.sub).ty with
  | scalar s k => rw [hty] at hs; cases hs
  | array n e => simp
  | agg u t s m => simp

theorem openSt_flat {st : St} (hp : Flat st st.sub) : Flat (openSt st) (openSt st).sub := by
  show Flat (openSt st) st.sub
  refine ⟨hp.tinc, ?_⟩
  have := hp.tsize
  unfold St.tsize at this ⊢
  rw [openSt_top]
  exact this

theorem openSt_curOK (st : St) : CurOK (openSt st) :=
  ⟨Nat.le_refl _, by rw [openSt_top], fun j h1 (h2 : j < st.sub) => by omega⟩

theorem openSt_sp {st : St} {pl : Place} (h : SP st st.sub pl) : SP (openSt st) (openSt st).sub pl := by
  show SP (openSt st) st.sub pl
  refine ⟨by rw [openSt_top]; exact h.ty, by rw [openSt_top]; exact h.off, ?_⟩
  rw [← h.bits]
  refine curBits_congr (st := { st with sub := st.sub }) (st' := { openSt st with sub := st.sub }) rfl ?_
  intro h0
  show (openSt st).obj (st.sub - 1) = st.obj (st.sub - 1)
  have h0' : st.sub ≠ 0 := h0
  exact openSt_low st _ (by omega)

theorem close_tail {st st4 : St} (hlt : ∀ c, st.cur = some c → c < st.sub) (hco : CurOK st)
    (hs : Same st.sub (openSt st) st4) (hp : Flat st st.sub) :
    (closeBrace st4).log = st4.log ∧ (closeBrace st4).sub = st.sub ∧ Same st.sub st (closeBrace st4) := by
  obtain ⟨hf, hty, hoff⟩ := hs
  have hc4 : st4.cur = some st.sub := hf.cur
  have hp4 : Flat st4 st.sub := (openSt_flat hp).frame hf hty
  rw [closeBrace_flat (by rw [hc4]; exact hp4.tinc), hc4]
  have hobj : ∀ j, j < st.sub → st4.obj j = st.obj j := fun j hj => by
    rw [hf.low j hj, openSt_low st j (by omega)]
  have hprev : prevCur st4 st.sub = st.cur := by
    apply prevCur_eq
    unfold CurOK at hco
    cases hc : st.cur with
    | none => rw [hc] at hco; exact fun j hj => by rw [hobj j hj]; exact hco j hj
    | some c =>
      rw [hc] at hco
      have hcs := hlt c hc
      exact ⟨hcs, by rw [hobj c hcs]; exact hco.2.1, fun j h1 h2 => by rw [hobj j h2]; exact hco.2.2 j h1 h2⟩
  rw [openSt_top] at hty hoff
  exact ⟨rfl, rfl, ⟨hprev, hf.top, hf.inc, hobj⟩, hty, hoff⟩

end CprocVerif.InitSim
