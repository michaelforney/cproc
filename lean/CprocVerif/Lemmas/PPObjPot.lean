import CprocVerif.Lemmas.PPInv
import CprocVerif.Lemmas.PPString

/-! # Object-like macro sets: the table as the reference sees it, and the potential of a state

`wt tbl t` is the number of tokens the complete replacement of `t` can go through when only the macros of `tbl` may still
be replaced (each macro at most once along a chain: the table shrinks).  The potential of a state adds this up over the
context stack (each frame against the macros that have no live frame at or below it) and the scanner's tokens. -/

namespace CprocVerif.PP
open CprocVerif.Gen.TokenKinds
open CprocVerif.Spec.MacroRef (MacroDef PTok lookup)
open CprocVerif.Spec

def toDefObj (m : Macro) : MacroDef :=
  { name := m.name, func := false, params := [], variadic := false, body := m.body.map toP }

def toTbl (ms : List Macro) : List MacroDef := ms.map toDefObj

theorem toTbl_obj (ms : List Macro) : ∀ m ∈ toTbl ms, m.func = false := by
  intro m hm
  obtain ⟨x, _, rfl⟩ := List.mem_map.mp hm
  rfl

theorem lookup_toTbl (ms : List Macro) (n : Name) : lookup (toTbl ms) n = (macroget ms n).map toDefObj := by
  unfold lookup toTbl macroget
  rw [List.find?_map]
  rfl

theorem toTbl_setHide (ms : List Macro) (n : Name) (b : Bool) : toTbl (setHide ms n b) = toTbl ms :=
  map_setHide toDefObj (fun _ _ => rfl) ms n b

def wt : Nat → List MacroDef → PTok → Nat
  | 0, _, _ => 1
  | d + 1, tbl, t =>
    if t.kind = .TIDENT then
      match lookup tbl (t.lit.getD []) with
      | some m => 1 + (m.body.map (wt d (MacroRef.erase tbl m.name))).sum
      | none => 1
    else 1

theorem wt_pos : ∀ (d : Nat) (tbl : List MacroDef) (t : PTok), 1 ≤ wt d tbl t
  | 0, _, _ => by simp [wt]
  | d + 1, tbl, t => by
    unfold wt
    split
    · split <;> omega
    · omega

def availT (tbl : List MacroDef) (L : List Name) : List MacroDef := tbl.filter fun m => !L.contains m.name

def W (tbl : List MacroDef) (L : List Name) (t : Tok) : Nat := wt (availT tbl L).length (availT tbl L) (toP t)

theorem W_pos (tbl : List MacroDef) (L : List Name) (t : Tok) : 1 ≤ W tbl L t := wt_pos _ _ _

theorem lookup_avail {tbl : List MacroDef} {L : List Name} {n : Name} {m : MacroDef}
    (h : lookup tbl n = some m) (hn : L.contains n = false) : lookup (availT tbl L) n = some m := by
  unfold lookup availT at *
  induction tbl with
  | nil => cases h
  | cons a r ih =>
    simp only [List.find?_cons] at h
    by_cases ha : a.name = n
    · simp only [ha, decide_true] at h
      cases h
      have hn' : n ∉ L := by simpa using hn
      simp [ha, hn']
    · simp only [ha, decide_false] at h
      simp only [List.filter_cons]
      split
      · simp only [List.find?_cons, ha, decide_false]; exact ih h
      · exact ih h

theorem lookup_avail_none {tbl : List MacroDef} {L : List Name} {n : Name}
    (h : lookup tbl n = none) : lookup (availT tbl L) n = none := by
  unfold lookup availT at *
  rw [List.find?_eq_none] at h ⊢
  intro x hx
  exact h x (List.mem_filter.mp hx).1

theorem erase_avail (tbl : List MacroDef) (L : List Name) (n : Name) :
    MacroRef.erase (availT tbl L) n = availT tbl (n :: L) := by
  unfold MacroRef.erase availT
  rw [List.filter_filter]
  apply List.filter_congr
  intro x _
  by_cases h : x.name = n
  · simp [h]
  · simp [h]

theorem length_erase {tbl : List MacroDef} {n : Name} {m : MacroDef} (hnd : (tbl.map (·.name)).Nodup)
    (h : lookup tbl n = some m) : tbl.length = (MacroRef.erase tbl n).length + 1 := by
  unfold lookup MacroRef.erase at *
  induction tbl with
  | nil => cases h
  | cons a r ih =>
    simp only [List.map_cons, List.nodup_cons] at hnd
    simp only [List.find?_cons] at h
    by_cases ha : a.name = n
    · have : List.filter (fun x => !decide (x.name = n)) r = r := by
        apply List.filter_eq_self.mpr
        intro x hx
        have : x.name ≠ a.name := fun hh => hnd.1 (List.mem_map.mpr ⟨x, hx, hh⟩)
        simp [← ha, this]
      simp [ha, this]
    · simp only [ha, decide_false] at h
      simp [ha, ih hnd.2 h]

theorem nodup_avail {tbl : List MacroDef} (L : List Name) (h : (tbl.map (·.name)).Nodup) :
    ((availT tbl L).map (·.name)).Nodup := by
  unfold availT
  exact List.Nodup.sublist (List.Sublist.map _ List.filter_sublist) h

theorem W_expand {tbl : List MacroDef} {L : List Name} {t : Tok} {m : MacroDef}
    (hnd : (tbl.map (·.name)).Nodup) (hk : t.kind = .TIDENT) (hl : lookup tbl (t.lit.getD []) = some m)
    (hname : m.name = t.lit.getD []) (hn : L.contains m.name = false) :
    W tbl L t = 1 + (m.body.map (wt (availT tbl (m.name :: L)).length (availT tbl (m.name :: L)))).sum := by
  unfold W
  have hla : lookup (availT tbl L) (t.lit.getD []) = some m := lookup_avail hl (by rw [← hname]; exact hn)
  have hlen := length_erase (nodup_avail L hnd) hla
  rw [← hname] at hlen
  rw [hlen, wt]
  have : (toP t).kind = .TIDENT := hk
  have h2 : (toP t).lit = t.lit := rfl
  simp only [this, ↓reduceIte, h2, hla, erase_avail]

def potCtx (tbl : List MacroDef) : List Frame → Nat
  | [] => 0
  | f :: rest => (f.toks.map (W tbl (liveNames (f :: rest)))).sum + potCtx tbl rest

def pot (st : St) : Nat :=
  potCtx (toTbl st.macros) st.ctx + (st.raw.map (W (toTbl st.macros) [])).sum

theorem toTbl_names (ms : List Macro) : (toTbl ms).map (·.name) = ms.map (·.name) := by
  rw [toTbl, List.map_map]
  rfl

theorem sum_W_respace (tbl : List MacroDef) (L : List Name) (l : List Tok) (sp : Bool) :
    ((respace l sp).map (W tbl L)).sum = (l.map (W tbl L)).sum := by
  cases l with
  | nil => rfl
  | cons a r =>
    -- `wt` looks at class and spelling only
    have : W tbl L { a with space := sp } = W tbl L a := by
      unfold W
      cases (availT tbl L).length <;> rfl
    rw [respace, List.map_cons, List.map_cons, this]

end CprocVerif.PP
