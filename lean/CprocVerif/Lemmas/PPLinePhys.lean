import CprocVerif.Spec.Presumed
import CprocVerif.Model.Scan

/-! The physical location of a byte offset as scan.c counts it (`physAt`), its declarative
reading (`Spec.Presumed.newlines` / `sinceLineStart`), and the structure of `Scan.group`; at the end
one fact of the spec alone, `presumedLine_mono`. -/

namespace CprocVerif.PPLine
open CprocVerif.Scan CprocVerif.Gen.TokenKinds

/-- `loc` after the reader has consumed the bytes `bs` one at a time, none of them being part of
the state machine of `nextchar` (a removed backslash-newline pair moves `loc` exactly as reading
its two bytes would: `col+1`, then `line+1, col 0`) -/
def advBytes (l : Loc) (bs : List UInt8) : Loc := bs.foldl advChar l

def physAt (text : List UInt8) (p : Nat) : Loc := advBytes ⟨1, 0⟩ (text.take p)

def splices : Nat → List UInt8
  | 0 => []
  | k + 1 => c! '\\' :: c! '\n' :: splices k

@[simp] theorem length_splices (k : Nat) : (splices k).length = 2 * k := by
  induction k with
  | zero => rfl
  | succ k ih => simp [splices, ih]; omega

theorem advBytes_append (l : Loc) (a b : List UInt8) :
    advBytes l (a ++ b) = advBytes (advBytes l a) b := by
  simp [advBytes, List.foldl_append]

theorem advBytes_splices (l : Loc) (k : Nat) : advBytes l (splices k) = advSplice l k := by
  induction k generalizing l with
  | zero => simp [splices, advBytes, advSplice]
  | succ k ih =>
    have e : advBytes l (splices (k + 1)) = advBytes ⟨l.line + 1, 0⟩ (splices k) := by
      simp [splices, advBytes, List.foldl_cons, advChar]
    rw [e, ih]
    simp only [advSplice]
    split
    · subst_vars; simp
    · simp; omega

theorem physAt_add (text : List UInt8) (p : Nat) (u v : List UInt8) (h : text.drop p = u ++ v) :
    physAt text (p + u.length) = advBytes (physAt text p) u := by
  unfold physAt
  rw [List.take_add, h, List.take_left' rfl, advBytes_append]

theorem physAt_splices (text : List UInt8) (p k : Nat) (v : List UInt8)
    (h : text.drop p = splices k ++ v) : physAt text (p + 2 * k) = advSplice (physAt text p) k := by
  rw [← length_splices, physAt_add text p _ v h, advBytes_splices]

theorem drop_structure (text : List UInt8) (p : Nat) (u : List UInt8) (c : UInt8) (t' : List UInt8)
    (h : text.drop p = u ++ c :: t') :
    text.drop (p + u.length) = c :: t' ∧ text[p + u.length]? = some c ∧
      text.drop (p + u.length + 1) = t' ∧ p + u.length + 1 ≤ text.length := by
  have h1 : text.drop (p + u.length) = c :: t' := by
    rw [← List.drop_drop, h]; simp
  refine ⟨h1, ?_, ?_, ?_⟩
  · have := congrArg List.head? h1
    simpa [List.head?_drop] using this
  · rw [← List.drop_drop, h1]; rfl
  · have := congrArg List.length h1
    simp at this; omega

/-- the last conjunct: re-reading `c` after a push-back sees it with no pair in front -/
theorem group_cons_inv : ∀ (t : List UInt8) (a k : Nat) (c : UInt8) (rest : List (Nat × UInt8))
    (tr : Nat), group t a = ((k, c) :: rest, tr) →
    ∃ j t', k = a + j ∧ t = splices j ++ c :: t' ∧ group t' 0 = (rest, tr) ∧
      group (c :: t') 0 = ((0, c) :: rest, tr) := by
  intro t a
  fun_induction group t a with
  | case1 k0 => intro k c rest tr h; simp at h
  | case2 c0 k0 =>
    intro k c rest tr h
    simp only [Prod.mk.injEq, List.cons.injEq] at h
    obtain ⟨⟨⟨rfl, rfl⟩, rfl⟩, rfl⟩ := h
    exact ⟨0, [], rfl, rfl, by simp [group], by simp [group]⟩
  | case3 c0 d r k0 h ih =>
    intro k c rest tr hg
    obtain ⟨j, t', rfl, h2, h3, h4⟩ := ih k c rest tr hg
    exact ⟨j + 1, t', by omega, by rw [splices, h.1, h.2, h2]; rfl, h3, h4⟩
  | case4 c0 d r k0 h ih =>
    intro k c rest tr hg
    simp only [Prod.mk.injEq, List.cons.injEq] at hg
    obtain ⟨⟨⟨rfl, rfl⟩, rfl⟩, rfl⟩ := hg
    refine ⟨0, d :: r, rfl, rfl, rfl, ?_⟩
    rw [group]
    simp only [h, if_false]

theorem group_nil_inv : ∀ (t : List UInt8) (a tr : Nat), group t a = ([], tr) →
    ∃ j, tr = a + j ∧ t = splices j := by
  intro t a
  fun_induction group t a with
  | case1 k0 => intro tr h; cases h; exact ⟨0, rfl, rfl⟩
  | case2 c0 k0 => intro tr h; simp at h
  | case3 c0 d r k0 h ih =>
    intro tr hg
    obtain ⟨j, rfl, h2⟩ := ih tr hg
    exact ⟨j + 1, by omega, by rw [splices, h.1, h.2, h2]⟩
  | case4 c0 d r k0 h ih => intro tr hg; simp at hg

theorem group_acc_le : ∀ (t : List UInt8) (a : Nat),
    (∀ e ∈ (group t a).1.head?, a ≤ e.1) ∧ ((group t a).1 = [] → a ≤ (group t a).2) := by
  intro t a
  match hg : group t a with
  | ([], tr) =>
    obtain ⟨j, rfl, _⟩ := group_nil_inv t a tr hg
    exact ⟨(fun _ h => nomatch h), fun _ => Nat.le_add_right a j⟩
  | ((k, c) :: rest, tr) =>
    obtain ⟨j, _, rfl, _⟩ := group_cons_inv t a k c rest tr hg
    exact ⟨fun e he => by cases he; exact Nat.le_add_right a j, fun h => nomatch h⟩

theorem advBytes_line (l : Loc) (bs : List UInt8) :
    (advBytes l bs).line = l.line + bs.count (c! '\n') := by
  induction bs generalizing l with
  | nil => rfl
  | cons b r ih =>
    show (advBytes (advChar l b) r).line = _
    rw [ih, advChar]
    by_cases hb : b = c! '\n' <;> simp [hb]
    omega

/-- the column counts the bytes since the last new-line: read the bytes backwards -/
theorem advBytes_col (l : Loc) (bs : List UInt8) :
    (advBytes l bs.reverse).col =
      (bs.takeWhile (· ≠ c! '\n')).length + if c! '\n' ∈ bs then 0 else l.col := by
  induction bs with
  | nil => simp [advBytes]
  | cons b r ih =>
    rw [List.reverse_cons, advBytes_append]
    show (advChar (advBytes l r.reverse) b).col = _
    by_cases hb : b = c! '\n'
    · simp [advChar, hb]
    · have hb' : ¬ (c! '\n' = b) := fun h => hb h.symm
      simp only [advChar, hb, if_false, ih, List.takeWhile_cons, ne_eq, decide_not, decide_false,
        Bool.not_false, if_true, List.length_cons, List.mem_cons, hb', false_or]
      omega

theorem physAt_line (text : List UInt8) (p : Nat) :
    (physAt text p).line = 1 + Spec.Presumed.newlines text 0 p := by
  unfold physAt Spec.Presumed.newlines
  rw [advBytes_line]
  simp

theorem physAt_col (text : List UInt8) (p : Nat) :
    (physAt text p).col = Spec.Presumed.sinceLineStart text p := by
  have := advBytes_col ⟨1, 0⟩ (text.take p).reverse
  rw [List.reverse_reverse] at this
  unfold physAt Spec.Presumed.sinceLineStart
  rw [this]
  split <;> rfl

theorem newlines_split (text : List UInt8) (a b c : Nat) (h1 : a ≤ b) (h2 : b ≤ c) :
    Spec.Presumed.newlines text a c = Spec.Presumed.newlines text a b + Spec.Presumed.newlines text b c := by
  unfold Spec.Presumed.newlines
  rw [show c - a = (b - a) + (c - b) by omega, List.take_add, List.count_append, List.drop_drop,
    Nat.add_sub_of_le h1]

end CprocVerif.PPLine

namespace CprocVerif.C11
open CprocVerif.Scan CprocVerif.PPLine CprocVerif.Spec.Presumed CprocVerif.Gen.TokenKinds

theorem presumedLine_mono (text : List UInt8) (D : List LineDir) (o1 o2 : Nat) (h : o1 ≤ o2)
    (hsame : inEffect D o1 = inEffect D o2) (hle : ∀ d ∈ inEffect D o1, d.endOff ≤ o1) :
    presumedLine text D o1 ≤ presumedLine text D o2 := by
  unfold presumedLine
  rw [← hsame]
  cases hl : (inEffect D o1).getLast? with
  | none =>
    have := newlines_split text 0 o1 o2 (Nat.zero_le _) h
    simp only []; omega
  | some d =>
    have hd := hle d (List.mem_of_getLast? hl)
    have := newlines_split text d.endOff o1 o2 hd h
    simp only []; omega

end CprocVerif.C11
