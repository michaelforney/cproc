import CprocVerif.Lemmas.PPFunStep
import CprocVerif.Lemmas.PPFlatG

/-! # What the function-like development assumes of a table (`FnMacro`, `FnTable`), and the table of a state against the
static one (`stat`) -/

namespace CprocVerif.PP
open CprocVerif.Gen.TokenKinds
open CprocVerif.Spec.MacroRef (HTok Item PTok MacroDef RErr Flag Elem expandH hsadd union pendItems lookup
  subst elems paramIndex)
open CprocVerif.Spec

/-- the parts of a macro that never change after its definition -/
def stat (m : Macro) : Name × Bool × List Param × List Tok := (m.name, m.func, m.params, m.body)

theorem stat_of_strip {ms ms' : List Macro} (h : ms.map strip = ms'.map strip) : ms.map stat = ms'.map stat :=
  map_eq_of_factor (fun x => (x.1, x.2.1, x.2.2.1, x.2.2.2.2)) (fun _ => rfl) h

theorem stat_setHide (ms : List Macro) (n : Name) (b : Bool) : (setHide ms n b).map stat = ms.map stat :=
  stat_of_strip (strip_setHide ms n b)

theorem stat_setArgs (ms : List Macro) (n : Name) (a : List Arg) : (setArgs ms n a).map stat = ms.map stat :=
  map_setArgs stat (fun _ _ => rfl) ms n a

theorem macroget_stat {ms ms' : List Macro} (h : ms.map stat = ms'.map stat) (n : Name) :
    (macroget ms n).map stat = (macroget ms' n).map stat := by
  have key : ∀ l : List Macro, (macroget l n).map stat = (l.map stat).find? (fun x => x.1 = n) :=
    fun l => by rw [List.find?_map]; rfl
  rw [key, key, h]

theorem macroget_stat_some {ms ms' : List Macro} (h : ms.map stat = ms'.map stat) {n : Name} {m : Macro}
    (hm : macroget ms n = some m) : ∃ m', macroget ms' n = some m' ∧ stat m' = stat m :=
  Option.map_eq_some_iff.mp ((macroget_stat h n).symm.trans (congrArg (Option.map stat) hm))

def IsFunName (ms0 : List Macro) (t : Tok) : Prop :=
  t.kind = .TIDENT ∧ ∃ F, macroget ms0 (t.lit.getD []) = some F ∧ F.func = true

theorem stat_eq {m m' : Macro} (h : stat m' = stat m) :
    m'.name = m.name ∧ m'.func = m.func ∧ m'.params = m.params ∧ m'.body = m.body := by
  simp only [stat, Prod.mk.injEq] at h
  exact h

theorem stat_with {m m' : Macro} (h : stat m' = stat m) (a : List Arg) (b : Bool) :
    ({ m' with args := a, hide := b } : Macro) = { m with args := a, hide := b } := by
  cases m; cases m'
  simp only [stat, Prod.mk.injEq] at h
  obtain ⟨rfl, rfl, rfl, rfl⟩ := h
  rfl

theorem use_lt_of_flags {ps : List Param} {body : List Tok}
    (hftok : ∀ i, (i, false) ∈ uses ps body → (ps.getD i default).ftok = true)
    (hfstr : ∀ i, (i, true) ∈ uses ps body → (ps.getD i default).fstr = true)
    {i : Nat} {b : Bool} (hi : (i, b) ∈ uses ps body) : i < ps.length := by
  refine Nat.lt_of_not_le fun hle => ?_
  have hd : ps.getD i default = default := by
    simp [List.getD_eq_getElem?_getD, List.getElem?_eq_none hle]
  cases b with
  | false => have := hftok i hi; rw [hd] at this; cases this
  | true => have := hfstr i hi; rw [hd] at this; cases this

theorem macroparam_space (ps : List Param) (t : Tok) (sp : Bool) :
    macroparam ps { t with space := sp } = macroparam ps t := rfl

/-- `strOnly`: a parameter used with `#` is not also macro-replaced; it is what the proofs use of `SimpleFunS.excl`
(`PPFnClasses`), the other fields are those of `SimpleFunS` -/
structure FnMacro (F : Macro) : Prop where
  func : F.func = true
  nonempty : 0 < F.params.length
  novar : ∀ p ∈ F.params, p.fvar = false
  hashF : HashFollowed F.params F.body
  ftok : ∀ i, (i, false) ∈ uses F.params F.body → (F.params.getD i default).ftok = true
  fstr : ∀ i, (i, true) ∈ uses F.params F.body → (F.params.getD i default).fstr = true
  strOnly : ∀ i, (i, true) ∈ uses F.params F.body → (F.params.getD i default).ftok = false

structure FnTable (ms0 : List Macro) : Prop where
  names : (ms0.map (·.name)).Nodup
  bodyNe : ∀ m ∈ ms0, m.body ≠ []
  bodyOk : ∀ m ∈ ms0, ∀ t ∈ m.body, okKind t ∧ ¬ IsFunName ms0 t
  func : ∀ m ∈ ms0, m.func = true → FnMacro m

theorem fnMacro_of_stat {m m' : Macro} (h : stat m' = stat m) (hs : FnMacro m) : FnMacro m' := by
  obtain ⟨-, h2, h3, h4⟩ := stat_eq h
  exact ⟨h2 ▸ hs.func, h3 ▸ hs.nonempty, h3 ▸ hs.novar, h3 ▸ h4 ▸ hs.hashF, h3 ▸ h4 ▸ hs.ftok, h3 ▸ h4 ▸ hs.fstr,
    h3 ▸ h4 ▸ hs.strOnly⟩

theorem FnMacro.use_lt {F : Macro} (h : FnMacro F) {i : Nat} {b : Bool} (hi : (i, b) ∈ uses F.params F.body) :
    i < F.params.length :=
  use_lt_of_flags h.ftok h.fstr hi

/-- some macro of the table has `# parameter` in its replacement list -/
def HasStr (ms0 : List Macro) : Prop := ∃ F ∈ ms0, F.func = true ∧ ∃ i, (i, true) ∈ uses F.params F.body

end CprocVerif.PP
