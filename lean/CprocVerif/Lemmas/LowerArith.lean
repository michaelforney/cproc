/-
  C01 — arithmetic layer, machine side: what the integer instructions of `Spec/Qbe` compute on the
  bits of their operands, as statements about integers (unsigned and signed readings), for the
  classes `w` and `l` at once; and how `execOp` runs each instruction `funcexpr`/`convert` choose.
-/
import CprocVerif.Spec.Qbe
import CprocVerif.Model.Lower
import CprocVerif.Lemmas.CInt

namespace CprocVerif.LowerArith
open CprocVerif.Qbe CprocVerif.CSem CprocVerif.CInt CprocVerif.Lower

theorem toNat_and_mask32 (b : UInt64) : (b &&& mask32).toNat = b.toNat % 2 ^ 32 := by
  rw [UInt64.toNat_and]
  show b.toNat &&& (2 ^ 32 - 1) = _
  exact Nat.and_two_pow_sub_one_eq_mod _ 32

theorem bmod32 (x : Int) :
    x.bmod (2 ^ 32) = if x % 2 ^ 32 < 2 ^ 31 then x % 2 ^ 32 else x % 2 ^ 32 - 2 ^ 32 := by
  rw [Int.bmod_def]; rfl

theorem bmod64 (x : Int) :
    x.bmod (2 ^ 64) = if x % 2 ^ 64 < 2 ^ 63 then x % 2 ^ 64 else x % 2 ^ 64 - 2 ^ 64 := by
  rw [Int.bmod_def]; rfl

theorem u32_toInt (x : UInt32) : x.toInt32.toInt = (x.toNat : Int).bmod (2 ^ 32) := by
  show x.toInt32.toBitVec.toInt = _
  rw [UInt32.toBitVec_toInt32, BitVec.toInt_eq_toNat_bmod]; rfl

theorem u64_toInt (x : UInt64) : x.toInt64.toInt = (x.toNat : Int).bmod (2 ^ 64) := by
  show x.toInt64.toBitVec.toInt = _
  rw [UInt64.toBitVec_toInt64, BitVec.toInt_eq_toNat_bmod]; rfl

theorem i32_back (i : Int32) : (i.toUInt32.toNat : Int) = i.toInt % 2 ^ 32 := by
  show ((i.toUInt32.toBitVec.toNat : Nat) : Int) = i.toBitVec.toInt % 2 ^ 32
  rw [Int32.toBitVec_toUInt32, BitVec.toInt_eq_toNat_bmod, bmod32]
  have := i.toBitVec.isLt
  split <;> omega

theorem i64_back (i : Int64) : (i.toUInt64.toNat : Int) = i.toInt % 2 ^ 64 := by
  show ((i.toUInt64.toBitVec.toNat : Nat) : Int) = i.toBitVec.toInt % 2 ^ 64
  rw [Int64.toBitVec_toUInt64, BitVec.toInt_eq_toNat_bmod, bmod64]
  have := i.toBitVec.isLt
  split <;> omega

theorem smod32 : ∀ k : Fin 32, ((BitVec.ofNat 32 k.val).smod 32).toNat = k.val := by decide
theorem smod64 : ∀ k : Fin 64, ((BitVec.ofNat 64 k.val).smod 64).toNat = k.val := by decide

theorem i32_sar (a : Int32) (c : UInt32) (hc : c.toNat < 32) :
    (a >>> c.toInt32).toInt = a.toInt / 2 ^ c.toNat := by
  show (a >>> c.toInt32).toBitVec.toInt = _
  rw [Int32.toBitVec_shiftRight, BitVec.toInt_sshiftRight', Int.shiftRight_eq_div_pow]
  have h : (c.toInt32.toBitVec.smod 32).toNat = c.toNat := by
    have h1 : c.toInt32.toBitVec = BitVec.ofNat 32 c.toNat := by
      apply BitVec.eq_of_toNat_eq
      simp
    rw [h1]
    exact smod32 ⟨c.toNat, hc⟩
  rw [h]; simp

theorem i64_sar (a : Int64) (c : UInt64) (hc : c.toNat < 64) :
    (a >>> c.toInt64).toInt = a.toInt / 2 ^ c.toNat := by
  show (a >>> c.toInt64).toBitVec.toInt = _
  rw [Int64.toBitVec_shiftRight, BitVec.toInt_sshiftRight', Int.shiftRight_eq_div_pow]
  have h : (c.toInt64.toBitVec.smod 64).toNat = c.toNat := by
    have h1 : c.toInt64.toBitVec = BitVec.ofNat 64 c.toNat := by
      apply BitVec.eq_of_toNat_eq
      simp
    rw [h1]
    exact smod64 ⟨c.toNat, hc⟩
  rw [h]; simp

theorem bmod_emod_pow (x : Int) (n : Nat) : x.bmod (2 ^ n) % 2 ^ n = x % 2 ^ n := by
  rw [← natCast_two_pow]; exact Int.bmod_emod

theorem sext_toNat {n : Nat} (h0 : 0 < n) (hn : n ≤ 64) (v : UInt64) :
    ((sext n v).toNat : Int) = (v.toNat : Int).bmod (2 ^ n) % 2 ^ 64 := by
  obtain ⟨s, hs⟩ : ∃ s, s = 64 - n := ⟨_, rfl⟩
  have hsh : (64 - n).toUInt64.toNat = s := by
    show (UInt64.ofNat (64 - n)).toNat = s
    rw [UInt64.toNat_ofNat', hs]; omega
  have hpow : 2 ^ 64 = 2 ^ s * 2 ^ n := by rw [← Nat.pow_add]; congr 1; omega
  have h2 : 2 ∣ 2 ^ n := ⟨2 ^ (n - 1), by rw [← Nat.pow_succ']; congr 1; omega⟩
  show (((v <<< (64 - n).toUInt64).toInt64 >>> (64 - n).toUInt64.toInt64).toUInt64.toNat : Int) = _
  -- `(2^s * v) bmod (2^s * 2^n)` is `2^s * (v bmod 2^n)`, and the arithmetic shift divides by `2^s`
  rw [i64_back, i64_sar _ _ (by omega), u64_toInt, UInt64.toNat_shiftLeft, hsh,
    Nat.mod_eq_of_lt (by omega : s < 64), Nat.shiftLeft_eq, Int.natCast_emod, Int.emod_bmod, hpow,
    Nat.mul_comm v.toNat, Int.natCast_mul,
    Int.mod_bmod_mul_of_pos _ _ (Nat.pow_pos (by decide)) h2, natCast_two_pow,
    Int.mul_ediv_cancel_left _ (Int.ne_of_gt (Int.pow_pos (by decide)))]

theorem sval_w {x : UInt64} (hx : x.toNat < 2 ^ 32) :
    x.toUInt32.toInt32.toInt = (x.toNat : Int).bmod (2 ^ 32) := by
  rw [u32_toInt, UInt64.toNat_toUInt32, Nat.mod_eq_of_lt hx]

theorem u32_ne {y : UInt64} (c : UInt32) (n : Nat) (hc : c.toNat = n)
    (h : y.toNat % 2 ^ 32 ≠ n) : (y.toUInt32 == c) = false :=
  beq_eq_false_iff_ne.2 fun h0 => h (by rw [← hc, ← h0, UInt64.toNat_toUInt32])

theorem u64_ne {y : UInt64} (c : UInt64) (n : Nat) (hc : c.toNat = n)
    (h : y.toNat ≠ n) : (y == c) = false :=
  beq_eq_false_iff_ne.2 fun h0 => h (h0 ▸ hc)

theorem u32_beq {x y : UInt64} :
    (x.toUInt32 == y.toUInt32) = decide (x.toNat % 2 ^ 32 = y.toNat % 2 ^ 32) := by
  rw [Bool.eq_iff_iff, beq_iff_eq, decide_eq_true_iff, ← UInt32.toNat_inj,
    UInt64.toNat_toUInt32, UInt64.toNat_toUInt32]

theorem u64_beq {x y : UInt64} : (x == y) = decide (x.toNat = y.toNat) := by
  rw [Bool.eq_iff_iff, beq_iff_eq, decide_eq_true_iff, ← UInt64.toNat_inj]

theorem asW_lt {r : RVal} {x : UInt64} (h : r.asW = .ok x) : x.toNat < 2 ^ 32 := by
  unfold RVal.asW at h
  split at h <;> try cases h
  all_goals (rw [toNat_and_mask32]; omega)

theorem asW_of_asL {r : RVal} {x : UInt64} (h : r.asL = .ok x) : r.asW = .ok (x &&& mask32) := by
  unfold RVal.asL at h
  unfold RVal.asW
  split at h <;> try cases h
  all_goals simp_all

@[simp] theorem asW_mk_w (b : UInt64) : (RVal.mk .w b).asW = .ok (b &&& mask32) := rfl
@[simp] theorem asW_mk_l (b : UInt64) : (RVal.mk .l b).asW = .ok (b &&& mask32) := rfl
@[simp] theorem asW_mk_c (b : UInt64) : (RVal.mk .c b).asW = .ok (b &&& mask32) := rfl
@[simp] theorem asL_mk_l (b : UInt64) : (RVal.mk .l b).asL = .ok b := rfl
@[simp] theorem asL_mk_c (b : UInt64) : (RVal.mk .c b).asL = .ok b := rfl

def wbits (k : Cls) : Nat := if k = .l then 64 else 32

theorem wbits_w : wbits .w = 32 := rfl
theorem wbits_l : wbits .l = 64 := rfl

theorem wbits_pos {k : Cls} (hk : k = .w ∨ k = .l) : 0 < wbits k ∧ wbits k ≠ 1 := by
  rcases hk with rfl | rfl <;> decide

theorem wbits_arith {k : Cls} (hk : k = .w ∨ k = .l) (sg : Bool) : (⟨wbits k, sg⟩ : IntTy).Arith := by
  rcases hk with rfl | rfl
  · exact Or.inr (Or.inr (Or.inl rfl))
  · exact Or.inr (Or.inr (Or.inr rfl))

theorem wbits_valid {k : Cls} (hk : k = .w ∨ k = .l) (sg : Bool) : (⟨wbits k, sg⟩ : IntTy).Valid :=
  Or.inr (wbits_arith hk sg)

theorem toNat_emod {n : Nat} {x : UInt64} (hx : x.toNat < 2 ^ n) : (x.toNat : Int) % 2 ^ n = x.toNat :=
  Int.emod_eq_of_lt (Int.natCast_nonneg _) (by rw [← natCast_two_pow]; exact Int.ofNat_lt.2 hx)

theorem asK_lt {k : Cls} (hk : k = .w ∨ k = .l) {r : RVal} {x : UInt64} (h : r.asK k = .ok x) :
    x.toNat < 2 ^ wbits k := by
  rcases hk with rfl | rfl
  · exact asW_lt h
  · exact x.toNat_lt

theorem no_overflow {n : Nat} (hn : 0 < n) {x y : Int}
    (h : InRange ⟨n, true⟩ ((x.bmod (2 ^ n)).tdiv (y.bmod (2 ^ n)))) :
    x = 2 ^ (n - 1) → y ≠ 2 ^ n - 1 := by
  rintro rfl rfl
  have h2 := two_pow_pred hn
  have hp : (0 : Int) < 2 ^ (n - 1) := Int.pow_pos (by decide)
  have e1 : ((2 : Int) ^ (n - 1)).bmod (2 ^ n) = -2 ^ (n - 1) :=
    Int.bmod_eq_neg (Int.le_of_lt hp) (by rw [natCast_two_pow]; exact h2)
  have e2 : ((2 : Int) ^ n - 1).bmod (2 ^ n) = -1 := by
    have : (2 : Int) ^ n - 1 = -1 + 1 * ((2 ^ n : Nat) : Int) := by rw [natCast_two_pow]; omega
    rw [this, Int.add_mul_bmod_self_right]
    apply Int.bmod_eq_of_le <;> rw [natCast_two_pow, h2] <;> omega
  rw [e1, e2, Int.tdiv_neg, Int.tdiv_one, Int.neg_neg] at h
  exact absurd (inRange_iff.1 h).2 (Int.lt_irrefl _)

/-- The six comparisons proper (`BinOp.isCmp` of `Spec/CInt` also holds of `&&` and `||`). -/
def IsCmpOp (op : BinOp) : Prop :=
  op = .lt ∨ op = .gt ∨ op = .le ∨ op = .ge ∨ op = .eq ∨ op = .ne

def cmpRel : BinOp → Int → Int → Prop
  | .lt, a, b => a < b
  | .gt, a, b => b < a
  | .le, a, b => a ≤ b
  | .ge, a, b => b ≤ a
  | .eq, a, b => a = b
  | .ne, a, b => a ≠ b
  | _, _, _ => False

theorem bin_cmp {op : BinOp} (hop : IsCmpOp op) {t : IntTy} {a b v : Int} (h : bin op t a b = some v) :
    ∃ c : Bool, v = b2i c ∧ (c = true ↔ cmpRel op a b) := by
  rcases hop with rfl | rfl | rfl | rfl | rfl | rfl <;> cases h <;>
    exact ⟨_, rfl, by simp only [cmpRel, decide_eq_true_eq, gt_iff_lt, ge_iff_le]⟩

theorem cmpSel_eq (sg : Bool) (k : Cls) (s u : ICmp) :
    cmpSel sg (decide (k = .w)) s u =
      if k = .w then .cmpw (if sg then s else u) else .cmpl (if sg then s else u) := by
  unfold cmpSel; simp only [decide_eq_true_eq]

/-! The integer that operand bits `x` below `2 ^ wbits k` stand for in a type of signedness `sg` (their
reading) is `wrap ⟨wbits k, sg⟩ x.toNat` (`wrap_unsigned`, `wrap_signed`); the instructions whose choice
depends on the signedness (`binOpSel sg`) are stated over `sg` on these readings (`arith2_divmod`,
`icmp_rd`, `arith2_shr_rd`, `extFun_rd`), so that the operator lemmas of `Lemmas/LowerRep` (`bin_k` ..
`neg_k`) need no case split on the signedness. -/

section
variable {k : Cls} (hk : k = .w ∨ k = .l) {x y : UInt64}
  (hx : x.toNat < 2 ^ wbits k) (hy : y.toNat < 2 ^ wbits k)
include hk hx hy

theorem arith2_add :
    ∃ z, arith2 .add k x y = .ok z ∧ (z.toNat : Int) = ((x.toNat : Int) + y.toNat) % 2 ^ wbits k := by
  rcases hk with rfl | rfl <;> simp only [wbits_w, wbits_l] at hx hy ⊢ <;> refine ⟨_, rfl, ?_⟩
  · simp only [UInt32.toNat_toUInt64, UInt32.toNat_add, UInt64.toNat_toUInt32]; omega
  · simp only [UInt64.toNat_add]; omega

theorem arith2_sub :
    ∃ z, arith2 .sub k x y = .ok z ∧ (z.toNat : Int) = ((x.toNat : Int) - y.toNat) % 2 ^ wbits k := by
  rcases hk with rfl | rfl <;> simp only [wbits_w, wbits_l] at hx hy ⊢ <;> refine ⟨_, rfl, ?_⟩
  · simp only [UInt32.toNat_toUInt64, UInt32.toNat_sub, UInt64.toNat_toUInt32]; omega
  · simp only [UInt64.toNat_sub]; omega

theorem arith2_mul :
    ∃ z, arith2 .mul k x y = .ok z ∧ (z.toNat : Int) = ((x.toNat : Int) * y.toNat) % 2 ^ wbits k := by
  rcases hk with rfl | rfl <;> simp only [wbits_w, wbits_l] at hx hy ⊢ <;> refine ⟨_, rfl, ?_⟩
  · simp only [UInt32.toNat_toUInt64, UInt32.toNat_mul, UInt64.toNat_toUInt32, Nat.mod_eq_of_lt hx,
      Nat.mod_eq_of_lt hy]
    rw [Int.natCast_emod, Int.natCast_mul]; rfl
  · simp only [UInt64.toNat_mul]; rw [Int.natCast_emod, Int.natCast_mul]; rfl

theorem arith2_bitwise :
    (∃ z, arith2 .and k x y = .ok z ∧ z.toNat = x.toNat &&& y.toNat) ∧
    (∃ z, arith2 .or k x y = .ok z ∧ z.toNat = x.toNat ||| y.toNat) ∧
    (∃ z, arith2 .xor k x y = .ok z ∧ z.toNat = x.toNat ^^^ y.toNat) := by
  rcases hk with rfl | rfl <;> simp only [wbits_w, wbits_l] at hx hy
  · refine ⟨⟨_, rfl, ?_⟩, ⟨_, rfl, ?_⟩, ⟨_, rfl, ?_⟩⟩ <;>
      simp only [UInt32.toNat_toUInt64, UInt32.toNat_and, UInt32.toNat_or, UInt32.toNat_xor,
        UInt64.toNat_toUInt32, Nat.mod_eq_of_lt hx, Nat.mod_eq_of_lt hy]
  · exact ⟨⟨_, rfl, UInt64.toNat_and ..⟩, ⟨_, rfl, UInt64.toNat_or ..⟩, ⟨_, rfl, UInt64.toNat_xor ..⟩⟩

theorem arith2_udiv (hy0 : y.toNat ≠ 0) :
    (∃ z, arith2 .udiv k x y = .ok z ∧ z.toNat = x.toNat / y.toNat) ∧
    (∃ z, arith2 .urem k x y = .ok z ∧ z.toNat = x.toNat % y.toNat) := by
  rcases hk with rfl | rfl <;> simp only [wbits_w, wbits_l] at hx hy
  · have h0 : (y.toUInt32 == 0) = false := u32_ne _ 0 rfl (by omega)
    refine ⟨⟨_, by simp only [arith2, h0]; rfl, ?_⟩, ⟨_, by simp only [arith2, h0]; rfl, ?_⟩⟩ <;>
      simp only [UInt32.toNat_toUInt64, UInt32.toNat_div, UInt32.toNat_mod, UInt64.toNat_toUInt32,
        Nat.mod_eq_of_lt hx, Nat.mod_eq_of_lt hy]
  · have h0 : (y == 0) = false := u64_ne _ 0 rfl hy0
    exact ⟨⟨_, by simp only [arith2, h0]; rfl, UInt64.toNat_div ..⟩,
      ⟨_, by simp only [arith2, h0]; rfl, UInt64.toNat_mod ..⟩⟩

/-- `hov` excludes `MIN / -1` as bit patterns: `div` and `rem` trap on it as on a zero divisor. -/
theorem arith2_div (hy0 : y.toNat ≠ 0)
    (hov : (x.toNat : Int) = 2 ^ (wbits k - 1) → (y.toNat : Int) ≠ 2 ^ wbits k - 1) :
    (∃ z, arith2 .div k x y = .ok z ∧ (z.toNat : Int) =
      ((x.toNat : Int).bmod (2 ^ wbits k)).tdiv ((y.toNat : Int).bmod (2 ^ wbits k)) % 2 ^ wbits k) ∧
    (∃ z, arith2 .rem k x y = .ok z ∧ (z.toNat : Int) =
      ((x.toNat : Int).bmod (2 ^ wbits k)).tmod ((y.toNat : Int).bmod (2 ^ wbits k)) % 2 ^ wbits k) := by
  rcases hk with rfl | rfl <;> simp only [wbits_w, wbits_l] at hx hy hov ⊢
  · have h0 : (y.toUInt32 == 0) = false := u32_ne _ 0 rfl (by omega)
    have h1 : (x.toUInt32 == 0x80000000 && y.toUInt32 == 0xffffffff) = false := by
      rw [Bool.and_eq_false_iff]
      by_cases h : x.toNat = 2 ^ 31
      · exact Or.inr (u32_ne _ (2 ^ 32 - 1) rfl (by have := hov (by omega); omega))
      · exact Or.inl (u32_ne _ (2 ^ 31) rfl (by omega))
    refine ⟨⟨_, by unfold arith2; simp only [h0, h1]; rfl, ?_⟩, ⟨_, by unfold arith2; simp only [h0, h1]; rfl, ?_⟩⟩
    · rw [UInt32.toNat_toUInt64, i32_back, Int32.toInt_div, sval_w hx, sval_w hy, bmod_emod_pow]
    · rw [UInt32.toNat_toUInt64, i32_back, Int32.toInt_mod, sval_w hx, sval_w hy]
  · have h0 : (y == 0) = false := u64_ne _ 0 rfl hy0
    have h1 : (x == 0x8000000000000000 && y == 0xffffffffffffffff) = false := by
      rw [Bool.and_eq_false_iff]
      by_cases h : x.toNat = 2 ^ 63
      · exact Or.inr (u64_ne _ (2 ^ 64 - 1) rfl (by have := hov (by omega); omega))
      · exact Or.inl (u64_ne _ (2 ^ 63) rfl (by omega))
    refine ⟨⟨_, by unfold arith2; simp only [h0, h1]; rfl, ?_⟩, ⟨_, by unfold arith2; simp only [h0, h1]; rfl, ?_⟩⟩
    · rw [i64_back, Int64.toInt_div, u64_toInt, u64_toInt, bmod_emod_pow]
    · rw [i64_back, Int64.toInt_mod, u64_toInt, u64_toInt]

theorem arith2_divmod (sg : Bool) (hy0 : wrap ⟨wbits k, sg⟩ y.toNat ≠ 0)
    (hq : sg = true → InRange ⟨wbits k, true⟩
      ((wrap ⟨wbits k, sg⟩ x.toNat).tdiv (wrap ⟨wbits k, sg⟩ y.toNat))) :
    (∃ z, arith2 (if sg then .div else .udiv) k x y = .ok z ∧ (z.toNat : Int) % 2 ^ wbits k =
      (wrap ⟨wbits k, sg⟩ x.toNat).tdiv (wrap ⟨wbits k, sg⟩ y.toNat) % 2 ^ wbits k) ∧
    (∃ z, arith2 (if sg then .rem else .urem) k x y = .ok z ∧ (z.toNat : Int) % 2 ^ wbits k =
      (wrap ⟨wbits k, sg⟩ x.toNat).tmod (wrap ⟨wbits k, sg⟩ y.toNat) % 2 ^ wbits k) := by
  obtain ⟨hn0, hn1⟩ := wbits_pos hk
  cases sg
  · rw [wrap_unsigned hn1, toNat_emod hy] at hy0
    rw [wrap_unsigned hn1, wrap_unsigned hn1, toNat_emod hx, toNat_emod hy]
    obtain ⟨⟨z, hz, hzn⟩, ⟨z', hz', hzn'⟩⟩ := arith2_udiv hk hx hy (by omega)
    exact ⟨⟨z, hz, by rw [Int.tdiv_eq_ediv_of_nonneg (Int.natCast_nonneg _), hzn, Int.natCast_ediv]⟩,
      ⟨z', hz', by rw [Int.tmod_eq_emod_of_nonneg (Int.natCast_nonneg _), hzn', Int.natCast_emod]⟩⟩
  · rw [wrap_signed (wbits_arith hk true)] at hy0
    rw [wrap_signed (wbits_arith hk true), wrap_signed (wbits_arith hk true)] at hq ⊢
    obtain ⟨⟨z, hz, hzn⟩, ⟨z', hz', hzn'⟩⟩ := arith2_div hk hx hy
      (fun h => hy0 (by rw [h]; exact Int.zero_bmod)) (no_overflow hn0 (hq rfl))
    exact ⟨⟨z, hz, by rw [hzn, Int.emod_emod]⟩, ⟨z', hz', by rw [hzn', Int.emod_emod]⟩⟩

theorem icmp_rd (sg : Bool) {op : BinOp} (hop : IsCmpOp op) :
    ∃ c, binOpSel sg (decide (k = .w)) op = (if k = .w then .cmpw c else .cmpl c) ∧
      ((if k = .w then icmp32 c x y else icmp64 c x y) = true ↔
        cmpRel op (wrap ⟨wbits k, sg⟩ x.toNat) (wrap ⟨wbits k, sg⟩ y.toNat)) := by
  cases sg
  · rw [wrap_unsigned (wbits_pos hk).2, wrap_unsigned (wbits_pos hk).2, toNat_emod hx, toNat_emod hy]
    rcases hk with rfl | rfl <;> simp only [wbits_w, wbits_l] at hx hy <;>
      rcases hop with rfl | rfl | rfl | rfl | rfl | rfl <;>
      refine ⟨_, cmpSel_eq false _ _ _, ?_⟩
    all_goals simp only [if_true, reduceCtorEq, if_false, Bool.false_eq_true, icmp32, icmp64, cmpRel,
      beq_iff_eq, bne_iff_ne, ne_eq, decide_eq_true_eq, ge_iff_le, gt_iff_lt, ← UInt32.toNat_inj,
      ← UInt64.toNat_inj, UInt32.lt_iff_toNat_lt, UInt32.le_iff_toNat_le, UInt64.lt_iff_toNat_lt,
      UInt64.le_iff_toNat_le, UInt64.toNat_toUInt32, Nat.mod_eq_of_lt hx, Nat.mod_eq_of_lt hy,
      Int.ofNat_lt, Int.ofNat_le, Int.ofNat_inj]
  · rw [wrap_signed (wbits_arith hk true), wrap_signed (wbits_arith hk true)]
    have heq : ((x.toNat : Int).bmod (2 ^ wbits k) = (y.toNat : Int).bmod (2 ^ wbits k)) = (x.toNat = y.toNat) :=
      propext ⟨fun h => Int.ofNat_inj.1 (by rw [← toNat_emod hx, ← toNat_emod hy, ← bmod_emod_pow, h, bmod_emod_pow]),
        fun h => by rw [h]⟩
    rcases hk with rfl | rfl <;> simp only [wbits_w, wbits_l] at hx hy heq
    · rcases hop with rfl | rfl | rfl | rfl | rfl | rfl <;> refine ⟨_, cmpSel_eq true _ _ _, ?_⟩ <;>
        simp only [wbits_w, if_true, icmp32, cmpRel, heq, beq_iff_eq, bne_iff_ne, ne_eq, decide_eq_true_eq,
          ge_iff_le, gt_iff_lt, ← UInt32.toNat_inj, Int32.lt_iff_toInt_lt, Int32.le_iff_toInt_le,
          UInt64.toNat_toUInt32, Nat.mod_eq_of_lt hx, Nat.mod_eq_of_lt hy, sval_w hx, sval_w hy]
    · rcases hop with rfl | rfl | rfl | rfl | rfl | rfl <;> refine ⟨_, cmpSel_eq true _ _ _, ?_⟩ <;>
        simp only [wbits_l, if_true, reduceCtorEq, if_false, icmp64, cmpRel, heq, beq_iff_eq, bne_iff_ne, ne_eq,
          decide_eq_true_eq, ge_iff_le, gt_iff_lt, ← UInt64.toNat_inj, Int64.lt_iff_toInt_lt,
          Int64.le_iff_toInt_le, u64_toInt]

end

theorem arith2_shift {k : Cls} (hk : k = .w ∨ k = .l) {x y : UInt64} (hx : x.toNat < 2 ^ wbits k)
    (hc : y.toNat < wbits k) :
    (∃ z, arith2 .shl k x y = .ok z ∧ (z.toNat : Int) = (x.toNat : Int) * 2 ^ y.toNat % 2 ^ wbits k) ∧
    (∃ z, arith2 .shr k x y = .ok z ∧ z.toNat = x.toNat / 2 ^ y.toNat) ∧
    (∃ z, arith2 .sar k x y = .ok z ∧ (z.toNat : Int) =
      (x.toNat : Int).bmod (2 ^ wbits k) / 2 ^ y.toNat % 2 ^ wbits k) := by
  rcases hk with rfl | rfl <;> simp only [wbits_w, wbits_l] at hx hc ⊢
  · have hc' : (y.toUInt32 % 32).toNat = y.toNat := by
      rw [UInt32.toNat_mod, UInt64.toNat_toUInt32]
      show y.toNat % 2 ^ 32 % 32 = y.toNat
      omega
    refine ⟨⟨_, rfl, ?_⟩, ⟨_, rfl, ?_⟩, ⟨_, rfl, ?_⟩⟩
    · rw [UInt32.toNat_toUInt64, UInt32.toNat_shiftLeft, hc', UInt64.toNat_toUInt32,
        Nat.mod_eq_of_lt hx, Nat.mod_eq_of_lt hc, Nat.shiftLeft_eq, Int.natCast_emod, Int.natCast_mul,
        Int.natCast_pow]
      rfl
    · rw [UInt32.toNat_toUInt64, UInt32.toNat_shiftRight, hc', UInt64.toNat_toUInt32,
        Nat.mod_eq_of_lt hx, Nat.mod_eq_of_lt hc, Nat.shiftRight_eq_div_pow]
    · rw [UInt32.toNat_toUInt64, i32_back, i32_sar _ _ (by rw [hc']; exact hc), hc', sval_w hx]
  · have hc' : (y % 64).toNat = y.toNat := by
      rw [UInt64.toNat_mod]
      show y.toNat % 64 = y.toNat
      omega
    refine ⟨⟨_, rfl, ?_⟩, ⟨_, rfl, ?_⟩, ⟨_, rfl, ?_⟩⟩
    · rw [UInt64.toNat_shiftLeft, hc', Nat.mod_eq_of_lt hc, Nat.shiftLeft_eq, Int.natCast_emod,
        Int.natCast_mul, Int.natCast_pow]
      rfl
    · rw [UInt64.toNat_shiftRight, hc', Nat.mod_eq_of_lt hc, Nat.shiftRight_eq_div_pow]
    · rw [i64_back, i64_sar _ _ (by rw [hc']; exact hc), hc', u64_toInt]

theorem arith2_shr_rd (sg : Bool) {k : Cls} (hk : k = .w ∨ k = .l) {x y : UInt64}
    (hx : x.toNat < 2 ^ wbits k) (hc : y.toNat < wbits k) :
    ∃ z, arith2 (if sg then .sar else .shr) k x y = .ok z ∧
      (z.toNat : Int) % 2 ^ wbits k = wrap ⟨wbits k, sg⟩ x.toNat / 2 ^ y.toNat % 2 ^ wbits k := by
  obtain ⟨-, ⟨z, hz, hzn⟩, ⟨z', hz', hzv'⟩⟩ := arith2_shift hk hx hc
  cases sg
  · exact ⟨z, hz, by rw [wrap_unsigned (wbits_pos hk).2, toNat_emod hx, hzn, Int.natCast_ediv, natCast_two_pow]⟩
  · exact ⟨z', hz', by rw [wrap_signed (wbits_arith hk true), hzv', Int.emod_emod]⟩

def IsArith (o : Op) : Prop :=
  o = .add ∨ o = .sub ∨ o = .mul ∨ o = .div ∨ o = .udiv ∨ o = .rem ∨ o = .urem ∨ o = .or ∨
  o = .xor ∨ o = .and

theorem isArith_div (sg : Bool) : IsArith (if sg then .div else .udiv) := by cases sg <;> simp [IsArith]
theorem isArith_rem (sg : Bool) : IsArith (if sg then .rem else .urem) := by cases sg <;> simp [IsArith]

theorem exec_arith {o : Op} (ho : IsArith o) {k : Cls} {ra rb : RVal} {x y z : UInt64} (M : Mem)
    (va : Option ByteArray) (hx : ra.asK k = .ok x) (hy : rb.asK k = .ok y)
    (hz : arith2 o k x y = .ok z) :
    execOp o (some k) [ra, rb] M va = .ok (⟨k.kind, z⟩, M) := by
  -- the one request for the equation lemmas of `execOp` in this module (the lemmas below `unfold`): Lean makes them
  -- anew in every declaration of the first module that asks (1.4 M heartbeats each); downstream they are imported
  rcases ho with rfl | rfl | rfl | rfl | rfl | rfl | rfl | rfl | rfl | rfl <;>
    simp only [execOp, needRes, hx, hy, hz, bind, Except.bind, pure, Except.pure]

def IsShift (o : Op) : Prop := o = .sar ∨ o = .shr ∨ o = .shl

theorem isShift_shr (sg : Bool) : IsShift (if sg then .sar else .shr) := by cases sg <;> simp [IsShift]

theorem exec_shift {o : Op} (ho : IsShift o) {k : Cls} {ra rb : RVal} {x y z : UInt64} (M : Mem)
    (va : Option ByteArray) (hx : ra.asK k = .ok x) (hy : rb.asW = .ok y)
    (hz : arith2 o k x y = .ok z) :
    execOp o (some k) [ra, rb] M va = .ok (⟨k.kind, z⟩, M) := by
  rcases ho with rfl | rfl | rfl <;> unfold execOp <;>
    simp only [needRes, hx, hy, hz, bind, Except.bind, pure, Except.pure]

theorem exec_neg {k : Cls} (hk : k = .w ∨ k = .l) {ra : RVal} {x : UInt64} (M : Mem)
    (va : Option ByteArray) (hx : ra.asK k = .ok x) :
    ∃ z, execOp .neg (some k) [ra] M va = .ok (⟨k.kind, z⟩, M) ∧
      (z.toNat : Int) = -(x.toNat : Int) % 2 ^ wbits k := by
  -- `neg` computes `0 - x` as `sub` does
  obtain ⟨z, hz, hzv⟩ := arith2_sub hk (x := 0) (Nat.pow_pos (by decide)) (asK_lt hk hx)
  refine ⟨z, ?_, by rw [hzv]; exact congrArg (· % _) (Int.zero_sub _)⟩
  rcases hk with rfl | rfl <;> cases hz <;> unfold execOp <;>
    simp only [needRes, hx, bind, Except.bind, pure, Except.pure] <;> rfl

/-- `f` is applied to the `w` reading of the operand. -/
def extFun : Op → Option (UInt64 → UInt64)
  | .extsw => some (sext 32)
  | .extuw => some id
  | .extsh => some (sext 16)
  | .extuh => some (· &&& 0xffff)
  | .extsb => some (sext 8)
  | .extub => some (· &&& 0xff)
  | _ => none

/-- The extension `convert` emits for a source of `n` bits (it tests the size in this order). -/
def extOp (n : Nat) (sg : Bool) : Op :=
  match n with
  | 32 => if sg then .extsw else .extuw
  | 16 => if sg then .extsh else .extuh
  | _ => if sg then .extsb else .extub

theorem extFun_rd {n : Nat} (hn : n = 8 ∨ n = 16 ∨ n = 32) (sg : Bool) :
    ∃ f, extFun (extOp n sg) = some f ∧ ∀ x : UInt64, x.toNat < 2 ^ 32 →
      ((f x).toNat : Int) = wrap ⟨n, sg⟩ x.toNat % 2 ^ 64 := by
  cases sg
  · have hz : ∀ m : Nat, m ≠ 1 → m ≤ 64 → ∀ x : Nat, ((x % 2 ^ m : Nat) : Int) = wrap ⟨m, false⟩ x % 2 ^ 64 :=
      fun m h1 h64 x => by
        rw [wrap_unsigned h1, Int.natCast_emod, natCast_two_pow]
        exact (Int.emod_eq_of_lt (Int.emod_nonneg _ (Int.ne_of_gt (two_pow_pos m)))
          (Int.lt_of_lt_of_le (Int.emod_lt_of_pos _ (two_pow_pos m)) (two_pow_le h64))).symm
    rcases hn with rfl | rfl | rfl <;> refine ⟨_, rfl, fun x hx => ?_⟩
    · rw [← hz 8 (by decide) (by decide), UInt64.toNat_and]
      exact congrArg _ (Nat.and_two_pow_sub_one_eq_mod _ 8)
    · rw [← hz 16 (by decide) (by decide), UInt64.toNat_and]
      exact congrArg _ (Nat.and_two_pow_sub_one_eq_mod _ 16)
    · rw [← hz 32 (by decide) (by decide), Nat.mod_eq_of_lt hx]; rfl
  · rcases hn with rfl | rfl | rfl <;> refine ⟨_, rfl, fun x _ => ?_⟩ <;>
      rw [wrap_signed (by decide)] <;> exact sext_toNat (by decide) (by decide) x

theorem exec_ext {o : Op} {f : UInt64 → UInt64} (ho : extFun o = some f) (k : Cls)
    (hk : k = .w ∨ k = .l) {ra : RVal} {x : UInt64} (M : Mem) (va : Option ByteArray)
    (hx : ra.asW = .ok x) :
    execOp o (some k) [ra] M va =
      .ok (⟨k.kind, if k = .w then f x &&& mask32 else f x⟩, M) := by
  cases o <;> simp only [extFun, Option.some.injEq, reduceCtorEq] at ho <;> subst ho <;>
    rcases hk with rfl | rfl <;> unfold execOp <;>
    simp only [needRes, hx, truncTo, bind, Except.bind, pure, Except.pure, Cls.kind, id,
      if_true, reduceCtorEq, if_false]

end CprocVerif.LowerArith
