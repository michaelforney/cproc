/-
  C01, fragment 𝔽₂ — running straight-line lowering steps (`funcinst`, `convert`, the conversion of `funcjnz`)
  under a two-sided frame (`RunsTo`): executing the items of a step that starts with `f->lastid = lo` and ends with
  `f->lastid = hi` changes no temporary outside `(lo, hi]`.  (The slots of locals declared later have numbers
  above `hi`, their `alloc`s sit in the start block and have been executed already: they must survive.)  `Run` is
  the same between any two positions and without a value; a jump to a label with no phi or one is a step of it.
-/
import CprocVerif.Lemmas.LowerSim
import CprocVerif.Lemmas.LowerRep
import CprocVerif.Model.CSem2

set_option linter.unusedSimpArgs false

namespace CprocVerif.LowerMach2
open CprocVerif.Qbe CprocVerif.Lower CprocVerif.CSem CprocVerif.CInt CprocVerif.LowerArith
open CprocVerif.LowerMach

/-- In this namespace the name shadows `Qbe.Frame`, the activation record. -/
def Frame (lo hi : Nat) (env env' : Env) : Prop :=
  ∀ j, j ≤ lo ∨ hi < j → env'[tmpName j]? = env[tmpName j]?

theorem Frame.refl (lo hi : Nat) (env : Env) : Frame lo hi env env := fun _ _ => rfl

theorem Frame.agree {lo hi : Nat} {env env' : Env} (h : Frame lo hi env env') : Agree lo env env' :=
  fun j hj => h j (Or.inl hj)

theorem Frame.trans {l1 h1 l2 h2 l h : Nat} {a b c : Env} (f1 : Frame l1 h1 a b) (f2 : Frame l2 h2 b c)
    (hl1 : l ≤ l1) (hl2 : l ≤ l2) (hh1 : h1 ≤ h) (hh2 : h2 ≤ h) : Frame l h a c := by
  intro j hj
  rw [f2 j (by omega), f1 j (by omega)]

theorem Frame.comp {l h : Nat} {a b c : Env} (f1 : Frame l h a b) (f2 : Frame l h b c) : Frame l h a c :=
  f1.trans f2 (Nat.le_refl _) (Nat.le_refl _) (Nat.le_refl _) (Nat.le_refl _)

theorem Frame.mono {l1 h1 l h : Nat} {a b : Env} (f : Frame l1 h1 a b) (hl : l ≤ l1) (hh : h1 ≤ h) :
    Frame l h a b := fun j hj => f j (by omega)

theorem Frame.insert {lo hi k : Nat} (env : Env) (v : RVal) (h1 : lo < k) (h2 : k ≤ hi) :
    Frame lo hi env (env.insert (tmpName k) v) :=
  fun j hj => getElem?_insert_tmp env v (by omega)

def setM (S : Sit) (M : Mem) : Sit := { S with M := M }

@[simp] theorem setM_M (S : Sit) (M : Mem) : (setM S M).M = M := rfl
@[simp] theorem setM_its (S : Sit) (M : Mem) : (setM S M).its = S.its := rfl
@[simp] theorem setM_p (S : Sit) (M : Mem) : (setM S M).p = S.p := rfl
@[simp] theorem setM_ext (S : Sit) (M : Mem) : (setM S M).ext = S.ext := rfl
@[simp] theorem setM_cs (S : Sit) (M : Mem) : (setM S M).cs = S.cs := rfl
@[simp] theorem setM_x (S : Sit) (M : Mem) : (setM S M).x = S.x := rfl
@[simp] theorem setM_o0 (S : Sit) (M : Mem) : (setM S M).o0 = S.o0 := rfl
@[simp] theorem setM_ft (S : Sit) (M : Mem) : (setM S M).ft = S.ft := rfl
@[simp] theorem setM_setM (S : Sit) (M M' : Mem) : setM (setM S M) M' = setM S M' := rfl
theorem setM_self (S : Sit) : setM S S.M = S := rfl

def RunsTo (S : Sit) (lo hi : Nat) (env : Env) (pre items : List Item) (val : Val)
    (P : RVal → Prop) : Prop :=
  ∃ n env', Reach S.p S.ext n (S.at env pre) (S.at env' (pre ++ items)) ∧ Frame lo hi env env' ∧
    ∃ r, readVal S.p env' val = .ok r ∧ P r

theorem RunsTo.weaken {S : Sit} {lo hi : Nat} {env : Env} {pre items : List Item} {val : Val}
    {P Q : RVal → Prop} (h : RunsTo S lo hi env pre items val P) (hpq : ∀ r, P r → Q r) :
    RunsTo S lo hi env pre items val Q := by
  obtain ⟨n, env', h1, h2, r, h3, h4⟩ := h
  exact ⟨n, env', h1, h2, r, h3, hpq r h4⟩

theorem run_funcinst (S : Sit) (c : Ctx) (o : Op) (k : Cls) (args : List Val)
    {pre post : List Item} {env : Env} {vs : List RVal} {v : RVal} {P : RVal → Prop}
    (hits : S.its = pre ++ (funcinst c o k args).items ++ post)
    (hr : readVals S.p env args = .ok vs) (hx : execOp o (some k) vs S.M none = .ok (v, S.M))
    (hP : P v) :
    RunsTo S c.lastid (funcinst c o k args).ctx.lastid env pre (funcinst c o k args).items
      (funcinst c o k args).val P := by
  refine ⟨1, env.insert (tmpName (c.lastid + 1)) v, ?_,
    Frame.insert env v (Nat.lt_succ_self _) (Nat.le_refl _), v, readVal_insert_self _ _ _ _, hP⟩
  simp only [funcinst, List.append_assoc, List.singleton_append] at hits
  exact S.run_ins hits hr hx

theorem RunsTo.seq {S : Sit} {l m h : Nat} {env : Env} {pre i1 i2 : List Item} {v1 v2 : Val}
    {P : RVal → Prop} {Q : RVal → Prop}
    (h1 : RunsTo S l m env pre i1 v1 P) (hlm : l ≤ m) (hmh : m ≤ h)
    (h2 : ∀ env1 r1, Frame l m env env1 → readVal S.p env1 v1 = .ok r1 → P r1 →
      RunsTo S m h env1 (pre ++ i1) i2 v2 Q) :
    RunsTo S l h env pre (i1 ++ i2) v2 Q := by
  obtain ⟨n, env1, hr1, ha1, r1, hv1, hp1⟩ := h1
  obtain ⟨k, env2, hr2, ha2, r2, hv2, hq⟩ := h2 env1 r1 ha1 hv1 hp1
  refine ⟨n + k, env2, ?_, ha1.trans ha2 (Nat.le_refl _) hlm hmh (Nat.le_refl _), r2, hv2, hq⟩
  rw [← List.append_assoc]
  exact hr1.trans hr2

def Run (S : Sit) (lo hi : Nat) (env : Env) (pre : List Item) (env' : Env) (pre' : List Item) : Prop :=
  ∃ n, Reach S.p S.ext n (S.at env pre) (S.at env' pre') ∧ Frame lo hi env env'

theorem Run.trans {S : Sit} {lo hi : Nat} {a b c : Env} {p q r : List Item} (h1 : Run S lo hi a p b q)
    (h2 : Run S lo hi b q c r) : Run S lo hi a p c r := by
  obtain ⟨n, r1, f1⟩ := h1
  obtain ⟨m, r2, f2⟩ := h2
  exact ⟨n + m, r1.trans r2, f1.comp f2⟩

theorem Run.frame {S : Sit} {lo hi : Nat} {a b : Env} {p q : List Item} (h : Run S lo hi a p b q) : Frame lo hi a b := by
  obtain ⟨_, _, f⟩ := h
  exact f

theorem Run.mono {S : Sit} {l1 h1 lo hi : Nat} {a b : Env} {p q : List Item} (h : Run S l1 h1 a p b q)
    (hl : lo ≤ l1) (hh : h1 ≤ hi) : Run S lo hi a p b q := by
  obtain ⟨n, r, f⟩ := h
  exact ⟨n, r, f.mono hl hh⟩

theorem RunsTo.run {S : Sit} {lo hi : Nat} {env : Env} {pre items : List Item} {val : Val} {P : RVal → Prop}
    (h : RunsTo S lo hi env pre items val P) :
    ∃ env', Run S lo hi env pre env' (pre ++ items) ∧ ∃ r, readVal S.p env' val = .ok r ∧ P r := by
  obtain ⟨n, env', h1, h2, h3⟩ := h
  exact ⟨env', ⟨n, h1, h2⟩, h3⟩

theorem Run.runsTo {S : Sit} {lo hi : Nat} {env env' : Env} {pre items : List Item} {val : Val} {P : RVal → Prop}
    (h : Run S lo hi env pre env' (pre ++ items)) {r : RVal} (hv : readVal S.p env' val = .ok r) (hp : P r) :
    RunsTo S lo hi env pre items val P := by
  obtain ⟨n, h1, h2⟩ := h
  exact ⟨n, env', h1, h2, r, hv, hp⟩

theorem Run.jump0 {S : Sit} {pre post pre' post' : List Item} {t t' : Option Jump} {l l' : String}
    {ph : List Phi} (hits : S.its = pre ++ .lbl t l ph :: post)
    (hits' : S.its = pre' ++ .lbl t' l' [] :: post') {env : Env} (hg : Goes S.p env l t l') (lo hi : Nat) :
    Run S lo hi env pre env (pre' ++ [.lbl t' l' []]) :=
  ⟨1, Reach.one (S.jump hits hits' hg (bs := []) rfl), Frame.refl _ _ _⟩

theorem Run.jump1 {S : Sit} {pre post pre' post' : List Item} {t t' : Option Jump} {l l' : String}
    {ph : List Phi} {k : Nat} {cl : Cls} {srcs : List (String × Val)}
    (hits : S.its = pre ++ .lbl t l ph :: post)
    (hits' : S.its = pre' ++ .lbl t' l' [⟨tmpName k, cl, srcs⟩] :: post') {env : Env}
    (hg : Goes S.p env l t l') {src : String × Val} {v v' : RVal}
    (hsrc : srcs.find? (fun s => s.1 == curOf S.o0 pre) = some src)
    (hv : readVal S.p env src.2 = .ok v) (hc : v.coerce cl = .ok v') {lo hi : Nat} (h1 : lo < k) (h2 : k ≤ hi) :
    Run S lo hi env pre (env.insert (tmpName k) v') (pre' ++ [.lbl t' l' [⟨tmpName k, cl, srcs⟩]]) :=
  ⟨1, Reach.one (S.jump hits hits' hg (evalPhis_one hsrc hv hc)), Frame.insert env v' h1 h2⟩

theorem its_shift {its p a r : List Item} (h : its = p ++ a ++ r) : its = p ++ (a ++ r) :=
  h.trans (List.append_assoc _ _ _)

theorem sim_convert (S : Sit) (c : Ctx) (dst src : CSem.Ty) (l : Val) (pre post : List Item)
    (env : Env) (v : Int) (r0 : RVal)
    (hits : S.its = pre ++ (convert S.cs c dst src l).items ++ post)
    (hl : readVal S.p env l = .ok r0) (hrep : Rep src v r0)
    (hrange : InRange (src.intTy S.cs) v) :
    RunsTo S c.lastid (convert S.cs c dst src l).ctx.lastid env pre (convert S.cs c dst src l).items (convert S.cs c dst src l).val
      (fun r => Rep dst (wrap (dst.intTy S.cs) v) r ∧ (dst = .bool → BoolRes (decide (v ≠ 0)) r)) := by
  have hst := range_store S.cs src hrange
  have hss := size_cases src
  have h0 : 0 < 8 * src.size := by omega
  rw [convert_eq] at hits ⊢
  by_cases hdb : dst = .bool
  · subst hdb
    rw [if_pos rfl] at hits ⊢
    have fin : ∀ {r} {p : Prop}, BoolRes (decide (v ≠ 0)) r →
        Rep .bool (wrap (Ty.intTy S.cs .bool) v) r ∧ (p → BoolRes (decide (v ≠ 0)) r) :=
      fun h => ⟨boolres_rep S.cs h, fun _ => h⟩
    by_cases h4 : src.size < 4
    · -- zero extension of the low bits, which are 0 iff the value is, then `cnew … 0`
      rw [if_pos h4] at hits ⊢
      have hu0 := Int.emod_nonneg v (Int.ne_of_gt (two_pow_pos (8 * src.size)))
      have hu1 := Int.emod_lt_of_pos v (two_pow_pos (8 * src.size))
      obtain ⟨r1, hx1, hr1⟩ := ext_rep (n := 8 * src.size) (by omega) false .w (.inl rfl) S.M none
        (((rep_small (by omega)).1 hrep).of_le (Nat.le_refl _) (Int.emod_emod _ _)) (inRange_u.2 ⟨hu0, hu1⟩)
      simp only [Out.seq] at hits ⊢
      refine RunsTo.seq (P := fun r => r = r1) (run_funcinst S c _ .w [l] (post := _ ++ post)
        (by rw [hits]; simp only [List.append_assoc]; rfl) (readVals_one hl) hx1 rfl) (Nat.le_succ _) (Nat.le_succ _) ?_
      rintro env1 _ _ hv1 rfl
      obtain ⟨r2, hx2, hr2⟩ := tobool_k (.inl rfl) S.M none hr1
        ⟨Int.le_trans (Int.neg_nonpos_of_nonneg (Int.le_of_lt (two_pow_pos _))) hu0,
          Int.lt_of_lt_of_le hu1 (two_pow_le (show 8 * src.size ≤ 32 by omega))⟩
      rw [decide_eq_decide.2 (emod_ne_zero_iff h0 (inRange_either h0 hst))] at hr2
      exact run_funcinst S _ (.cmpw .ne) .w _ (post := post)
        (by rw [hits]; simp only [List.append_assoc]) (readVals_two hv1 (readVal_int _ _ _)) hx2 (fin hr2)
    · rw [if_neg h4] at hits ⊢
      have hw : 8 * src.size = wbits (cls src) := by
        rcases hss with h | h | h | h <;> try omega
        · rw [cls_w h, h]; rfl
        · rw [cls_l h, h]; rfl
      obtain ⟨r2, hx2, hr2⟩ := tobool_k (cls_cases src) S.M none (rep_krep (by omega) hrep)
        (hw ▸ inRange_either h0 hst)
      exact run_funcinst S c _ _ _ hits (readVals_two hl (readVal_int _ _ _)) hx2 (fin hr2)
  · rw [if_neg hdb] at hits ⊢
    by_cases hle : dst.size ≤ src.size
    · rw [if_pos hle] at hits ⊢
      exact ⟨0, env, by rw [List.append_nil]; rfl, Frame.refl _ _ _, r0, hl, rep_narrow S.cs hdb hle hrep,
        fun h => absurd h hdb⟩
    · rw [if_neg hle] at hits ⊢
      have h8 : src.size < 8 := by have := size_cases dst; omega
      obtain ⟨r2, hx2, hr2⟩ := ext_rep (n := 8 * src.size) (by omega) (src.signed S.cs) (cls dst) (cls_cases dst)
        S.M none ((rep_small h8).1 hrep) hst
      exact run_funcinst S c _ _ _ hits (readVals_one hl) hx2 ⟨krep_rep S.cs hdb hr2, fun h => absurd h hdb⟩

theorem word_ne_zero_iff (cs : Bool) {t : CSem.Ty} (hs : t.size ≤ 4) {v : Int} (hrange : InRange (t.intTy cs) v)
    {w : UInt64} (hwl : w.toNat < 2 ^ 32) (hwv : (w.toNat : Int) % 2 ^ 32 = v % 2 ^ 32) : w ≠ 0 ↔ v ≠ 0 := by
  have h0 : 0 < 8 * t.size := by have := size_cases t; omega
  rw [u64_ne_zero_iff, ← Int.natCast_ne_zero]
  exact bits_ne_zero_iff h0 (show 8 * t.size ≤ 32 by omega) (inRange_either h0 (range_store cs t hrange))
    (by rw [← hwv, toNat_emod hwl])

theorem sim_jnzArg (S : Sit) (c : Ctx) (t : CSem.Ty) (l : Val) (pre post : List Item) (env : Env)
    (v : Int) (r0 : RVal)
    (hits : S.its = pre ++ (jnzArg S.cs c t l).items ++ post)
    (hl : readVal S.p env l = .ok r0) (hrep : Rep t v r0) (hrange : InRange (t.intTy S.cs) v) :
    RunsTo S c.lastid (jnzArg S.cs c t l).ctx.lastid env pre (jnzArg S.cs c t l).items (jnzArg S.cs c t l).val
      (fun r => ∃ w, r.asW = .ok w ∧ (w ≠ 0 ↔ v ≠ 0)) := by
  by_cases h1 : t.size < 4
  · simp only [jnzArg, h1, if_true] at hits ⊢
    refine (sim_convert S c .int t l pre post env v r0 hits hl hrep hrange).weaken ?_
    rintro r ⟨hr, _⟩
    rw [rep_w int_size] at hr
    obtain ⟨w, hw, hwv⟩ := hr
    exact ⟨w, hw, word_ne_zero_iff S.cs (Nat.le_of_lt h1) hrange (asW_lt hw) (hwv.trans (wrap_mod32 true v))⟩
  · by_cases h2 : t.size > 4
    · simp only [jnzArg, h1, if_false, h2, if_true] at hits ⊢
      refine (sim_convert S c .bool t l pre post env v r0 hits hl hrep hrange).weaken ?_
      rintro r ⟨_, hr⟩
      have := (hr rfl).asW
      refine ⟨_, this, ?_⟩
      by_cases hv : v = 0 <;> simp [hv]
    · have hs : t.size = 4 := by rcases size_cases t with hs | hs | hs | hs <;> omega
      simp only [jnzArg, h1, if_false, h2] at hits ⊢
      unfold RunsTo
      simp only [List.append_nil]
      rw [rep_w hs] at hrep
      obtain ⟨w, hw, hwv⟩ := hrep
      exact ⟨0, env, rfl, Frame.refl _ _ _, r0, hl, w, hw,
        word_ne_zero_iff S.cs (Nat.le_of_eq hs) hrange (asW_lt hw) hwv⟩

/-- The variables that hold a value sit in their stack slots. -/
def VarsIn (S : Sit) (σ : List Nat) (vtys : List CSem.Ty) (s : CSem2.Store) (env : Env) : Prop :=
  ∀ (i : Nat) (t : CSem.Ty) (v : Int), vtys[i]? = some t → s[i]? = some (some v) →
    ∃ a r, env[tmpName (σ.getD i 0)]? = some a ∧
      execOp (.load (loadOf S.cs t)) (some (cls t)) [a] S.M none = .ok (r, S.M) ∧ Rep t v r

theorem VarsIn.agree {S : Sit} {σ : List Nat} {vtys : List CSem.Ty} {s : CSem2.Store} {n : Nat}
    {env env' : Env} (h : VarsIn S σ vtys s env) (ha : Agree n env env')
    (hn : ∀ (i : Nat) (t : CSem.Ty), vtys[i]? = some t → σ.getD i 0 ≤ n) : VarsIn S σ vtys s env' := by
  intro i t v ht hv
  obtain ⟨a, r, h1, h2, h3⟩ := h i t v ht hv
  exact ⟨a, r, by rw [ha _ (hn i t ht)]; exact h1, h2, h3⟩

end CprocVerif.LowerMach2
