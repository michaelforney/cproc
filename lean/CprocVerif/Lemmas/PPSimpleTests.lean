import CprocVerif.Lemmas.PPFnClasses

/-! # Executable tests for the simple class (`tblOKb`, `textOKb`), and their soundness -/

namespace CprocVerif.PP
open CprocVerif.Gen.TokenKinds
open CprocVerif.Spec.MacroRef (HTok Item PTok MacroDef RErr Flag Elem expandH hsadd union pendItems lookup
  subst elems paramIndex)
open CprocVerif.Spec

def isFunNameb (ms0 : List Macro) (t : Tok) : Bool :=
  decide (t.kind = .TIDENT) && (match macroget ms0 (t.lit.getD []) with | some F => F.func | none => false)

theorem isFunNameb_iff (ms0 : List Macro) (t : Tok) : isFunNameb ms0 t = true ↔ IsFunName ms0 t := by
  unfold isFunNameb IsFunName
  cases macroget ms0 (t.lit.getD []) <;> simp

def simpleFunb (F : Macro) : Bool :=
  F.func && decide (0 < F.params.length) && F.params.all (fun p => !p.fvar) &&
  F.body.all (fun t => decide (t.kind ≠ .THASH)) &&
  F.body.all (fun t => match macroparam F.params t with
    | some i => (F.params.getD i default).ftok
    | none => true)

theorem simpleFun_of_b {F : Macro} (h : simpleFunb F = true) : SimpleFun F := by
  unfold simpleFunb at h
  simp only [Bool.and_eq_true, List.all_eq_true, decide_eq_true_eq, Bool.not_eq_true'] at h
  obtain ⟨⟨⟨⟨h1, h2⟩, h3⟩, h4⟩, h5⟩ := h
  refine ⟨h1, h2, h3, h4, ?_⟩
  intro t ht i hi
  have := h5 t ht
  rw [hi] at this
  exact this

def tokOKb (ms0 : List Macro) (t : Tok) : Bool :=
  decide (t.kind ≠ .TNEWLINE) && decide (t.kind ≠ .TEOF) && !t.hide && !isFunNameb ms0 t

def macOKb (ms0 : List Macro) (m : Macro) : Bool :=
  !m.body.isEmpty && m.body.all (tokOKb ms0) && (!m.func || simpleFunb m)

def tblOKb (ms0 : List Macro) : Bool := decide (ms0.map (·.name)).Nodup && ms0.all (macOKb ms0)

/-- `c`: the test of a function-like macro, `simpleFunb m` here (`macOKb`), `simpleFunSb m` in `PPSimpleAsFn` (`macOKSb`) -/
theorem macOK_of_b {ms0 : List Macro} {m : Macro} {c : Bool}
    (h : (!m.body.isEmpty && m.body.all (tokOKb ms0) && (!m.func || c)) = true) :
    m.body ≠ [] ∧ (∀ t ∈ m.body, okKind t ∧ ¬ IsFunName ms0 t) ∧ (m.func = true → c = true) := by
  simp only [Bool.and_eq_true, Bool.not_eq_true', List.isEmpty_eq_false_iff, List.all_eq_true, Bool.or_eq_true] at h
  refine ⟨h.1.1, fun t ht => ?_, fun hf => h.2.resolve_left (by rw [hf]; exact Bool.noConfusion)⟩
  have h3 := h.1.2 t ht
  simp only [tokOKb, Bool.and_eq_true, decide_eq_true_eq, Bool.not_eq_true'] at h3
  exact ⟨⟨h3.1.1.1, h3.1.1.2, h3.1.2⟩, fun hf => by rw [(isFunNameb_iff ms0 t).mpr hf] at h3; cases h3.2⟩

theorem tblOK_of_b {ms0 : List Macro} (h : tblOKb ms0 = true) : TblOK ms0 := by
  simp only [tblOKb, Bool.and_eq_true, decide_eq_true_eq, List.all_eq_true] at h
  exact ⟨h.1, fun m hm => (macOK_of_b (h.2 m hm)).1, fun m hm => (macOK_of_b (h.2 m hm)).2.1,
    fun m hm hf => simpleFun_of_b ((macOK_of_b (h.2 m hm)).2.2 hf)⟩

instance (ms : List Macro) (L : List Tok) (res : Except Err (List (List Tok) × List Tok)) :
    Decidable (PlainFor ms L res) := by
  unfold PlainFor
  split <;> infer_instance

/-- `fuel`: at least the length of the text plus one -/
def textOKb (ms0 : List Macro) : Nat → List Tok → Bool
  | 0, _ => false
  | _ + 1, [] => true
  | f + 1, t :: r =>
    if isFunNameb ms0 t then
      match macroget ms0 (t.lit.getD []), r with
      | some F, lp :: r' =>
        !t.hide && F.func && decide (lp.kind = .TLPAREN) &&
        (match collect F.params 0 0 [] [] r' with
          | .ok (args, rest) =>
            decide (PlainFor ms0 r' (collect F.params 0 0 [] [] r')) && args.all (fun a => !a.isEmpty) &&
            textOKb ms0 f rest
          | .error _ => false)
      | _, _ => false
    else if t.kind = .TEOF then r.isEmpty
    else
      decide (t.kind ≠ .THASH) && decide (t.kind ≠ .TNONE) && decide (t.kind ≠ .TEOF) && !t.hide && textOKb ms0 f r

/-- what the tests `textOKb`, `textPb`, `argsOKb` share at an invocation -/
theorem collectb_ok {ps : List Param} {r' : List Tok} {k : List (List Tok) → List Tok → Bool}
    (h : (match collect ps 0 0 [] [] r' with
          | .ok (args, rest) => k args rest
          | .error _ => false) = true) :
    ∃ args rest, collect ps 0 0 [] [] r' = .ok (args, rest) ∧ k args rest = true := by
  cases hc : collect ps 0 0 [] [] r' with
  | error e => rw [hc] at h; cases h
  | ok v => rw [hc] at h; exact ⟨v.1, v.2, rfl, h⟩

theorem textOK_of_b (ms0 : List Macro) (f : Nat) (l : List Tok) (h : textOKb ms0 f l = true) : TextOK ms0 l := by
  fun_induction textOKb ms0 f l with
  | case1 => cases h
  | case2 => exact .nil
  | case3 f t hfn F lp r' hm ih =>
    simp only [Bool.and_eq_true, Bool.not_eq_true', decide_eq_true_eq] at h
    obtain ⟨args, rest, hc, h4⟩ := collectb_ok h.2
    simp only [Bool.and_eq_true, decide_eq_true_eq, List.all_eq_true, Bool.not_eq_true', List.isEmpty_eq_false_iff] at h4
    exact .call t lp r' F args rest ((isFunNameb_iff ms0 t).mp hfn).1 h.1.1.1 hm h.1.1.2 h.1.2 hc h4.1.1 h4.1.2 (ih rest h4.2)
  | case4 => cases h
  | case5 f t r hfn hke =>
    cases List.isEmpty_iff.mp h
    exact .eof t hke
  | case6 f t r hfn hke ih =>
    simp only [Bool.and_eq_true, Bool.not_eq_true', decide_eq_true_eq] at h
    exact .plain t r (fun hh => hfn ((isFunNameb_iff ms0 t).mpr hh)) h.1.1.1.1 h.1.1.1.2 h.1.1.2 h.1.2 (ih h.2)

end CprocVerif.PP
