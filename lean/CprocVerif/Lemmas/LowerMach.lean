/-
  C01 — machine layer: multi-step runs of `Spec/Qbe`, names of temporaries and labels, how
  `Lower.assemble` places an item list into blocks, label lookup, single-step lemmas.
-/
import CprocVerif.Spec.Qbe
import CprocVerif.Model.Lower

namespace CprocVerif.LowerMach
open CprocVerif.Qbe CprocVerif.Lower

def Reach (p : Prog) (ext : Ext) : Nat → State → State → Prop
  | 0, s, s' => s = s'
  | n + 1, s, s' => ∃ s1, step p ext s = .next s1 ∧ Reach p ext n s1 s'

theorem Reach.refl (p : Prog) (ext : Ext) (s : State) : Reach p ext 0 s s := rfl

theorem Reach.one {p : Prog} {ext : Ext} {s s' : State} (h : step p ext s = .next s') :
    Reach p ext 1 s s' := ⟨s', h, rfl⟩

theorem Reach.trans {p : Prog} {ext : Ext} {n m : Nat} {a b c : State}
    (h1 : Reach p ext n a b) (h2 : Reach p ext m b c) : Reach p ext (n + m) a c := by
  induction n generalizing a with
  | zero => cases h1; simpa using h2
  | succ n ih =>
    obtain ⟨s1, hs, hr⟩ := h1
    have : n + 1 + m = (n + m) + 1 := by omega
    rw [this]
    exact ⟨s1, hs, ih hr⟩

theorem run_of_reach {p : Prog} {ext : Ext} {n : Nat} {s s' : State} (h : Reach p ext n s s')
    (m : Nat) : run p ext (n + m) s = run p ext m s' := by
  induction n generalizing s with
  | zero => cases h; simp
  | succ n ih =>
    obtain ⟨s1, hs, hr⟩ := h
    have : n + 1 + m = (n + m) + 1 := by omega
    rw [this]
    simp only [run, hs]
    exact ih hr

theorem append_cons_unique {α : Type} {a : α} {x x' y y' : List α} (hy : a ∉ y) (hy' : a ∉ y')
    (h : x ++ a :: y = x' ++ a :: y') : y = y' := by
  induction x generalizing x' with
  | nil =>
    cases x' with
    | nil => simpa using h
    | cons b x' =>
      simp only [List.nil_append, List.cons_append, List.cons.injEq] at h
      obtain ⟨rfl, rfl⟩ := h
      exact absurd (by simp) hy
  | cons c x ih =>
    cases x' with
    | nil =>
      simp only [List.nil_append, List.cons_append, List.cons.injEq] at h
      obtain ⟨rfl, rfl⟩ := h
      exact absurd (by simp) hy'
    | cons b x' =>
      simp only [List.cons_append, List.cons.injEq] at h
      exact ih h.2

theorem dot_not_mem_repr (n : Nat) : '.' ∉ (toString n).toList := by
  intro h
  have h' : '.' ∈ (Nat.repr n).toList := h
  rw [Nat.toList_repr] at h'
  have := Nat.isDigit_of_mem_toDigits (b := 10) (by decide) (by decide) h'
  exact absurd this (by decide)

theorem tmpName_inj {m n : Nat} (h : tmpName m = tmpName n) : m = n := by
  unfold tmpName at h
  have h' := congrArg String.toList h
  simp only [String.toList_append] at h'
  have := List.append_cancel_left h'
  exact Nat.repr_injective (String.toList_inj.1 this)

theorem tmpName_ne {m n : Nat} (h : m ≠ n) : tmpName m ≠ tmpName n := fun e => h (tmpName_inj e)

theorem getElem?_insert_tmp (env : Env) {k j : Nat} (v : RVal) (h : k ≠ j) :
    (env.insert (tmpName k) v)[tmpName j]? = env[tmpName j]? := by
  rw [Std.HashMap.getElem?_insert, if_neg]
  simpa using tmpName_ne h

theorem lblName_inj {a b : String} {m n : Nat} (h : lblName a m = lblName b n) : m = n := by
  unfold lblName at h
  have h' := congrArg String.toList h
  simp only [String.toList_append] at h'
  have hd : (".":String).toList = ['.'] := rfl
  rw [hd] at h'
  simp only [List.append_assoc, List.singleton_append] at h'
  have := append_cons_unique (dot_not_mem_repr m) (dot_not_mem_repr n) h'
  exact Nat.repr_injective (String.toList_inj.1 this)

/-- Process a prefix of the item list: the blocks it closes and the block left open. -/
def adv : Open → List Item → List Block × Open
  | o, [] => ([], o)
  | o, .ins i :: r => adv ⟨o.label, o.phis, o.ins.push i⟩ r
  | o, .lbl t l ph :: r =>
    (⟨o.label, o.phis, o.ins, t⟩ :: (adv ⟨l, ph, #[]⟩ r).1, (adv ⟨l, ph, #[]⟩ r).2)

theorem adv_append (o : Open) (a b : List Item) :
    adv o (a ++ b) = ((adv o a).1 ++ (adv (adv o a).2 b).1, (adv (adv o a).2 b).2) := by
  induction a generalizing o with
  | nil => simp [adv]
  | cons x a ih =>
    cases x with
    | ins i => simp only [List.cons_append, adv]; exact ih _
    | lbl t l ph =>
      simp only [List.cons_append, adv]
      rw [ih]

theorem assemble_append (ft : Jump) (o : Open) (a b : List Item) :
    assemble ft o (a ++ b) = (adv o a).1 ++ assemble ft (adv o a).2 b := by
  induction a generalizing o with
  | nil => simp [adv]
  | cons x a ih =>
    cases x with
    | ins i => simp only [List.cons_append, assemble, adv]; exact ih _
    | lbl t l ph =>
      simp only [List.cons_append, assemble, adv]
      rw [ih]

theorem assemble_head (ft : Jump) (o : Open) (its : List Item) :
    ∃ b rest, assemble ft o its = b :: rest ∧ b.label = o.label ∧ b.phis = o.phis ∧
      (∀ k, k < o.ins.size → b.ins[k]? = o.ins[k]?) := by
  induction its generalizing o with
  | nil => exact ⟨_, [], rfl, rfl, rfl, fun _ _ => rfl⟩
  | cons x its ih =>
    cases x with
    | ins i =>
      obtain ⟨b, rest, h1, h2, h3, h4⟩ := ih ⟨o.label, o.phis, o.ins.push i⟩
      refine ⟨b, rest, h1, h2, h3, fun k hk => ?_⟩
      rw [h4 k (by simp; omega)]
      simp [Array.getElem?_push, Nat.ne_of_lt hk]
    | lbl t l ph => exact ⟨_, _, rfl, rfl, rfl, fun _ _ => rfl⟩

/-- Position (block index, instruction index) reached after the items `pre`. -/
def posOf (o : Open) (pre : List Item) : Nat × Nat :=
  ((adv o pre).1.length, (adv o pre).2.ins.size)

def curOf (o : Open) (pre : List Item) : String := (adv o pre).2.label

section Placement
variable (ft : Jump) (o0 : Open) (pre post : List Item)

theorem ins_at (i : Ins) :
    ∃ b, (assemble ft o0 (pre ++ .ins i :: post))[(posOf o0 pre).1]? = some b ∧
      b.ins[(posOf o0 pre).2]? = some i := by
  rw [assemble_append]
  obtain ⟨b, rest, h1, _, _, h4⟩ :=
    assemble_head ft ⟨(adv o0 pre).2.label, (adv o0 pre).2.phis, (adv o0 pre).2.ins.push i⟩ post
  refine ⟨b, ?_, by rw [posOf, h4 _ (by simp)]; simp⟩
  rw [show assemble ft (adv o0 pre).2 (.ins i :: post) = b :: rest from h1, posOf,
    List.getElem?_append_right (Nat.le_refl _)]
  simp

theorem lbl_at (t : Option Jump) (l : String) (ph : List Phi) :
    ∃ b b', (assemble ft o0 (pre ++ .lbl t l ph :: post))[(posOf o0 pre).1]? = some b ∧
      b.ins.size = (posOf o0 pre).2 ∧ b.term = t ∧ b.label = curOf o0 pre ∧
      (assemble ft o0 (pre ++ .lbl t l ph :: post))[(posOf o0 pre).1 + 1]? = some b' ∧
      b'.label = l ∧ b'.phis = ph := by
  rw [assemble_append]
  obtain ⟨b', rest, h1, h2, h3, _⟩ := assemble_head ft ⟨l, ph, #[]⟩ post
  refine ⟨⟨(adv o0 pre).2.label, (adv o0 pre).2.phis, (adv o0 pre).2.ins, t⟩, b', ?_, rfl, rfl, rfl,
    ?_, h2, h3⟩
  · rw [posOf, List.getElem?_append_right (Nat.le_refl _)]
    simp [assemble]
  · rw [posOf, List.getElem?_append_right (by omega)]
    simp [assemble, h1]

theorem end_at :
    ∃ b, (assemble ft o0 pre)[(posOf o0 pre).1]? = some b ∧
      b.ins.size = (posOf o0 pre).2 ∧ b.term = some ft ∧ b.label = curOf o0 pre := by
  have := assemble_append ft o0 pre []
  rw [List.append_nil] at this
  rw [this]
  refine ⟨⟨(adv o0 pre).2.label, (adv o0 pre).2.phis, (adv o0 pre).2.ins, some ft⟩, ?_, rfl, rfl, rfl⟩
  rw [posOf, List.getElem?_append_right (Nat.le_refl _)]
  simp [assemble]

end Placement

theorem posOf_ins (o : Open) (pre : List Item) (i : Ins) :
    posOf o (pre ++ [.ins i]) = ((posOf o pre).1, (posOf o pre).2 + 1) := by
  simp [posOf, adv_append, adv]

theorem posOf_lbl (o : Open) (pre : List Item) (t : Option Jump) (l : String) (ph : List Phi) :
    posOf o (pre ++ [.lbl t l ph]) = ((posOf o pre).1 + 1, 0) := by
  simp [posOf, adv_append, adv]

theorem curOf_ins (o : Open) (pre : List Item) (i : Ins) :
    curOf o (pre ++ [.ins i]) = curOf o pre := by
  simp [curOf, adv_append, adv]

theorem curOf_lbl (o : Open) (pre : List Item) (t : Option Jump) (l : String) (ph : List Phi) :
    curOf o (pre ++ [.lbl t l ph]) = l := by
  simp [curOf, adv_append, adv]

def itemLabels : List Item → List String
  | [] => []
  | .ins _ :: r => itemLabels r
  | .lbl _ l _ :: r => l :: itemLabels r

theorem itemLabels_append (a b : List Item) : itemLabels (a ++ b) = itemLabels a ++ itemLabels b := by
  induction a with
  | nil => rfl
  | cons x a ih => cases x <;> simp [itemLabels, ih]

theorem assemble_labels (ft : Jump) (o : Open) (its : List Item) :
    (assemble ft o its).map (·.label) = o.label :: itemLabels its := by
  induction its generalizing o with
  | nil => rfl
  | cons x its ih =>
    cases x with
    | ins i => simp only [assemble, itemLabels]; exact ih _
    | lbl t l ph => simp only [assemble, itemLabels, List.map_cons]; rw [ih]

/-- The step of the fold in `Qbe.mkLabelIdx`: of two blocks with the same label the first keeps it. -/
def idxStep (blocks : Array Block) (h : Std.HashMap String Nat) (i : Nat) : Std.HashMap String Nat :=
  match blocks[i]? with
  | some b => h.insertIfNew b.label i
  | none => h

theorem foldl_idxStep (blocks : Array Block) (l : String) (is : List Nat) (h : Std.HashMap String Nat) :
    (is.foldl (idxStep blocks) h)[l]? =
      (h[l]?).or (is.find? fun i => (blocks[i]?.map (·.label)) == some l) := by
  induction is generalizing h with
  | nil => simp
  | cons i is ih =>
    rw [List.foldl_cons, ih, List.find?_cons]
    unfold idxStep
    cases hb : blocks[i]? with
    | none => simp
    | some b =>
      simp only [Std.HashMap.getElem?_insertIfNew, Option.map_some, beq_iff_eq]
      by_cases hbl : b.label = l
      · subst hbl
        by_cases hm : b.label ∈ h <;> simp [hm]
      · simp [hbl, beq_eq_false_iff_ne.2 hbl]

theorem labelIdx_of_nodup (f : Qbe.Func) (hnd : (f.blocks.toList.map (·.label)).Nodup) {j : Nat}
    {b : Block} (hb : f.blocks[j]? = some b) : (mkLabelIdx f)[b.label]? = some j := by
  obtain ⟨hj, e2⟩ := Array.getElem?_eq_some_iff.1 hb
  have hfold : mkLabelIdx f = (List.range f.blocks.size).foldl (idxStep f.blocks) {} := rfl
  rw [hfold, foldl_idxStep, Std.HashMap.getElem?_empty, Option.none_or, List.find?_range_eq_some]
  refine ⟨by simp [hb], List.mem_range.2 hj, fun i hij => ?_⟩
  have hi : i < f.blocks.size := by omega
  have hne := List.pairwise_iff_getElem.1 hnd i j (by simp; omega) (by simp; omega) hij
  simpa [Array.getElem?_eq_getElem hi, e2] using hne

/-- The parts of the machine state that do not change while the body of the function runs. -/
structure Fix where
  fi : FuncInfo
  sm : Nat
  spm : Nat
  rest : List Frame
  tr : Array String

def mkFr (x : Fix) (env : Env) (bi ii : Nat) : Frame :=
  { fi := x.fi, env := env, bi := bi, ii := ii, stackMark := x.sm, spMark := x.spm, va := none }

def mkSt (x : Fix) (env : Env) (M : Mem) (bi ii : Nat) : State :=
  ⟨mkFr x env bi ii :: x.rest, M, x.tr⟩

theorem readVals_one {p : Prog} {env : Env} {a : Val} {va : RVal} (ha : readVal p env a = .ok va) :
    readVals p env [a] = .ok [va] := by
  simp [readVals, ha]

theorem readVals_two {p : Prog} {env : Env} {a b : Val} {va vb : RVal}
    (ha : readVal p env a = .ok va) (hb : readVal p env b = .ok vb) :
    readVals p env [a, b] = .ok [va, vb] := by
  simp [readVals, ha, hb]

theorem readVal_int (p : Prog) (env : Env) (n : UInt64) : readVal p env (.int n) = .ok ⟨.c, n⟩ := rfl

theorem readVal_tmp {p : Prog} {env : Env} {n : String} {v : RVal} (h : env[n]? = some v) :
    readVal p env (.tmp n) = .ok v := by
  simp [readVal, h]

theorem step_op_res {p : Prog} {ext : Ext} (x : Fix) {env : Env} {M M' : Mem} {bi ii : Nat}
    {b : Block} {r : String} {k : Cls} {o : Op} {args : List Val} {vs : List RVal} {v : RVal}
    (hb : x.fi.f.blocks[bi]? = some b) (hi : b.ins[ii]? = some (.op (some (r, k)) o args))
    (hr : readVals p env args = .ok vs) (hx : execOp o (some k) vs M none = .ok (v, M')) :
    step p ext (mkSt x env M bi ii) = .next (mkSt x (env.insert r v) M' bi (ii + 1)) := by
  simp only [step, mkSt, mkFr, hb, hi, stepIns, hr, Option.map_some, hx, bindRes]

theorem step_op_nores {p : Prog} {ext : Ext} (x : Fix) {env : Env} {M M' : Mem} {bi ii : Nat}
    {b : Block} {o : Op} {args : List Val} {vs : List RVal} {v : RVal}
    (hb : x.fi.f.blocks[bi]? = some b) (hi : b.ins[ii]? = some (.op none o args))
    (hr : readVals p env args = .ok vs) (hx : execOp o none vs M none = .ok (v, M')) :
    step p ext (mkSt x env M bi ii) = .next (mkSt x env M' bi (ii + 1)) := by
  simp only [step, mkSt, mkFr, hb, hi, stepIns, hr, Option.map_none, hx, bindRes]

theorem ins_none_of_size {b : Block} {ii : Nat} (h : b.ins.size = ii) : b.ins[ii]? = none := by
  subst h; simp

theorem goto_phis {p : Prog} (x : Fix) {env : Env} {M : Mem} {bi ii : Nat} {cur tb : Block} {j : Nat}
    {bs : List (String × RVal)} (htb : x.fi.f.blocks[j]? = some tb)
    (hph : evalPhis p env tb.label cur.label tb.phis = .ok bs) :
    gotoBlock p (mkFr x env bi ii) x.rest M x.tr cur j = .next (mkSt x (bindAll env bs) M j 0) := by
  simp only [gotoBlock, mkFr, htb, hph, mkSt]

theorem evalPhis_one {p : Prog} {env : Env} {blk pred res : String} {k : Cls} {srcs : List (String × Val)}
    {src : String × Val} {v v' : RVal} (hsrc : srcs.find? (fun s => s.1 == pred) = some src)
    (hv : readVal p env src.2 = .ok v) (hc : v.coerce k = .ok v') :
    evalPhis p env blk pred [⟨res, k, srcs⟩] = .ok [(res, v')] := by
  simp only [evalPhis, hsrc, hv, hc]

theorem step_fall {p : Prog} {ext : Ext} (x : Fix) {env : Env} {M : Mem} {bi ii : Nat} {b : Block}
    (hb : x.fi.f.blocks[bi]? = some b) (hi : b.ins.size = ii) (ht : b.term = none) :
    step p ext (mkSt x env M bi ii) =
      gotoBlock p (mkFr x env bi ii) x.rest M x.tr b (bi + 1) := by
  simp only [step, mkSt, mkFr, hb, ins_none_of_size hi, stepTerm, ht]

theorem step_jmp {p : Prog} {ext : Ext} (x : Fix) {env : Env} {M : Mem} {bi ii : Nat} {b : Block}
    {l : String} {j : Nat}
    (hb : x.fi.f.blocks[bi]? = some b) (hi : b.ins.size = ii) (ht : b.term = some (.jmp l))
    (hl : x.fi.labelIdx[l]? = some j) :
    step p ext (mkSt x env M bi ii) =
      gotoBlock p (mkFr x env bi ii) x.rest M x.tr b j := by
  simp only [step, mkSt, mkFr, hb, ins_none_of_size hi, stepTerm, ht, hl]

theorem step_jnz {p : Prog} {ext : Ext} (x : Fix) {env : Env} {M : Mem} {bi ii : Nat} {b : Block}
    {v : Val} {a z : String} {j : Nat} {c : RVal} {w : UInt64}
    (hb : x.fi.f.blocks[bi]? = some b) (hi : b.ins.size = ii) (ht : b.term = some (.jnz v a z))
    (hv : readVal p env v = .ok c) (hc : c.asW = .ok w)
    (hl : x.fi.labelIdx[if w != 0 then a else z]? = some j) :
    step p ext (mkSt x env M bi ii) =
      gotoBlock p (mkFr x env bi ii) x.rest M x.tr b j := by
  simp only [step, mkSt, mkFr, hb, ins_none_of_size hi, stepTerm, ht, hv, hc, hl]

end CprocVerif.LowerMach
