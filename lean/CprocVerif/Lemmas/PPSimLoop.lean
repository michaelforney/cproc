import CprocVerif.Lemmas.PPRefStep
import CprocVerif.Lemmas.PPFuel
import CprocVerif.Lemmas.Keyword

/-! # The loops of `next()` and of the driver against the reference, over any invariant and abstraction

Given an invariant `Inv`, an abstraction `abs` of the state as a source of the reference, a lemma for one
`rawnext(); expand()` round (`StepG`) and a well-founded relation that every round lowers, `next()` completes and
delivers the reference's next token, and the run completes with the reference's whole output; what is said of a call or
run that is assumed to complete follows, since a completed run is the run (`next_simT`, `run_simT`). -/

namespace CprocVerif.PP
open CprocVerif.Gen.TokenKinds
open CprocVerif.Spec.MacroRef (Item MacroDef expandH)
open CprocVerif.Spec

theorem keyword_kind {l : List UInt8} {k : Kind} (h : Scan.keyword l = some k) : k ≠ .TEOF := by
  have hm : (l, k) ∈ Gen.Keywords.table :=
    (Scan.bsearch_mem Gen.Keywords.table Scan.keywords_sorted l k).mp h
  have : ∀ e ∈ Gen.Keywords.table, e.2 ≠ Kind.TEOF := by decide +kernel
  exact this _ hm

theorem toKeyword_eof (t : Tok) : (toKeyword t).kind = .TEOF ↔ t.kind = .TEOF := by
  unfold toKeyword
  split
  · rename_i hk
    split
    · rename_i k hkw
      obtain ⟨l, _, hl⟩ := Option.bind_eq_some_iff.mp hkw
      simp only [keyword_kind hl, hk, false_iff]
      nofun
    · rfl
  · rfl

/-- the key of a token after `keyword()` -/
def kwKey (k : Kind × Option Name) : Kind × Option Name :=
  ((toKeyword ⟨k.1, k.2, false, false⟩).kind, (toKeyword ⟨k.1, k.2, false, false⟩).lit)

theorem toKeyword_key (t : Tok) : ((toKeyword t).kind, (toKeyword t).lit) = kwKey (t.kind, t.lit) := by
  unfold kwKey toKeyword
  simp only
  split
  · split <;> rfl
  · rfl

theorem run_ne_nil (n : Nat) (st : St) (h : (run n st).2 = none) : (run n st).1 ≠ [] := by
  cases n with
  | zero => cases h
  | succ m =>
    unfold run at h ⊢
    cases hx : exec m .next st with
    | error e => rw [hx] at h; cases h
    | ok s =>
      simp only
      split <;> simp

/-- the tokens of a completed run, without the final `TEOF`, by class and spelling -/
def runKeys (toks : List Tok) : List (Kind × Option Name) := toks.dropLast.map fun t => (t.kind, t.lit)

theorem runKeys_cons (t : Tok) (l : List Tok) (h : l ≠ []) : runKeys (t :: l) = (t.kind, t.lit) :: runKeys l := by
  unfold runKeys
  rw [List.dropLast_cons_of_ne_nil h, List.map_cons]

theorem Link.final_keys {tbl : List MacroDef} {a : List Item} {L ks : List (Kind × Option Name)}
    (hlink : Link tbl a L []) (hL : L.map kwKey = ks) :
    ∃ J, ∀ K, J ≤ K →
      (expandH false K tbl a).2.1 = none ∧
      (expandH false K tbl a).1.map (fun t => kwKey t.tok.key) = ks := by
  obtain ⟨J, hJ⟩ := hlink.final
  refine ⟨J, fun K hK => ?_⟩
  have := hJ K hK
  simp only [outKeys, Prod.mk.injEq] at this
  refine ⟨this.2, ?_⟩
  rw [← hL, ← this.1, List.map_map]
  rfl

def Runs (c : Call) (st : St) (Q : St → Prop) : Prop := ∃ n s, exec n c st = .ok s ∧ Q s

theorem runs_of_body {c c' : Call} {st st' : St} {Q : St → Prop} (n0 : Nat)
    (h : ∀ n, n0 ≤ n → body (exec n) c st = exec n c' st') (h' : Runs c' st' Q) : Runs c st Q := by
  obtain ⟨n, s, hs, hq⟩ := h'
  refine ⟨max n0 n + 1, s, ?_, hq⟩
  show body (exec (max n0 n)) c st = .ok s
  rw [h _ (Nat.le_max_left ..)]
  exact liftOk hs (Nat.le_max_right ..)

def Leads (c : Call) (st : St) (c' : Call) (st' : St) : Prop := ∀ Q, Runs c' st' Q → Runs c st Q

theorem Leads.refl (c : Call) (st : St) : Leads c st c st := fun _ h => h

theorem Leads.trans {c c' c'' : Call} {st st' st'' : St} (h : Leads c st c' st') (h' : Leads c' st' c'' st'') :
    Leads c st c'' st'' := fun Q hr => h Q (h' Q hr)

theorem Leads.runs {c c' : Call} {st st' : St} {Q : St → Prop} (h : Leads c st c' st') (h' : Runs c' st' Q) : Runs c st Q :=
  h Q h'

theorem leads_of_body {c c' : Call} {st st' : St} (n0 : Nat) (h : ∀ n, n0 ≤ n → body (exec n) c st = exec n c' st') :
    Leads c st c' st' := fun _ => runs_of_body n0 h

theorem next_eq {k n : Nat} {st s1 s2 : St} (hr : exec k .rawnext st = .ok s1) (he : exec k (.expand s1.rt) s1 = .ok s2)
    (hn : k ≤ n) :
    exec (n + 1) .next st =
      if s2.rb = true ∨ (s2.rt.kind = .TNEWLINE ∧ s2.ppnl = false) then exec n .next s2
      else .ok { s2 with tok := toKeyword s2.rt } := by
  show nextBody (exec n) st = _
  unfold nextBody
  rw [liftOk hr hn]
  simp only
  rw [liftOk he hn]

section
variable (tbl : List MacroDef) (abs : St → List Item)

inductive StepG (A : List Item) (s2 : St) : Prop where
  | again (h1 : s2.rb = true ∨ (s2.rt.kind = .TNEWLINE ∧ s2.ppnl = false)) (h2 : Link tbl A [] (abs s2))
  | out (h1 : s2.rb = false) (h2 : s2.rt.kind ≠ .TNEWLINE) (h3 : s2.rt.kind ≠ .TEOF)
      (h4 : Link tbl A [(s2.rt.kind, s2.rt.lit)] (abs s2))
  | eof (h1 : s2.rb = false) (h2 : s2.rt.kind = .TEOF) (h3 : A = [])

end

section
-- `Inv` is a variable here (any invariant of the instance), not the definition `Inv` of `PPInv`, which it shadows
variable {tbl : List MacroDef} {abs : St → List Item} {Inv : St → Prop} {lt : St → St → Prop}
  (hwf : WellFounded lt) (htr : ∀ {a b c}, lt a b → lt b c → lt a c)
  (hkw : ∀ st, Inv st → Inv { st with tok := toKeyword st.rt } ∧ abs { st with tok := toKeyword st.rt } = abs st ∧
    ∀ x, lt st x → lt { st with tok := toKeyword st.rt } x)
  (hstep : ∀ st, Inv st → ∃ k s1 s2, exec k .rawnext st = .ok s1 ∧ exec k (.expand s1.rt) s1 = .ok s2 ∧
    Inv s2 ∧ StepG tbl abs (abs st) s2 ∧ (s2.rt.kind = .TEOF ∧ s2.rb = false ∨ lt s2 st))
include hwf htr hkw hstep

theorem next_runsG : ∀ st, Inv st → ∃ n st', exec n .next st = .ok st' ∧ Inv st' ∧ st'.tok = toKeyword st'.rt ∧
    ((st'.rt.kind = .TEOF ∧ Link tbl (abs st) [] []) ∨
     (st'.rt.kind ≠ .TEOF ∧ Link tbl (abs st) [(st'.rt.kind, st'.rt.lit)] (abs st') ∧ lt st' st)) := by
  intro st
  induction st using hwf.induction with
  | _ st ih =>
    intro g
    obtain ⟨k, s1, s2, hr, he, g2, hs, hlt⟩ := hstep st g
    cases hs with
    | again h1 h2 =>
      have hlt' : lt s2 st := hlt.resolve_left fun hh => by
        rcases h1 with h1 | h1
        · rw [hh.2] at h1; cases h1
        · rw [hh.1] at h1; cases h1.1
      obtain ⟨n, st', hn, g', htok, hcase⟩ := ih s2 hlt' g2
      refine runs_of_body (Q := fun st' => _) k (fun n hn => (next_eq hr he hn).trans (if_pos h1)) ⟨n, st', hn, g', htok, ?_⟩
      rcases hcase with ⟨he', hl⟩ | ⟨he', hl, hl2⟩
      · exact .inl ⟨he', h2.trans hl⟩
      · exact .inr ⟨he', h2.trans hl, htr hl2 hlt'⟩
    | out h1 h2 h3 h4 =>
      refine ⟨k + 1, _, (next_eq hr he (Nat.le_refl _)).trans (if_neg ?_), (hkw s2 g2).1, rfl,
        .inr ⟨h3, (hkw s2 g2).2.1 ▸ h4, (hkw s2 g2).2.2 _ (hlt.resolve_left fun hh => h3 hh.1)⟩⟩
      rw [h1]; exact fun hh => hh.elim (fun h => by cases h) (fun h => h2 h.1)
    | eof h1 h2 h3 =>
      refine ⟨k + 1, _, (next_eq hr he (Nat.le_refl _)).trans (if_neg ?_), (hkw s2 g2).1, rfl, .inl ⟨h2, h3 ▸ Link.refl _ _⟩⟩
      rw [h1, h2]; exact fun hh => hh.elim (fun h => by cases h) (fun h => by cases h.1)

theorem run_runsG : ∀ st, Inv st →
    ∃ n, (run n st).2 = none ∧ ∃ L, L.map kwKey = runKeys (run n st).1 ∧ Link tbl (abs st) L [] := by
  intro st
  induction st using hwf.induction with
  | _ st ih =>
    intro g
    obtain ⟨n1, st1, hx, g1, htok, hcase⟩ := next_runsG hwf htr hkw hstep st g
    rcases hcase with ⟨heof, hl⟩ | ⟨hne, hl, hlt⟩
    · have he : st1.tok.kind = .TEOF := by rw [htok]; exact (toKeyword_eof _).mpr heof
      refine ⟨n1 + 1, ?_, [], ?_, hl⟩ <;> (unfold run; rw [hx]; simp [he])
      rfl
    · have he : st1.tok.kind ≠ .TEOF := by rw [htok]; exact fun hh => hne ((toKeyword_eof _).mp hh)
      obtain ⟨n2, h2, L, hL, hlink⟩ := ih st1 hlt g1
      have hstep' : run (max n1 n2 + 1) st = (st1.tok :: (run n2 st1).1, (run n2 st1).2) := by
        rw [run, liftOk hx (Nat.le_max_left ..)]
        simp only [he, ↓reduceIte, run_stable h2 (Nat.le_max_right n1 n2)]
      refine ⟨max n1 n2 + 1, by rw [hstep']; exact h2, (st1.rt.kind, st1.rt.lit) :: L, ?_, hl.trans hlink⟩
      rw [hstep', runKeys_cons _ _ (run_ne_nil n2 st1 h2), List.map_cons, hL, htok, toKeyword_key]

theorem next_simT {n : Nat} {st st' : St} (g : Inv st) (h : exec n .next st = .ok st') :
    Inv st' ∧ st'.tok = toKeyword st'.rt ∧
    ((st'.rt.kind = .TEOF ∧ Link tbl (abs st) [] []) ∨
     (st'.rt.kind ≠ .TEOF ∧ Link tbl (abs st) [(st'.rt.kind, st'.rt.lit)] (abs st'))) := by
  obtain ⟨k, s, hs, g', htok, hcase⟩ := next_runsG hwf htr hkw hstep st g
  cases exec_det hs h
  exact ⟨g', htok, hcase.imp_right fun h => ⟨h.1, h.2.1⟩⟩

theorem run_simT {n : Nat} {st : St} (g : Inv st) (h : (run n st).2 = none) :
    ∃ J, ∀ K, J ≤ K → (expandH false K tbl (abs st)).2.1 = none ∧
      (expandH false K tbl (abs st)).1.map (fun t => kwKey t.tok.key) = runKeys (run n st).1 := by
  obtain ⟨N, hN, L, hL, hlink⟩ := run_runsG hwf htr hkw hstep st g
  rw [← run_stable h (Nat.le_max_left n N), run_stable hN (Nat.le_max_right n N)]
  exact hlink.final_keys hL

end

end CprocVerif.PP
