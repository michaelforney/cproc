import CprocVerif.Lemmas.Scan

/-! `S.adv n`, the scanner after `n` calls of `nextchar`.  Every loop of scan.c is `adv` by a count
read off the phase-2 stream (one equation per loop, the loop's only induction); what a property
needs to know about a loop is then a lemma about `adv`.  Routines that can fail are described by
`Reads`: the word they have read, or where their diagnostic is located, again as `adv`. -/

namespace CprocVerif.Scan
open CprocVerif.Gen.TokenKinds CprocVerif.Spec.Lex

/-- number of characters the scanner still has (current one included) -/
def S.len (s : S) : Nat := s.inp.length

@[simp] theorem len_nextchar (s : S) : s.nextchar.len = s.len - 1 := by simp [S.len]

theorem len_eq_stream (s : S) : s.len = s.stream.length := (length_stream s).symm

theorem len_pos_of_chr {s : S} {c : UInt8} (h : s.chr = some c) : 0 < s.len := by
  obtain ⟨r, hr⟩ := (chr_some_iff s c).mp h
  rw [len_eq_stream, hr]; exact Nat.succ_pos _

theorem len_pos_of_onChr {s : S} {p : UInt8 → Bool} (h : onChr p s.chr = true) : 0 < s.len := by
  cases hc : s.chr with
  | none => rw [hc] at h; simp [onChr] at h
  | some c => exact len_pos_of_chr hc

theorem chr0 (s : S) : s.chr = s.stream[0]? := by rw [chr_eq, List.head?_eq_getElem?]

theorem chr1 (s : S) : s.nextchar.chr = s.stream[1]? := by
  rw [chr0, stream_nextchar, List.getElem?_tail]

theorem chr2 (s : S) : s.nextchar.nextchar.chr = s.stream[2]? := by
  rw [chr1, stream_nextchar, List.getElem?_tail]

def S.adv : Nat → S → S
  | 0, s => s
  | n + 1, s => S.adv n s.nextchar

@[simp] theorem adv_zero (s : S) : s.adv 0 = s := rfl

theorem adv_succ (n : Nat) (s : S) : s.adv (n + 1) = s.nextchar.adv n := rfl

theorem adv_add : ∀ (m n : Nat) (s : S), s.adv (m + n) = (s.adv m).adv n
  | 0, n, s => by rw [Nat.zero_add]; rfl
  | m + 1, n, s => by rw [Nat.add_right_comm, adv_succ, adv_succ, adv_add m n]

theorem adv_succ' (n : Nat) (s : S) : s.adv (n + 1) = (s.adv n).nextchar := adv_add n 1 s

theorem stream_adv : ∀ (n : Nat) (s : S), (s.adv n).stream = s.stream.drop n
  | 0, _ => rfl
  | n + 1, s => by rw [adv_succ, stream_adv n, stream_nextchar, List.drop_tail]

@[simp] theorem usebuf_adv : ∀ (n : Nat) (s : S), (s.adv n).usebuf = s.usebuf
  | 0, _ => rfl
  | n + 1, s => by rw [adv_succ, usebuf_adv n, usebuf_nextchar]

@[simp] theorem sawspace_adv : ∀ (n : Nat) (s : S), (s.adv n).sawspace = s.sawspace
  | 0, _ => rfl
  | n + 1, s => by rw [adv_succ, sawspace_adv n, sawspace_nextchar]

@[simp] theorem len_adv : ∀ (n : Nat) (s : S), (s.adv n).len = s.len - n
  | 0, _ => rfl
  | n + 1, s => by rw [adv_succ, len_adv n, len_nextchar]; omega

theorem buf_adv : ∀ (n : Nat) (s : S), s.usebuf = false → (s.adv n).buf = s.buf
  | 0, _, _ => rfl
  | n + 1, s, hu => by
    rw [adv_succ, buf_adv n s.nextchar (by simp [hu]), buf_nextchar, hu]; rfl

theorem moved_adv : ∀ (u : List UInt8) (s : S), s.usebuf = true → u <+: s.stream →
    Moved s (s.adv u.length) u
  | [], s, hu, _ => .refl s hu
  | c :: u, s, hu, hp => by
    obtain ⟨r, hr⟩ := hp
    have m1 := moved_nextchar s c hu (chr_of_stream hr.symm)
    exact m1.trans (moved_adv u s.nextchar m1.2.2.1 ⟨r, by rw [stream_nextchar, ← hr]; rfl⟩)

theorem lt_len_of_chr {s : S} {j : Nat} {c : UInt8} (h : (s.adv j).chr = some c) : j < s.len := by
  have := len_pos_of_chr h; rw [len_adv] at this; omega

theorem takeWhile_le_len (s : S) (p : UInt8 → Bool) : (s.stream.takeWhile p).length ≤ s.len := by
  rw [len_eq_stream]; exact (List.takeWhile_prefix p).length_le

theorem identLoop_eq : ∀ (n : Nat) (s : S), s.len ≤ n →
    identLoop n s = s.adv (s.stream.takeWhile isidchar).length
  | 0, s, h => by rw [stream_nil_of_length h]; rfl
  | n + 1, s, h => by
    unfold identLoop
    cases hs : s.stream with
    | nil => simp [chr_eq, hs, onChr]
    | cons c r =>
      rw [chr_of_stream hs, List.takeWhile_cons]
      cases hi : isidchar c <;> simp only [onChr, hi, Bool.false_eq_true, if_false, if_true]
      · rfl
      · rw [identLoop_eq n s.nextchar (by rw [len_nextchar]; omega), stream_nextchar, hs]; rfl

theorem ident_eq (s : S) : ident s =
    (.TIDENT, ({ s with usebuf := true } : S).adv (s.stream.takeWhile isidchar).length) :=
  congrArg (Prod.mk _) (identLoop_eq _ { s with usebuf := true } (Nat.le_refl _))

theorem numberLoop_eq : ∀ (n : Nat) (a : Bool) (s : S) (c0 : UInt8) (r : List UInt8),
    s.stream = c0 :: r → s.len ≤ n → numberLoop n a s = s.adv (1 + numLen a r)
  | 0, _, s, c0, r, hs, hn => by rw [stream_nil_of_length hn] at hs; cases hs
  | n + 1, a, s, c0, r, hs, hn => by
    have hs1 : s.nextchar.stream = r := by simp [hs]
    cases r with
    | nil =>
      rw [numberLoop]
      simp [chr_eq, hs1, numLen]; rfl
    | cons c r' =>
      rcases numberLoop_step n a s c r' hs1 with ⟨h, hl⟩ | ⟨a', h, hl⟩ <;> rw [h, hl]
      · rfl
      · rw [numberLoop_eq n a' s.nextchar c r' hs1 (by rw [len_nextchar]; omega),
          show 1 + (numLen a' r' + 1) = (1 + numLen a' r') + 1 by omega, adv_succ]

theorem number_eq (s : S) (c0 : UInt8) (r : List UInt8) (hs : s.stream = c0 :: r) :
    number s = (.TNUMBER, ({ s with usebuf := true } : S).adv (1 + ppTailLen r)) := by
  rw [← (numLen_ppTailLen r).1]
  exact congrArg (Prod.mk _) (numberLoop_eq _ false { s with usebuf := true } c0 r hs (Nat.le_refl _))

theorem doWhile_eq {loop : Nat → S → S} {p : UInt8 → Bool}
    (step : ∀ n s, loop (n + 1) s = if onChr p s.nextchar.chr then loop n s.nextchar else s.nextchar) :
    ∀ (n : Nat) (s : S), s.stream.tail.length < n →
      loop n s = s.adv (1 + (s.stream.tail.takeWhile p).length)
  | 0, _, h => by omega
  | n + 1, s, h => by
    rw [step, chr_eq, stream_nextchar]
    cases ht : s.stream.tail with
    | nil => rfl
    | cons a t =>
      rw [ht] at h
      rw [List.head?_cons, onChr, List.takeWhile_cons]
      cases ha : p a
      · rfl
      · rw [if_pos rfl, doWhile_eq step n s.nextchar (by rw [stream_nextchar, ht]; simpa using h),
          stream_nextchar, ht, List.tail_cons, if_pos rfl, List.length_cons, ← Nat.add_assoc, adv_succ]

theorem hexLoop_eq (n : Nat) (s : S) : s.stream.tail.length < n →
    hexLoop n s = s.adv (1 + (s.stream.tail.takeWhile isxdigit).length) :=
  doWhile_eq (fun _ _ => rfl) n s

theorem lineLoop_eq (n : Nat) (s : S) : s.stream.tail.length < n →
    lineLoop n s = s.adv (1 + (s.stream.tail.takeWhile (· ≠ NL)).length) :=
  doWhile_eq (fun n s => by
    rw [lineLoop]
    cases s.nextchar.chr <;> simp [onChr]) n s

/-- the comment ends behind the first `*/`, the reader standing on its `/`; without one the
diagnostic is raised by the `nextchar` that reaches the end (or is asked once more there) -/
theorem blockLoop_eq : ∀ (n : Nat) (s : S), s.len < n →
    blockLoop n s = match findCommentEnd s.stream with
      | none => .error ⟨(s.adv (max s.len 1)).loc, .eofComment⟩
      | some k => .ok (s.adv (k - 1))
  | 0, _, h => by omega
  | n + 1, s, hn => by
    unfold blockLoop
    simp only [chr_eq, stream_nextchar]
    have hl := len_eq_stream s
    match hs : s.stream with
    | [] => rw [hs] at hl; simp [findCommentEnd, hl]; rfl
    | [a] => rw [hs] at hl; simp [findCommentEnd, hl]; rfl
    | a :: b :: r =>
      rw [hs] at hl
      simp only [List.length_cons] at hl
      have ih := blockLoop_eq n s.nextchar (by rw [len_nextchar]; omega)
      rw [stream_nextchar, hs, List.tail_cons] at ih
      rw [findCommentEnd]
      by_cases hab : a = c! '*' ∧ b = c! '/'
      · obtain ⟨rfl, rfl⟩ := hab
        simp; rfl
      · have hcond : some a ≠ some (c! '*') ∨ some b ≠ some (c! '/') := by
          by_cases h : a = c! '*' <;> simp_all
        simp only [List.tail_cons, List.head?_cons, reduceCtorEq, if_false, hcond, if_true, hab, ih]
        cases hf : findCommentEnd (b :: r) with
        | none =>
          have e1 : max s.nextchar.len 1 = s.nextchar.len := by
            rw [len_nextchar, hl]; simp
          have e2 : max s.len 1 = s.nextchar.len + 1 := by
            rw [len_nextchar, hl]; simp
          simp only [Option.map_none, e1, e2, adv_succ]
        | some k =>
          have := (findCommentEnd_ge _ _ hf).1
          simp only [Option.map_some, Nat.add_sub_cancel]
          rw [show k = (k - 1) + 1 by omega, adv_succ]; simp

theorem op2_eq (s : S) (t1 t2 : Kind) :
    op2 s t1 t2 = if s.stream[1]? = some (c! '=') then (t2, s.adv 2) else (t1, s.adv 1) := by
  unfold op2
  simp only [chr1, ne_eq, ite_not]
  rfl

end CprocVerif.Scan

namespace CprocVerif.PPLine
open CprocVerif.Scan CprocVerif.Gen.TokenKinds

theorem nextchar_readHead (s : S) :
    ∃ b, s.nextchar = S.readHead { s with inp := s.inp.tail, buf := b } := by
  unfold S.nextchar
  split <;> exact ⟨_, rfl⟩

theorem core_readHead {a b : S} (h : core a = core b) : core a.readHead = core b.readHead := by
  obtain ⟨_, _, _, _, _, _, _, _⟩ := a
  obtain ⟨_, _, _, _, _, _, _, _⟩ := b
  simp only [core, Prod.mk.injEq] at h
  obtain ⟨rfl, rfl, rfl, rfl, rfl⟩ := h
  simp only [core, S.readHead]
  split <;> rfl

theorem core_nextchar {a b : S} (h : core a = core b) : core a.nextchar = core b.nextchar := by
  obtain ⟨b1, e1⟩ := nextchar_readHead a
  obtain ⟨b2, e2⟩ := nextchar_readHead b
  rw [e1, e2]
  refine core_readHead ?_
  simp only [core, Prod.mk.injEq] at h ⊢
  simp [h]

theorem core_adv {a b : S} (h : core a = core b) : ∀ n, core (a.adv n) = core (b.adv n)
  | 0 => h
  | n + 1 => by rw [adv_succ', adv_succ']; exact core_nextchar (core_adv h n)

theorem len_of_core {a b : S} (h : core a = core b) : a.len = b.len := by
  rw [S.len, S.len, inp_of_core h]

end CprocVerif.PPLine

namespace CprocVerif.Scan
open CprocVerif.Gen.TokenKinds CprocVerif.Spec.Lex CprocVerif.PPLine

/-- `s'` has the reader of `s` after `n` calls of `nextchar`, each made while there was a current
character.  `Took.trans` is the one place where the bounds of consecutive stretches are added up. -/
def Took (s : S) (n : Nat) (s' : S) : Prop := n ≤ s.len ∧ core s' = core (s.adv n)

theorem took_adv {s : S} {n : Nat} (h : n ≤ s.len) : Took s n (s.adv n) := ⟨h, rfl⟩

theorem Took.len {s s' : S} {n : Nat} (h : Took s n s') : s'.len + n = s.len := by
  have := (len_of_core h.2).trans (len_adv n s); have := h.1; omega

theorem Took.trans {s s1 s2 : S} {a b : Nat} (h1 : Took s a s1) (h2 : Took s1 b s2) :
    Took s (a + b) s2 :=
  ⟨by have := h1.len; have := h2.1; omega, by rw [adv_add]; exact h2.2.trans (core_adv h1.2 b)⟩

/-- A diagnostic of a routine entered at `s` is one of scan.c's (not the model's "out of fuel")
and is located at `s->loc` as it is after `m` further calls of `nextchar`; `m = s.len + 1` when
`nextchar` was called once more at the end of the file. -/
def ErrAfter (s : S) (e : Err) : Prop := e.kind ≠ .fuel ∧ ∃ m, m ≤ s.len + 1 ∧ e.loc = (s.adv m).loc

theorem ErrAfter.here (s : S) {k : ErrKind} (hk : k ≠ .fuel) : ErrAfter s ⟨s.loc, k⟩ :=
  ⟨hk, 0, Nat.zero_le _, rfl⟩

theorem ErrAfter.took {s s0 : S} {a : Nat} (ht : Took s a s0) {e : Err} (h : ErrAfter s0 e) :
    ErrAfter s e := by
  obtain ⟨hk, m, hm, hl⟩ := h
  exact ⟨hk, a + m, by have := ht.len; omega,
    by rw [adv_add, hl]; exact congrArg (·.2.2.1) (core_adv ht.2 m)⟩

/-- `s'` is `s` after `nextchar` was called once for each character of the word `u` the stream began with -/
def Read (s : S) (u : List UInt8) (s' : S) : Prop := u <+: s.stream ∧ s' = s.adv u.length

theorem Read.next {s : S} {c : UInt8} (hc : s.chr = some c) : Read s [c] s.nextchar := by
  obtain ⟨r, hr⟩ := (chr_some_iff s c).mp hc
  exact ⟨⟨r, hr.symm⟩, rfl⟩

theorem Read.trans {s s1 s2 : S} {u v : List UInt8} (h1 : Read s u s1) (h2 : Read s1 v s2) :
    Read s (u ++ v) s2 := by
  obtain ⟨⟨r, hr⟩, rfl⟩ := h1
  obtain ⟨⟨t, ht⟩, rfl⟩ := h2
  rw [stream_adv, ← hr, List.drop_left] at ht
  exact ⟨⟨t, by rw [List.append_assoc, ht, hr]⟩, by rw [List.length_append, adv_add]⟩

theorem Read.took {s s' : S} {u : List UInt8} (h : Read s u s') : Took s u.length s' :=
  h.2 ▸ took_adv (by rw [len_eq_stream]; exact h.1.length_le)

theorem Read.moved {s s' : S} {u : List UInt8} (hu : s.usebuf = true) (h : Read s u s') :
    Moved s s' u := h.2 ▸ moved_adv u s hu h.1

theorem read_onChr {p : UInt8 → Bool} {s : S} (h : onChr p s.chr = true) :
    ∃ c, p c = true ∧ Read s [c] s.nextchar := by
  cases hc : s.chr with
  | none => rw [hc] at h; cases h
  | some c => exact ⟨c, by rwa [hc] at h, .next hc⟩

/-- a routine of scan.c entered at `s` calls `error`, or returns having read a word `u` of which `P` holds -/
def Reads {α : Type} (s : S) (st : α → S) (P : α → List UInt8 → Prop) : Except Err α → Prop
  | .error e => ErrAfter s e
  | .ok a => ∃ u, Read s u (st a) ∧ P a u

/-! The `'/'` and `'.'` arms of `scankind` by name: `ScanPunct` decides them, `ScanKind` and `ScanSkip` run them. -/

/-- the local `ret` of `Model/Scan.lean: scankind`: location and byte count captured at `again:` are
`s.loc`, `s.pos` (its twin `lift` stands in `ScanKind`) -/
def ret (s : S) (r : Kind × S) : Except Err (Kind × Loc × Nat × S) := .ok (r.1, s.loc, s.pos, r.2)

def slashArm (f : Nat) (s : S) : Except Err (Kind × Loc × Nat × S) :=
  let r := op2 s .TDIV .TDIVASSIGN
  if r.1 = .TDIV then
    match comment r.2 with
    | .error e => .error e
    | .ok (some s') => scankind f s'
    | .ok none => ret s r
  else ret s r

def dotArm (s : S) : Except Err (Kind × Loc × Nat × S) :=
  let s1 := s.nextchar
  if onChr isdigit s1.chr then ret s (number { s1 with buf := s1.buf ++ [c! '.'] })
  else if s1.chr ≠ some (c! '.') then ret s (.TPERIOD, s1)
  else
    let s2 := s1.nextchar
    if s2.chr ≠ some (c! '.') then ret s (.TPERIOD, pushbackDot s2 s1.loc)
    else ret s (.TELLIPSIS, s2.nextchar)

end CprocVerif.Scan
