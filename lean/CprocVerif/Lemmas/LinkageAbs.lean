import CprocVerif.Model.Linkage
import CprocVerif.Spec.Link

/-! The abstract side of the linkage simulation, as far as `LinkageTable.lean` evaluates it, definitions only.  The relation
`related` (made of `relL`, `relF`, `relT`) and the lemmas are in `Linkage.lean`. -/
namespace CprocVerif.Linkage
open CprocVerif.Link

-- `sim_table`, `fin_table` are `∀ lent : Option (Kind × Link), …`; `decide` finds the instance here
section Forall
variable {α : Type}

instance decForallKind {p : Kind → Prop} [DecidablePred p] : Decidable (∀ x, p x) :=
  decidable_of_iff (p .obj ∧ p .func)
    ⟨fun h x => by cases x; exact h.1; exact h.2, fun h => ⟨h _, h _⟩⟩

instance decForallLabel {p : Label → Prop} [DecidablePred p] : Decidable (∀ x, p x) :=
  decidable_of_iff (p .a ∧ p .b)
    ⟨fun h x => by cases x; exact h.1; exact h.2, fun h => ⟨h _, h _⟩⟩

instance decForallLink {p : Link → Prop} [DecidablePred p] : Decidable (∀ x, p x) :=
  decidable_of_iff (p .none ∧ p .intern ∧ p .extern)
    ⟨fun h x => by cases x; exact h.1; exact h.2.1; exact h.2.2, fun h => ⟨h _, h _, h _⟩⟩

instance decForallDur {p : Dur → Prop} [DecidablePred p] : Decidable (∀ x, p x) :=
  decidable_of_iff (p .static ∧ p .thread ∧ p .auto)
    ⟨fun h x => by cases x; exact h.1; exact h.2.1; exact h.2.2, fun h => ⟨h _, h _, h _⟩⟩

instance decForallBool' {p : Bool → Prop} [DecidablePred p] : Decidable (∀ x, p x) :=
  decidable_of_iff (p false ∧ p true)
    ⟨fun h x => by cases x; exact h.1; exact h.2, fun h => ⟨h _, h _⟩⟩

instance decForallOption {p : Option α → Prop} [DecidablePred p]
    [Decidable (∀ a, p (some a))] : Decidable (∀ x, p x) :=
  decidable_of_iff (p none ∧ ∀ a, p (some a))
    ⟨fun h x => by cases x; exact h.1; exact h.2 _, fun h => ⟨h _, fun _ => h _⟩⟩

instance decForallPair {β : Type} {p : α × β → Prop} [DecidablePred p]
    [Decidable (∀ a b, p (a, b))] : Decidable (∀ x, p x) :=
  decidable_of_iff (∀ a b, p (a, b)) ⟨fun h x => by cases x; exact h _ _, fun h _ _ => h _⟩

instance decForallEnt {p : Ent → Prop} [DecidablePred p] : Decidable (∀ x, p x) :=
  decidable_of_iff (∀ k l d t i du a, p ⟨k, l, d, t, i, du, a, ()⟩)
    ⟨fun h x => by cases x; exact h _ _ _ _ _ _ _, fun h _ _ _ _ _ _ _ => h _⟩

end Forall
/-- what the judgements ask about a list of declarations: those of the same scope (`fileM`, `blockM`), those with linkage (`linkedM`) -/
structure MAgg where
  isEmpty : Bool
  kindNeObj : Bool
  kindNeFunc : Bool
  anyNone : Bool
  flagNeT : Bool
  flagNeF : Bool
deriving DecidableEq, Repr
def mAgg (M : List Decl) : MAgg :=
  { isEmpty := M.isEmpty,
    kindNeObj := M.any (fun d => d.form.kind ≠ .obj),
    kindNeFunc := M.any (fun d => d.form.kind ≠ .func),
    anyNone := M.any (fun d => d.link = .none),
    flagNeT := M.any (fun d => d.form.kind = .obj ∧ d.form.flag ≠ true),
    flagNeF := M.any (fun d => d.form.kind = .obj ∧ d.form.flag ≠ false) }
def MAgg.kindNe (m : MAgg) : Kind → Bool
  | .obj => m.kindNeObj
  | .func => m.kindNeFunc
def MAgg.flagNe (m : MAgg) : Bool → Bool
  | true => m.flagNeT
  | false => m.flagNeF
def MAgg.cons (d : Decl) (m : MAgg) : MAgg :=
  { isEmpty := false,
    kindNeObj := decide (d.form.kind ≠ .obj) || m.kindNeObj,
    kindNeFunc := decide (d.form.kind ≠ .func) || m.kindNeFunc,
    anyNone := decide (d.link = .none) || m.anyNone,
    flagNeT := decide (d.form.kind = .obj ∧ d.form.flag ≠ true) || m.flagNeT,
    flagNeF := decide (d.form.kind = .obj ∧ d.form.flag ≠ false) || m.flagNeF }
def MAgg.nil : MAgg := mAgg []
/-- Everything `judge`, `judgeEnd`, `symbolsRev` read off the annotated history, and what `threadTentativeThenInitRev` reads
(`fThreadTent`). -/
@[ext] structure Agg where
  fileM : MAgg
  blockM : MAgg
  fileLink : Option Link
  headLink : Option Link
  linkedM : MAgg
  linkNeIntern : Bool
  linkNeExtern : Bool
  label : Option Label
  hasDef : Bool
  /-- an inline function declaration with external linkage -/
  inlExt : Bool
  /-- a file-scope object declaration without definition and without `extern` -/
  fTent : Bool
  /-- all file-scope function declarations are `inline` without `extern` -/
  fPure : Bool
  lHead : Option (Kind × Link)
  /-- a thread-local object declaration with linkage -/
  lThread : Bool
  /-- file scope, object, `_Thread_local`, no initialiser, no `extern` -/
  fThreadTent : Bool
deriving DecidableEq, Repr
def Agg.mates (a : Agg) : Scope → MAgg
  | .file => a.fileM
  | .block => a.blockM
  | .nested => MAgg.nil
def Agg.visLink (a : Agg) (f : Form) : Option Link :=
  if f.scope = .file then a.fileLink else a.headLink
def Agg.linkNe (a : Agg) : Link → Bool
  | .none => true   -- never consulted
  | .intern => a.linkNeIntern
  | .extern => a.linkNeExtern
/-- `judge` of `Spec/Link.lean` on the aggregates (`judge_eq`), clause for clause in the same order: `judgeA_ok` and
`judgeA_label` walk down the chain and count the clauses. -/
def judgeA (f : Form) (a : Agg) : Verdict :=
  let l := c11Link f (a.visLink f)
  let M := a.mates f.scope
  let L := a.linkedM
  if f.kind = .func ∧ f.hasDef ∧ f.scope ≠ .file then .violates .syntaxNestedDefinition
  else if f.kind = .func ∧ f.hasDef ∧ f.asm.isSome then .violates .syntaxLabelOnDefinition
  else if f.kind = .func ∧ f.scope ≠ .file ∧ f.sc = .static then .violates .c6_7_1p7_blockFunctionStorage
  else if f.kind = .obj ∧ f.scope ≠ .file ∧ f.flag ∧ f.sc = .none then .violates .c6_7_1p3_blockThreadLocal
  else if M.kindNe f.kind then .violates .c6_7p3_sameScopeKind
  else if (l = .none ∧ ¬ M.isEmpty) ∨ M.anyNone then .violates .c6_7p3_noLinkageRedeclared
  else if l ≠ .none ∧ f.scope ≠ .file ∧ f.kind = .obj ∧ f.hasDef then .violates .c6_7_9p5_blockExternInit
  else if f.kind = .obj ∧ M.flagNe f.flag then .violates .c6_7_1p3_threadMismatchSameScope
  else if l ≠ .none ∧ L.kindNe f.kind then .undefined .c6_2_7p2_kindAcrossScopes
  else if l ≠ .none ∧ a.linkNe l then .undefined .c6_2_2p7_internalAndExternal
  else if f.kind = .obj ∧ l ≠ .none ∧ a.fileM.flagNe f.flag then .violates .c6_7_1p3_threadMismatchFileScope
  else if f.kind = .obj ∧ l ≠ .none ∧ L.flagNe f.flag then .violates .c6_7_1p3_threadMismatchUnseenBlockExtern
  else if f.scope = .file ∧ f.hasDef ∧ a.hasDef then
    (if l = .intern then .violates .c6_9p3_internalRedefined else .undefined .c6_9p5_externalRedefined)
  else if f.asm.isSome ∧ l = .none then .unspecified .asmLabel
  else if f.asm.isSome ∧ L.isEmpty ∧ f.scope ≠ .file then .unspecified .asmLabel
  else if f.asm.isSome ∧ ¬ L.isEmpty ∧ a.label ≠ f.asm then .unspecified .asmLabel
  else .ok
def aggCons (d : Decl) (a : Agg) : Agg :=
  { fileM := if d.atFile then a.fileM.cons d else a.fileM,
    blockM := (match d.form.scope with
      | .file => MAgg.nil
      | .nested => MAgg.nil.cons d
      | .block => a.blockM.cons d),
    fileLink := if d.atFile then some d.link else a.fileLink,
    headLink := some d.link,
    linkedM := if d.linked then a.linkedM.cons d else a.linkedM,
    linkNeIntern := (d.linked && decide (d.link ≠ .intern)) || a.linkNeIntern,
    linkNeExtern := (d.linked && decide (d.link ≠ .extern)) || a.linkNeExtern,
    label := if d.linked then (if a.linkedM.isEmpty then d.form.asm else a.label) else a.label,
    hasDef := (d.atFile && d.form.hasDef) || a.hasDef,
    inlExt := decide (d.form.kind = .func ∧ d.link = .extern ∧ d.form.flag) || a.inlExt,
    fTent := (d.atFile && decide (d.form.kind = .obj ∧ ¬ d.form.hasDef ∧ d.form.sc ≠ .extern)) || a.fTent,
    fPure := if d.atFile then decide (d.form.kind = .func → d.form.flag ∧ d.form.sc ≠ .extern) && a.fPure else a.fPure,
    lHead := if d.linked then some (d.form.kind, d.link) else a.lHead,
    lThread := (d.linked && decide (d.form.kind = .obj ∧ d.form.flag)) || a.lThread,
    fThreadTent := decide (d.form.kind = .obj ∧ d.form.scope = .file ∧ d.form.flag ∧
                      ¬ d.form.hasDef ∧ d.form.sc ≠ .extern) || a.fThreadTent }
/-- The aggregates the model keeps no record of (or only a coarser one). -/
structure Ghost where
  fdef : Bool
  ftent : Bool
  fpure : Bool
  linl : Bool
  lent : Option (Kind × Link)
  lthread : Bool
  label : Option Label
def ghostOf (a : Agg) : Ghost :=
  { fdef := a.hasDef, ftent := a.fTent, fpure := a.fPure, linl := a.inlExt, lent := a.lHead,
    lthread := a.lThread, label := a.label }
/-- aggregates of the same-scope declarations summarised by one scope entry -/
def entM : Option Ent → MAgg
  | none => MAgg.nil
  | some e =>
    { isEmpty := false,
      kindNeObj := decide (e.kind ≠ .obj),
      kindNeFunc := decide (e.kind ≠ .func),
      anyNone := decide (e.link = .none),
      flagNeT := decide (e.kind = .obj ∧ e.dur ≠ .thread),
      flagNeF := decide (e.kind = .obj ∧ e.dur = .thread) }
def lentM (g : Ghost) : MAgg :=
  match g.lent with
  | none => MAgg.nil
  | some (k, _) =>
    { isEmpty := false,
      kindNeObj := decide (k ≠ .obj),
      kindNeFunc := decide (k ≠ .func),
      anyNone := false,
      flagNeT := decide (k = .obj ∧ g.lthread = false),
      flagNeF := decide (k = .obj ∧ g.lthread = true) }
/-- The aggregates determined by the file-scope entry, the innermost block's entry and the ghost. -/
def G (file top : Option Ent) (g : Ghost) : Agg :=
  { fileM := entM file,
    blockM := entM top,
    fileLink := file.map (·.link),
    headLink := (match top with | some t => some t.link | none => file.map (·.link)),
    linkedM := lentM g,
    linkNeIntern := (match g.lent with | some (_, l) => decide (l ≠ .intern) | none => false),
    linkNeExtern := (match g.lent with | some (_, l) => decide (l ≠ .extern) | none => false),
    label := g.label,
    hasDef := g.fdef,
    inlExt := g.linl,
    fTent := g.ftent,
    fPure := g.fpure,
    lHead := g.lent,
    lThread := g.lthread,
    fThreadTent := (match file with
      | some e => decide (e.kind = .obj ∧ e.dur = .thread) && g.ftent
      | none => false) }
/-- The file-scope entry against the ghost.  Where the clauses come from: `decl.c` has no tentative list for thread-local
objects and defines one where it is first declared without `extern`, hence `defined = fdef || (thread && ftent)` (the source of
the class `threadTentativeThenInit`); `tentative` is the pending zero definition of an object with static storage duration;
`inlinedefn` is 6.7.4p7 as far as the file-scope declarations go (`fpure`). -/
def validFile (file : Option Ent) (g : Ghost) : Bool :=
  match file with
  | none => !g.fdef && !g.ftent && g.fpure && g.label.isNone
  | some e =>
    decide (e.link ≠ .none) && decide (g.lent = some (e.kind, e.link)) && decide (e.asm = g.label) &&
    (match e.kind with
     | .obj =>
       decide (e.dur ≠ .auto) && decide (g.lthread = decide (e.dur = .thread)) &&
       decide (e.defined = (g.fdef || (decide (e.dur = .thread) && g.ftent))) &&
       (!e.tentative || (g.ftent && decide (e.dur = .static))) &&
       (!(g.ftent && !e.defined && decide (e.dur = .static)) || e.tentative) && !e.inlinedefn && g.fpure
     | .func =>
       decide (e.dur = .static) && !g.lthread && decide (e.defined = g.fdef) && !e.tentative && !g.ftent &&
       decide (e.inlinedefn = (decide (e.link = .extern) && g.fpure)))
/-- The innermost block's entry against the ghost: without linkage it is an automatic object or a block-scope static, defined
on the spot; with linkage it is a `struct decl` of the block's own (not the file-scope one) that agrees with the entity and
defines nothing (`blockInitLinkage`, `funcDefNotAllowed`). -/
def validTop (top : Option Ent) (g : Ghost) : Bool :=
  match top with
  | none => true
  | some t =>
    !t.tentative &&
    (if t.link = .none then
      decide (t.kind = .obj) && t.asm.isNone && t.defined && !t.inlinedefn
     else
      decide (g.lent = some (t.kind, t.link)) && decide (t.asm = g.label) && !t.defined &&
      (match t.kind with
       | .obj => decide (t.dur ≠ .auto) && decide (g.lthread = decide (t.dur = .thread)) && !t.inlinedefn
       | .func => decide (t.dur = .static)))
def validGhost (g : Ghost) : Bool :=
  match g.lent with
  | none => g.label.isNone && !g.lthread
  | some (k, l) => decide (l ≠ .none) && (!g.lthread || decide (k = .obj))
/-- `relL` (the declarations with linkage), `relF` (the file-scope entry), `relT` (the innermost block's entry): the three parts of
the relation `related` of `Linkage.lean`, which `stepCheck` evaluates one by one. -/
def relL (a : Agg) : Bool :=
  validGhost (ghostOf a) && a.linkedM == lentM (ghostOf a) &&
  a.linkNeIntern == (G none none (ghostOf a)).linkNeIntern &&
  a.linkNeExtern == (G none none (ghostOf a)).linkNeExtern
def relF (a : Agg) (file : Option Ent) : Bool :=
  validFile file (ghostOf a) && a.fileM == entM file && a.fileLink == file.map (·.link) &&
  a.fThreadTent == (G file none (ghostOf a)).fThreadTent
def relT (a : Agg) (file top : Option Ent) : Bool :=
  validTop top (ghostOf a) && a.blockM == entM top && a.headLink == (G file top (ghostOf a)).headLink
/-- the three lookups after entering the scope of a form -/
def viewOf (file top : Option Ent) : Scope → View
  | .file => { same := file, parent := none, file := file }
  | .block => (match top with
    | some t => { same := some t, parent := file, file := file }
    | none => { same := none, parent := file, file := file })
  | .nested => (match top with
    | some t => { same := none, parent := some t, file := file }
    | none => { same := none, parent := file, file := file })
/-- shape of the entity's definition per `mainSyms`: (isFunc, exported, thread, zero) -/
def mainA (a : Agg) : Option (Bool × Bool × Bool × Bool) :=
  match a.lHead with
  | none => none
  | some (k, lk) =>
    match k with
    | .obj =>
      if a.hasDef then some (false, decide (lk = .extern), a.lThread, false)
      else if a.fTent then some (false, decide (lk = .extern), a.lThread, true)
      else none
    | .func =>
      if a.hasDef ∧ ¬ (lk = .extern ∧ a.fPure) then some (true, decide (lk = .extern), false, false)
      else none
/-- a tentative definition of a non-thread-local object is still waiting for the end of the unit -/
def pendingA (a : Agg) : Bool :=
  match a.lHead with
  | some (.obj, _) => !a.hasDef && a.fTent && !a.lThread
  | _ => false
def emittedA (a : Agg) : Option (Bool × Bool × Bool × Bool) :=
  if pendingA a then none else mainA a
/-- `devTStep`, `devIStep`: the step that puts a history into the class `threadTentativeThenInit`, `inlineThenExtern` of
`Spec/Link.lean` (`devT_cons`, `devI_cons` in `LinkageInd.lean`).  At the first the model rejects; at the second it prints no
definition where the spec expects one, and from then on nothing is claimed of the output. -/
def devTStep (f : Form) (a : Agg) : Bool :=
  decide (f.scope = .file ∧ f.kind = .obj ∧ f.flag ∧ f.hasDef) && a.fThreadTent
def devIStep (f : Form) (a : Agg) : Bool :=
  decide (f.kind = .func ∧ f.scope = .file ∧ ¬ pureInline f) && a.hasDef && a.fPure
/-- the effects of a step (the entry it leaves, `mkglobal`, `emitdata`/`emitfunc`) against the
aggregates before and after, as far as the entity's definition is not concerned -/
def effOK (f : Form) (a a' : Agg) (l : Link) (e : Eff) : Bool :=
  decide (e.ent.link = l) &&
  (a.linkedM.isEmpty || (decide (a'.lThread = a.lThread) && decide (a'.label = a.label))) &&
  (if l = .none then
     -- an automatic object (no `mkglobal`) or a block-scope static (defined where it is declared)
     decide (e.ent.asm = none) &&
     decide (e.global.isSome = (decide (f.kind = .obj) && decide (f.sc = .static))) &&
     (!(decide (f.kind = .obj) && decide (f.sc = .static)) ||
       (decide (e.emit = some (false, !f.hasDef)) && decide ((e.ent.dur = .thread) = f.flag))) &&
     decide (a'.label = a.label) && decide (a'.lThread = a.lThread)
   else
     decide (e.ent.asm = a'.label) && decide (e.global = some a'.lThread))
/-- the entity's definition: printed now exactly when the spec expects it from now on -/
def emitOK (f : Form) (a a' : Agg) (l : Link) (e : Eff) : Bool :=
  if l = .none then decide (emittedA a' = emittedA a)
  else match e.emit with
    | some (isF, z) =>
      (emittedA a).isNone &&
      decide (emittedA a' = some (isF, decide (e.ent.link = .extern), !isF && decide (e.ent.dur = .thread), z))
    | none => devIStep f a || decide (emittedA a' = emittedA a)
def isError {α} : Except Err α → Bool
  | .error _ => true
  | .ok _ => false
/-- what a declaration inside a function body leaves alone (`nofile`: no file-scope entry yet) -/
def frame (a a' : Agg) (nofile : Bool) : Bool :=
  a'.label == a.label && (nofile || (a'.lHead == a.lHead && a'.lThread == a.lThread))
/-- the verdicts on a declaration after which the model has to reject too: a constraint violation
other than the `_Thread_local` mismatch with a block-scope `extern` that is not visible, and a second
external definition (6.9p5), although C11 does not require that one -/
def mustReject : Verdict → Bool
  | .violates c => c ≠ .c6_7_1p3_threadMismatchUnseenBlockExtern
  | .undefined c => c = .c6_9p5_externalRedefined
  | _ => false
/-- One declaration `f`, where the history so far has the aggregates `a` and the model's lookups give `v`.  A declaration
inside a function body neither reads nor changes the record of the file-scope declarations, beyond what `frame` says. -/
def stepCheck (f : Form) (a : Agg) (v : View) (nofile : Bool) : Bool :=
  let l := c11Link f (a.visLink f)
  let a' := aggCons ⟨f, l⟩ a
  match judgeA f a with
  | .ok =>
    if devTStep f a then isError (declare v f)
    else match declare v f with
      | .error _ => false
      | .ok e =>
        effOK f a a' l e && relL a' &&
        (if f.scope = .file then relF a' (some e.ent) && relT a' (some e.ent) none && emitOK f a a' l e
         -- `relT` reads its `file` argument only when the block has no entry; `relF` and `emitOK` follow from `frame`
         -- (`related_frame`)
         else relT a' none (some e.ent) && frame a a' nofile && (decide (l = .none) || e.emit.isNone))
  | w => !mustReject w || isError (declare v f)
/-- End of unit: `emittentativedefns` prints the definition the spec still expects, and only that. -/
def finishCheck (a : Agg) (file : Option Ent) : Bool :=
  match file with
  | some d =>
    if d.tentative ∧ ¬ d.defined then
      (emittedA a).isNone &&
      mainA a == some (false, decide (d.link = .extern), decide (d.dur = .thread), true) &&
      d.asm == a.label && decide (d.link ≠ .none)
    else emittedA a == mainA a
  | none => emittedA a == mainA a
/-- The innermost block's entry as a declaration in scope `sc` can tell it apart (`canonFile`, `canonGhost` of `Linkage.lean` do
the same for the file-scope entry and the ghost; this one is here because `topsFor` filters by it): a file-scope declaration
closes the blocks; one that opens a nested block reads of the entry only the linkage, so the storage duration of an entry without
linkage, which `validTop` leaves free, is fixed. -/
def canonTop : Scope → Option Ent → Option Ent
  | .file, _ => none
  | .nested, some t => some (if t.link = .none then { t with dur := .auto } else t)
  | _, top => top
def allBool : List Bool := [false, true]
def allKind : List Kind := [.obj, .func]
def allDur : List Dur := [.static, .thread, .auto]
def allLabel : List (Option Label) := [none, some .a, some .b]
def allSC : List SC := [.none, .static, .extern]
/-- the forms rejected whatever came before (first four clauses of `judge`) -/
def localViol (f : Form) : Bool :=
  decide (f.kind = .func ∧ f.hasDef ∧ f.scope ≠ .file) || decide (f.kind = .func ∧ f.hasDef ∧ f.asm.isSome) ||
  decide (f.kind = .func ∧ f.scope ≠ .file ∧ f.sc = .static) ||
  decide (f.kind = .obj ∧ f.scope ≠ .file ∧ f.flag ∧ f.sc = .none)
/-- the forms without label (`LinkageLabel.lean` accounts for the label) -/
def formsAt (s : Scope) : List Form :=
  (allKind.flatMap fun k => allSC.flatMap fun sc => allBool.flatMap fun fl =>
    allBool.map fun hd => (⟨k, sc, fl, s, hd, none⟩ : Form)).filter (!localViol ·)
/-- `linl` is read at the end of the unit only (`judgeEnd`), and a declaration inside a function body reads none of `fdef`, `ftent`,
`fpure`: one value of each is enough (`canonGhost`, `stepCheck_seenFrom` in `Linkage.lean`). -/
def ghostsOf (sc : Scope) (lent : Option (Kind × Link)) : List Ghost :=
  (allBool.flatMap fun fdef => allBool.flatMap fun ftent => allBool.flatMap fun fpure =>
    allBool.flatMap fun lt => allLabel.map fun la => (⟨fdef, ftent, fpure, false, lent, lt, la⟩ : Ghost)).filter
    fun g => validGhost g && (decide (sc = .file) || (!g.fdef && !g.ftent && g.fpure))
def filesFor (g : Ghost) : List (Option Ent) :=
  (none :: (match g.lent with
    | none => []
    | some (k, l) => allBool.map fun t =>
        some ⟨k, l, g.fdef || (g.lthread && g.ftent), t, decide (k = .func) && decide (l = .extern) && g.fpure,
          if g.lthread then .thread else .static, g.label, ()⟩)).filter
    (validFile · g)
def topsFor (g : Ghost) (sc : Scope) : List (Option Ent) :=
  ((none :: allDur.map fun du => some ⟨.obj, .none, true, false, false, du, none, ()⟩) ++
    (match g.lent with
     | none => []
     | some (k, l) => allBool.flatMap fun i => allDur.map fun du =>
        some ⟨k, l, false, false, i, du, g.label, ()⟩)).filter
    fun top => validTop top g && decide (canonTop sc top = top)
def simAll (lent : Option (Kind × Link)) (sc : Scope) : Bool :=
  (ghostsOf sc lent).all fun g => (filesFor g).all fun file => (topsFor g sc).all fun top =>
    (formsAt sc).all fun f => stepCheck f (G file top g) (viewOf file top sc) file.isNone
def finAll (lent : Option (Kind × Link)) : Bool :=
  (ghostsOf .file lent).all fun g => (filesFor g).all fun file => finishCheck (G file none g) file

end CprocVerif.Linkage
