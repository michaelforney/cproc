import CprocVerif.Model.Scan

/-! `pp.c: keyword` — `strcmp` answers `.eq` exactly on equal strings and `.lt`/`.gt` are each
other's mirror; that is all the bisection needs to be a dictionary lookup on a sorted table. -/

namespace CprocVerif.Scan
open CprocVerif.Gen.TokenKinds

theorem strcmp_eq_iff : ∀ (a b : List UInt8), strcmp a b = .eq ↔ a = b := by
  intro a
  induction a with
  | nil => intro b; cases b <;> simp [strcmp]
  | cons x xs ih =>
    intro b
    cases b with
    | nil => simp [strcmp]
    | cons y ys =>
      unfold strcmp
      by_cases h1 : x < y
      · simp only [h1, if_true, reduceCtorEq, false_iff]
        intro h; cases h; exact absurd h1 (UInt8.lt_irrefl _)
      · by_cases h2 : y < x
        · simp only [h1, h2, if_true, if_false, reduceCtorEq, false_iff]
          intro h; cases h; exact absurd h2 (UInt8.lt_irrefl _)
        · cases UInt8.le_antisymm (UInt8.not_lt.mp h2) (UInt8.not_lt.mp h1)
          simp only [h1, if_false, ih, List.cons.injEq, true_and]

theorem strcmp_swap : ∀ (a b : List UInt8), strcmp a b = .lt ↔ strcmp b a = .gt := by
  intro a
  induction a with
  | nil => intro b; cases b <;> simp [strcmp]
  | cons x xs ih =>
    intro b
    cases b with
    | nil => simp [strcmp]
    | cons y ys =>
      unfold strcmp
      by_cases h1 : x < y
      · have : ¬ y < x := fun h => UInt8.lt_irrefl _ (UInt8.lt_trans h1 h)
        simp [h1, this]
      · by_cases h2 : y < x
        · simp [h1, h2]
        · simp only [h1, h2, if_false]; exact ih ys

def Sorted (tbl : List (List UInt8 × Kind)) : Prop :=
  tbl.Pairwise (fun a b => strcmp a.1 b.1 = .lt)

theorem sorted_cmp {tbl : List (List UInt8 × Kind)} (hs : Sorted tbl) {i mid : Nat}
    (hi : i < tbl.length) (hm : mid < tbl.length) :
    strcmp (tbl[i]).1 (tbl[mid]).1 = compare i mid := by
  rcases Nat.lt_trichotomy i mid with h | rfl | h
  · rw [Nat.compare_eq_lt.mpr h]; exact List.pairwise_iff_getElem.mp hs i mid hi hm h
  · rw [Nat.compare_eq_eq.mpr rfl]; exact (strcmp_eq_iff _ _).mpr rfl
  · rw [Nat.compare_eq_gt.mpr h]
    exact (strcmp_swap _ _).mp (List.pairwise_iff_getElem.mp hs mid i hm hi h)

theorem bsearch_spec (tbl : List (List UInt8 × Kind)) (hs : Sorted tbl) (lit : List UInt8) :
    ∀ (n low high : Nat), high ≤ tbl.length → high - low < n →
    (∀ i (h : i < tbl.length), (tbl[i]).1 = lit → low ≤ i ∧ i < high) →
    ∀ k, bsearch tbl lit n low high = some k ↔ (lit, k) ∈ tbl
  | 0, _, _, _, h, _, _ => by omega
  | n + 1, low, high, hh, hn, hinv, k => by
    unfold bsearch
    by_cases hlt : low < high
    · have hmid : (low + high) / 2 < tbl.length := by omega
      have side : ∀ i (h : i < tbl.length), (tbl[i]).1 = lit →
          strcmp lit (tbl[(low + high) / 2]).1 = compare i ((low + high) / 2) :=
        fun i h he => he ▸ sorted_cmp hs h hmid
      rw [if_pos hlt]
      dsimp only
      rw [List.getElem?_eq_getElem hmid]
      dsimp only
      cases hc : strcmp lit (tbl[(low + high) / 2]).1 with
      | eq =>
        have hkey := (strcmp_eq_iff _ _).mp hc
        dsimp only
        constructor
        · intro h
          cases h
          exact hkey ▸ List.getElem_mem hmid
        · intro h
          obtain ⟨i, hi, he⟩ := List.getElem_of_mem h
          have he1 : (tbl[i]).1 = lit := by rw [he]
          cases Nat.compare_eq_eq.mp ((side i hi he1).symm.trans hc)
          rw [he]
      | lt =>
        refine bsearch_spec tbl hs lit n low _ (by omega) (by omega) (fun i hi he => ?_) k
        exact ⟨(hinv i hi he).1, Nat.compare_eq_lt.mp ((side i hi he).symm.trans hc)⟩
      | gt =>
        refine bsearch_spec tbl hs lit n _ high hh (by omega) (fun i hi he => ?_) k
        exact ⟨Nat.compare_eq_gt.mp ((side i hi he).symm.trans hc), (hinv i hi he).2⟩
    · rw [if_neg hlt]
      refine ⟨nofun, fun h => ?_⟩
      obtain ⟨i, hi, he⟩ := List.getElem_of_mem h
      have := hinv i hi (by rw [he])
      omega

theorem bsearch_mem (tbl : List (List UInt8 × Kind)) (hs : Sorted tbl) (lit : List UInt8) (k : Kind) :
    bsearch tbl lit (tbl.length + 1) 0 tbl.length = some k ↔ (lit, k) ∈ tbl :=
  bsearch_spec tbl hs lit _ 0 tbl.length (Nat.le_refl _) (by omega)
    (fun i h _ => ⟨Nat.zero_le _, h⟩) k

instance : DecidablePred (fun p : (List UInt8 × Kind) × (List UInt8 × Kind) =>
    strcmp p.1.1 p.2.1 = .lt) := fun _ => inferInstance

/-- the table is regenerated from `keywords[]` of pp.c on every run, so this is re-checked against the source -/
theorem keywords_sorted : Sorted Gen.Keywords.table := by
  unfold Sorted
  decide +kernel

end CprocVerif.Scan
