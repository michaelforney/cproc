import CprocVerif.Model.InitAuto
import CprocVerif.Lemmas.InitEmitCells

/-!
# `funcinit` on a sorted list of pairwise disjoint initialisers leaves the static image in memory

`bitsToNat`, `cval`, `valByte` of `Model/InitAuto.lean` are `ofBits`, `Cell.toNat`, `valCell` of `Spec/Image.lean` written
a second time (the model does not import the spec); the first three lemmas identify them.
-/

namespace CprocVerif.InitAuto
open CprocVerif.Init CprocVerif.Image

theorem bitsToNat_eq (n : Nat) (f : Nat → Bool) : bitsToNat n f = ofBits n f := by
  induction n generalizing f with
  | zero => rfl
  | succ n ih => simp only [bitsToNat, ofBits, ih]

theorem cval_eq (c : Cell) : cval c = Cell.toNat c := by cases c <;> rfl

theorem valByte_eq (v : Val) (k : Nat) : valByte v k = valCell v k := by cases v <;> rfl

theorem getElem?_zero (m : Mem) (a b j : Nat) :
    (zero m a b)[j]? = (m[j]?).map (fun c => if a ≤ j ∧ j < b then Cell.byte 0 else c) := by
  unfold zero
  rw [List.getElem?_mapIdx]

theorem length_zero (m : Mem) (a b : Nat) : (zero m a b).length = m.length := by
  unfold zero; simp

theorem rmwCell_eq {i : Init} {w u : Nat} (hv : i.val = .int w u) (j : Nat) (c : Cell) :
    (if i.start ≤ j ∧ j < i.stop then rmwCell i.lo i.hi u j c else c) = writeCell i j c := by
  unfold rmwCell
  by_cases ht : touches i j
  · have hin : i.start ≤ j ∧ j < i.stop := by unfold touches Init.lo Init.hi at ht; omega
    rw [if_pos hin, if_pos (show _ ∧ _ from ht), writeCell_int hv ht, bitsToNat_eq, cval_eq]
    rfl
  · rw [writeCell_of_not_touches ht, if_neg (show ¬ (_ ∧ _) from ht), ite_self]

theorem store_eq_write {m : Mem} {i : Init} (hb : ByteVal i) : store m i = Image.write m i := by
  unfold store Image.write
  cases hv : i.val with
  | int w u => simp only [rmwCell_eq hv]
  | _ =>
    all_goals
      have hal := hb.cases.resolve_left (by rw [hv]; simp)
      simp only [writeCell_aligned hal, valByte_eq, hv]

/-- the invariant of the loop of `funcinit` after the initialisers `pre`.  `zer` is about the image, not the memory:
from `offset` on the image of `pre` is zero, which is why `zero` may fill `[offset, start)` whatever the memory holds -/
structure Inv (size : Nat) (pre : List Init) (s : ASt) : Prop where
  len : s.mem.length = size
  mx : s.max ≤ size
  om : s.offset ≤ s.max
  val : ∀ j, j < s.max → s.mem[j]? = some (cellFold pre j (.byte 0))
  zer : ∀ j, s.offset ≤ j → cellFold pre j (.byte 0) = .byte 0

/-- an iteration for a value stored at once: zero the gap (and, before the first bit-field of a
storage unit, the unit), store, move on -/
def storeStep (s : ASt) (i : Init) : ASt :=
  ⟨store (if s.offset < i.stop ∧ (i.before ≠ 0 ∨ i.after ≠ 0)
      then zero (zero s.mem s.offset i.start) s.offset i.stop else zero s.mem s.offset i.start) i,
    i.stop, max s.max i.stop⟩

theorem Inv.congr {size : Nat} {pre pre' : List Init} {s : ASt} (h : Inv size pre s)
    (e : ∀ j, cellFold pre' j (.byte 0) = cellFold pre j (.byte 0)) : Inv size pre' s :=
  ⟨h.len, h.mx, h.om, fun j hj => by rw [e]; exact h.val j hj, fun j hj => by rw [e]; exact h.zer j hj⟩

theorem step_nonstr {s : ASt} {i : Init} (h : ∀ w cs, i.val ≠ .str w cs) : step s i = storeStep s i := by
  unfold step storeStep
  cases hv : i.val with
  | str w cs => exact absurd hv (h w cs)
  | _ => rfl

theorem step_str {s : ASt} {i : Init} {w : Nat} {cs : List Nat} (hv : i.val = .str w cs)
    (hb : i.before = 0 ∧ i.after = 0) :
    step s i = storeStep s { i with stop := i.start + min cs.length ((i.stop - i.start + w - 1) / w) * w } := by
  unfold step storeStep store storeStr
  simp [hv, hb]

theorem pre_zero {pre : List Init} {i : Init} (hs : ∀ p ∈ pre, p.hi ≤ i.lo) (j : Nat) (hj : i.lo ≤ 8 * j) :
    cellFold pre j (.byte 0) = .byte 0 := by
  apply cellFold_untouched
  intro p hp
  have := hs p hp
  unfold touches; omega

section
variable {size : Nat} {pre : List Init} {s : ASt} {i : Init} (h : Inv size pre s)
  (hs : ∀ p ∈ pre, p.hi ≤ i.lo)
include h hs

theorem storeStep_inv (hbv : ByteVal i) (hle : i.lo ≤ i.hi) (hsz : i.stop ≤ size) :
    Inv size (pre ++ [i]) (storeStep s i) := by
  have hhi : i.hi = i.stop * 8 - i.after := rfl
  have hsnoc : ∀ j, cellFold (pre ++ [i]) j (.byte 0) = writeCell i j (cellFold pre j (.byte 0)) :=
    fun j => cellFold_append ..
  unfold storeStep
  rw [store_eq_write hbv]
  refine ⟨?_, Nat.max_le.2 ⟨h.mx, hsz⟩, Nat.le_max_right .., fun j hj => ?_, fun j hj => ?_⟩
  · unfold Image.write; split <;> simp [length_zero, h.len]
  · -- the byte before the store: zeroed, or what it was
    have hjs : j < s.mem.length := by rw [h.len]; exact Nat.lt_of_lt_of_le hj (Nat.max_le.2 ⟨h.mx, hsz⟩)
    have hmem : (if s.offset < i.stop ∧ (i.before ≠ 0 ∨ i.after ≠ 0) then zero (zero s.mem s.offset i.start) s.offset i.stop
        else zero s.mem s.offset i.start)[j]? = some (if (s.offset ≤ j ∧ j < i.start) ∨
          ((s.offset < i.stop ∧ (i.before ≠ 0 ∨ i.after ≠ 0)) ∧ s.offset ≤ j ∧ j < i.stop) then Cell.byte 0 else s.mem[j]) := by
      split
      · rename_i hz
        rw [getElem?_zero, getElem?_zero, List.getElem?_eq_getElem hjs]
        by_cases h1 : s.offset ≤ j ∧ j < i.start <;> simp [hz, h1]
      · rename_i hz
        rw [getElem?_zero, List.getElem?_eq_getElem hjs]
        simp [hz]
    show (Image.write _ i)[j]? = _
    unfold Image.write
    rw [List.getElem?_mapIdx, hmem, Option.map_some, hsnoc]
    refine congrArg some ?_
    split
    · rw [h.zer j (by omega)]
    · rename_i hZ
      by_cases hjm : j < s.max
      · have := h.val j hjm
        rw [List.getElem?_eq_getElem hjs] at this
        rw [Option.some.inj this]
      · -- a byte above the old `max` that is not zeroed is overwritten whole
        have hom := h.om
        have hj' : j < max s.max i.stop := hj
        have hal : i.before = 0 ∧ i.after = 0 := by omega
        rw [writeCell_aligned hal, writeCell_aligned hal, if_pos (by omega), if_pos (by omega)]
  · have hj' : i.stop ≤ j := hj
    rw [hsnoc, writeCell_of_not_touches (by unfold touches; omega)]
    exact pre_zero hs j (by omega)

theorem step_inv (hw : Wf size i) : Inv size (pre ++ [i]) (step s i) := by
  have hne := hw.ne
  have hsz := hw.inside
  cases hv : i.val with
  | str w cs =>
    have hsh := hw.shape
    rw [hv] at hsh
    obtain ⟨hb, ha, hw3, hmod⟩ := hsh
    have hwpos : 0 < w := by omega
    obtain ⟨hr1, hr2⟩ := div_round hwpos hmod
    have hlo : i.lo = 8 * i.start := by unfold Init.lo; omega
    have hhi : i.hi = 8 * i.stop := by unfold Init.hi; omega
    rw [step_str hv ⟨hb, ha⟩, hr1]
    -- `n` elements are stored; what is left of the array lies behind the literal
    have hnw : min cs.length ((i.stop - i.start) / w) * w ≤ i.stop - i.start :=
      Nat.le_trans (Nat.mul_le_mul_right w (Nat.min_le_right ..)) (Nat.le_of_eq hr2)
    have htail : ∀ j, i.start + min cs.length ((i.stop - i.start) / w) * w ≤ j → j < i.stop →
        valCell (.str w cs) (j - i.start) = .byte 0 := by
      intro j h1 h2
      refine str_zero_tail ((Nat.le_div_iff_mul_le hwpos).2 ?_)
      rcases Nat.le_total cs.length ((i.stop - i.start) / w) with hle | hle
      · rw [Nat.min_eq_left hle] at h1; omega
      · rw [Nat.min_eq_right hle, hr2] at h1; omega
    generalize min cs.length ((i.stop - i.start) / w) = n at hnw htail ⊢
    have := storeStep_inv h (i := { i with stop := i.start + n * w }) hs (by unfold ByteVal; rw [hv]; exact ⟨hb, ha⟩)
      (by unfold Init.lo Init.hi; simp only []; omega) (by simp only []; omega)
    -- the stored part and the whole array write the same cells: behind the literal both leave zero
    refine this.congr fun j => ?_
    rw [cellFold_append, cellFold_append, cellFold_cons, cellFold_cons, cellFold_nil, cellFold_nil,
      writeCell_aligned ⟨hb, ha⟩, writeCell_aligned (i := { i with stop := i.start + n * w }) ⟨hb, ha⟩, hv]
    by_cases h1 : i.start ≤ j ∧ j < i.start + n * w
    · rw [if_pos h1, if_pos (by omega)]
    · rw [if_neg h1]
      split
      · rw [htail j (by omega) (by omega), pre_zero hs j (by omega)]
      · rfl
  | _ =>
    rw [step_nonstr (by intro w cs; rw [hv]; simp)]
    exact storeStep_inv h hs hw.byteVal (Nat.le_of_lt hne) hsz

end

theorem fold_inv {size : Nat} : ∀ (l pre : List Init) (s : ASt), Inv size pre s →
    (pre ++ l).Pairwise (fun a b => a.hi ≤ b.lo) → (∀ i ∈ l, Wf size i) → Inv size (pre ++ l) (l.foldl step s) := by
  intro l
  induction l with
  | nil => intro pre s h _ _; simpa using h
  | cons i l ih =>
    intro pre s h hp hw
    have := ih (pre ++ [i]) (step s i)
      (step_inv h (fun p hp' => (List.pairwise_append.1 hp).2.2 p hp' i List.mem_cons_self) (hw i List.mem_cons_self))
      (by rw [List.append_assoc]; exact hp) (fun x hx => hw x (List.mem_cons_of_mem _ hx))
    rwa [List.append_assoc] at this

theorem funcinit_image {size : Nat} {l : List Init} {garb : Mem} (hlen : garb.length = size)
    (hs : l.Pairwise (fun a b => a.hi ≤ b.lo)) (hw : ∀ i ∈ l, Wf size i) : funcinit size garb l = image size l := by
  have h := fold_inv l [] { mem := garb }
    ⟨hlen, Nat.zero_le _, Nat.le_refl _, fun j hj => (by cases hj), fun j _ => rfl⟩ (by simpa using hs) hw
  rw [List.nil_append] at h
  unfold funcinit
  apply eq_image_of_cells (by rw [length_zero]; exact h.len)
  intro j hj
  rw [getElem?_zero, List.getElem?_eq_getElem (by rw [h.len]; exact hj), cellAt_eq, Option.map_some]
  split
  · rw [h.zer j (by have := h.om; omega)]
  · have := h.val j (by omega)
    rwa [List.getElem?_eq_getElem (by rw [h.len]; exact hj)] at this

end CprocVerif.InitAuto
