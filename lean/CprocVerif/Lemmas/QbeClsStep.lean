import CprocVerif.Lemmas.QbeClsCall

/-!
  C03, classes: the invariant of machine states (`StackT`), its preservation by `step`, and progress:
  a step of a well-formed program from a typed state never ends in a class mismatch, except possibly
  at an INDIRECT call (the callee is a computed address: QBE IL has no function types, so no static
  validator can compare that call with the signature of the function it reaches).
-/

namespace CprocVerif.C03.Cls
open CprocVerif.Qbe

/-- The assumption on external functions (everything `wf` cannot know about them), per call
    instruction that can reach an external function `name` (a direct call names it; an indirect call
    may reach any): on arguments whose kinds fit the types written at the call, `ext` raises no class
    error of its own, and a named result is not an aggregate and can be read at its class. -/
def ExtOkP (p : Prog) (fs : List Func) (ext : Ext) : Prop :=
  ∀ f ∈ fs, ∀ b ∈ f.blocks.toList, ∀ (res : Option (String × Ty)) (cv : Val)
    (args : List (Ty × Val)) (va : Option Nat), Ins.call res cv args va ∈ b.ins.toList →
  ∀ (name : String) (avs : List RVal) (mem : Mem),
    (∀ n th, cv = .glob n th → n = name) → p.funcs[name]? = none →
    avs.length = args.length → (∀ a ∈ zipTys args avs, kindOk a.1.cls a.2.kind = true) →
    match ext name avs mem with
    | none => True
    | some (.error e) => ¬ ClsErr e
    | some (.ok r) => ∀ x ty, res = some (x, ty) →
        (∀ t, ty ≠ .agg t) ∧ kindOk ty.cls r.ret.kind = true

structure Ctx (p : Prog) (fs : List Func) (sigs : SigMap) : Prop where
  cls : ∀ f ∈ fs, FuncCls sigs f
  funcs : ∀ (name : String) (fi : FuncInfo), p.funcs[name]? = some fi → fi.f ∈ fs ∧ sigs[name]? = some fi.f.sig

structure FrameT (fs : List Func) (fr : Frame) : Prop where
  mem : fr.fi.f ∈ fs
  env : EnvTyped (tcOf fr.fi.f) fr.env

/-- `callee` was entered from the call instruction at which `caller` stands. -/
def CallLink (sigs : SigMap) (callee caller : Frame) : Prop :=
  ∃ res cv args va, caller.curIns = some (.call res cv args va) ∧
    ∀ n th, cv = .glob n th → sigs[n]? = some callee.fi.f.sig

def StackT (fs : List Func) (sigs : SigMap) : List Frame → Prop
  | [] => True
  | [fr] => FrameT fs fr
  | fr :: caller :: rest => FrameT fs fr ∧ CallLink sigs fr caller ∧ StackT fs sigs (caller :: rest)

variable {p : Prog} {ext : Ext} {fs : List Func} {sigs : SigMap} {fr : Frame} {rest : List Frame}

theorem StackT.head (h : StackT fs sigs (fr :: rest)) : FrameT fs fr := by
  cases rest with
  | nil => exact h
  | cons c r => exact h.1

theorem StackT.tail (h : StackT fs sigs (fr :: rest)) : StackT fs sigs rest := by
  cases rest with
  | nil => trivial
  | cons c r => exact h.2.2

theorem StackT.all {frames : List Frame}
    (h : StackT fs sigs frames) : ∀ fr ∈ frames, FrameT fs fr := by
  induction frames with
  | nil => exact fun _ h => nomatch h
  | cons fr rest ih => exact List.forall_mem_cons.2 ⟨h.head, ih h.tail⟩

theorem StackT.replace {fs : List Func} {sigs : SigMap} {fr fr' : Frame} {rest : List Frame}
    (h : StackT fs sigs (fr :: rest)) (hfi : fr'.fi = fr.fi) (ht : FrameT fs fr') :
    StackT fs sigs (fr' :: rest) := by
  cases rest with
  | nil => exact ht
  | cons c r =>
    refine ⟨ht, ?_, h.2.2⟩
    obtain ⟨res, cv, args, va, h1, h2⟩ := h.2.1
    exact ⟨res, cv, args, va, h1, by rw [hfi]; exact h2⟩

def AtIndirectCall (fr : Frame) : Prop :=
  ∃ res cv args va, fr.curIns = some (.call res cv args va) ∧ ∀ n th, cv ≠ .glob n th

/-- `take 2`: the top frame is about to execute an indirect call, or is returning to one. -/
def IndirectSite (s : State) : Prop := ∃ fr ∈ s.frames.take 2, AtIndirectCall fr

def Excused (s : State) (e : End) : Prop := ClassStuck e → IndirectSite s

def StepT (fs : List Func) (sigs : SigMap) (s : State) : Step → Prop
  | .next s' => StackT fs sigs s'.frames
  | .done e _ => Excused s e

theorem StepT.done {s : State} {e : End} {t : Array String}
    (h : ¬ ClassStuck e) : StepT fs sigs s (.done e t) := fun hc => absurd hc h

section
variable {s : State} {t : Array String} {α : Type} {x : Except OpErr α} {e : OpErr}

theorem StepT.done_safe {P : α → Prop} (hx : Safe P x) (he : x = .error e) :
    StepT fs sigs s (.done e.toEnd t) :=
  .done (not_classStuck_of_not_clsErr (hx.error he))

theorem StepT.done_at_call {fr' : Frame} {res : Option (String × Ty)} {cv : Val}
    {args : List (Ty × Val)} {va : Option Nat} (hmem : fr' ∈ s.frames.take 2)
    (hcur : fr'.curIns = some (.call res cv args va)) (he : x = .error e)
    (hx : ∀ n th, cv = .glob n th → Safe (fun _ => True) x) :
    StepT fs sigs s (.done e.toEnd t) := by
  intro hstuck
  rcases Classical.em (∃ n th, cv = .glob n th) with ⟨n, th, hg⟩ | hg
  · exact absurd (classStuck_toEnd hstuck) ((hx n th hg).error he)
  · exact ⟨fr', hmem, res, cv, args, va, hcur, fun n th hcv => hg ⟨n, th, hcv⟩⟩

end

variable {mem : Mem} {trace : Array String}

theorem gotoBlock_typed {cur : Block} {j : Nat} {s : State}
    (hc : Ctx p fs sigs) (hs : StackT fs sigs (fr :: rest)) :
    StepT fs sigs s (gotoBlock p fr rest mem trace cur j) := by
  have hfr := hs.head
  have hcls := hc.cls _ hfr.mem
  unfold gotoBlock
  split
  · exact .done (not_classStuck_stuck nofun)
  · rename_i tb htb
    have hph := evalPhis_typed (p := p) hfr.env (blk := tb.label) (pred := cur.label)
      (phis := tb.phis) (hcls.block j tb htb).phis
    split
    · rename_i e he
      rw [he] at hph
      exact .done hph
    · rename_i bs hbs
      rw [hbs] at hph
      refine hs.replace rfl ⟨hfr.mem, bindAll_typed hfr.env fun b hb c hc => ?_⟩
      obtain ⟨ph, hm, h1, h2⟩ := hph b hb
      rw [h1, tcOf_lookup hcls.nodup (allDefs_phi htb hm)] at hc
      exact .inl (Option.some.inj hc ▸ h2)

theorem stepRet_typed {v : Option RVal}
    (hc : Ctx p fs sigs) (hs : StackT fs sigs (fr :: rest))
    (hv : ∀ rv, v = some rv → ∃ t, fr.fi.f.ret = some t ∧ kindOk t.cls rv.kind = true) :
    StepT fs sigs ⟨fr :: rest, mem, trace⟩ (stepRet p fr rest mem trace v) := by
  unfold stepRet
  split
  · rename_i e he
    exact .done_safe (retValue_safe hv) he
  · rename_i rv hrv
    dsimp only
    split
    · exact .done (not_classStuck_ret _)
    · rename_i caller rest'
      have hcaller : FrameT fs caller := hs.tail.head
      have hccls := hc.cls _ hcaller.mem
      obtain ⟨res, cv, args, va, hcur, hlink⟩ := hs.2.1
      rw [hcur]
      obtain ⟨b, hb, hi⟩ := curIns_some.1 hcur
      have hfacts : CallFacts sigs (tcOf caller.fi.f) res cv args va :=
        (hccls.block _ b hb).ins _ (mem_toList_of_getElem? hi)
      dsimp only
      split
      · rename_i e he
        refine .done_at_call (fr' := caller) (by simp) hcur he fun n th hg => ?_
        have hres := (hfacts.direct n th _ hg (hlink n th hg)).2.2.2.2
        exact bindCallRes_safe fun x ty hx =>
          have ⟨rt, hrt, hag⟩ := hres x ty hx
          retValue_typed hrv hrt hag
      · rename_i env' mem' hbind
        refine hs.tail.replace rfl ⟨hcaller.mem, bindCallRes_typed hcaller.env ?_ hbind⟩
        rintro x ty rfl
        exact tcOf_lookup hccls.nodup (allDefs_call hb hi)

theorem stepTerm_typed {b : Block}
    (hc : Ctx p fs sigs) (hs : StackT fs sigs (fr :: rest))
    (hb : fr.fi.f.blocks[fr.bi]? = some b) :
    StepT fs sigs ⟨fr :: rest, mem, trace⟩ (stepTerm p fr rest mem trace b) := by
  have hfr := hs.head
  have hterm := ((hc.cls _ hfr.mem).block _ b hb).term
  unfold stepTerm
  split
  · exact gotoBlock_typed hc hs
  · split
    · exact .done (not_classStuck_stuck nofun)
    · exact gotoBlock_typed hc hs
  · rename_i v a z hj
    have hjf : argOk (tcOf fr.fi.f) .w v = true := hterm _ hj
    split
    · rename_i r hr
      exact .done (not_classStuck_readVal hr)
    · rename_i c hcv
      split
      · rename_i e he
        exact .done_safe (safe_asW (readVal_kind hfr.env hjf hcv)) he
      · dsimp only
        split
        · exact .done (not_classStuck_stuck nofun)
        · exact gotoBlock_typed hc hs
  · exact stepRet_typed hc hs nofun
  · rename_i v hj
    obtain ⟨t, hret, hjf⟩ : ∃ t, fr.fi.f.ret = some t ∧ argOk (tcOf fr.fi.f) t.cls v = true :=
      hterm _ hj
    split
    · rename_i r hr
      exact .done (not_classStuck_readVal hr)
    · rename_i rv hrv
      refine stepRet_typed hc hs ?_
      rintro _ ⟨⟩
      exact ⟨t, hret, readVal_kind hfr.env hjf hrv⟩
  · exact .done (not_classStuck_trap _)

theorem calleeName_safe {cv : Val} {v : RVal} (h : kindOk .l v.kind = true) :
    Safe (fun _ => True) (calleeName p cv v) := by
  unfold calleeName
  split
  · trivial
  · split
    · rename_i e he
      exact (safe_asL h).error he
    · split
      · trivial
      · exact not_cls_trap _

theorem CallFacts.tyArgs {tc : ClsMap} {res : Option (String × Ty)} {n : String}
    {th : Bool} {args : List (Ty × Val)} {va : Option Nat}
    (h : CallFacts sigs tc res (.glob n th) args va) {f : Func} (hsg : sigs[n]? = some f.sig)
    {targs : List (Ty × RVal)} (htys : targs.map (·.1) = args.map (·.1))
    (hk : ∀ a ∈ targs, kindOk a.1.cls a.2.kind = true) : TyArgs f va targs := by
  obtain ⟨d1, d2, d3, d4, _⟩ := h.direct n th _ rfl hsg
  have hl : targs.length = args.length := by
    rw [← List.length_map (f := (·.1)), htys, List.length_map]
  have hp : f.sig.params.length = f.params.length := List.length_map _
  exact ⟨hl ▸ hp ▸ d1, fun hv => hl ▸ hp ▸ d2 hv, htys ▸ d3, fun i hi => hp ▸ d4 i hi, hk⟩

theorem stepIns_typed {b : Block} {ins : Ins}
    (hc : Ctx p fs sigs) (hext : ExtOkP p fs ext) (hs : StackT fs sigs (fr :: rest))
    (hb : fr.fi.f.blocks[fr.bi]? = some b) (hi : b.ins[fr.ii]? = some ins) :
    StepT fs sigs ⟨fr :: rest, mem, trace⟩ (stepIns p ext fr rest mem trace ins) := by
  have hfr := hs.head
  have hcls := hc.cls _ hfr.mem
  have hfacts := (hcls.block _ b hb).ins ins (mem_toList_of_getElem? hi)
  have hcur := curIns_some.2 ⟨b, hb, hi⟩
  cases ins with
  | op res o args =>
    obtain ⟨ks, hsig, hargs⟩ := hfacts
    simp only [stepIns]
    split
    · rename_i r hr
      exact .done (not_classStuck_readVals hr)
    · rename_i vs hvs
      have hsafe := safe_execOp (mem := mem) (va := fr.va) hsig (readVals_kinds hfr.env hargs hvs)
      split
      · rename_i e he
        exact .done_safe hsafe he
      · rename_i v mem' he
        rw [he] at hsafe
        refine hs.replace rfl ⟨hfr.mem, ?_⟩
        cases res with
        | none => exact hfr.env
        | some r =>
          refine envTyped_insert hfr.env fun c hcx => ?_
          rw [tcOf_lookup hcls.nodup (allDefs_op hb hi)] at hcx
          cases hcx
          exact Or.inl (hsafe r.2 rfl)
  | call res cv args va =>
    have hcf : CallFacts sigs (tcOf fr.fi.f) res cv args va := hfacts
    simp only [stepIns]
    split
    · rename_i r hr
      exact .done (not_classStuck_readVals hr)
    · exact .done (not_classStuck_other (by decide))
    · rename_i cvv avs hrd
      obtain ⟨_, _, h, hrcv, hravs⟩ := readVals_cons_ok hrd
      cases h
      obtain ⟨hlen, hztys, hzk⟩ := zipTys_typed hfr.env hcf.argsCls hravs
      split
      · rename_i e he
        exact .done_safe (calleeName_safe (readVal_kind hfr.env hcf.calleeOk hrcv)) he
      · rename_i name hname
        have hglob : ∀ n th, cv = .glob n th → n = name := by
          rintro n th rfl
          cases hname
          rfl
        split
        · rename_i fi hfi
          obtain ⟨hfimem, hsg⟩ := hc.funcs name fi hfi
          split
          · rename_i e he
            refine .done_at_call (fr' := fr) (by simp) hcur he fun n th hg => ?_
            subst hg
            cases hglob n th rfl
            exact enterFunc_safe (hcf.tyArgs hsg hztys hzk)
          · rename_i nf mem' henter
            obtain ⟨hnfi, _, _, hnenv⟩ := enterFunc_typed (hc.cls _ hfimem).nodup henter
            refine ⟨⟨hnfi ▸ hfimem, hnfi ▸ hnenv⟩, ⟨res, cv, args, va, hcur, ?_⟩, hs⟩
            rintro n th rfl
            cases hglob n th rfl
            exact hnfi ▸ hsg
        · rename_i hnone
          have hex := hext _ hfr.mem b (mem_toList_of_getElem? hb) res cv args va
            (mem_toList_of_getElem? hi) name avs mem hglob hnone hlen hzk
          split
          · exact .done (not_classStuck_unknownExtern _)
          · rename_i e he
            rw [he] at hex
            exact .done (not_classStuck_of_not_clsErr hex)
          · rename_i r hr
            rw [hr] at hex
            split
            · rename_i e he
              exact .done_safe (bindCallRes_safe (rv := .scalar r.ret) hex) he
            · rename_i env' mem' hbind
              refine hs.replace rfl ⟨hfr.mem, bindCallRes_typed hfr.env ?_ hbind⟩
              rintro x ty rfl
              exact tcOf_lookup hcls.nodup (allDefs_call hb hi)

theorem step_typed {s : State}
    (hc : Ctx p fs sigs) (hext : ExtOkP p fs ext) (hs : StackT fs sigs s.frames) :
    StepT fs sigs s (step p ext s) := by
  obtain ⟨frames, mem, trace⟩ := s
  cases frames with
  | nil => exact .done (not_classStuck_other (by decide))
  | cons fr rest =>
    simp only [step]
    split
    · exact .done (not_classStuck_stuck nofun)
    · rename_i b hb
      split
      · rename_i ins hi
        exact stepIns_typed hc hext hs hb hi
      · exact stepTerm_typed hc hs hb

theorem lastState_typed (hc : Ctx p fs sigs) (hext : ExtOkP p fs ext) (fuel : Nat) {s : State}
    (hs : StackT fs sigs s.frames) : StackT fs sigs (lastState p ext fuel s).frames :=
  (run_inv (Q := Excused)
    (fun _ hs => step_typed hc hext hs) fuel hs).1

theorem run_typed (hc : Ctx p fs sigs) (hext : ExtOkP p fs ext) (fuel : Nat) {s : State}
    (hs : StackT fs sigs s.frames) (h : ClassStuck (run p ext fuel s).end) :
    IndirectSite (lastState p ext fuel s) :=
  (run_inv (Q := Excused)
    (fun _ hs => step_typed hc hext hs) fuel hs).2.elim
    (fun hf => absurd (hf ▸ h) not_classStuck_fuel) (· h)

def DirectCallsL (fs : List Func) : Prop :=
  ∀ f ∈ fs, ∀ b ∈ f.blocks.toList, ∀ (res : Option (String × Ty)) (cv : Val)
    (args : List (Ty × Val)) (va : Option Nat), Ins.call res cv args va ∈ b.ins.toList →
    ∃ n th, cv = .glob n th

theorem no_indirectSite {s : State} (hd : DirectCallsL fs)
    (hs : StackT fs sigs s.frames) : ¬ IndirectSite s := by
  rintro ⟨fr, hfr, res, cv, args, va, hcur, hng⟩
  have hft := hs.all fr (List.mem_of_mem_take hfr)
  obtain ⟨b, hb, hi⟩ := curIns_some.1 hcur
  obtain ⟨n, th, hg⟩ := hd _ hft.mem b (mem_toList_of_getElem? hb) res cv args va
    (mem_toList_of_getElem? hi)
  exact hng n th hg

/-- For the arguments given to `runFunc`: `TyArgs` without `marker`, because `initState` supplies the
    marker itself, at the right position. -/
structure ArgsOk (f : Func) (args : List (Ty × RVal)) : Prop where
  len : f.params.length ≤ args.length
  nonvar : f.variadic = false → args.length = f.params.length
  tys : tysAgree (args.map (·.1)) (f.params.map (·.1)) = true
  kinds : ∀ a ∈ args, kindOk a.1.cls a.2.kind = true

theorem initState_typed (hc : Ctx p fs sigs)
    {name : String} {args : List (Ty × RVal)}
    (hargs : ∀ fi, p.funcs[name]? = some fi → ArgsOk fi.f args) :
    (∀ s, initState p name args = .ok s → StackT fs sigs s.frames) ∧
    (∀ e, initState p name args = .error e → ¬ ClassStuck e) := by
  unfold initState
  cases hfi : p.funcs[name]? with
  | none =>
    refine ⟨fun s h => (by cases h), fun e h => ?_⟩
    cases h
    exact not_classStuck_noFunc _
  | some fi =>
    have ha := hargs fi hfi
    have hfimem := (hc.funcs name fi hfi).1
    have hta : TyArgs fi.f (if fi.f.variadic then some fi.f.params.length else none) args := by
      refine ⟨ha.len, ha.nonvar, ha.tys, fun i hi => ?_, ha.kinds⟩
      split at hi <;> cases hi
      exact ⟨‹_›, rfl⟩
    have hsafe := enterFunc_safe (p := p) (mem := p.initMem) hta
    dsimp only
    cases henter : enterFunc p fi args (if fi.f.variadic then some fi.f.params.length else none)
        p.initMem with
    | error e =>
      refine ⟨fun s h => (by cases h), fun e' h => ?_⟩
      cases h
      exact not_classStuck_of_not_clsErr (hsafe.error henter)
    | ok r =>
      obtain ⟨hnfi, _, _, hnenv⟩ := enterFunc_typed (hc.cls _ hfimem).nodup henter
      refine ⟨fun s h => ?_, fun e h => by cases h⟩
      cases h
      exact ⟨hnfi ▸ hfimem, hnfi ▸ hnenv⟩

end CprocVerif.C03.Cls
