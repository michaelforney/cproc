import CprocVerif.Model.Accept
import CprocVerif.Lemmas.Tree

/-! `switchCases` accepts exactly the duplicate-free (after conversion) lists of case constants. -/

namespace CprocVerif.Accept
open CprocVerif.Tree CprocVerif.Tree.T

theorem switchCases_iff (size : Nat) (s : Bool) : ∀ (cs : List Nat) (t : T), Bst t →
    ((switchCases size s t cs).isSome = true ↔
      (cs.map (caseKey size s)).Nodup ∧ ∀ c ∈ cs, caseKey size s c ∉ toList t)
  | [], t, _ => by simp [switchCases]
  | c :: cs, t, hb => by
    have ih := switchCases_iff size s cs _ (ins_bst (caseKey size s c) t hb)
    simp only [switchCases, ins_new _ t hb, List.map_cons, List.nodup_cons, List.mem_map, List.mem_cons,
      forall_eq_or_imp]
    by_cases hc : caseKey size s c ∈ toList t
    · simp only [hc, not_true, if_false, Option.isSome_none, Bool.false_eq_true, false_and, and_false]
    · simp only [hc, not_false_eq_true, if_true, ih, mem_ins, not_or, forall_and, true_and, not_exists, not_and]
      exact ⟨fun ⟨nd, ne, old⟩ => ⟨⟨ne, nd⟩, old⟩, fun ⟨⟨ne, nd⟩, old⟩ => ⟨nd, ne, old⟩⟩

theorem nodup_map_congr {α β γ : Type} (f : α → β) (g : α → γ) (h : ∀ a b, f a = f b ↔ g a = g b) (l : List α) :
    (l.map f).Nodup ↔ (l.map g).Nodup := by
  simp only [List.Nodup, List.pairwise_map]
  exact List.Pairwise.iff fun a b => not_congr (h a b)

end CprocVerif.Accept
