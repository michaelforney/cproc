/-
  C01, fragment 𝔽₂ — the output of `Lower2.funcexpr3` (expressions with array reads and calls) and of
  `Lower2.funcexpr2` (the pure ones, with a slot map) is `Good` in the sense of `Lemmas/LowerStruct.lean`.
  The two branching shapes (`&&`/`||` and `?:`) are named with their parts as parameters.  `Expr3` repeats the
  operators of `Expr` and has the pure trees as leaves; `Expr3.flatInduction` pushes `.pure` through the shared
  operators, so that a statement proved for `funcexpr3` by it holds for `funcexpr2` as its case `.pure e`.
-/
import CprocVerif.Lemmas.LowerStruct
import CprocVerif.Model.Lower2

namespace CprocVerif.LowerMach2
open CprocVerif.Qbe CprocVerif.Lower CprocVerif.Lower2 CprocVerif.CSem CprocVerif.CSem2 CprocVerif.CInt
open CprocVerif.LowerMach

/-- `l && r` / `l || r` assembled from its parts: left operand, the value branched on, right operand, its
    conversion to `_Bool`. -/
def logicOut (isOr : Bool) (ol oj or ov : Out) : Out :=
  ⟨ol.items ++ oj.items ++
    [.lbl (some (if isOr = true
        then Jump.jnz oj.val (lblName "logic_join" (ol.ctx.blockid + 2)) (lblName "logic_right" (ol.ctx.blockid + 1))
        else Jump.jnz oj.val (lblName "logic_right" (ol.ctx.blockid + 1)) (lblName "logic_join" (ol.ctx.blockid + 2))))
      (lblName "logic_right" (ol.ctx.blockid + 1)) []] ++ or.items ++ ov.items ++
    [.lbl none (lblName "logic_join" (ol.ctx.blockid + 2))
      [⟨tmpName (ov.ctx.lastid + 1), .w,
        [(oj.ctx.cur, .int (if isOr = true then 1 else 0)), (ov.ctx.cur, ov.val)]⟩]],
   .tmp (tmpName (ov.ctx.lastid + 1)),
   ⟨ov.ctx.lastid + 1, ov.ctx.blockid, lblName "logic_join" (ol.ctx.blockid + 2)⟩⟩

def logicOf (cs : Bool) (isOr : Bool) (lty rty : CSem.Ty) (ol : Out) (R : Ctx → Out) : Out :=
  let oj := jnzArg cs ⟨ol.ctx.lastid, ol.ctx.blockid + 2, ol.ctx.cur⟩ lty ol.val
  let or := R ⟨oj.ctx.lastid, oj.ctx.blockid, lblName "logic_right" (ol.ctx.blockid + 1)⟩
  logicOut isOr ol oj or (convert cs or.ctx .bool rty or.val)

/-- `e ? a : b` (result class `k`) lowered from the context `c`, assembled from its parts. -/
def condOut (k : Cls) (c : Ctx) (oc oj oa ob : Out) : Out :=
  ⟨oc.items ++ oj.items ++
    [.lbl (some (.jnz oj.val (lblName "cond_true" (c.blockid + 1)) (lblName "cond_false" (c.blockid + 2))))
      (lblName "cond_true" (c.blockid + 1)) []] ++ oa.items ++
    [.lbl (some (.jmp (lblName "cond_join" (c.blockid + 3)))) (lblName "cond_false" (c.blockid + 2)) []] ++
    ob.items ++
    [.lbl none (lblName "cond_join" (c.blockid + 3))
      [⟨tmpName (ob.ctx.lastid + 1), k, [(oa.ctx.cur, oa.val), (ob.ctx.cur, ob.val)]⟩]],
   .tmp (tmpName (ob.ctx.lastid + 1)),
   ⟨ob.ctx.lastid + 1, ob.ctx.blockid, lblName "cond_join" (c.blockid + 3)⟩⟩

def condOf (cs : Bool) (k : Cls) (ety : CSem.Ty) (c : Ctx) (E A B : Ctx → Out) : Out :=
  let oc := E ⟨c.lastid, c.blockid + 3, c.cur⟩
  let oj := jnzArg cs oc.ctx ety oc.val
  let oa := A ⟨oj.ctx.lastid, oj.ctx.blockid, lblName "cond_true" (c.blockid + 1)⟩
  condOut k c oc oj oa (B ⟨oa.ctx.lastid, oa.ctx.blockid, lblName "cond_false" (c.blockid + 2)⟩)

theorem good_logicOut {c : Ctx} {isOr : Bool} {ol oj or ov : Out} (gl : Good c ol)
    (sj : Straight ⟨ol.ctx.lastid, ol.ctx.blockid + 2, ol.ctx.cur⟩ oj)
    (gr : Good ⟨oj.ctx.lastid, oj.ctx.blockid, lblName "logic_right" (ol.ctx.blockid + 1)⟩ or)
    (sv : Straight or.ctx ov) : Good c (logicOut isOr ol oj or ov) :=
  Emits.good (o := logicOut isOr ol oj or ov)
    (((((((gl.emits.mkblock 2).andThen sj.emits).lbl _ "logic_right" (ol.ctx.blockid + 1) [] (by simp)).andThen
      gr.emits).andThen sv.emits).lbl none "logic_join" (ol.ctx.blockid + 2) _ (by simp)).tmp 1).close
    (Or.inr ⟨_, Nat.le_refl _, rfl⟩)

theorem good_logicOf (cs : Bool) (isOr : Bool) (lty rty : CSem.Ty) {c : Ctx} {ol : Out} {R : Ctx → Out}
    (gl : Good c ol) (gR : ∀ c', Good c' (R c')) : Good c (logicOf cs isOr lty rty ol R) :=
  good_logicOut gl (jnzArg_straight _ _ _ _) (gR _) (convert_straight _ _ _ _ _)

theorem good_condOut {k : Cls} {c : Ctx} {oc oj oa ob : Out} (ge : Good ⟨c.lastid, c.blockid + 3, c.cur⟩ oc)
    (sj : Straight oc.ctx oj)
    (ga : Good ⟨oj.ctx.lastid, oj.ctx.blockid, lblName "cond_true" (c.blockid + 1)⟩ oa)
    (gb : Good ⟨oa.ctx.lastid, oa.ctx.blockid, lblName "cond_false" (c.blockid + 2)⟩ ob) :
    Good c (condOut k c oc oj oa ob) :=
  Emits.good (o := condOut k c oc oj oa ob)
    ((((((((((Emits.nil c).mkblock 3).andThen ge.emits).andThen sj.emits).lbl _ "cond_true" (c.blockid + 1) []
      (by simp)).andThen ga.emits).lbl _ "cond_false" (c.blockid + 2) [] (by simp)).andThen gb.emits).lbl none
      "cond_join" (c.blockid + 3) _ (by simp)).tmp 1).close
    (Or.inr ⟨_, Nat.le_refl _, rfl⟩)

theorem good_condOf (cs : Bool) (k : Cls) (ety : CSem.Ty) (c : Ctx) {E A B : Ctx → Out}
    (gE : ∀ c', Good c' (E c')) (gA : ∀ c', Good c' (A c')) (gB : ∀ c', Good c' (B c')) :
    Good c (condOf cs k ety c E A B) :=
  good_condOut (gE _) (jnzArg_straight _ _ _ _) (gA _) (gB _)

/-- The cases `pcast` … `pcond` hold by unfolding for everything defined by recursion over both `Expr` and `Expr3`.
    The array reads and calls may use the statement for every pure tree (their indices and arguments). -/
theorem _root_.CprocVerif.CSem2.Expr3.flatInduction {P : Expr3 → Prop}
    (const : ∀ t u, P (.pure (.const t u))) (param : ∀ t i, P (.pure (.param t i)))
    (idx : (∀ e, P (.pure e)) → ∀ t arr n xb i, P (.idx t arr n xb i))
    (call : (∀ e, P (.pure e)) → ∀ rt fn args, P (.call rt fn args))
    (cast : ∀ t e, P e → P (.cast t e)) (neg : ∀ t e, P e → P (.neg t e))
    (bin : ∀ op t l r, P l → P r → P (.bin op t l r))
    (cond : ∀ t c a b, P c → P a → P b → P (.cond t c a b))
    (comma : ∀ t a b, P a → P b → P (.comma t a b))
    (pcast : ∀ t e, P (.cast t (.pure e)) → P (.pure (.cast t e)))
    (pneg : ∀ t e, P (.neg t (.pure e)) → P (.pure (.neg t e)))
    (pbin : ∀ op t l r, P (.bin op t (.pure l) (.pure r)) → P (.pure (.bin op t l r)))
    (pcond : ∀ t c a b, P (.cond t (.pure c) (.pure a) (.pure b)) → P (.pure (.cond t c a b))) :
    ∀ x, P x := by
  have pure : ∀ e : Expr, P (.pure e) := by
    intro e
    induction e with
    | const t u => exact const t u
    | param t i => exact param t i
    | cast t e ih => exact pcast t e (cast t _ ih)
    | neg t e ih => exact pneg t e (neg t _ ih)
    | bin op t l r ihl ihr => exact pbin op t l r (bin op t _ _ ihl ihr)
    | cond t c a b ihc iha ihb => exact pcond t c a b (cond t _ _ _ ihc iha ihb)
  intro x
  induction x with
  | pure e => exact pure e
  | idx t arr n xb i => exact idx pure t arr n xb i
  | call rt fn args => exact call pure rt fn args
  | cast t e ih => exact cast t e ih
  | neg t e ih => exact neg t e ih
  | bin op t l r ihl ihr => exact bin op t l r ihl ihr
  | cond t c a b ihc iha ihb => exact cond t c a b ihc iha ihb
  | comma t a b iha ihb => exact comma t a b iha ihb

theorem lowerArgs_emits_of {cs : Bool} {σ : List Nat} (hp : ∀ (e : Expr) (c : Ctx), Good c (funcexpr2 cs σ e c))
    (es : List Expr) : ∀ c : Ctx, Emits0 c (lowerArgs cs σ es c).1 (lowerArgs cs σ es c).2.2 := by
  induction es with
  | nil => exact Emits.nil
  | cons e es ih => intro c; exact (hp e c).emits.andThen (ih _)

theorem funcexpr3_logic (cs : Bool) (σ : List Nat) (op : BinOp) (hop : isLogic op = true) (t : CSem.Ty) (l r : Expr3)
    (c : Ctx) :
    funcexpr3 cs σ (.bin op t l r) c =
      logicOf cs (op == .lor) l.ty r.ty (funcexpr3 cs σ l c) (funcexpr3 cs σ r) := by
  simp only [funcexpr3, hop, if_true, logicOf, logicOut]

theorem funcexpr3_arith (cs : Bool) (σ : List Nat) (op : BinOp) (hop : isLogic op = false) (t : CSem.Ty) (l r : Expr3)
    (c : Ctx) :
    funcexpr3 cs σ (.bin op t l r) c =
      ((funcexpr3 cs σ l c).seq (funcexpr3 cs σ r (funcexpr3 cs σ l c).ctx)).seq
        (funcinst (funcexpr3 cs σ r (funcexpr3 cs σ l c).ctx).ctx (binOpOf cs op l.ty) (cls t)
          [(funcexpr3 cs σ l c).val, (funcexpr3 cs σ r (funcexpr3 cs σ l c).ctx).val]) := by
  simp only [funcexpr3, hop, Bool.false_eq_true, if_false]

theorem funcexpr3_good (cs : Bool) (σ : List Nat) (e : Expr3) : ∀ c : Ctx, Good c (funcexpr3 cs σ e c) := by
  induction e using Expr3.flatInduction with
  | const t u => intro c; exact (Straight.refl c _).good (Or.inl ⟨_, rfl⟩)
  | param t i => intro c; exact (funcinst_straight _ _ _ _).good (funcinst_val _ _ _ _)
  | idx hp t arr n xb i =>
    intro c
    exact ((hp (offOf t i) c).seq_straight (funcinst_straight _ _ _ _) (funcinst_val _ _ _ _)).seq_straight
      (funcinst_straight _ _ _ _) (funcinst_val _ _ _ _)
  | call hp rt fn args =>
    intro c
    exact ((lowerArgs_emits_of hp args c).andThen (Emits.ins _ _)).good (o := funcexpr3 cs σ (.call rt fn args) c)
      (Or.inr ⟨_, Nat.le_refl _, rfl⟩)
  | cast t e ih =>
    intro c
    exact (ih c).seq_straight (convert_straight _ _ _ _ _) (convert_val _ _ _ _ _ (ih c).val)
  | neg t e ih =>
    intro c
    exact (ih c).seq_straight (funcinst_straight _ _ _ _) (funcinst_val _ _ _ _)
  | bin op t l r ihl ihr =>
    intro c
    cases hop : isLogic op
    · rw [funcexpr3_arith cs σ op hop]
      exact ((ihl c).seq (ihr _)).seq_straight (funcinst_straight _ _ _ _) (funcinst_val _ _ _ _)
    · rw [funcexpr3_logic cs σ op hop]
      exact good_logicOf cs _ _ _ (ihl c) ihr
  | comma t a b iha ihb =>
    intro c
    exact (iha c).seq (ihb _)
  | cond t e a b ihe iha ihb => intro c; exact good_condOf cs _ _ c ihe iha ihb
  | pcast t e h => exact h
  | pneg t e h => exact h
  | pbin op t l r h => exact h
  | pcond t c a b h => exact h

theorem funcexpr2_good (cs : Bool) (σ : List Nat) (e : Expr) (c : Ctx) : Good c (funcexpr2 cs σ e c) :=
  funcexpr3_good cs σ (.pure e) c

theorem lowerArgs_emits (cs : Bool) (σ : List Nat) (es : List Expr) (c : Ctx) :
    Emits0 c (lowerArgs cs σ es c).1 (lowerArgs cs σ es c).2.2 :=
  lowerArgs_emits_of (funcexpr2_good cs σ) es c

theorem lowerAddr_isGood (cs : Bool) (σ : List Nat) (c : Ctx) (slot : Nat) (t : CSem.Ty) (idx : Expr) :
    Good c (lowerAddr cs σ c slot t idx) :=
  (funcexpr2_good cs σ (offOf t idx) c).seq_straight (funcinst_straight _ _ _ _) (funcinst_val _ _ _ _)

end CprocVerif.LowerMach2
