import CprocVerif.Lemmas.PPSimpleTests

/-! # Executable tests for the class with `#` and macro names in arguments (`tblOKSb`, `argsOKb`, `textPb`), and their soundness -/

namespace CprocVerif.PP
open CprocVerif.Gen.TokenKinds
open CprocVerif.Spec.MacroRef (HTok Item PTok MacroDef RErr Flag Elem expandH hsadd union pendItems lookup
  subst elems paramIndex)
open CprocVerif.Spec

def hashFollowedb (ps : List Param) : List Tok → Bool
  | [] => true
  | [t] => decide (t.kind ≠ .THASH)
  | t :: u :: r =>
    if t.kind = .THASH then (macroparam ps u).isSome && hashFollowedb ps r else hashFollowedb ps (u :: r)

theorem hashFollowed_of_b (ps : List Param) (l : List Tok) (h : hashFollowedb ps l = true) : HashFollowed ps l := by
  fun_induction hashFollowedb ps l with
  | case1 => trivial
  | case2 t => unfold HashFollowed; exact of_decide_eq_true h
  | case3 t u r hh ih =>
    unfold HashFollowed; rw [if_pos hh]
    rw [Bool.and_eq_true] at h
    exact ⟨h.1, ih h.2⟩
  | case4 t u r hh ih => unfold HashFollowed; rw [if_neg hh]; exact ih h

def simpleFunSb (F : Macro) : Bool :=
  F.func && decide (0 < F.params.length) && F.params.all (fun p => !p.fvar) && hashFollowedb F.params F.body &&
  (uses F.params F.body).all (fun x => if x.2 then (F.params.getD x.1 default).fstr else (F.params.getD x.1 default).ftok) &&
  F.params.all (fun p => !(p.ftok && p.fstr))

theorem simpleFunS_of_b {F : Macro} (h : simpleFunSb F = true) : SimpleFunS F := by
  unfold simpleFunSb at h
  simp only [Bool.and_eq_true, List.all_eq_true, decide_eq_true_eq, Bool.not_eq_true'] at h
  obtain ⟨⟨⟨⟨⟨h1, h2⟩, h3⟩, h4⟩, h5⟩, h6⟩ := h
  refine ⟨h1, h2, h3, hashFollowed_of_b _ _ h4, ?_, ?_, ?_⟩
  · intro i hi; have := h5 (i, false) hi; simpa using this
  · intro i hi; have := h5 (i, true) hi; simpa using this
  · intro p hp hh
    have := h6 p hp
    rw [hh.1, hh.2] at this
    cases this

def macOKSb (ms0 : List Macro) (m : Macro) : Bool :=
  !m.body.isEmpty && m.body.all (tokOKb ms0) && (!m.func || simpleFunSb m)

def tblOKSb (ms0 : List Macro) : Bool := decide (ms0.map (·.name)).Nodup && ms0.all (macOKSb ms0)

theorem tblOKS_of_b {ms0 : List Macro} (h : tblOKSb ms0 = true) : TblOKS ms0 := by
  simp only [tblOKSb, Bool.and_eq_true, decide_eq_true_eq, List.all_eq_true] at h
  exact ⟨h.1, fun m hm => (macOK_of_b (h.2 m hm)).1, fun m hm => (macOK_of_b (h.2 m hm)).2.1,
    fun m hm hf => simpleFunS_of_b ((macOK_of_b (h.2 m hm)).2.2 hf)⟩

def argTokOKb (ms0 : List Macro) (t : Tok) : Bool :=
  decide (t.kind ≠ .TNEWLINE) && decide (t.kind ≠ .THASH) && decide (t.kind ≠ .TNONE) && decide (t.kind ≠ .TEOF) &&
  !isFunNameb ms0 t && !t.hide

theorem argTokOK_of_b {ms0 : List Macro} {t : Tok} (h : argTokOKb ms0 t = true) : ArgTokOK ms0 t := by
  unfold argTokOKb at h
  simp only [Bool.and_eq_true, decide_eq_true_eq, Bool.not_eq_true'] at h
  obtain ⟨⟨⟨⟨⟨h1, h2⟩, h3⟩, h4⟩, h5⟩, h6⟩ := h
  refine ⟨h1, h2, h3, h4, ?_, h6⟩
  intro hf
  have := (isFunNameb_iff ms0 t).mpr hf
  rw [h5] at this; cases this

/-- `fuel`: at least the length of `L` plus one -/
def argsOKb (ms0 : List Macro) : Nat → List Tok → List Tok → Bool
  | 0, _, _ => false
  | f + 1, L, rest =>
    if L.length ≤ rest.length then decide (L = rest)
    else match L with
      | [] => false
      | t :: r =>
        if isFunNameb ms0 t then
          match macroget ms0 (t.lit.getD []), r with
          | some FG, lp :: r'' =>
            !t.hide && FG.func && decide (lp.kind = .TLPAREN) && !lp.hide && decide (Spellable t ∧ Spellable lp) &&
            (match collect FG.params 0 0 [] [] r'' with
              | .ok (argsG, rest'') =>
                argsOKb ms0 f r'' rest'' && argsG.all (fun a => !a.isEmpty) && argsOKb ms0 f rest'' rest
              | .error _ => false)
          | _, _ => false
        else argTokOKb ms0 t && decide (Spellable t) && argsOKb ms0 f r rest

theorem argsOK_of_b (ms0 : List Macro) (f : Nat) (L rest : List Tok) (h : argsOKb ms0 f L rest = true) : ArgsOK ms0 L rest := by
  fun_induction argsOKb ms0 f L rest with
  | case1 => cases h
  | case2 f L rest hl => cases of_decide_eq_true h; exact .done _
  | case3 => cases h
  | case4 f rest t hfn FG lp r'' hm hl ih1 ih2 =>
    simp only [Bool.and_eq_true, Bool.not_eq_true', decide_eq_true_eq] at h
    obtain ⟨argsG, rest'', hc, h4⟩ := collectb_ok h.2
    simp only [Bool.and_eq_true, List.all_eq_true, Bool.not_eq_true', List.isEmpty_eq_false_iff] at h4
    exact .call t lp r'' FG argsG rest'' rest ((isFunNameb_iff ms0 t).mp hfn).1 h.1.1.1.1.1 hm h.1.1.1.1.2 h.1.1.1.2 h.1.1.2 hc
      (ih1 _ h4.1.1) h4.1.2 h.1.2 (ih2 _ h4.2)
  | case5 => cases h
  | case6 f rest t r hfn hl ih =>
    simp only [Bool.and_eq_true, decide_eq_true_eq] at h
    exact .tok t r rest (argTokOK_of_b h.1.1) h.1.2 (ih h.2)

/-- `fuel`: at least the length of the text plus one -/
def textPb (ms0 : List Macro) : Nat → List Tok → Bool
  | 0, _ => false
  | _ + 1, [] => true
  | f + 1, t :: r =>
    if isFunNameb ms0 t then
      match macroget ms0 (t.lit.getD []), r with
      | some F, lp :: r' =>
        !t.hide && F.func && decide (lp.kind = .TLPAREN) && !lp.hide &&
        (match collect F.params 0 0 [] [] r' with
          | .ok (args, rest) =>
            argsOKb ms0 (r'.length + 1) r' rest && args.all (fun a => !a.isEmpty) &&
            textPb ms0 f rest
          | .error _ => false)
      | _, _ => false
    else if t.kind = .TEOF then r.isEmpty
    else
      decide (t.kind ≠ .THASH) && decide (t.kind ≠ .TNONE) && decide (t.kind ≠ .TEOF) && !t.hide && textPb ms0 f r

theorem textP_of_b (ms0 : List Macro) (f : Nat) (l : List Tok) (h : textPb ms0 f l = true) : TextP ms0 l := by
  fun_induction textPb ms0 f l with
  | case1 => cases h
  | case2 => exact .nil
  | case3 f t hfn F lp r' hm ih =>
    simp only [Bool.and_eq_true, Bool.not_eq_true', decide_eq_true_eq] at h
    obtain ⟨args, rest, hc, h4⟩ := collectb_ok h.2
    simp only [Bool.and_eq_true, List.all_eq_true, Bool.not_eq_true', List.isEmpty_eq_false_iff] at h4
    exact .call t lp r' F args rest ((isFunNameb_iff ms0 t).mp hfn).1 h.1.1.1.1 hm h.1.1.1.2 h.1.1.2 h.1.2 hc
      (argsOK_of_b ms0 _ _ _ h4.1.1) h4.1.2 (ih rest h4.2)
  | case4 => cases h
  | case5 f t r hfn hke =>
    cases List.isEmpty_iff.mp h
    exact .eof t hke
  | case6 f t r hfn hke ih =>
    simp only [Bool.and_eq_true, Bool.not_eq_true', decide_eq_true_eq] at h
    exact .plain t r (fun hh => hfn ((isFunNameb_iff ms0 t).mpr hh)) h.1.1.1.1 h.1.1.1.2 h.1.1.2 h.1.2 (ih h.2)

end CprocVerif.PP
