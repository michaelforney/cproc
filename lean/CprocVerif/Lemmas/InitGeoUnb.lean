import CprocVerif.Lemmas.InitGeoKeeps
import CprocVerif.Lemmas.InitRefTop

/-!
# Laminarity for arrays of unknown size with scalar elements and a flat initialiser list

`T a[] = { e, [k] = e, e, … }` with a scalar `T`: every logged initialiser is one element of the
array and the size only grows.  With the final size of `q` elements the log is a log of placed
events of the array `T a[q]`, so the geometry of `Lemmas/InitGeoEvents.lean` applies.
-/

namespace CprocVerif.InitSim
open CprocVerif.Init CprocVerif.Image CprocVerif.InitRef

/-- an initialiser for an element of an array of scalars of size `s`, inside the first `top` bytes -/
def ElemAdd (s : Nat) (k : SK) (top : Nat) (ev : Ev) : Prop :=
  ∃ pos v, ev = .add ⟨pos * s, pos * s + s, 0, 0, v⟩ ∧ (pos + 1) * s ≤ top ∧ Shape { ty := .scalar s k } v

theorem ElemAdd.placed {s : Nat} {k : SK} {q : Nat} {ev : Ev} (hs : 0 < s) (h : ElemAdd s k (q * s) ev) :
    PlaceEv { ty := .array q (.scalar s k), unb := false } ev := by
  obtain ⟨pos, v, rfl, hb, hsh⟩ := h
  refine ⟨[pos], { ty := .scalar s k, off := 0 + pos * s, depth := 0 + 1 }, ?_,
    (Nat.zero_add _).symm, by rw [Nat.zero_add]; rfl, rfl, rfl, hsh⟩
  have hpq : pos < q := Nat.le_of_mul_le_mul_right hb hs
  simp only [walk]
  rw [childAt_array rfl rfl, if_pos hpq]
  rfl

/-- the loop invariant of the outermost list -/
structure IU (s : Nat) (k : SK) (root : Place) (st : St) : Prop where
  inc : st.inc = true
  cur : st.cur = some 0
  ty : (st.obj 0).ty = root.ty
  off : (st.obj 0).offset = root.off
  mode : st.sub = 0 ∧ st.log = [] ∧ st.top = 0 ∨
    st.sub = 1 ∧ ∃ pos, Lvl st 0 root pos (chU root (.scalar s k) pos) ∧ Whole s st.top (pos + 1)
  log : ∀ e ∈ st.log, ElemAdd s k st.top e

theorem elemExpr {s : Nat} {k : SK} {n : Nat} {root : Place} (hU : PlWfU root n (.scalar s k)) (h0 : root.off = 0)
    {st st1 sta : St} {pos p pf : Nat} {ex : Expr}
    (h : IU s k root st) (hw : Whole s st.top p) (hat : AtChild st st1 0 root pos (chU root (.scalar s k) pos))
    (hb : exprBody pf st1 ex = .ok sta) : IU s k root sta := by
  have hs1 : st1.sub = 1 := hat.sub
  have hty1 : (st1.obj st1.sub).ty = .scalar s k := by rw [hs1]; exact hat.sp.ty
  have htop : st1.top = max st.top ((pos + 1) * s) := hat.top.trans (gtop_unb hU _ _)
  cases pf with
  | zero => exact absurd hb (exprBody_zero _ _ _)
  | succ pf =>
  cases hcv : convScalar s k ex with
  | none => rw [exprBody_err pf (by rw [hit_scalar hty1, hcv])] at hb; cases hb
  | some v =>
    have hbits : curBits st1 = .ok (0, 0) :=
      (curBits_congr (st := { st1 with sub := 0 + 1 }) (st' := st1) hs1 (fun _ => rfl)).trans hat.sp.bits
    have hfl1 : Flat st1 st1.sub := flat_pos st1 (by rw [hs1]; exact Nat.one_pos)
    rw [exprBody_add pf (by rw [hit_scalar hty1, hcv]) hbits hfl1] at hb
    cases hb
    have hoff : (st1.obj st1.sub).offset = pos * s := by
      rw [hs1, hat.sp.off]
      show root.off + pos * s = _
      rw [h0, Nat.zero_add]
    have hts : st1.tsize st1.sub = s := by rw [hfl1.tsize, hty1]; rfl
    refine ⟨hat.step.inc.trans h.inc, hat.step.cur.trans h.cur, hat.lvl.ty, hat.lvl.off,
      .inr ⟨hs1, pos, ⟨hat.lvl.ty, hat.lvl.off, hat.lvl.child, hat.lvl.u⟩, ?_⟩, ?_⟩
    · show Whole s st1.top (pos + 1)
      rw [htop]
      exact hw.grow pos
    · intro ev hev
      show ElemAdd s k st1.top ev
      rw [htop]
      rcases List.mem_append.1 hev with hm | hm
      · rw [hat.log] at hm
        obtain ⟨pos', v', h1, h2, h3⟩ := h.log ev hm
        exact ⟨pos', v', h1, Nat.le_trans h2 (Nat.le_max_left _ _), h3⟩
      · rw [List.mem_singleton.1 hm, hoff, hts]
        exact ⟨pos, v, rfl, Nat.le_max_right _ _, conv_shape hcv⟩

theorem itemsU {s : Nat} {k : SK} {n : Nat} {root : Place} (hU : PlWfU root n (.scalar s k)) (h0 : root.off = 0) :
    ∀ (its : Items) (st st' : St), IU s k root st → flatItems k its = true → parseItems st its = .ok st' →
      IU s k root st'
  | .nil, st, st', h, _, e => by rw [parseItems] at e; cases e; exact h
  | .cons ds i rest, st, st', h, hfl, e => by
    obtain ⟨stp, sta, hpre, hbody, hrun⟩ := run_cons (show Run st (.cons ds i rest) st' from e)
    cases i with
    | list l => simp [flatItems] at hfl
    | expr ex =>
    simp only [flatItems, Bool.and_eq_true] at hfl
    refine itemsU hU h0 rest sta st' ?_ hfl.2 hrun
    have hb : exprBody 34 stp ex = .ok sta := hbody
    cases ds with
    | cons d ds' =>
      obtain ⟨p, hw⟩ : ∃ p, Whole s st.top p := by
        rcases h.mode with ⟨_, _, ht⟩ | ⟨_, pos, _, hw⟩
        · exact ⟨0, ht ▸ Whole.zero s⟩
        · exact ⟨_, hw⟩
      rw [preStep_desig h.cur] at hpre
      obtain ⟨kk, st1, _, hat, hpre'⟩ := designator_unb hU h.cur h.ty h.off hw hpre
      cases ds' with
      | cons d2 ds2 =>
        exfalso
        have hpre2 : (d2 :: ds2).foldlM desigStep st1 = .ok stp := hpre'
        rw [List.foldlM_cons] at hpre2
        cases hd2 : desigStep st1 d2 with
        | error er => rw [hd2] at hpre2; cases hpre2
        | ok st2 =>
          -- a scalar element takes no further designator
          have hsc : (st1.obj st1.sub).ty = .scalar s k := by rw [show st1.sub = 0 + 1 from hat.sub]; exact hat.sp.ty
          rcases desigStep_ok hd2 with ⟨_, _, _, _, hty, _⟩ | ⟨_, _, _, _, _, _, hty, _⟩ <;> cases hsc.symm.trans hty
      | nil =>
        cases (show Except.ok st1 = Except.ok stp from hpre')
        exact elemExpr hU h0 h hw hat hb
    | nil =>
      rcases h.mode with ⟨hs0, _, ht0⟩ | ⟨hs1, pos, hl, hw⟩
      · rw [preStep_nil_cur h.cur hs0, h.ty, hU.ty] at hpre
        cases hpre
        have hel : elides root.ty ex = true := by
          rw [hU.ty]
          rcases array_expr n (.scalar s k) ex with ⟨_, _, _, _, _, _, h', rfl⟩ | he
          · cases h'; cases hfl.1
          · exact he
        have hw0 : Whole s st.top 0 := by rw [ht0]; exact Whole.zero s
        obtain ⟨pf', st2, ch, hch, hat, hb'⟩ := elide_step (.unb hU hs0 h.inc hw0) (.unb hU) (by rw [hs0]; exact h.ty)
          (by rw [hs0]; exact h.off) hel hb
        rw [childAt_unb hU] at hch
        cases hch
        rw [hs0] at hat
        exact elemExpr hU h0 h hw0 hat hb'
      · rw [preStep_nil_adv h.cur (hs1 ▸ Nat.one_ne_zero)] at hpre
        exact elemExpr hU h0 h hw (advance_to_next (by rw [hs1]; exact Nat.one_pos) (.unb hU rfl h.inc hw) (.unb hU) hl
          (fun j h1 h2 => by omega) (childAt_unb hU (pos + 1) true) hpre) hb

theorem parseinit_laminar_unb {s : Nat} {k : SK} {its : Items} {st : St}
    (hm : parseinit (.array 0 (.scalar s k)) true (.list its) = .ok st) (hlay : layOK (.scalar s k) = true)
    (hfl : flatItems k its = true) (hcv : constVals (.array 0 (.scalar s k)) true (.list its) = true) :
    EvsOK [] st.log ∧ ∀ x ∈ adds st.log, Wf st.top x := by
  obtain ⟨hs0, _⟩ := lay_size_le hlay
  obtain ⟨st4, hpi, hl, ht⟩ := parseinit_unb_list hm
  have hs := openSt_top (st0 (.array 0 (.scalar s k)) true)
  have h4 := itemsU (root := { ty := .array 0 (.scalar s k), unb := true }) ⟨rfl, rfl, hs0, rfl⟩ rfl _ _ _
    ⟨rfl, rfl, congrArg Slot.ty hs, congrArg Slot.offset hs, .inl ⟨rfl, rfl, Nat.zero_mul _⟩, fun e he => by cases he⟩
    hfl hpi
  rw [ht]
  rcases h4.mode with ⟨_, hlog, _⟩ | ⟨_, pos, _, q, hq, hpq, _⟩
  · rw [hl, hlog]
    exact ⟨trivial, fun x hx => by cases hx⟩
  · have hwf : tyWf (.array q (.scalar s k)) = true := by
      simp only [tyWf, Bool.and_true, Bool.and_eq_true, decide_eq_true_eq]
      exact ⟨Nat.lt_of_le_of_lt (Nat.zero_le pos) hpq, hs0⟩
    rw [hq]
    exact laminar_of_placed (root_geo hwf (by simpa [layOK] using hlay)) rfl hm hcv
      (fun e he => (hq ▸ h4.log e (hl ▸ he)).placed hs0)

end CprocVerif.InitSim
