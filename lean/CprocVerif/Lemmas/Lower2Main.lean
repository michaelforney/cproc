/-
  C01, fragment 𝔽₂ and programs with calls — every statement is simulated, by induction on the fuel of the C execution
  (`sim_all`); the run of a call of an emitted function from the initial state of a program (`run_entry`), whose instances
  `lower2_correct_prog` (one function) and `lower3_correct_prog` (a program) `Props/C01.lean` restates with `runC` /
  `runP`; `Prog.ofModule` of the emitted functions of a C program has each of them (the first of a name, as
  `CSem2.lookup`) and the empty initial memory.
-/
import CprocVerif.Lemmas.Lower2Func
import CprocVerif.Lemmas.Lower2Loop
import CprocVerif.Lemmas.Lower2Switch
import CprocVerif.Lemmas.Lower2IncDec
import CprocVerif.Lemmas.Lower2CallP
import CprocVerif.Lemmas.Lower2Ptr
import CprocVerif.Lemmas.Lower2Init
import CprocVerif.Lemmas.Lower2Leaf3
import CprocVerif.Model.CSem3

set_option linter.unusedSimpArgs false

namespace CprocVerif.LowerMach2
open CprocVerif.Qbe CprocVerif.Lower CprocVerif.Lower2 CprocVerif.CSem CprocVerif.CSem2 CprocVerif.CInt
open CprocVerif.LowerArith CprocVerif.LowerMach CprocVerif.LowerMem

/-- `T.P = []`: a single function, no call has a meaning; `fuel ≤ T.d`: there is room for `fuel` nested activations. -/
def AllStmt (fuel : Nat) : Prop := ∀ T : Stat, (T.P = [] ∨ fuel ≤ T.d) → SimStmt T fuel

theorem wt_arrsOK {g : CSem2.Func} (h : CSem2.WT g) : arrsOK g.cnts g.body = true := by
  simp only [CSem2.WT, CSem2.Func.wt, Bool.and_eq_true] at h
  exact h.1.1.1.1.1.1.1.2

theorem wt_ptrsOK {g : CSem2.Func} (h : CSem2.WT g) : ptrsOK g.pwin g.wbase g.body = true := by
  simp only [CSem2.WT, CSem2.Func.wt, Bool.and_eq_true] at h
  exact h.1.1.1.1.2

theorem funcSim_of_all (T : Stat) (n : Nat) (hT : T.P = [] ∨ n + 1 ≤ T.d) (hall : AllStmt n) : FuncSim T n := by
  intro fn g hlk
  have hd : n + 1 ≤ T.d := hT.resolve_left fun h => by rw [h] at hlk; cases hlk
  obtain ⟨hwt, hcalls, hK⟩ := T.hP fn g hlk
  obtain ⟨d, hd'⟩ : ∃ d, T.d = d + 1 := ⟨T.d - 1, by omega⟩
  rw [hd']
  exact ⟨Nat.succ_pos d, sim_func T.S.cs g hwt T.P T.S.p T.S.ext T.K d T.hfuncs T.hP
    (frag_of_callsOK _ _ _ hcalls (wt_arrsOK hwt) (wt_ptrsOK hwt)) hK n
    (fun T' _ hd'' => hall T' (Or.inr (by omega)))⟩

/- The induction is on `AllStmt`, over all activations at once, and not on `SimStmt T`: the callee of a call is another
   activation `T'`, whose statements are needed at smaller fuel (`funcSim_of_all`); loops and `switch` need every smaller
   fuel, hence strong induction. -/
theorem sim_all : ∀ fuel, AllStmt fuel := by
  intro fuel
  induction fuel using Nat.strongRecOn with
  | ind fuel ihs =>
  intro T hT
  cases fuel with
  | zero =>
    intro st s out lp brk cont c nd nd' pre post env M hex
    simp only [exec] at hex
    cases hex
  | succ n =>
    have hTm : ∀ m, m ≤ n → (T.P = [] ∨ m ≤ T.d) := fun m hm =>
      hT.elim Or.inl (fun h => Or.inr (by omega))
    have ih : SimStmt T n := ihs n (Nat.lt_succ_self n) T (hTm n (Nat.le_refl _))
    have ihle : ∀ m, m ≤ n → SimStmt T m := fun m hm => ihs m (Nat.lt_succ_of_le hm) T (hTm m hm)
    have hcle : ∀ m, m ≤ n → FuncSim T m := fun m hm =>
      funcSim_of_all T m (hT.imp_right fun h => by omega) (ihs m (by omega))
    have hc : FuncSim T n := hcle n (Nat.le_refl _)
    intro st
    cases st with
    | skip => exact sim_skip T n
    | decl i t init =>
      cases init with
      | none => exact sim_decl_none T n i t
      | some e => exact sim_decl_init T n hc i t e
    | assign i t e => exact sim_assign T n hc i t e
    | incdec i t inc => exact sim_incdec T n i t inc
    | expr e => exact sim_exprstmt T n hc e
    | ret e => exact sim_ret T n hc e
    | seq a b => exact sim_seq T n ih a b
    | ite e a => exact sim_ite T n hc ih e a
    | itee e a b => exact sim_itee T n hc ih e a b
    | while_ e b => exact sim_while T n hcle ihle e b
    | dowhile b e => exact sim_dowhile T n hcle ihle b e
    | for_ e step b => exact sim_for T n hcle ihle e step b
    | break_ => exact sim_break T n
    | continue_ => exact sim_continue T n
    | case_ u => exact sim_label T n (.case_ u) (Or.inl ⟨u, rfl⟩)
    | default_ => exact sim_label T n .default_ (Or.inr rfl)
    | switch_ e b => exact sim_switch T n hc ihle e b
    | adecl i t cnt xb => exact sim_adecl T n i t cnt xb
    | aload d dt a t cnt xb x => exact sim_aload T n d dt a t cnt xb x
    | astore a t cnt xb x v => exact sim_astore T n hc a t cnt xb x v
    | ainit a t cnt xb j v => exact sim_ainit T n hc a t cnt xb j v
    | pload d dt k t w c0 x => exact sim_pload T n d dt k t w c0 x
    | call dst rt fn args => exact sim_call T n hc dst rt fn args
    | callp dst rt fn pargs args => exact sim_callp T n hc dst rt fn pargs args

/-- `P = []`: a single function, `f` itself. -/
theorem run_entry (cs : Bool) (sid : Nat) (f : CSem2.Func) (ρ : List Int) (v : Int)
    (hwt : CSem2.WT f) (hpw : f.pwin = []) (henv : EnvOK cs f.params ρ)
    (P : List CSem2.Func) (p : Prog) (ext : Qbe.Ext) (K d : Nat)
    (hfuncs : ∀ fn g', lookup P fn = some g' →
      ∃ sid', p.funcs[fn]? = some (FuncInfo.of (Lower2.emitFunc cs sid' g')))
    (hP : ∀ fn g', lookup P fn = some g' →
      CSem2.WT g' ∧ callsOK P g'.body = true ∧ g'.vtys.length + g'.extra ≤ K)
    (hfrag : frag P f.cnts (funcW f) f.body = true) (hK : f.vtys.length + f.extra ≤ K)
    (hfun : p.funcs[f.name]? = some (FuncInfo.of (Lower2.emitFunc cs sid f)))
    (hstack : p.initMem.stack = #[]) (hsp : p.initMem.sp = stackTop)
    (hroom : Room K (d + 1) p.initMem)
    (fuelC : Nat) (hfuel : P = [] ∨ fuelC ≤ d)
    (hex : exec cs P fuelC (initStore f ρ) f.body = some (.ret v)) :
    ∃ fuel₀ r, RetRep f.ret v r ∧
      ∀ fuel, fuel₀ ≤ fuel →
        runFunc p ext f.name (argsOf f.params ρ) fuel = ⟨#[], .ret (.scalar r)⟩ := by
  have hlen := henv.1
  obtain ⟨env0, henter, hargs⟩ := initState_emit cs sid f hfun henv.1
    (by rw [hsp, stackTop_val, stackLimit_val]; decide)
  have hmem : MemInv p.initMem := by
    refine ⟨?_, ?_, ?_, ?_⟩
    · intro i j hi; simp [hstack] at hi
    · intro i hi; simp [hstack] at hi
    · rw [hsp, stackTop_val, stackLimit_val]; decide
    · simp [hstack]
  obtain ⟨n, st, r, hreach, hstep, hrr, _⟩ := sim_func cs f hwt P p ext K d hfuncs hP hfrag hK fuelC
    (fun T hTP hTd => sim_all fuelC T (hfuel.elim (fun h => Or.inl (hTP.trans h)) (fun h => Or.inr (by omega))))
    sid ρ ρ [] v p.initMem [] #[] env0 henv hmem hroom (by rw [hsp]; exact Nat.le_refl _) (fun _ _ => rfl) henv.1 hargs
    (by intro j t w h; rw [hpw] at h; simp at h) hex
  refine ⟨n + 1, r, hrr, ?_⟩
  intro fuel hfuel'
  obtain ⟨m, rfl⟩ : ∃ m, fuel = n + (m + 1) := ⟨fuel - (n + 1), by omega⟩
  unfold runFunc
  rw [henter]
  exact run_done hreach hstep m

/-- The initial memory has room for `d` activations of at most `K` cells when they fit the 64 MiB of stack. -/
theorem Room.init {K d : Nat} {M : Mem} (hstack : M.stack = #[]) (hsp : M.sp = stackTop)
    (h : d * (64 + 32 * K) + 64 ≤ 67108864) : Room K d M := by
  constructor
  · rw [hsp, show stackTop = stackLimit + 67108864 from rfl, Nat.add_assoc, Nat.add_comm 64]
    exact Nat.add_le_add_left h _
  · rw [hstack, Array.size_empty, Nat.zero_add]
    exact Nat.lt_of_le_of_lt (Nat.le_trans (Nat.mul_le_mul_left d (by omega)) (Nat.le_of_add_right_le h)) (by decide)

/-- A single function (`P = []`, so `d = 0` suffices).  `hsmall`: with the `f.extra ≤ 10⁶` that is part of `WT`, at most
    `2·10⁶` cells of 32 bytes: one activation fits the 64 MiB of stack (`Room.init`). -/
theorem lower2_correct_prog (cs : Bool) (startid : Nat) (f : CSem2.Func) (ρ : List Int) (v : Int)
    (hwt : CSem2.WT f) (hpw : f.pwin = []) (henv : EnvOK cs f.params ρ)
    (hsmall : f.params.length + f.locals.length ≤ 1000000)
    (fuelC : Nat) (hex : exec cs [] fuelC (initStore f ρ) f.body = some (.ret v))
    (p : Prog) (ext : Qbe.Ext)
    (hfun : p.funcs[f.name]? = some (FuncInfo.of (Lower2.emitFunc cs startid f)))
    (hstack : p.initMem.stack = #[]) (hsp : p.initMem.sp = stackTop) :
    ∃ fuel₀ r, RetRep f.ret v r ∧
      ∀ fuel, fuel₀ ≤ fuel →
        runFunc p ext f.name (argsOf f.params ρ) fuel = ⟨#[], .ret (.scalar r)⟩ := by
  have hvl : f.vtys.length = f.params.length + f.locals.length := by simp [CSem2.Func.vtys]
  have hextra : f.extra ≤ 1000000 := by
    have h := hwt
    simp only [CSem2.WT, CSem2.Func.wt, Bool.and_eq_true, decide_eq_true_eq] at h
    exact h.1.1.1.1.1.2
  exact run_entry cs startid f ρ v hwt hpw henv [] p ext (f.vtys.length + f.extra) 0
    (by intro fn g h; simp [lookup] at h) (by intro fn g h; simp [lookup] at h)
    (frag_nil _ _ (wt_arrsOK hwt) (wt_ptrsOK hwt)) (Nat.le_refl _)
    hfun hstack hsp (Room.init hstack hsp (by omega)) fuelC (Or.inl rfl) hex

theorem funcTable_keep (fs : List Qbe.Func) : ∀ (h : Std.HashMap String FuncInfo) {fn : String} {fi : FuncInfo},
    h[fn]? = some fi →
    (fs.foldl (fun h f => h.insertIfNew f.name (FuncInfo.of f)) h)[fn]? = some fi := by
  induction fs with
  | nil => intro h fn fi hl; exact hl
  | cons f fs ih =>
    intro h fn fi hl
    simp only [List.foldl_cons]
    apply ih
    simp only [Std.HashMap.getElem?_insertIfNew]
    have hm : fn ∈ h := by rw [Std.HashMap.mem_iff_isSome_getElem?, hl]; rfl
    rw [if_neg]
    · exact hl
    · rintro ⟨h1, h2⟩
      have : f.name = fn := by simpa using h1
      subst this
      exact h2 hm

theorem funcTable_lookup (cs : Bool) : ∀ (P : List CSem2.Func) (sid : Nat) (h : Std.HashMap String FuncInfo)
    (fn : String) (g : CSem2.Func), lookup P fn = some g → h[fn]? = none →
    ∃ sid', ((emitProg cs sid P).foldl (fun h f => h.insertIfNew f.name (FuncInfo.of f)) h)[fn]? =
      some (FuncInfo.of (Lower2.emitFunc cs sid' g)) := by
  intro P
  induction P with
  | nil => intro sid h fn g hl; simp [lookup] at hl
  | cons g0 P ih =>
    intro sid h fn g hl hn
    simp only [lookup, List.find?_cons] at hl
    simp only [emitProg, List.foldl_cons]
    have hname : (Lower2.emitFunc cs sid g0).name = g0.name := rfl
    by_cases hg : (g0.name == fn) = true
    · simp only [hg, Option.some.injEq] at hl
      subst hl
      refine ⟨sid, funcTable_keep _ _ ?_⟩
      simp only [Std.HashMap.getElem?_insertIfNew, hname]
      have hnm : ¬ g0.name ∈ h := by
        have : g0.name = fn := by simpa using hg
        rw [this, Std.HashMap.mem_iff_isSome_getElem?, hn]; simp
      simp [hg, hnm]
    · have hg' : (g0.name == fn) = false := by simpa using hg
      simp only [hg', Bool.false_eq_true, if_false] at hl
      apply ih _ _ fn g hl
      simp only [Std.HashMap.getElem?_insertIfNew, hname, hg', Bool.false_eq_true, false_and, if_false]
      exact hn

theorem module_funcs (fs : List Qbe.Func) : Module.funcs ⟨(fs.map Def.func).toArray⟩ = fs := by
  simp only [Module.funcs, List.toList_toArray]
  induction fs with
  | nil => rfl
  | cons f fs ih => simp only [List.map_cons, List.filterMap_cons, ih]

theorem module_datas (fs : List Qbe.Func) : Module.datas ⟨(fs.map Def.func).toArray⟩ = [] := by
  simp only [Module.datas, List.toList_toArray]
  induction fs with
  | nil => rfl
  | cons f fs ih => simp only [List.map_cons, List.filterMap_cons, ih]

theorem ofModule_funcs (fs : List Qbe.Func) :
    (Prog.ofModule ⟨(fs.map Def.func).toArray⟩).funcs = mkFuncTable fs := by
  simp only [Prog.ofModule, module_funcs]

theorem ofModule_initMem (fs : List Qbe.Func) :
    (Prog.ofModule ⟨(fs.map Def.func).toArray⟩).initMem = ⟨#[], #[], stackTop⟩ := by
  simp [Prog.ofModule, module_datas, applyRelocs, layoutData]

theorem ofModule_lookup (cs : Bool) (sid : Nat) (P : List CSem2.Func) (fn : String) (g : CSem2.Func)
    (hl : lookup P fn = some g) :
    ∃ sid', (Prog.ofModule ⟨((emitProg cs sid P).map Def.func).toArray⟩).funcs[fn]? =
      some (FuncInfo.of (Lower2.emitFunc cs sid' g)) := by
  rw [ofModule_funcs]
  exact funcTable_lookup cs P sid {} fn g hl (by simp)

theorem _root_.CprocVerif.CSem2.runC_some {cs : Bool} {n : Nat} {f : CSem2.Func} {ρ : List Int} {v : Int} :
    CSem2.runC cs n f ρ = some v ↔ CSem2.exec cs [] n (CSem2.initStore f ρ) f.body = some (.ret v) := by
  unfold CSem2.runC
  split
  · rename_i w h; rw [h]; simp
  · rename_i hn; simp only [reduceCtorEq, false_iff]; exact fun h => hn v h

theorem _root_.CprocVerif.CSem3.runP_some {cs : Bool} {n : Nat} {P : CSem3.Prog} {entry : String} {f : CSem2.Func}
    {ρ : List Int} {v : Int} (hlk : CSem3.lookup P entry = some f) :
    CSem3.runP cs n P entry ρ = some v ↔ CSem2.exec cs P n (CSem2.initStore f ρ) f.body = some (.ret v) := by
  unfold CSem3.runP
  rw [hlk]
  simp only
  split
  · rename_i w h; rw [show CSem2.exec cs P n _ _ = _ from h]; simp
  · rename_i hn; simp only [reduceCtorEq, false_iff]; exact fun h => hn v h

/-- `hroom`: room on the stack for `cfuel + 1` activations. -/
theorem lower3_correct_prog (cs : Bool) (P : CSem3.Prog) (entry : String) (f : CSem2.Func) (ρ : List Int)
    (v : Int) (hwt : CSem3.wtP P = true) (hlk : CSem3.lookup P entry = some f)
    (hpw : f.pwin = []) (henv : EnvOK cs f.params ρ) (K : Nat) (hK : ∀ g ∈ P, g.params.length + g.locals.length + g.extra ≤ K)
    (cfuel : Nat) (hroom : (cfuel + 1) * (64 + 32 * K) + 64 ≤ 67108864)
    (hex : CSem2.exec cs P cfuel (CSem2.initStore f ρ) f.body = some (.ret v)) (p : Prog) (ext : Qbe.Ext)
    (hfuncs : ∀ fn g, CSem3.lookup P fn = some g →
      ∃ sid, p.funcs[fn]? = some (FuncInfo.of (Lower2.emitFunc cs sid g)))
    (hstack : p.initMem.stack = #[]) (hsp : p.initMem.sp = stackTop) :
    ∃ fuel₀ r, RetRep f.ret v r ∧ ∀ fuel, fuel₀ ≤ fuel →
      runFunc p ext entry (argsOf f.params ρ) fuel = ⟨#[], .ret (.scalar r)⟩ := by
  have hall : ∀ fn g, CSem2.lookup P fn = some g →
      CSem2.WT g ∧ CSem2.callsOK P g.body = true ∧ g.vtys.length + g.extra ≤ K := by
    intro fn g hl
    have hmem : g ∈ P := List.mem_of_find?_eq_some hl
    have := List.all_eq_true.1 hwt g hmem
    simp only [Bool.and_eq_true] at this
    refine ⟨this.1, this.2, ?_⟩
    have := hK g hmem
    simp only [CSem2.Func.vtys, List.length_append]
    exact this
  have hname : f.name = entry := by
    have := List.find?_some hlk
    simpa using this
  obtain ⟨sid, hfun⟩ := hfuncs entry f hlk
  obtain ⟨hwf, hcalls, hKf⟩ := hall entry f hlk
  rw [← hname] at hfun ⊢
  exact run_entry cs sid f ρ v hwf hpw henv P p ext K cfuel hfuncs hall
    (frag_of_callsOK _ _ _ hcalls (wt_arrsOK hwf) (wt_ptrsOK hwf)) hKf hfun hstack hsp
    (Room.init hstack hsp hroom) cfuel (Or.inr (Nat.le_refl _)) hex

end CprocVerif.LowerMach2
