/-
  C01 — the function wrapper: what `alloc`, `store` and `load` of a C value execute, the temporaries
  `bindParams` binds, the invariant of the spills of `mkfunc`; the end of a run: the final `ret`, and
  how the returned value represents the C value (`RetRep`).
-/
import CprocVerif.Lemmas.LowerMem
import CprocVerif.Lemmas.LowerMach
import CprocVerif.Lemmas.LowerRep

namespace CprocVerif.LowerMach
open CprocVerif.Qbe CprocVerif.Lower CprocVerif.CSem CprocVerif.CInt CprocVerif.LowerArith
open CprocVerif.LowerMem

theorem exec_alloc {M M1 : Mem} (al size base : Nat) (hs : size < 2 ^ 64)
    (h : M.alloc size al = .ok (base, M1)) :
    execOp (.alloc al) (some .l) [⟨.c, UInt64.ofNat size⟩] M none =
      .ok (⟨.l, base.toUInt64⟩, M1) := by
  have hn : (UInt64.ofNat size).toNat = size := by
    rw [UInt64.toNat_ofNat']; exact Nat.mod_eq_of_lt hs
  simp only [execOp, asL_mk_c, bind, Except.bind, hn, h, pure, Except.pure]

theorem storeSize_storeOf (t : CSem.Ty) : storeSize (storeOf t) = t.size := by
  rcases size_cases t with hs | hs | hs | hs <;> simp [storeOf, hs, storeSize]

/-- The `store` of a C type, as `load_rep` is its `load`; `hx` is what `StoreVal t v r` holds of the register. -/
theorem exec_store_ty {M M2 : Mem} {t : CSem.Ty} {r addr : RVal} {a x : UInt64} (ha : addr.asL = .ok a)
    (hx : (if t.size = 8 then r.asL else r.asW) = .ok x) (h : M.store a.toNat t.size x = .ok M2) :
    execOp (.store (storeOf t)) none [r, addr] M none = .ok (dummy, M2) := by
  rw [← storeSize_storeOf t] at h
  rcases size_cases t with hs | hs | hs | hs <;> simp only [hs, storeOf] at h ⊢ <;>
    simp only [hs, Nat.reduceEqDiff, if_false, if_true] at hx <;>
    simp only [execOp, ha, hx, bind, Except.bind, h, pure, Except.pure]

theorem load_rep (cs : Bool) (t : CSem.Ty) (v : Int) (M : Mem) (a x : UInt64)
    (hload : M.load a.toNat t.size = .ok x) (hx : (x.toNat : Int) = v % 2 ^ (8 * t.size)) :
    ∃ r, execOp (.load (loadOf cs t)) (some (cls t)) [⟨.l, a⟩] M none = .ok (r, M) ∧ Rep t v r := by
  by_cases h8 : t.size = 8
  · rw [h8] at hx hload
    refine ⟨⟨.l, x⟩, ?_, (rep_l h8).2 ⟨_, rfl, hx⟩⟩
    simp [loadOf, h8, cls, execOp, needRes, bind, Except.bind, loadInfo, hload, pure, Except.pure]
  · -- the loaded bits `y`, possibly sign-extended, agree with `x` on the low `8 * t.size` bits
    have hsx : ∀ n, 0 < n → n ≤ 64 → ((sext n x).toNat : Int) % 2 ^ n = (x.toNat : Int) % 2 ^ n :=
      fun n h0 hn => by rw [sext_toNat h0 hn, emod_pow_of_le _ hn, bmod_emod_pow]
    obtain ⟨y, hex, hy⟩ : ∃ y, execOp (.load (loadOf cs t)) (some (cls t)) [⟨.l, a⟩] M none =
        .ok (⟨.w, y &&& mask32⟩, M) ∧
        (y.toNat : Int) % 2 ^ (8 * t.size) = (x.toNat : Int) % 2 ^ (8 * t.size) := by
      rcases size_cases t with hs | hs | hs | hs <;> simp only [hs] at hload ⊢ <;>
        simp only [loadOf, hs, cls, Nat.reduceEqDiff, if_false]
      · cases t.signed cs
        · exact ⟨x, by simp [execOp, needRes, bind, Except.bind, loadInfo, hload, truncTo, pure,
            Except.pure, Cls.kind], rfl⟩
        · exact ⟨sext 8 x, by simp [execOp, needRes, bind, Except.bind, loadInfo, hload, truncTo,
            pure, Except.pure, Cls.kind], hsx 8 (by decide) (by decide)⟩
      · cases t.signed cs
        · exact ⟨x, by simp [execOp, needRes, bind, Except.bind, loadInfo, hload, truncTo, pure,
            Except.pure, Cls.kind], rfl⟩
        · exact ⟨sext 16 x, by simp [execOp, needRes, bind, Except.bind, loadInfo, hload, truncTo,
            pure, Except.pure, Cls.kind], hsx 16 (by decide) (by decide)⟩
      · exact ⟨sext 32 x, by simp [execOp, needRes, bind, Except.bind, loadInfo, hload, truncTo,
          pure, Except.pure, Cls.kind], hsx 32 (by decide) (by decide)⟩
      · exact absurd hs h8
    refine ⟨_, hex, ?_⟩
    rw [Rep, if_neg h8]
    refine ⟨_, rfl, ?_⟩
    have h32 : 8 * t.size ≤ 32 := by have := size_cases t; omega
    rw [toNat_and_mask32, toNat_and_mask32, Int.natCast_emod, Int.natCast_emod]
    show (y.toNat : Int) % 2 ^ 32 % 2 ^ 32 % 2 ^ (8 * t.size) = _
    rw [emod_pow_of_le _ h32, emod_pow_of_le _ h32, hy, hx, Int.emod_emod]

theorem stackTop_val : stackTop = 0x7f0000000000 := rfl
theorem stackLimit_val : stackLimit = 0x7efffc000000 := rfl

/-- State after the first `i` parameters have been spilled. -/
structure PInv (cs : Bool) (ptys : List CSem.Ty) (ρ : List Int) (i : Nat) (env : Env) (M : Mem) :
    Prop where
  mem : MemInv M
  ssize : M.stack.size = i
  sp_lo : stackTop ≤ M.sp + 64 + 32 * i
  sp_hi : M.sp ≤ stackTop
  params : ∀ (k : Nat) (t : CSem.Ty) (v : Int), ptys[k]? = some t → ρ[k]? = some v →
    env[tmpName (2 * k + 1)]? = some (argOf t v).2
  slots : ∀ (k : Nat) (t : CSem.Ty) (v : Int), k < i → ptys[k]? = some t → ρ[k]? = some v →
    ∃ (a : UInt64) (al : Alloc), env[tmpName (2 * k + 2)]? = some ⟨.l, a⟩ ∧
      M.stack[k]? = some al ∧ al.base = a.toNat ∧ al.size = t.size ∧
      ((loadLE al.bytes 0 t.size).toNat : Int) = v % 2 ^ (8 * t.size)

theorem spills_allIns (ts : List CSem.Ty) (i : Nat) : ∀ it ∈ spills ts i, ∃ ins, it = .ins ins := by
  induction ts generalizing i with
  | nil => simp [spills]
  | cons t ts ih =>
    intro it hit
    simp only [spills, spill, List.cons_append, List.nil_append, List.mem_cons] at hit
    rcases hit with h | h | h
    · exact ⟨_, h⟩
    · exact ⟨_, h⟩
    · exact ih _ it h

/-- The bits `argOf` passes. -/
theorem argBits_toNat (v : Int) {n : Nat} (hn : n = 32 ∨ n = 64) :
    ((UInt64.ofNat (v % 2 ^ n).toNat).toNat : Int) = v % 2 ^ n := by
  rw [UInt64.toNat_ofNat']
  rcases hn with rfl | rfl <;> omega

theorem bindParams_spec : ∀ (ts : List CSem.Ty) (i : Nat) (vals : List RVal) (env : Env),
    vals.length = ts.length →
    (∀ (k : Nat) (v : RVal), vals[k]? = some v →
      (bindParams env (paramSig ts i) vals)[tmpName (2 * (i + k) + 1)]? = some v) ∧
    (∀ j, j < 2 * i + 1 → (bindParams env (paramSig ts i) vals)[tmpName j]? = env[tmpName j]?) := by
  intro ts
  induction ts with
  | nil =>
    intro i vals env h
    cases vals with
    | nil => exact ⟨fun k v h => by simp at h, fun j _ => rfl⟩
    | cons _ _ => simp at h
  | cons t ts ih =>
    intro i vals env h
    cases vals with
    | nil => simp at h
    | cons v vals =>
      simp only [List.length_cons, Nat.add_right_cancel_iff] at h
      simp only [paramSig, bindParams]
      obtain ⟨ih1, ih2⟩ := ih (i + 1) vals (env.insert (tmpName (2 * i + 1)) v) h
      constructor
      · intro k v' hk
        cases k with
        | zero =>
          simp only [List.getElem?_cons_zero, Option.some.injEq] at hk
          subst hk
          show (bindParams _ _ _)[tmpName (2 * i + 1)]? = some v
          rw [ih2 (2 * i + 1) (by omega)]
          simp
        | succ k =>
          simp only [List.getElem?_cons_succ] at hk
          have := ih1 k v' hk
          have e : 2 * (i + (k + 1)) + 1 = 2 * (i + 1 + k) + 1 := by omega
          rw [e]; exact this
      · intro j hj
        rw [ih2 j (by omega), getElem?_insert_tmp env v (by omega)]

theorem paramSig_length (ts : List CSem.Ty) (i : Nat) : (paramSig ts i).length = ts.length := by
  induction ts generalizing i with
  | nil => rfl
  | cons t ts ih => simp [paramSig, ih]

theorem run_done {p : Prog} {ext : Ext} {n : Nat} {s s' : State} {e : End} {t : Array String}
    (h : Reach p ext n s s') (hs : step p ext s' = .done e t) (m : Nat) :
    run p ext (n + (m + 1)) s = ⟨t, e⟩ := by
  rw [run_of_reach h]
  simp only [run, hs]

theorem stepRet_top {p : Prog} {fr : Frame} {mem : Mem} {trace : Array String} {v : RVal}
    {k : Cls} {v' : RVal} (hret : fr.fi.f.ret = some (.base k)) (hc : v.coerce k = .ok v') :
    stepRet p fr [] mem trace (some v) = .done (.ret (.scalar v')) trace := by
  simp only [stepRet, retValue, hret, Ty.cls, hc, bind, Except.bind, pure, Except.pure]

def RetRep (t : CSem.Ty) (v : Int) (r : RVal) : Prop :=
  Rep t v r ∧ r.kind = (cls t).kind ∧ (cls t = .w → r.bits.toNat < 2 ^ 32)

theorem coerce_kind {r r' : RVal} {k : Cls} (h : r.coerce k = .ok r') :
    r'.kind = k.kind ∧ (k = .w → r'.bits.toNat < 2 ^ 32) := by
  unfold RVal.coerce at h
  split at h
  · rename_i b hb
    cases h
    refine ⟨rfl, fun hk => ?_⟩
    subst hk
    exact asW_lt hb
  · cases h

end CprocVerif.LowerMach
