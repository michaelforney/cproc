import CprocVerif.Lemmas.InitEmitCells

/-!
# `emitdata`: the inner loop (`patch`, `collapse`)

`writeCell_patch`: patching element `i` of a string is writing that element after the string.  `collapse_spec`: on a list
in list order no `assert` of the loop fails, and what it leaves is a `Chain` (each entry starts at or behind the end of the
one before) with the same image.
-/

namespace CprocVerif.Image
open CprocVerif.Init

theorem mod_div_byte {u n m : Nat} (h : 8 * m + 8 ≤ n) : u % 2 ^ n / 2 ^ (8 * m) % 256 = u / 2 ^ (8 * m) % 256 := by
  apply Nat.eq_of_testBit_eq
  intro k
  rw [testBit_div_mod, testBit_div_mod, Nat.testBit_mod_two_pow]
  by_cases hk : k < 8
  · simp [hk, show 8 * m + k < n by omega]
  · simp [hk]

theorem valCell_str_set {w i v k : Nat} {cs : List Nat} (hw : 0 < w) (hi : i < cs.length) :
    valCell (.str w (cs.set i v)) k =
      if i * w ≤ k ∧ k < i * w + w then .byte (v / 2 ^ (8 * (k - i * w)) % 256) else valCell (.str w cs) k := by
  have hdiv : k / w = i ↔ i * w ≤ k ∧ k < i * w + w := by
    rw [Nat.div_eq_iff hw, Nat.mul_comm]; omega
  simp only [valCell, List.getD_eq_getElem?_getD, List.getElem?_set]
  by_cases h : i = k / w
  · have hk := hdiv.1 h.symm
    have : k % w = k - i * w := by
      have := Nat.div_add_mod k w; rw [← h, Nat.mul_comm] at this; omega
    simp [h.symm, hi, hk, this]
  · rw [if_neg h, if_neg (fun hk => h (hdiv.2 hk).symm)]

theorem valCell_str_append_zeros (w : Nat) (cs : List Nat) (n k : Nat) :
    valCell (.str w (cs ++ List.replicate n 0)) k = valCell (.str w cs) k := by
  simp only [valCell, List.getD_eq_getElem?_getD, List.getElem?_append, List.getElem?_replicate]
  split
  · rfl
  · rw [List.getElem?_eq_none (l := cs) (by omega)]
    split <;> rfl

theorem patch_val (c x : Init) :
    (∃ w cs cs', c.val = .str w cs ∧ patch c x = { c with val := .str w cs' }) ∨ patch c x = c := by
  unfold patch
  split
  · rename_i w cs w' u hc hx
    split
    · exact .inl ⟨w, cs, _, hc, rfl⟩
    · exact .inl ⟨w, cs, _, hc, rfl⟩
  · exact .inr rfl

theorem patch_lo_hi (c x : Init) : (patch c x).lo = c.lo ∧ (patch c x).hi = c.hi := by
  rcases patch_val c x with ⟨_, _, _, _, hp⟩ | hp <;> rw [hp] <;> exact ⟨rfl, rfl⟩

theorem patchOK_patch {c x y : Init} (h : PatchOK c y) : PatchOK (patch c x) y := by
  rcases patch_val c x with ⟨w, cs, cs', hc, hp⟩ | hp <;> rw [hp]
  · obtain ⟨w0, h1, h2⟩ := h
    exact ⟨w0, by rw [hc] at h1; exact h1, h2⟩
  · exact h

theorem wf_patch {size : Nat} {c x : Init} (h : Wf size c) : Wf size (patch c x) := by
  rcases patch_val c x with ⟨w, cs, cs', hc, hp⟩ | hp <;> rw [hp]
  · refine ⟨h.ne, h.inside, ?_⟩
    have hs := h.shape
    rw [hc] at hs
    exact hs
  · exact h

theorem writeCell_patch {c x : Init} (h : PatchOK c x) (j : Nat) (cell : Cell) :
    writeCell x j (writeCell c j cell) = writeCell (patch c x) j cell := by
  obtain ⟨w, h1, hw, ⟨w', u, hxv⟩, hcb, hca, hxb, hxa, hxs, hlo, hhi, hal⟩ := h
  cases hcv : c.val with
  | str w0 cs =>
    rw [hcv] at h1
    cases h1
    have hwpos : 0 < w := by omega
    -- `x` is element `i` of the array that the string `c` initialises
    obtain ⟨i, hi⟩ : ∃ i, x.start - c.start = i * w := ⟨_, (Nat.div_mul_cancel (Nat.dvd_of_mod_eq_zero hal)).symm⟩
    have hp : patch c x = { c with val := Val.str w ((if i ≥ cs.length then
        cs ++ List.replicate ((c.stop - c.start) / w - cs.length) 0 else cs).set i (u % 2 ^ (8 * w))) } := by
      unfold patch; rw [hcv, hxv]; simp only []; rw [if_pos hw, hi, Nat.mul_div_cancel _ hwpos]
    rw [writeCell_aligned ⟨hxb, hxa⟩, writeCell_aligned ⟨hcb, hca⟩,
      writeCell_aligned (i := patch c x) (by rw [hp]; exact ⟨hcb, hca⟩), hp, hcv, hxv]
    simp only []
    by_cases hjc : c.start ≤ j ∧ j < c.stop
    · have hin : i < (c.stop - c.start) / w := (Nat.le_div_iff_mul_le hwpos).2 (by rw [Nat.succ_mul]; omega)
      have hlen : i < (if i ≥ cs.length then cs ++ List.replicate ((c.stop - c.start) / w - cs.length) 0
          else cs).length := by
        split
        · rw [List.length_append, List.length_replicate]; omega
        · omega
      rw [if_pos hjc, if_pos hjc, valCell_str_set hwpos hlen]
      by_cases hjx : x.start ≤ j ∧ j < x.stop
      · rw [if_pos hjx, if_pos (by omega), valCell, mod_div_byte (n := 8 * w) (by omega)]
        congr 4; omega
      · rw [if_neg hjx, if_neg (by omega)]
        split
        · exact (valCell_str_append_zeros ..).symm
        · rfl
    · rw [if_neg hjc, if_neg hjc, if_neg (by omega)]
  | _ => rw [hcv] at h1; simp [strW] at h1

/-- list order restricted to what `collapse` needs -/
def NestOK (a b : Init) : Prop := a.hi ≤ b.lo ∨ PatchOK a b

def Chain : Nat → List Init → Prop
  | _, [] => True
  | top, t :: ts => top ≤ t.lo ∧ Chain t.hi ts

theorem collapse_spec {size : Nat} {xs : List Init} : ∀ {c : Init} {top : Nat}, (c :: xs).Pairwise NestOK →
    (∀ t ∈ c :: xs, Wf size t) → top ≤ c.lo →
    collapseOk (some c) xs = true ∧ Chain top (collapse (some c) xs) ∧
      (∀ t ∈ collapse (some c) xs, Wf size t) ∧
      ∀ (j : Nat) (cell : Cell), cellFold (collapse (some c) xs) j cell = cellFold (c :: xs) j cell := by
  induction xs with
  | nil =>
    intro c top _ hw ht
    exact ⟨rfl, ⟨ht, trivial⟩, hw, fun _ _ => rfl⟩
  | cons x xs ih =>
    intro c top hp hw ht
    have hp' := List.pairwise_cons.1 hp
    obtain ⟨hwc, hwx⟩ := List.forall_mem_cons.1 hw
    rw [collapse, collapseOk]
    split
    · have hpo : PatchOK c x := (hp'.1 x List.mem_cons_self).resolve_left (by omega)
      obtain ⟨r1, r2, r3, r4⟩ := ih (c := patch c x) (top := top)
        (List.pairwise_cons.2 ⟨fun y hy => (hp'.1 y (List.mem_cons_of_mem _ hy)).imp
          (fun h => by rw [(patch_lo_hi c x).2]; exact h) patchOK_patch, (List.pairwise_cons.1 hp'.2).2⟩)
        (List.forall_mem_cons.2 ⟨wf_patch hwc, (List.forall_mem_cons.1 hwx).2⟩)
        (by rw [(patch_lo_hi c x).1]; exact ht)
      refine ⟨?_, r2, r3, fun j cell => ?_⟩
      · obtain ⟨w, h1, _, ⟨w', u, hxv⟩, _⟩ := hpo
        rw [r1, Bool.and_true, patchOk, hxv]
        cases hcv : c.val <;> simp [hcv, strW] at h1 ⊢
      · rw [r4, cellFold_cons, cellFold_cons, cellFold_cons, writeCell_patch hpo]
    · obtain ⟨r1, r2, r3, r4⟩ := ih (top := c.hi) hp'.2 hwx (by omega)
      exact ⟨r1, ⟨ht, r2⟩, List.forall_mem_cons.2 ⟨hwc, r3⟩, fun j cell => by rw [cellFold_cons, r4]; rfl⟩

end CprocVerif.Image
