import CprocVerif.Lemmas.AbiDesc
import CprocVerif.Lemmas.TypesArith

/-! Lemmas for C08, signatures and call sites: where `callInsts` puts the `...` marker; `exprpromote` of an extra argument
is the default argument promotion; outside sub-word integers and arrays the class the model prints is the ABI class
(`class_correct`). -/

namespace CprocVerif.AbiDesc
open CprocVerif.Layout CprocVerif.Abi CprocVerif.QbeLayout CprocVerif.Types

def Cls.toAbi : Cls → AbiCls
  | .base c => .base c
  | .agg t => .agg t

theorem callInsts_plain {v : Bool} {n : Nat} : ∀ (cs : List Cls) (i : Nat), v = false ∨ n < i →
    callInsts v n i cs = cs.map some
  | cs, i, h => by
    have hm : (v && i == n) = false := by
      rcases h with rfl | h
      · rfl
      · rw [beq_false_of_ne (by omega), Bool.and_false]
    cases cs with
    | nil => simp only [callInsts, hm, Bool.false_eq_true, ↓reduceIte, List.map_nil]
    | cons c cs =>
      simp only [callInsts, hm, Bool.false_eq_true, ↓reduceIte, List.nil_append, List.map_cons]
      rw [callInsts_plain cs (i + 1) (h.imp id (by omega))]

theorem callInsts_marker (n : Nat) : ∀ (cs : List Cls) (i : Nat), i ≤ n → n - i ≤ cs.length →
    callInsts true n i cs = (cs.take (n - i)).map some ++ none :: (cs.drop (n - i)).map some
  | [], i, h1, h2 => by
    simp only [List.length_nil] at h2
    have : i = n := by omega
    subst this
    simp [callInsts]
  | c :: cs, i, h1, h2 => by
    by_cases he : i = n
    · subst he
      simp only [callInsts, Bool.true_and, beq_self_eq_true, ↓reduceIte, Nat.sub_self, List.take_zero, List.map_nil,
        List.nil_append, List.drop_zero, List.map_cons, List.singleton_append]
      rw [callInsts_plain cs (i + 1) (Or.inr (by omega))]
    · have hb : (i == n) = false := by simp [he]
      have e : n - i = (n - (i + 1)) + 1 := by omega
      simp only [List.length_cons] at h2
      simp only [callInsts, Bool.true_and, hb, Bool.false_eq_true, ↓reduceIte, List.nil_append]
      rw [callInsts_marker n cs (i + 1) (by omega) (by omega), e]
      simp only [List.take_succ_cons, List.map_cons, List.drop_succ_cons, List.cons_append]

theorem optMapM_cons {α β : Type} {g : α → Option β} {a : α} {as : List α} {r : List β}
    (h : optMapM g (a :: as) = some r) : ∃ b bs, g a = some b ∧ optMapM g as = some bs ∧ r = b :: bs := by
  simp only [optMapM] at h
  split at h
  · rename_i b bs hb hbs
    exact ⟨b, bs, hb, hbs, (Option.some.inj h).symm⟩
  · cases h

theorem optMapM_length {α β : Type} (g : α → Option β) : ∀ (l : List α) (r : List β),
    optMapM g l = some r → r.length = l.length
  | [], r, h => by cases h; rfl
  | a :: as, r, h => by
    obtain ⟨b, bs, _, hbs, rfl⟩ := optMapM_cons h
    simp only [List.length_cons, optMapM_length g as bs hbs]

theorem optMapM_get {α β : Type} (g : α → Option β) : ∀ (l : List α) (r : List β),
    optMapM g l = some r → ∀ i (h : i < l.length), ∃ h', g l[i] = some (r[i]'h')
  | [], r, _, i, hi => by simp at hi
  | a :: as, r, h, i, hi => by
    obtain ⟨b, bs, hb, hbs, rfl⟩ := optMapM_cons h
    cases i with
    | zero => exact ⟨by simp, by simpa using hb⟩
    | succ j =>
      obtain ⟨h', e⟩ := optMapM_get g as bs hbs j (by simpa using hi)
      exact ⟨by simpa using h', by simpa using e⟩

theorem argTypes_eq (sc : Bool) : ∀ (ps : List AType) (v : Bool) (args ts : List AType),
    argTypes sc ps v args = some ts →
    ts = ps ++ (args.drop ps.length).map (fun a => promoteArg sc (decay a)) ∧ ps.length ≤ args.length ∧
      (v = false → args.length = ps.length)
  | [], v, [], ts, h => by
    simp only [argTypes, Option.some.injEq] at h; subst h; simp
  | [], true, a :: as, ts, h => by
    simp only [argTypes, Option.map_eq_some_iff] at h
    obtain ⟨r, hr, rfl⟩ := h
    obtain ⟨e, _, _⟩ := argTypes_eq sc [] true as r hr
    simp only [List.nil_append, List.length_nil, List.drop_zero] at e
    simp [e]
  | [], false, _ :: _, ts, h => by simp [argTypes] at h
  | _ :: _, _, [], ts, h => by simp [argTypes] at h
  | p :: ps, v, _ :: as, ts, h => by
    simp only [argTypes, Option.map_eq_some_iff] at h
    obtain ⟨r, hr, rfl⟩ := h
    obtain ⟨e, h1, h2⟩ := argTypes_eq sc ps v as r hr
    refine ⟨by simp [e], by simp; omega, fun hv => by simp [h2 hv]⟩

theorem emitcall_args {sc : Bool} {f : FuncTy} {args : List AType} {c : CallSite}
    (h : emitcall sc f args = some c) :
    ∃ ts cs, argTypes sc f.adjusted f.variadic args = some ts ∧ optMapM classOf ts = some cs ∧
      c.args = callInsts f.variadic f.params.length 0 cs := by
  unfold emitcall at h
  cases ha : argTypes sc f.adjusted f.variadic args with
  | none => simp [ha] at h
  | some ts =>
    cases hc : optMapM classOf ts with
    | none => simp [ha, hc] at h
    | some cs =>
      refine ⟨ts, cs, rfl, hc, ?_⟩
      simp only [ha, hc] at h
      cases hr : f.ret with
      | none => simp only [hr, Option.some.injEq] at h; rw [← h]
      | some r =>
        simp only [hr, Option.map_eq_some_iff] at h
        obtain ⟨_, _, rfl⟩ := h
        rfl

theorem emitfunc_some {f : FuncTy} {sg : Sig} (h : emitfunc f = some sg) :
    optMapM classOf f.adjusted = some sg.params ∧ sg.variadic = f.variadic ∧ sg.ret = f.ret.bind classOf ∧
      (∀ r, f.ret = some r → ∃ c, classOf r = some c) := by
  unfold emitfunc at h
  cases hp : optMapM classOf f.adjusted with
  | none => simp [hp] at h
  | some ps =>
    simp only [hp] at h
    cases hr : f.ret with
    | none => simp only [hr, Option.some.injEq] at h; subst h; exact ⟨rfl, rfl, rfl, nofun⟩
    | some r =>
      simp only [hr, Option.map_eq_some_iff] at h
      obtain ⟨c, hc, rfl⟩ := h
      exact ⟨rfl, rfl, hc.symm ▸ rfl, fun r' e => by cases e; exact ⟨c, hc⟩⟩

theorem promoteArg_default (sc : Bool) : ∀ (t : AType), (∀ a, t = .sc (.arith a) → a.wf = true) →
    promoteArg sc t = defaultPromote sc t
  | .sc (.arith a), h => by
    simp only [promoteArg, defaultPromote]
    rw [Types.Lemmas.promote_ok sc a none (h a rfl) trivial]
  | .sc .ptr, _ => rfl
  | .array .., _ => rfl
  | .su .., _ => rfl
  | .blob .., _ => rfl

theorem promoted_wide (sc : Bool) (a : ATy) :
    4 ≤ (typepromote sc a none).size ∧ ((typepromote sc a none).size = 4 → (typepromote sc a none).isFloat = false) := by
  cases a with
  | basic b => cases b <;> cases sc <;> decide
  | enum i b =>
    unfold typepromote
    rw [if_neg (fun h => nomatch h)]
    split
    · have key : ∀ (c : Prop) [Decidable c], 4 ≤ (if c then Types.tInt else Types.tUInt).size ∧
          ((if c then Types.tInt else Types.tUInt).size = 4 → (if c then Types.tInt else Types.tUInt).isFloat = false) := by
        intro c _; split <;> exact ⟨by decide, fun _ => rfl⟩
      exact key _
    · -- not promoted: the rank is above that of `int`
      rename_i h
      refine ⟨?_, fun _ => rfl⟩
      change ¬ (true && (decide (b.kind.rank ≤ 4) || decide (wU none ≤ 32))) = true at h
      change 4 ≤ b.size
      revert h
      cases b <;> decide

def notSubword : AType → Bool
  | .sc (.arith a) => a.isFloat || decide (4 ≤ a.size)
  | _ => true

def notArray : AType → Bool
  | .array _ _ => false
  | _ => true

theorem class_correct (cs : Bool) : ∀ (t : AType) (c : Cls), classOf t = some c → notSubword t = true →
    notArray t = true → abiClass cs emittype t = some c.toAbi
  | .sc (.arith a), c, h, hs, _ => by
    simp only [notSubword, Bool.or_eq_true, decide_eq_true_eq] at hs
    simp only [classOf, Option.map_eq_some_iff] at h
    obtain ⟨q, hq, rfl⟩ := h
    have h4 : 4 ≤ a.size := by
      rcases hs with h | h
      · have := float_size h; omega
      · exact h
    rcases qbetype_some hq with ⟨h1, _⟩ | ⟨h2, _⟩ | ⟨h4', rfl⟩ | ⟨h8, rfl⟩ <;> simp only [Sc.size, Sc.isFloat] at *
    · omega
    · omega
    · by_cases hf : a.isFloat = true <;> simp [abiClass, hf, h4', Cls.toAbi]
    · by_cases hf : a.isFloat = true <;> simp [abiClass, hf, h8, Cls.toAbi]
  | .sc .ptr, c, h, _, _ => by
    simp only [classOf, qbetype, Sc.size, Sc.isFloat] at h
    simp at h
    subst h; rfl
  | .array .., _, _, _, ha => by simp [notArray] at ha
  | .su u p fs, c, h, _, _ => by
    simp only [classOf, Option.map_eq_some_iff] at h
    obtain ⟨q, hq, rfl⟩ := h
    simp only [abiClass, hq, Option.map_some, Cls.toAbi]
  | .blob s a d, c, h, _, _ => by
    simp only [classOf, Option.map_eq_some_iff] at h
    obtain ⟨q, hq, rfl⟩ := h
    simp only [abiClass, hq, Option.map_some, Cls.toAbi]

theorem adjusted_notArray : ∀ (t : AType), notArray (typeadjust t) = true
  | .array .. => rfl
  | .sc _ => rfl
  | .su .. => rfl
  | .blob .. => rfl

end CprocVerif.AbiDesc
