import CprocVerif.Model.Types
import CprocVerif.Spec.Conv

/-! The arithmetic types of the typing model (`Model/Types.lean`) against `Spec/Conv.lean`: each model predicate on an
arithmetic type reads its underlying integer type only (`ATy.*_eq`), and the fifteen basic types are the LP64 ones
(`Basic.lp64`).  The usual arithmetic conversions go by reduction to the six types of rank at least `int`, then a table. -/

namespace CprocVerif.Types.Lemmas
open CprocVerif.Types CprocVerif.Spec

theorem two_pow_le_iff (a b : Nat) : (2 : Int) ^ a ≤ 2 ^ b ↔ a ≤ b := by
  rw [← Nat.pow_le_pow_iff_right (a := 2) (by decide), ← Int.ofNat_le]
  rfl

theorem two_pow_pos (a : Nat) : (0 : Int) < 2 ^ a := Int.pow_pos (by decide)

theorem ATy.size_eq (t : ATy) : t.size = (intTypeOf t).size := by cases t <;> rfl
theorem ATy.rank_eq (t : ATy) : t.rank = (intTypeOf t).kind.rank := by cases t <;> rfl
theorem ATy.issigned_eq (sc : Bool) (t : ATy) : t.issigned sc = isSigned sc (intTypeOf t) := by
  cases t <;> rename_i b <;> cases b <;> rfl
theorem ATy.stripEnum_eq (t : ATy) : t.stripEnum = .basic (intTypeOf t) := by cases t <;> rfl

theorem ATy.isInt_eq (t : ATy) (hwf : t.wf = true) : t.isInt = isIntegerTy t := by
  cases t with
  | basic b => cases b <;> rfl
  | enum i b => exact hwf.symm.trans (by cases b <;> rfl)

/-- The integer types of the model are the LP64 ones of the spec: sizes, value bits (`_Bool` occupies a byte but has
one value bit), ranks (`typerank` counts from 1, 0 being its `fatal`; 6.3.1.1p1 from 0). -/
theorem Basic.lp64 (b : Basic) : isInteger b = true →
    (b.size = 1 ∨ b.size = 2 ∨ b.size = 4 ∨ b.size = 8) ∧ (b ≠ .bool → bits b = b.size * 8) ∧
    b.kind.rank = rankB b + 1 ∧ (rankB b ≤ 3 → b.size ≤ 4) := by
  cases b <;> decide

theorem Basic.bits_pos (b : Basic) : 1 ≤ bits b := by cases b <;> decide

/-- without a bit-field width the 32-bit test of `typepromote` compares the type's width -/
theorem fitsInt_size (b : Basic) (s : Bool) : isInteger b = true →
    decide ((b.size * 8 + 2 ^ 32 - b2n s) % 2 ^ 32 < 32) = decide (bits b - b2n s < 32) := by
  cases b <;> cases s <;> decide

theorem canRep_int (cs s : Bool) (n : Nat) (h : s = true → 1 ≤ n) :
    canRepresentAll cs .int (rangeBits s n) = decide (n - b2n s < 32) := by
  have e : rangeB cs .int = (-(2 : Int) ^ 31, (2 : Int) ^ 31 - 1) := rfl
  cases s
  · have h1 := two_pow_le_iff n 31
    have h2 := two_pow_pos n
    simp only [canRepresentAll, e, rangeBits, b2n, Bool.false_eq_true, if_false]
    rw [← Bool.decide_and, decide_eq_decide]
    omega
  · have h1 := two_pow_le_iff (n - 1) 31
    have := h rfl
    simp only [canRepresentAll, e, rangeBits, b2n, if_true]
    rw [← Bool.decide_and, decide_eq_decide]
    omega

theorem canRep_uint (cs s : Bool) (n : Nat) :
    canRepresentAll cs .uint (rangeBits s n) = (!s && decide (n ≤ 32)) := by
  have e : rangeB cs .uint = (0, (2 : Int) ^ 32 - 1) := rfl
  cases s
  · have h1 := two_pow_le_iff n 32
    simp only [canRepresentAll, e, rangeBits, Bool.false_eq_true, if_false, Bool.not_false, Bool.true_and]
    rw [← Bool.decide_and, decide_eq_decide]
    omega
  · have h2 := two_pow_pos (n - 1)
    simp only [canRepresentAll, e, rangeBits, if_true, Bool.not_true, Bool.false_and]
    rw [← Bool.decide_and, decide_eq_false_iff_not]
    omega

theorem canRep_int_01 (cs : Bool) : canRepresentAll cs .int (0, 1) = true := by cases cs <;> rfl

/-- Trap: used nowhere.  `promote_ok` below does not go by cases, and the lemmas this macro names (`wU_some`, `wrapsub`,
`canRep_01_int`, `canRep_int_signed`, …) are not in the development, so it cannot be invoked. -/
macro "promote_case" n:ident h1:ident : tactic => `(tactic| (
  have hw := wU_some $n (by omega)
  have hs1 := wrapsub $n 1 (by omega) (by omega) $h1
  have hs0 := wrapsub $n 0 (by omega) (by omega) (by omega)
  have hne : ¬ $n = 2 ^ 32 - 1 := by omega
  unfold typepromote
  rw [hw]
  simp only [ATy.isInt, Basic.isInt, ATy.rank, Basic.kind, Kind.rank, ATy.size, Basic.size,
        ATy.issigned, Basic.issigned, Basic.issignedInit, b2n, hne, if_false, if_true, hs1, hs0,
        Bool.false_eq_true]
  simp only [promote, intPromote, rangeW, intTypeOf, isIntegerTy, isInteger, isSigned]
  simp [canRep_01_int, canRep_int_signed _ _ $h1, canRep_int_unsigned, canRep_uint_signed, canRep_uint_unsigned]
  clear hs1 hs0 hw hne
  (repeat' split) <;> first | rfl | omega | (exfalso; omega)))

theorem promote_ok (sc : Bool) (t : ATy) (w : Option Nat) (hwf : t.wf = true) (hw : validWidth t w) :
    typepromote sc t w = promote sc t w := by
  unfold typepromote promote
  by_cases hf : t = .basic .float
  · rw [if_pos hf, if_pos hf]
  rw [if_neg hf, if_neg hf, ATy.isInt_eq t hwf]
  cases hi : isIntegerTy t
  · simp only [Bool.false_and, Bool.false_eq_true, if_false]
  obtain ⟨hsz', _, hr', hrk⟩ := Basic.lp64 _ hi
  have hsz : (intTypeOf t).size ≤ 8 := by omega
  clear hsz'
  have hr : t.rank = rankB (intTypeOf t) + 1 := (ATy.rank_eq t).trans hr'
  simp only [Bool.true_and, if_true, hr, ATy.issigned_eq, ATy.size_eq]
  cases w with
  | none =>
    have e : wU none = 2 ^ 32 - 1 := rfl
    have e3 : rankB .int = 3 := rfl
    simp only [e, intPromote, Spec.rank, e3, range, rangeB, canRep_int sc _ _ (fun _ => Basic.bits_pos _),
      ← fitsInt_size _ _ hi, if_true]
    by_cases hk : rankB (intTypeOf t) ≤ 3
    · have hk' : rankB (intTypeOf t) + 1 ≤ 4 := by omega
      simp only [hk, hk', decide_true, Bool.true_or, if_true, decide_eq_true_eq]
    · have hk' : ¬ rankB (intTypeOf t) + 1 ≤ 4 := by omega
      simp only [hk, hk', decide_false, Bool.false_or, if_false]
      rfl
  | some n =>
    obtain ⟨h1, h2, _⟩ := hw
    rw [ATy.size_eq] at h2
    have hn : n < 2 ^ 32 := by omega
    have hw : wU (some n) = n := Nat.mod_eq_of_lt hn
    have hne : n ≠ 2 ^ 32 - 1 := by omega
    simp only [hw, hne, if_false, intPromote, rangeW]
    -- `width - issigned` does not wrap
    have hm : ∀ k, k ≤ 1 → (n + 2 ^ 32 - k) % 2 ^ 32 = n - k := fun k hk => by
      rw [Nat.sub_add_comm (Nat.le_trans hk h1), Nat.add_mod_right,
        Nat.mod_eq_of_lt (Nat.lt_of_le_of_lt (Nat.sub_le _ _) hn)]
    rw [hm _ (by cases isSigned sc (intTypeOf t) <;> decide)]
    by_cases hb : intTypeOf t = .bool
    · have h8 : n ≤ 8 := by rw [hb] at h2; exact h2
      have c1 : n - b2n (isSigned sc .bool) < 32 := Nat.lt_of_le_of_lt (Nat.sub_le _ _) (by omega)
      have c2 : n ≤ 32 := by omega
      simp only [hb, c1, c2, if_true, canRep_int_01, decide_true, Bool.or_true]
    · simp only [hb, if_false, canRep_int sc _ n (fun _ => h1), canRep_uint]
      clear hm hw hne hsz hr
      -- a rank up to that of `int` bounds the size by 4 bytes (`hrk`), hence the width by 32 (`h2`)
      have h32 : (rankB (intTypeOf t) + 1 ≤ 4 ∨ n ≤ 32) ↔ n ≤ 32 := ⟨fun h => by omega, Or.inr⟩
      cases isSigned sc (intTypeOf t) <;>
        simp only [b2n, if_true, if_false, Bool.false_eq_true, Bool.or_eq_true, decide_eq_true_eq, Bool.not_false,
          Bool.not_true, Bool.true_and, Bool.false_and, h32] <;>
        (repeat' split) <;> first | rfl | (exfalso; omega)

/-- The shifts of `typehasint` depend on the type through its size in bytes and its signedness only, and there are
four sizes: each of the eight cases is linear arithmetic once the shifts are evaluated. -/
theorem hasint_bytes (s : Bool) (k : Nat) (hk : k = 1 ∨ k = 2 ∨ k = 4 ∨ k = 8) (v : Nat) (hv : v < 2 ^ 64)
    (sign : Bool) :
    (if (sign && decide (v ≥ shl64 allOnes64 63)) = true then s && decide (v ≥ shl64 allOnes64 (k * 2 ^ 3 - 1))
      else decide (v ≤ shr64 allOnes64 ((8 - k) * 2 ^ 3 + b2n s))) =
    decide (inRange (rangeBits s (k * 8)) (decode v sign)) := by
  have e63 : shl64 allOnes64 63 = 2 ^ 63 := by decide
  rw [e63]
  unfold decode inRange
  by_cases hn : sign = true ∧ v ≥ 2 ^ 63
  · have hn' : (sign && decide (v ≥ 2 ^ 63)) = true := by simp only [hn.1, hn.2, decide_true, Bool.and_self]
    rw [if_pos hn', if_pos hn]
    rcases hk with rfl | rfl | rfl | rfl <;> cases s <;>
      simp [shl64, allOnes64, rangeBits, -Bool.decide_and, decide_eq_decide] <;> omega
  · have hn' : (sign && decide (v ≥ 2 ^ 63)) = false := by
      cases sign
      · rfl
      · simpa using hn
    rw [hn', if_neg hn]
    rcases hk with rfl | rfl | rfl | rfl <;> cases s <;>
      simp [shr64, allOnes64, rangeBits, b2n, -Bool.decide_and, decide_eq_decide] <;> omega

/-- `_Bool` holds exactly 0 and 1 (fix 08f8fa4) -/
theorem hasint_bool (sc : Bool) (v : Nat) (hv : v < 2 ^ 64) (sign : Bool) :
    typehasint sc (.basic .bool) v sign = decide (inRange (0, 1) (decode v sign)) := by
  refine (decide_eq_decide (p := v ≤ 1)).2 ?_
  unfold decode inRange
  split <;> omega

theorem hasint_ok (sc : Bool) (t : ATy) (hi : isIntegerTy t = true) (v : Nat) (hv : v < 2 ^ 64) (sign : Bool) :
    typehasint sc t v sign = decide (inRange (range sc t) (decode v sign)) := by
  have e : typehasint sc t v sign = typehasint sc (.basic (intTypeOf t)) v sign := by cases t <;> rfl
  rw [e]
  obtain ⟨hk, hbits, _⟩ := Basic.lp64 _ hi
  by_cases hb : intTypeOf t = .bool
  · rw [range, hb]; exact hasint_bool sc v hv sign
  · have hne : ¬ (ATy.basic (intTypeOf t)).stripEnum = .basic .bool := fun h => hb (ATy.basic.inj h)
    rw [range, rangeB, hbits hb, ← hasint_bytes _ _ hk v hv sign, typehasint, if_neg hne, ATy.issigned_eq]
    rfl

theorem hasint_sound (sc : Bool) (t : ATy) (hi : isIntegerTy t = true) (v : Nat) (hv : v < 2 ^ 64) (sign : Bool)
    (h : typehasint sc t v sign = true) : inRange (range sc t) (decode v sign) :=
  of_decide_eq_true ((hasint_ok sc t hi v hv sign).symm.trans h)

def litResult : Option Basic → LitResult
  | some b => .ty b
  | none => .noType

/-- row of `limits[]` for a suffix (unsigned ⇒ odd rows) -/
def rowOf : Suffix → Nat
  | ⟨false, .none⟩ => 0 | ⟨true, .none⟩ => 1 | ⟨false, .l⟩ => 2 | ⟨true, .l⟩ => 3
  | ⟨false, .ll⟩ => 4 | ⟨true, .ll⟩ => 5

theorem suffixIndex_grammar : ∀ p ∈ suffixGrammar, suffixIndex p.1 = some (rowOf p.2) := by decide +kernel

theorem suffixIndex_of_parse (s : String) (sfx : Suffix) (hs : parseSuffix s = some sfx) :
    suffixIndex s = some (rowOf sfx) := by
  obtain ⟨l₁, l₂, e, _⟩ := List.lookup_eq_some_iff.1 hs
  exact suffixIndex_grammar (s, sfx) (by rw [e]; exact List.mem_append_right _ List.mem_cons_self)

/-- the types the second loop of `inttype` tries, in order -/
def scanRows (step : Nat) : Nat → Nat → List Basic
  | 0, _ => []
  | fuel + 1, i =>
    match limits[i]? with
    | none => []
    | some (b, _, _) => b :: scanRows step fuel (i + step)

theorem limits_integer : ∀ r ∈ limits, isInteger r.1 = true := by decide

theorem scanLimits_eq (sc : Bool) (v : Nat) (hv : v < 2 ^ 64) (step : Nat) : ∀ fuel i,
    scanLimits sc v step fuel i =
      litResult ((scanRows step fuel i).find? fun b => decide (inRange (rangeB sc b) (v : Int)))
  | 0, _ => rfl
  | fuel + 1, i => by
    unfold scanLimits scanRows
    cases h : limits[i]? with
    | none => rfl
    | some r =>
      obtain ⟨b, e₁, e₂⟩ := r
      have hb : typehasint sc (.basic b) v false = decide (inRange (rangeB sc b) (v : Int)) :=
        hasint_ok sc (.basic b) (limits_integer _ (List.mem_of_getElem? h)) v hv false
      simp only [List.find?_cons, hb, scanLimits_eq sc v hv step fuel]
      cases decide (inRange (rangeB sc b) (v : Int)) <;> rfl

theorem scanLimits_ty (sc : Bool) (v : Nat) (hv : v < 2 ^ 64) (step fuel i : Nat) (b : Basic)
    (h : scanLimits sc v step fuel i = .ty b) : inRange (rangeB sc b) (v : Int) := by
  rw [scanLimits_eq sc v hv] at h
  cases hf : (scanRows step fuel i).find? fun b => decide (inRange (rangeB sc b) (v : Int)) <;> rw [hf] at h <;> cases h
  have hp := List.find?_some hf
  exact of_decide_eq_true hp

theorem scanRows_literalList (decimal : Bool) (sfx : Suffix) :
    scanRows (if rowOf sfx % 2 ≠ 0 || decimal then 2 else 1) limits.length (rowOf sfx) = literalList decimal sfx := by
  obtain ⟨u, len⟩ := sfx
  cases u <;> cases len <;> cases decimal <;> rfl

/-- `typecommonreal` on two different promoted types, enumerated types replaced by their bases -/
def crRest (sc : Bool) (p1 p2 : ATy) : Option ATy :=
  if p1.issigned sc = p2.issigned sc then
    some (if p1.rank > p2.rank then p1 else p2)
  else
    let u := if p1.issigned sc then p2 else p1
    let s := if p1.issigned sc then p1 else p2
    if u.rank ≥ s.rank then some u
    else if u.size < s.size then some s
    else if s = tLong then some tULong
    else if s = tLLong then some tULLong
    else none

/-- the integer types of rank at least that of `int` -/
def wideB : List Basic := [.int, .uint, .long, .ulong, .llong, .ullong]

theorem crRest_table : ∀ b1 ∈ wideB, ∀ b2 ∈ wideB, ∀ sc,
    crRest sc (.basic b1) (.basic b2) = some (.basic (commonRealB sc b1 b2)) := by decide +kernel

theorem mem_wideB (b : Basic) : 4 ≤ b.kind.rank → b ∈ wideB := by cases b <;> decide

theorem typepromote_rank (sc : Bool) (t : ATy) (w : Option Nat) (hf : t ≠ .basic .float) (hi : t.isInt = true) :
    4 ≤ (typepromote sc t w).rank := by
  unfold typepromote
  rw [if_neg hf, hi, Bool.true_and]
  by_cases hc : (decide (t.rank ≤ 4) || decide (wU w ≤ 32)) = true
  · rw [if_pos hc]
    show 4 ≤ (if _ then tInt else tUInt).rank
    rw [apply_ite ATy.rank]
    exact Nat.le_of_eq (ite_self 4).symm
  · rw [if_neg hc]
    simp only [Bool.or_eq_true, decide_eq_true_eq, not_or] at hc
    omega

theorem typepromote_int (sc : Bool) (a : ATy) (w : Option Nat) (hwf : a.wf = true) (hw : validWidth a w)
    (hi : isIntegerTy a = true) : typepromote sc a w = intPromote sc a w := by
  have nf : a ≠ .basic .float := by rintro rfl; cases hi
  rw [promote_ok sc a w hwf hw, promote, if_neg nf, if_pos hi]

theorem commonreal_ok (sc : Bool) (t1 t2 : ATy) (w1 w2 : Option Nat) (f1 : t1.wf = true) (f2 : t2.wf = true)
    (hw1 : validWidth t1 w1) (hw2 : validWidth t2 w2) :
    typecommonreal sc t1 w1 t2 w2 = some (commonReal sc t1 w1 t2 w2) := by
  unfold typecommonreal commonReal
  by_cases hl : t1 = .basic .ldouble ∨ t2 = .basic .ldouble
  · rw [if_pos hl, if_pos hl]
  rw [if_neg hl, if_neg hl]
  by_cases hd : t1 = .basic .double ∨ t2 = .basic .double
  · rw [if_pos hd, if_pos hd]
  rw [if_neg hd, if_neg hd]
  by_cases hf : t1 = .basic .float ∨ t2 = .basic .float
  · rw [if_pos hf, if_pos hf]
  rw [if_neg hf, if_neg hf]
  simp only [not_or] at hl hd hf
  have key : ∀ t w, t.wf = true → validWidth t w → t ≠ .basic .ldouble → t ≠ .basic .double → t ≠ .basic .float →
      intPromote sc t w = typepromote sc t w ∧ 4 ≤ (typepromote sc t w).rank := by
    intro t w hwf hw h1 h2 h3
    have hi : t.isInt = true := by
      cases t with
      | basic b => cases b <;> first | rfl | exact absurd rfl h1 | exact absurd rfl h2 | exact absurd rfl h3
      | enum i b => rfl
    exact ⟨(typepromote_int sc t w hwf hw (ATy.isInt_eq t hwf ▸ hi)).symm, typepromote_rank sc t w h3 hi⟩
  obtain ⟨e1, r1⟩ := key t1 w1 f1 hw1 hl.1 hd.1 hf.1
  obtain ⟨e2, r2⟩ := key t2 w2 f2 hw2 hl.2 hd.2 hf.2
  rw [e1, e2]
  -- what is left of `typecommonreal` is `crRest` on the types without their enum wrappers
  show (if _ then _ else crRest sc _ _) = _
  by_cases he : typepromote sc t1 w1 = typepromote sc t2 w2
  · rw [if_pos he, if_pos he]
  · rw [if_neg he, if_neg he, ATy.stripEnum_eq, ATy.stripEnum_eq]
    rw [ATy.rank_eq] at r1 r2
    exact crRest_table _ (mem_wideB _ r1) _ (mem_wideB _ r2) sc

end CprocVerif.Types.Lemmas
