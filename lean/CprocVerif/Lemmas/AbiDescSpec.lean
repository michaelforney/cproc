import CprocVerif.Lemmas.AbiDescPlace

/-! Lemmas for C08, about the spec alone: on `good` types the three targets agree; merging the bit-fields of one
storage unit does not change which bytes hold integers (`FieldsEquiv`); a `good` type is in none of the excluded classes -/

namespace CprocVerif.AbiDesc
open CprocVerif.Layout CprocVerif.Abi CprocVerif.QbeLayout

mutual
  theorem tinfo_target (T : Target) : ∀ (t : AType), good t = true →
      Abi.tinfo T (erase t) = Abi.tinfo x86_64 (erase t)
    | .sc _, _ => rfl
    | .blob .., _ => rfl
    | .array e none, h => by simp [good] at h
    | .array e (some n), h => by
      simp only [good, Bool.and_eq_true] at h
      simp only [erase, Abi.tinfo, tinfo_target T e h.1.1]
    | .su u p fs, h => by
      obtain ⟨_, hgf, _, _, hn, _⟩ := good_su h
      simp only [erase, Abi.tinfo, decls_target T fs hgf, layout_target hn]
  theorem decls_target (T : Target) : ∀ (fs : AFields), goodF fs = true →
      Abi.decls T (eraseF fs) = Abi.decls x86_64 (eraseF fs)
    | .nil, _ => rfl
    | .cons name ty al w rest, h => by
      simp only [goodF, Bool.and_eq_true] at h
      simp only [eraseF, Abi.decls, tinfo_target T ty h.1, decls_target T rest h.2]
end

mutual
  theorem flattenC_target (T : Target) (mg : Bool) : ∀ (t : AType), good t = true →
      flattenC T mg t = flattenC x86_64 mg t
    | .sc _, _ => rfl
    | .blob .., _ => rfl
    | .array e none, h => by simp [good] at h
    | .array e (some n), h => by
      simp only [good, Bool.and_eq_true] at h
      simp only [flattenC, tinfo_target T e h.1.1, flattenC_target T mg e h.1.1]
    | .su u p fs, h => by
      obtain ⟨_, hgf, _, _, hn, _⟩ := good_su h
      simp only [flattenC, decls_target T fs hgf, layout_target hn]
      exact flattenFields_target T mg _ fs hgf _ _
  theorem flattenFields_target (T : Target) (mg here : Bool) : ∀ (fs : AFields), goodF fs = true →
      ∀ (ms : List Member) (last : Option (Nat × Nat)),
      flattenFields T mg here fs ms last = flattenFields x86_64 mg here fs ms last
    | .nil, _, _, _ => by simp only [flattenFields]
    | .cons name ty al w rest, h, ms, last => by
      simp only [goodF, Bool.and_eq_true] at h
      cases ms with
      | nil => simp only [flattenFields, flattenFields_target T mg here rest h.2]
      | cons m ms' =>
        simp only [flattenFields, flattenC_target T mg ty h.1, flattenFields_target T mg here rest h.2]
end

theorem fe_refl (a : List Fld) : FieldsEquiv a a := ⟨rfl, fun _ => Iff.rfl⟩

theorem fe_trans {a b c : List Fld} (h1 : FieldsEquiv a b) (h2 : FieldsEquiv b c) : FieldsEquiv a c :=
  ⟨h1.1.trans h2.1, fun x => (h1.2 x).trans (h2.2 x)⟩

theorem intCovers_append (a b : List Fld) (x : Nat) : intCovers (a ++ b) x ↔ intCovers a x ∨ intCovers b x := by
  unfold intCovers
  constructor
  · rintro ⟨f, hf, h⟩
    rcases List.mem_append.1 hf with hf | hf
    · exact Or.inl ⟨f, hf, h⟩
    · exact Or.inr ⟨f, hf, h⟩
  · rintro (⟨f, hf, h⟩ | ⟨f, hf, h⟩)
    · exact ⟨f, List.mem_append_left _ hf, h⟩
    · exact ⟨f, List.mem_append_right _ hf, h⟩

theorem nonInt_append (a b : List Fld) : nonInt (a ++ b) = nonInt a ++ nonInt b := by
  unfold nonInt; rw [List.filter_append]

theorem fe_append {a b c d : List Fld} (h1 : FieldsEquiv a b) (h2 : FieldsEquiv c d) :
    FieldsEquiv (a ++ c) (b ++ d) := by
  refine ⟨by rw [nonInt_append, nonInt_append, h1.1, h2.1], fun x => ?_⟩
  rw [intCovers_append, intCovers_append, h1.2 x, h2.2 x]

theorem nonInt_shift (d : Nat) (a : List Fld) : nonInt (shift d a) = shift d (nonInt a) := by
  unfold nonInt shift
  induction a with
  | nil => rfl
  | cons f fs ih =>
    simp only [List.map_cons, List.filter_cons]
    split <;> simp [ih]

theorem intCovers_shift (d : Nat) (a : List Fld) (x : Nat) :
    intCovers (shift d a) x ↔ d ≤ x ∧ intCovers a (x - d) := by
  unfold intCovers shift
  constructor
  · rintro ⟨f, hf, hk, h1, h2⟩
    obtain ⟨g, hg, rfl⟩ := List.mem_map.1 hf
    simp only at hk h1 h2
    exact ⟨by omega, g, hg, hk, by omega, by omega⟩
  · rintro ⟨hd, g, hg, hk, h1, h2⟩
    exact ⟨_, List.mem_map.2 ⟨g, hg, rfl⟩, hk, by simp only; omega, by simp only; omega⟩

theorem fe_shift (d : Nat) {a b : List Fld} (h : FieldsEquiv a b) : FieldsEquiv (shift d a) (shift d b) := by
  refine ⟨by rw [nonInt_shift, nonInt_shift, h.1], fun x => ?_⟩
  rw [intCovers_shift, intCovers_shift, h.2]

theorem fe_rep {a b : List Fld} (h : FieldsEquiv a b) (s : Nat) : ∀ (n : Nat), FieldsEquiv (rep n s a) (rep n s b)
  | 0 => fe_refl _
  | n + 1 => by
    rw [rep_succ, rep_succ]
    exact fe_append h (fe_shift s (fe_rep h s n))

theorem fe_dup (u : Fld) (hk : u.kind = .int) (a : List Fld) : FieldsEquiv (u :: a) (u :: u :: a) := by
  refine ⟨?_, fun x => ?_⟩
  · unfold nonInt
    simp [hk]
  · unfold intCovers
    constructor
    · rintro ⟨f, hf, h⟩
      exact ⟨f, List.mem_cons_of_mem _ hf, h⟩
    · rintro ⟨f, hf, h⟩
      rcases List.mem_cons.1 hf with rfl | hf
      · exact ⟨f, List.mem_cons_self .., h⟩
      · exact ⟨f, hf, h⟩

def unitOf : Option (Nat × Nat) → List Fld
  | none => []
  | some (o, z) => [⟨o, z, .int⟩]

mutual
  theorem flattenC_merge (T : Target) : ∀ (t : AType), FieldsEquiv (flattenC T true t) (flattenC T false t)
    | .sc _ => fe_refl _
    | .blob .. => fe_refl _
    | .array e none => fe_refl _
    | .array e (some n) => by
      simp only [flattenC]
      exact fe_rep (flattenC_merge T e) _ n
    | .su u p fs => by
      simp only [flattenC]
      have := flattenFields_merge T (true && !u) fs (Abi.layout T u p (Abi.decls T (eraseF fs))).members none
      simpa [unitOf] using this
  /-- the induction needs every `last`; the unit that is still open stands in front on both sides: the merged side omits its
  repetition, the other side repeats it, and a repeated integer field covers nothing more (`fe_dup`) -/
  theorem flattenFields_merge (T : Target) (here : Bool) : ∀ (fs : AFields) (ms : List Member)
      (last : Option (Nat × Nat)),
      FieldsEquiv (unitOf last ++ flattenFields T true here fs ms last)
        (unitOf last ++ flattenFields T false false fs ms last)
    | .nil, _, _ => by simp only [flattenFields]; exact fe_refl _
    | .cons name ty al w rest, ms, last => by
      by_cases hprod : (name.isSome || w.isNone) = true
      · cases ms with
        | nil => simp only [flattenFields, hprod, ↓reduceIte]; exact fe_refl _
        | cons m ms' =>
          cases w with
          | none =>
            simp only [flattenFields, hprod, ↓reduceIte]
            have i1 := flattenFields_merge T here rest ms' none
            simp only [unitOf, List.nil_append] at i1
            exact fe_append (fe_refl _) (fe_append (fe_shift _ (flattenC_merge T ty)) i1)
          | some w' =>
            have i1 := flattenFields_merge T here rest ms' (some (m.offset, m.tsize))
            simp only [unitOf, List.singleton_append] at i1
            simp only [flattenFields, hprod, ↓reduceIte, Bool.false_and, Bool.false_eq_true]
            by_cases hm : (here && last == some (m.offset, m.tsize)) = true
            · simp only [hm, ↓reduceIte, List.nil_append]
              simp only [Bool.and_eq_true, beq_iff_eq] at hm
              rw [hm.2]
              simp only [unitOf, List.singleton_append]
              exact fe_trans i1 (fe_dup _ rfl _)
            · simp only [hm, Bool.false_eq_true, ↓reduceIte]
              exact fe_append (fe_refl _) i1
      · simp only [flattenFields, hprod, Bool.false_eq_true, ↓reduceIte]
        exact flattenFields_merge T here rest ms last
end

theorem existsPairB_false {α : Type} (r s : α → α → Bool) (h : ∀ a b, r a b = true → s a b = true → False) :
    ∀ (l : List α), pairwiseB s l = true → existsPairB r l = false
  | [], _ => rfl
  | a :: as, hp => by
    simp only [pairwiseB, Bool.and_eq_true, List.all_eq_true] at hp
    simp only [existsPairB, Bool.or_eq_false_iff, existsPairB_false r s h as hp.2, and_true]
    apply Bool.eq_false_iff.2
    intro hany
    obtain ⟨b, hb, hr⟩ := List.any_eq_true.1 hany
    exact h a b hr (hp.1 b hb)

theorem smaller_not_rel (a b : Member) : smallerUnit a b = true → unitRel a b = true → False := by
  simp only [smallerUnit, unitRel, sameUnit, Bool.and_eq_true, Bool.or_eq_true, decide_eq_true_eq, beq_iff_eq]
  rintro ⟨⟨_, h1⟩, h2⟩ (⟨⟨_, _⟩, h3⟩ | h3) <;> omega

theorem inside_not_rel (a b : Member) : startsInside a b = true → unitRel a b = true → False := by
  simp only [startsInside, unitRel, sameUnit, Bool.and_eq_true, Bool.or_eq_true, decide_eq_true_eq, beq_iff_eq]
  rintro ⟨⟨_, h1⟩, h2⟩ (⟨⟨_, h4⟩, _⟩ | h3) <;> omega

theorem overlap_not_rel (a b : Member) : overlapsEarlier a b = true → unitRel a b = true → False := by
  simp only [overlapsEarlier, unitRel, Bool.and_eq_true, Bool.or_eq_true, decide_eq_true_eq, Bool.not_eq_true']
  rintro ⟨⟨_, h1⟩, h2⟩ (h3 | h3)
  · rw [h2] at h3; cases h3
  · omega

mutual
  theorem classes_good (T : Target) : ∀ (t : AType), good t = true → classes T t = []
    | .sc s, h => by
      simp only [good, decide_eq_true_eq] at h
      simp only [classes, h, ↓reduceIte]
    | .blob s a d, h => by
      simp only [good, Bool.and_eq_true] at h
      simp only [classes, h.1.1.1.1, ↓reduceIte]
    | .array e none, h => by simp [good] at h
    | .array e (some n), h => by
      simp only [good, Bool.and_eq_true, decide_eq_true_eq] at h
      have hn : n ≠ 0 := by omega
      simp only [classes, hn, ↓reduceIte, List.nil_append, classes_good T e h.1.1]
    | .su u p fs, h => by
      obtain ⟨hp, hgf, _, hok, hn, hchain⟩ := good_su h
      subst hp
      have hflex := goodF_noflex fs hgf
      rw [aggFlexible_any] at hflex
      have h1 : (Abi.decls x86_64 (eraseF fs)).any (fun d => decide (d.ty.align < d.align)) = false :=
        List.any_eq_false.2 fun d hd hr => by
          have := List.all_eq_true.1 hok d hd
          simp only [declOk, Bool.and_eq_true, decide_eq_true_eq] at this hr
          omega
      have h2 : (Abi.decls x86_64 (eraseF fs)).any Decl.isUnnamedBf = false :=
        List.any_eq_false.2 fun d hd hr => by
          have := hn d hd
          simp only [Decl.isUnnamedBf, Decl.unnamedBf] at hr this
          rw [this] at hr; cases hr
      simp only [classes, decls_target T fs hgf, layout_target hn, classesF_good T fs hgf, List.append_nil,
        nodeClasses, Bool.false_eq_true, ↓reduceIte, h1, h2, hflex, List.nil_append]
      cases u with
      | true => simp
      | false =>
        have hch := hchain.resolve_left (fun h => nomatch h)
        simp only [Bool.not_false, Bool.true_and, hch, Bool.not_true, Bool.false_eq_true, ↓reduceIte,
          existsPairB_false _ _ smaller_not_rel _ hch, existsPairB_false _ _ inside_not_rel _ hch,
          existsPairB_false _ _ overlap_not_rel _ hch, List.append_nil]
  theorem classesF_good (T : Target) : ∀ (fs : AFields), goodF fs = true → classesF T fs = []
    | .nil, _ => rfl
    | .cons name ty al w rest, h => by
      simp only [goodF, Bool.and_eq_true] at h
      simp only [classesF, classes_good T ty h.1, classesF_good T rest h.2, List.append_nil]
end

end CprocVerif.AbiDesc
