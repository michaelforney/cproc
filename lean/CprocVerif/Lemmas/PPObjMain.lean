import CprocVerif.Lemmas.PPSimLoop
import CprocVerif.Lemmas.PPObjSim
import CprocVerif.Lemmas.PPFlatG

/-! # Object-like macro sets: `next()` and the whole stream against the reference

On an object-like table `absCtx`, `potCtx` and `Good.ctxOk` are readings of `flatG`, so `rawnext` on a `Good` state is
read off `rawnext_flatG`; `expand` does what one unit of fuel of the reference does; so one `rawnext(); expand()` round
is a step of the reference that lowers the potential, and the loops of `PPSimLoop` apply with the invariant `Good`,
the abstraction `absSt` and the order of `pot`. -/

namespace CprocVerif.PP
open CprocVerif.Gen.TokenKinds
open CprocVerif.Spec.MacroRef (HTok Item PTok MacroDef RErr Flag expandH)
open CprocVerif.Spec

theorem ObjOnly.bind {ms : List Macro} (h : ObjOnly ms) {f : Frame} {m : Macro} (hm : f.mac.bind (macroget ms) = some m) :
    m.func = false :=
  have ⟨_, _, hg⟩ := Option.bind_eq_some_iff.mp hm
  h m (macroget_mem hg).1

theorem ObjOnly.frameToks {ms : List Macro} (h : ObjOnly ms) (f : Frame) : frameToks ms f = f.toks := by
  unfold PP.frameToks
  cases hm : f.mac.bind (macroget ms) with
  | none => rfl
  | some m => simp only [h.bind hm, Bool.false_eq_true, ↓reduceIte]

theorem ObjOnly.ctxWF {ms : List Macro} (h : ObjOnly ms) (ctx : List Frame) : CtxWF ms ctx :=
  fun _ _ _ hm hf => absurd hf (by rw [h.bind hm]; decide)

theorem ObjOnly.absCtx {ms : List Macro} (h : ObjOnly ms) : ∀ ctx, absCtx ctx = flatG (fun L t => mkH L.reverse t) ms ctx
  | [] => rfl
  | f :: rest => by rw [PP.absCtx, flatG, h.frameToks, ObjOnly.absCtx h rest]; rfl

theorem ObjOnly.potCtx {ms : List Macro} (h : ObjOnly ms) (tbl : List MacroDef) :
    ∀ ctx, potCtx tbl ctx = (flatG (W tbl) ms ctx).sum
  | [] => rfl
  | f :: rest => by rw [PP.potCtx, flatG, h.frameToks, List.sum_append, ObjOnly.potCtx h tbl rest]

theorem ObjOnly.forall_flat {ms : List Macro} (h : ObjOnly ms) (P : Tok → Prop) :
    ∀ ctx : List Frame, (∀ f ∈ ctx, ∀ t ∈ f.toks, P t) ↔ ∀ t ∈ flat ms ctx, P t
  | [] => by simp [flat]
  | f :: rest => by
    simp only [flat, h.frameToks, List.forall_mem_cons, List.mem_append, or_imp, forall_and, ObjOnly.forall_flat h P rest]

theorem forall_of_strip {ms ms' : List Macro} (h : ms'.map strip = ms.map strip)
    {Q : Name × Bool × List Param × List Arg × List Tok → Prop} (hQ : ∀ m ∈ ms, Q (strip m)) : ∀ m ∈ ms', Q (strip m) := by
  intro m hm
  have : strip m ∈ ms.map strip := h ▸ List.mem_map_of_mem hm
  obtain ⟨m', hm', e⟩ := List.mem_map.mp this
  exact e ▸ hQ m' hm'

inductive Raw1 (st s1 : St) : Prop where
  | tok (h1 : okKind s1.rt) (h2 : absSt st = .tok (mkH (hsOf s1.ctx) s1.rt) :: absSt s1)
      (h3 : pot st = W (toTbl st.macros) (liveNames s1.ctx) s1.rt + pot s1)
  | nl (h1 : s1.rt.kind = .TNEWLINE) (h2 : absSt st = absSt s1) (h3 : pot s1 < pot st)
  | eof (h1 : s1.rt = eofTok) (h2 : absSt st = [])

theorem rawnext_good (st : St) (g : Good st) :
    ∃ s1, exec 2 .rawnext st = .ok s1 ∧ Good s1 ∧ toTbl s1.macros = toTbl st.macros ∧ Raw1 st s1 := by
  obtain ⟨s1, he, -, hpp, hstrip, hinv, hcase⟩ := rawnext_flatG 0 st (.inr g.obj) (g.obj.ctxWF _)
    (fun t r h => have p := g.plain t (h ▸ List.mem_cons_self ..); ⟨p.2.1, p.1⟩)
  refine ⟨s1, he, ?_⟩
  have hobj : ObjOnly s1.macros := forall_of_strip (Q := fun x => x.2.1 = false) hstrip g.obj
  have hbody : ∀ m ∈ s1.macros, ∀ t ∈ m.body, okKind t :=
    forall_of_strip (Q := fun x => ∀ t ∈ x.2.2.2.2, okKind t) hstrip g.bodyOk
  have htbl : toTbl s1.macros = toTbl st.macros :=
    map_eq_of_factor (k := toDefObj) (fun x => (⟨x.1, false, [], false, x.2.2.2.2.map toP⟩ : MacroDef)) (fun _ => rfl) hstrip
  have good : (∀ x ∈ s1.raw, x ∈ st.raw) → (∀ t ∈ flat s1.macros s1.ctx, okKind t) → Good s1 := fun hr hf =>
    ⟨hinv g.inv, hobj, fun x hx => g.plain x (hr x hx), fun x hx => g.rawNoHide x (hr x hx), (hobj.forall_flat _ _).mpr hf, hbody,
      hpp.1.trans g.ppnl⟩
  have hflat := (g.obj.forall_flat okKind _).mp g.ctxOk
  refine ⟨?_, htbl, ?_⟩
  all_goals rcases hcase with ⟨-, hraw, hcons⟩ | ⟨hctx, hnil, hraw⟩
  · exact good (fun x hx => hraw ▸ hx) fun t ht => hflat t (by rw [flat_eq_flatG, hcons, ← flat_eq_flatG]; exact List.mem_cons_of_mem _ ht)
  · refine good (fun x hx => ?_) (by rw [hctx]; exact fun _ h => nomatch h)
    rcases hraw with h | ⟨-, -, h⟩
    · exact h ▸ List.mem_cons_of_mem _ hx
    · rw [h] at hx; cases hx
  · refine .tok (hflat _ (by rw [flat_eq_flatG, hcons]; exact List.mem_cons_self ..)) ?_ ?_
    · rw [absSt, g.obj.absCtx, hcons, absSt, hobj.absCtx, hraw]; rfl
    · rw [pot, pot, htbl, g.obj.potCtx, hobj.potCtx, hcons, hraw, List.sum_cons, Nat.add_assoc]
  · have habs : PP.absCtx st.ctx = [] := by rw [g.obj.absCtx, hnil]
    have hp0 : PP.potCtx (toTbl st.macros) st.ctx = 0 := by rw [g.obj.potCtx, hnil]; rfl
    have habs1 : absSt s1 = (absRaw s1.raw).map .tok := by rw [absSt, hctx]; rfl
    rcases hraw with h1 | ⟨h1, h2, -⟩
    · have ht := g.plain s1.rt (h1 ▸ List.mem_cons_self ..)
      have hpot : pot st = W (toTbl st.macros) [] s1.rt + pot s1 := by
        rw [pot, hp0, h1, List.map_cons, List.sum_cons, Nat.zero_add, pot, hctx, htbl]; simp [PP.potCtx]
      by_cases hv : s1.rt.kind = .TNEWLINE
      · refine .nl hv ?_ (by rw [hpot]; exact Nat.lt_add_of_pos_left (W_pos _ _ _))
        rw [habs1, absSt, habs, h1]; simp [absRaw, visible, hv]
      · refine .tok ⟨hv, ht.2.2, g.rawNoHide _ (h1 ▸ List.mem_cons_self ..)⟩ ?_ (by rw [hpot, hctx]; rfl)
        rw [habs1, absSt, habs, h1, hctx]; simp [absRaw, visible, hv, hsOf, liveNames]
    · exact .eof h1 (by rw [absSt, habs, h2]; rfl)

inductive Exp1 (s1 : St) (t : Tok) (s2 : St) : Prop where
  | pushed (h1 : s2.rb = true)
      (h2 : ∀ K, outKeys (expandH false (K + 1) (toTbl s1.macros) (.tok (mkH (hsOf s1.ctx) t) :: absSt s1))
        = outKeys (expandH false K (toTbl s1.macros) (absSt s2)))
      (h3 : pot s2 + 1 = W (toTbl s1.macros) (liveNames s1.ctx) t + pot s1)
  | kept (h1 : s2.rb = false) (h2 : s2.rt.kind = t.kind) (h3 : s2.rt.lit = t.lit) (h4 : absSt s2 = absSt s1)
      (h5 : ∀ K, outKeys (expandH false (K + 1) (toTbl s1.macros) (.tok (mkH (hsOf s1.ctx) t) :: absSt s1))
        = consKey (t.kind, t.lit) (outKeys (expandH false K (toTbl s1.macros) (absSt s1))))
      (h6 : pot s2 = pot s1)

theorem expand_sim (s1 : St) (g : Good s1) (t : Tok) (ht : okKind t) :
    Good (expandObj t s1) ∧ toTbl (expandObj t s1).macros = toTbl s1.macros ∧ Exp1 s1 t (expandObj t s1) := by
  have hH : mkHp s1.macros (hsOf s1.ctx) t = mkH (hsOf s1.ctx) t := mkHp_nohide _ _ _ ht.2.2
  have h := expandObj_ref (tbl := toTbl s1.macros) (toD := toDefObj) (t := t) g.inv (by rw [toTbl_names]; exact g.inv.names)
    (lookup_toTbl _ _) (fun m _ hm => ⟨g.obj m (macroget_mem hm).1, rfl, rfl, rfl⟩)
  generalize expandObj t s1 = s2 at h ⊢
  cases h with
  | pass t' hst hkind hlit sim =>
    subst hst
    refine ⟨g.sameBut (.regs ..), rfl, .kept rfl hkind hlit rfl (fun K => ?_) rfl⟩
    rw [outKeys_of_outE, ← hH, sim]
    rw [outKeys_of_outE (expandH false K _ _)]
    simp [keysE, consE, consKey, eraseHs, mkHp, toP, MacroRef.PTok.key, hkind, hlit]
  | push m hst hget hf hth hinv2 hpot sim =>
    subst hst
    have hmem := (macroget_mem hget).1
    refine ⟨⟨hinv2, setHide_forall (fun _ _ h => h) g.obj _ _, g.plain, g.rawNoHide, ?_,
      setHide_forall (P := fun m => ∀ t ∈ m.body, okKind t) (fun _ _ h => h) g.bodyOk _ _, g.ppnl⟩,
      toTbl_setHide _ _ _, .pushed rfl (fun K => ?_) ?_⟩
    · intro f hf x hx
      rcases List.mem_cons.mp hf with rfl | hf
      · exact okKind_respace (g.bodyOk m hmem) x hx
      · exact g.ctxOk f hf x hx
    · -- the reference passes the white space in front of an empty replacement on, `expand` drops it
      obtain ⟨q, hq, hqe⟩ := front_tok (m.body.map (mkH (hsOf s1.ctx ++ [m.name]))) t.space (absCtx s1.ctx ++ absRaw s1.raw)
      rw [outKeys_of_outE, sim, ← outKeys_of_outE, show absSt s1 = (absCtx s1.ctx ++ absRaw s1.raw).map Item.tok from rfl, hq]
      apply expandH_erase _ (toTbl_obj _)
      rw [hqe]
      show _ = (absCtx (pushed m t s1).ctx ++ absRaw s1.raw).map eraseT
      simp only [pushed, absCtx, List.map_append, List.append_assoc, respace_map_erase, hsOf_push]
    · have hlive : liveNames ((⟨respace m.body t.space, some m.name⟩ : Frame) :: s1.ctx) = m.name :: liveNames s1.ctx :=
        liveNames_cons_some _ _ _ rfl
      rw [hpot]
      simp only [pot, pushed, toTbl_setHide, potCtx, hlive]
      omega

/-- The invariant of the loops is `Good` together with the table as the reference sees it, which no call changes (only
`hide` flags are written). -/
theorem round_obj {tbl : List MacroDef} (st : St) (g : Good st ∧ toTbl st.macros = tbl) :
    ∃ s1 s2, exec 2 .rawnext st = .ok s1 ∧ exec 2 (.expand s1.rt) s1 = .ok s2 ∧
      (Good s2 ∧ toTbl s2.macros = tbl) ∧ StepG tbl absSt (absSt st) s2 ∧
      (s2.rt.kind = .TEOF ∧ s2.rb = false ∨ pot s2 < pot st) := by
  obtain ⟨g, rfl⟩ := g
  obtain ⟨s1, he, g1, ht1, hr⟩ := rawnext_good st g
  refine ⟨s1, _, he, expand_obj 1 _ _ g1.obj, ?_⟩
  have hskip : s1.rt.kind ≠ .TIDENT → expandObj s1.rt s1 = { s1 with rb := false, rt := s1.rt } :=
    fun hne => by rw [expandObj, if_pos hne]
  cases hr with
  | tok hk habs hpot =>
    obtain ⟨g2, ht2, hcase⟩ := expand_sim s1 g1 s1.rt hk
    refine ⟨⟨g2, ht2.trans ht1⟩, ?_⟩
    have hw := W_pos (toTbl st.macros) (liveNames s1.ctx) s1.rt
    cases hcase with
    | pushed hrb hK hp =>
      exact ⟨.again (.inl hrb) (.of_eq 0 fun K _ => by rw [habs, ← ht1]; exact hK K), .inr (by rw [ht1] at hp; omega)⟩
    | kept hrb hkind hlit hab hK hp =>
      refine ⟨.out hrb (hkind ▸ hk.1) (hkind ▸ hk.2.1) (.of_out _ fun K => ?_), .inr (by omega)⟩
      rw [habs, ← ht1, hkind, hlit, hab]
      exact hK K
  | nl hk habs hpot =>
    rw [hskip (by rw [hk]; decide)]
    exact ⟨⟨g1.sameBut (.regs ..), ht1⟩, .again (.inr ⟨hk, g1.ppnl⟩) (habs ▸ Link.refl _ _), .inr hpot⟩
  | eof hk habs =>
    rw [hskip (by rw [hk]; decide)]
    exact ⟨⟨g1.sameBut (.regs ..), ht1⟩, .eof rfl (by rw [hk]; rfl) habs, .inl ⟨by rw [hk]; rfl, rfl⟩⟩

theorem good_settok {tbl : List MacroDef} (st : St) (g : Good st ∧ toTbl st.macros = tbl) :
    (Good { st with tok := toKeyword st.rt } ∧ toTbl st.macros = tbl) ∧
      absSt { st with tok := toKeyword st.rt } = absSt st ∧
      ∀ x, pot st < pot x → pot { st with tok := toKeyword st.rt } < pot x :=
  ⟨⟨g.1.sameBut (.regs ..), g.2⟩, rfl, fun _ h => h⟩

theorem next_sim (n : Nat) (st st' : St) (g : Good st) (h : exec n .next st = .ok st') :
    Good st' ∧ st'.tok = toKeyword st'.rt :=
  have ⟨g', htok, _⟩ := next_simT (InvImage.wf pot Nat.lt_wfRel.wf) Nat.lt_trans good_settok (fun st g => ⟨2, round_obj st g⟩) ⟨g, rfl⟩ h
  ⟨g'.1, htok⟩

theorem run_sim (n : Nat) (st : St) (g : Good st) (h : (run n st).2 = none) :
    ∃ J, ∀ K, J ≤ K → (expandH false K (toTbl st.macros) (absSt st)).2.1 = none ∧
      (expandH false K (toTbl st.macros) (absSt st)).1.map (fun t => kwKey t.tok.key) = runKeys (run n st).1 :=
  run_simT (InvImage.wf pot Nat.lt_wfRel.wf) Nat.lt_trans good_settok (fun st g => ⟨2, round_obj st g⟩) ⟨g, rfl⟩ h

/-! ## An explicit fuel bound

Every pass through the loop of `next()` lowers the potential, so `pot st + 4` units of fuel
complete the run. -/

theorem next_terminates : ∀ (k : Nat) (st : St), Good st → pot st + 3 ≤ k →
    ∃ st', exec k .next st = .ok st' ∧ (st'.rt.kind = .TEOF ∨ pot st' + 1 ≤ pot st) := by
  intro k
  induction k using Nat.strongRecOn with
  | _ k ih =>
    intro st g hk
    match k, hk with
    | j + 3, hk =>
      obtain ⟨s1, s2, h1, h2, g2, -, hp⟩ := round_obj st ⟨g, rfl⟩
      rw [next_eq h1 h2 (Nat.le_add_left 2 j)]
      by_cases ha : s2.rb = true ∨ (s2.rt.kind = .TNEWLINE ∧ s2.ppnl = false)
      · rw [if_pos ha]
        -- the loop does not go round again at the end of the input
        have hd : pot s2 < pot st := hp.resolve_left fun ⟨hk, hrb⟩ =>
          ha.elim (fun h => by rw [hrb] at h; cases h) fun h => by rw [hk] at h; cases h.1
        obtain ⟨st', h1, h2⟩ := ih (j + 2) (Nat.lt_succ_self _) s2 g2.1 (by omega)
        exact ⟨st', h1, h2.imp_right fun h => by omega⟩
      · rw [if_neg ha]
        exact ⟨_, rfl, hp.imp_left And.left⟩

theorem run_terminates : ∀ (n : Nat) (st : St), Good st → pot st + 4 ≤ n → (run n st).2 = none := by
  intro n
  induction n with
  | zero => intro st _ h; omega
  | succ n ih =>
    intro st g hn
    obtain ⟨st1, h1, h2⟩ := next_terminates n st g (by omega)
    have hg := (next_sim n st st1 g h1)
    unfold run
    rw [h1]
    simp only
    by_cases he : st1.tok.kind = .TEOF
    · simp [he]
    · simp only [he, ↓reduceIte]
      have hrt : st1.rt.kind ≠ .TEOF := by
        rw [hg.2] at he
        exact fun hh => he ((toKeyword_eof _).mpr hh)
      rcases h2 with h2 | h2
      · exact absurd h2 hrt
      · exact ih st1 hg.1 (by omega)

end CprocVerif.PP
