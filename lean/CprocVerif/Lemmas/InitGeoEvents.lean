import CprocVerif.Lemmas.InitGeo
import CprocVerif.Lemmas.InitEmitCells

/-!
# Events at places of the tree are laminar and well formed

If every `add` of a log stores a value of the right shape at a place of the object's tree and
every `clear` clears a non-scalar place, the log satisfies the hypotheses of `emitdata_image_ev`.
-/

namespace CprocVerif.InitSim
open CprocVerif.Init CprocVerif.Image CprocVerif.InitRef

/-- shape of the value `parseinit` stores at a place -/
def Shape (q : Place) (v : Val) : Prop :=
  match q.ty with
  | .scalar s k => (∃ u, v = .int s u) ∨ (∃ b, v = .flt s b ∧ k = .flt) ∨ (∃ sy o, v = .addr sy o) ∨ v = .other
  | .array _ (.scalar es (.int _ _)) => (∃ cs, v = .str es cs ∧ (es = 1 ∨ es = 2 ∨ es = 4))
  | _ => v = .other

structure AddAt (q : Place) (i : Init) : Prop where
  start : i.start = q.off
  stop : i.stop = q.off + q.ty.size
  before : i.before = q.before
  after : i.after = q.after
  shape : Shape q i.val

def PlaceEv (root : Place) : Ev → Prop
  | .add i => ∃ ps q, walk root ps = some q ∧ AddAt q i
  | .clear a b => ∃ ps q, walk root ps = some q ∧ a = q.off ∧ b = q.off + q.ty.size ∧ isScalarTy q.ty = false

variable {nu : Bool} {root q : Place} {i o : Init}

theorem AddAt.lo (h : AddAt q i) : i.lo = plo q := by
  unfold Init.lo plo; rw [h.start, h.before, Nat.mul_comm]

theorem AddAt.hi (h : AddAt q i) : i.hi = phi q := by
  unfold Init.hi phi; rw [h.stop, h.after, Nat.mul_comm]

theorem scalar_no_child (hs : isScalarTy q.ty = true) {r : List Nat} {d : Place} (h : walk q r = some d) :
    r = [] := by
  cases r with
  | nil => rfl
  | cons k r' =>
    obtain ⟨ch, hc, _⟩ := walk_cons.1 h
    rw [childAt_nonscalar hc] at hs
    cases hs

theorem lay_size_le {s : Nat} {k : SK} (h : layOK (.scalar s k) = true) : 0 < s ∧ s ≤ 8 := by
  cases k with
  | int c sg =>
    simp only [layOK, beq_iff_eq] at h
    rw [h]
    exact csize_bounds c
  | flt =>
    simp only [layOK, Bool.or_eq_true, beq_iff_eq] at h
    rcases h with rfl | rfl <;> decide
  | ptr =>
    simp only [layOK, beq_iff_eq] at h
    subst h
    decide

theorem evValOK_other (h : i.val = .other) : evValOK (.add i) = false := by
  simp only [evValOK, h]

theorem evValOK_addr {sy : String} {o : Nat} (h : i.val = .addr sy o) (hv : evValOK (.add i) = true) :
    i.before = 0 ∧ i.after = 0 ∧ i.stop = i.start + 8 := by
  simp only [evValOK, h, Bool.and_eq_true, beq_iff_eq] at hv
  exact ⟨hv.1.1, hv.1.2, hv.2⟩

def GoodAdd (root : Place) (i : Init) : Prop := PlaceEv root (.add i) ∧ evValOK (.add i) = true

theorem plo_lt_phi (h : q.before + q.after < 8 * q.ty.size) : plo q < phi q := by
  unfold plo phi
  refine Nat.lt_sub_of_add_lt ?_
  rw [Nat.mul_add, Nat.add_assoc]
  exact Nat.add_lt_add_left h _

theorem good_cases (hg : PlGeo nu q) (ha : AddAt q i) (hv : evValOK (.add i) = true) :
    (∃ s k, q.ty = .scalar s k ∧ s ≤ 8 ∧ i.lo < i.hi ∧
      ((∃ u, i.val = .int s u) ∨ (∃ b, i.val = .flt s b ∧ k = .flt ∧ i.before = 0 ∧ i.after = 0) ∨
        (∃ sy o, i.val = .addr sy o ∧ i.before = 0 ∧ i.after = 0 ∧ s = 8))) ∨
    (∃ n es c sg cs, q.ty = .array n (.scalar es (.int c sg)) ∧ i.val = .str es cs ∧ (es = 1 ∨ es = 2 ∨ es = 4) ∧
      i.before = 0 ∧ i.after = 0 ∧ 0 < n ∧ i.lo < i.hi) := by
  have hsh := ha.shape
  have hother : i.val = .other → False := fun h => by rw [evValOK_other h] at hv; cases hv
  have hb := hg.bits
  rw [← ha.before, ← ha.after] at hb
  have hne : i.before + i.after < 8 * q.ty.size → i.lo < i.hi := fun h => by
    rw [ha.lo, ha.hi]; exact plo_lt_phi (by rw [← ha.before, ← ha.after]; exact h)
  unfold Shape at hsh
  split at hsh
  · rename_i s k hty
    have hl := hg.lay
    rw [hty] at hb hl hne
    obtain ⟨hs0, hs8⟩ := lay_size_le hl
    refine .inl ⟨s, k, hty, hs8, ?_, ?_⟩
    · unfold bitsOK at hb
      split at hb
      next heq => cases heq; exact hne (of_decide_eq_true hb)
      next =>
        simp only [Bool.and_eq_true, beq_iff_eq] at hb
        exact hne (by rw [hb.1, hb.2]; exact Nat.mul_pos (by decide) hs0)
    · rcases hsh with h | ⟨b, h, rfl⟩ | ⟨sy, o, h⟩ | h
      · exact .inl h
      · simp only [bitsOK, Bool.and_eq_true, beq_iff_eq] at hb
        exact .inr (.inl ⟨b, h, rfl, hb⟩)
      · obtain ⟨h1, h2, h3⟩ := evValOK_addr h hv
        rw [ha.stop, ha.start, hty] at h3
        exact .inr (.inr ⟨sy, o, h, h1, h2, Nat.add_left_cancel h3⟩)
      · exact absurd h hother
  · rename_i n es c sg hty
    obtain ⟨cs, h1, h2⟩ := hsh
    obtain ⟨hb0, ha0⟩ := hg.nonscalar (by rw [hty]; rfl)
    rw [← ha.before] at hb0
    rw [← ha.after] at ha0
    obtain ⟨hn, hes⟩ := wf_array hg.wf hty
    exact .inr ⟨n, es, c, sg, cs, hty, h1, h2, hb0, ha0, hn,
      hne (by rw [hb0, ha0, hty]; exact Nat.mul_pos (by decide) (Nat.mul_pos hn hes))⟩
  · exact absurd hsh hother

theorem below_good {d1 c d2 : Place} {k : Nat} {r : List Nat} (g1 : PlGeo nu d1) (ha1 : AddAt d1 o)
    (hv1 : evValOK (.add o) = true) (hc : childAt d1 k true = some c) (hw : walk c r = some d2) :
    ∃ n es cc sg cs, d1.ty = .array n (.scalar es (.int cc sg)) ∧ o.val = .str es cs ∧ (es = 1 ∨ es = 2 ∨ es = 4) ∧
      o.before = 0 ∧ o.after = 0 ∧ k < n ∧
      d2 = { ty := .scalar es (.int cc sg), off := d1.off + k * es, depth := d1.depth + 1 } := by
  rcases good_cases g1 ha1 hv1 with ⟨s, k', hty, _⟩ | ⟨n, es, cc, sg, cs, hty, hval, hes, hb, ha, _⟩
  · rw [childAt_scalar hty] at hc; cases hc
  · obtain ⟨hkn, rfl⟩ := childAt_arr hty hc
    cases scalar_no_child (q := { ty := .scalar es (.int cc sg), off := d1.off + k * es, depth := d1.depth + 1 }) rfl hw
    cases hw
    exact ⟨n, es, cc, sg, cs, hty, hval, hes, hb, ha, hkn g1.wf.unb, rfl⟩

theorem wf_placed (hg : PlGeo nu root) (h0 : root.off = 0) (h : GoodAdd root i) : Wf root.ty.size i := by
  obtain ⟨⟨ps, q, hw, ha⟩, hv⟩ := h
  obtain ⟨gq, wq⟩ := walk_geo ps hg hw
  have hin : i.stop ≤ root.ty.size := by
    have := wq.hi
    rw [h0, Nat.zero_add] at this
    rw [ha.stop]; exact this
  have hsz : i.stop - i.start = q.ty.size := by rw [ha.stop, ha.start, Nat.add_sub_cancel_left]
  rcases good_cases gq ha hv with ⟨s, k, hty, hs8, hne, hval⟩ | ⟨n, es, c, sg, cs, hty, hval, hes, hb, ha', _, hne⟩
  · rw [hty] at hsz
    refine ⟨hne, hin, ?_⟩
    rcases hval with ⟨u, hu⟩ | ⟨b, hu, _, h1, h2⟩ | ⟨sy, o, hu, h1, h2, h8⟩
    · rw [hu]
      exact ⟨fun _ => hsz.symm, fun _ => by rw [hsz]; exact hs8⟩
    · rw [hu]
      exact ⟨h1, h2, hsz.symm⟩
    · rw [hu]
      exact ⟨h1, h2, by rw [hsz]; exact h8⟩
  · rw [hty] at hsz
    refine ⟨hne, hin, ?_⟩
    rw [hval]
    exact ⟨hb, ha', hes, by rw [hsz]; exact Nat.mul_mod_left n es⟩

theorem lam_placed (hg : PlGeo nu root) (ho : GoodAdd root o)
    (hi : GoodAdd root i) : Lam o i := by
  obtain ⟨⟨p1, d1, hw1, ha1⟩, hv1⟩ := ho
  obtain ⟨⟨p2, d2, hw2, ha2⟩, hv2⟩ := hi
  obtain ⟨g1, _⟩ := walk_geo p1 hg hw1
  obtain ⟨g2, _⟩ := walk_geo p2 hg hw2
  unfold Lam Disj Inside
  rw [ha1.lo, ha1.hi, ha2.lo, ha2.hi]
  rcases walk_cases p1 p2 hg hw1 hw2 with ⟨r, hr⟩ | ⟨r, hr⟩ | hd
  · cases r with
    | nil => cases hr; exact .inr (.inl ⟨Nat.le_refl _, Nat.le_refl _⟩)
    | cons k r' =>
      -- the earlier one is a string, the later one an element of it
      have w2 := (walk_geo _ g1 hr).2
      obtain ⟨c, hc, hr⟩ := walk_cons.1 hr
      obtain ⟨n, es, cc, sg, cs, hty, hov, hes, hb, hb', hkn, rfl⟩ := below_good g1 ha1 hv1 hc hr
      refine .inr (.inr ⟨⟨w2.blo, w2.bhi⟩, es, by rw [hov]; rfl, hes, ?_, hb, hb', ha2.before, ha2.after,
        by rw [ha2.stop, ha2.start]; rfl, by rw [ha1.start, ha2.start]; exact Nat.le_add_right _ _, ?_, ?_⟩)
      · rcases good_cases g2 ha2 hv2 with ⟨s, k', hty2, _, _, hval⟩ | ⟨_, _, _, _, _, hty2, _⟩
        · cases hty2
          rcases hval with h | ⟨_, _, hk, _⟩ | ⟨_, _, _, _, _, h8⟩
          · exact ⟨es, h⟩
          · cases hk
          · rw [h8] at hes
            rcases hes with h | h | h <;> cases h
        · cases hty2
      · rw [ha2.stop, ha1.stop, hty]
        exact elem_end_le _ _ hkn
      · rw [ha1.start, ha2.start]
        show (d1.off + k * es - d1.off) % es = 0
        rw [Nat.add_sub_cancel_left]
        exact Nat.mul_mod_left k es
  · have w := (walk_geo r g2 hr).2
    exact .inr (.inl ⟨w.blo, w.bhi⟩)
  · exact .inl hd

theorem clear_placed (hg : PlGeo nu root) {a b : Nat} (ho : GoodAdd root o)
    (hc : PlaceEv root (.clear a b)) : ClearRel o a b := by
  obtain ⟨⟨p1, d1, hw1, ha1⟩, hv1⟩ := ho
  obtain ⟨p2, d2, hw2, rfl, rfl, hns⟩ := hc
  obtain ⟨g2, _⟩ := walk_geo p2 hg hw2
  have within : Within d1 d2 → ClearRel o d2.off (d2.off + d2.ty.size) := fun w => by
    refine .inl ?_
    unfold Init.within
    rw [ha1.start, ha1.stop]
    simp only [Bool.and_eq_true, decide_eq_true_eq]
    exact ⟨w.lo, w.hi⟩
  rcases walk_cases p1 p2 hg hw1 hw2 with ⟨r, hr⟩ | ⟨r, hr⟩ | hd
  · cases r with
    | nil => cases hr; exact within (Within.refl _)
    | cons k r' =>
      -- the cleared place would be an element of a string: it is a scalar
      obtain ⟨c, hc, hr⟩ := walk_cons.1 hr
      obtain ⟨_, _, _, _, _, _, _, _, _, _, _, rfl⟩ := below_good (walk_geo p1 hg hw1).1 ha1 hv1 hc hr
      cases hns
  · exact within (walk_geo r g2 hr).2
  · obtain ⟨hb2, ha2⟩ := g2.nonscalar hns
    refine .inr ?_
    have hlo : plo d2 = 8 * d2.off := by unfold plo; rw [hb2]; rfl
    have hhi : phi d2 = 8 * (d2.off + d2.ty.size) := by unfold phi; rw [ha2]; rfl
    rw [ha1.lo, ha1.hi, ← hlo, ← hhi]
    exact hd

theorem evsOK_placed (hg : PlGeo nu root) (h0 : root.off = 0) {evs : List Ev} {prev : List Init}
    (hp : ∀ o ∈ prev, GoodAdd root o) (he : ∀ e ∈ evs, PlaceEv root e ∧ evValOK e = true) : EvsOK prev evs := by
  induction evs generalizing prev with
  | nil => trivial
  | cons e es ih =>
    have hee := he e List.mem_cons_self
    have hrest : ∀ x ∈ es, PlaceEv root x ∧ evValOK x = true := fun x hx => he x (List.mem_cons_of_mem _ hx)
    cases e with
    | add i =>
      have hgi : GoodAdd root i := hee
      have hwf := wf_placed hg h0 hgi
      refine ⟨fun o ho => lam_placed hg (hp o ho) hgi, hwf.nonEmpty, hwf.byteVal, ?_⟩
      refine ih (fun o ho => ?_) hrest
      rcases List.mem_append.1 ho with h | h
      · exact hp o h
      · rw [List.mem_singleton.1 h]; exact hgi
    | clear a b =>
      refine ⟨fun o ho => clear_placed hg (hp o ho) hee.1, ?_⟩
      exact ih (fun o ho => hp o (List.mem_filter.1 ho).1) hrest

theorem mem_adds {x : Init} : ∀ {evs : List Ev}, x ∈ adds evs → Ev.add x ∈ evs
  | [], h => by cases h
  | .add i :: es, h => by
    rcases List.mem_cons.1 h with rfl | h
    · exact List.mem_cons_self
    · exact List.mem_cons_of_mem _ (mem_adds h)
  | .clear _ _ :: es, h => List.mem_cons_of_mem _ (mem_adds h)

theorem laminar_of_placed (hg : PlGeo nu root) (h0 : root.off = 0) {t : Ty} {inc : Bool} {ini : Ini} {st : St}
    (hm : parseinit t inc ini = .ok st) (hcv : constVals t inc ini = true) (hpl : ∀ e ∈ st.log, PlaceEv root e) :
    EvsOK [] st.log ∧ ∀ x ∈ adds st.log, Wf root.ty.size x := by
  unfold constVals at hcv
  rw [hm] at hcv
  have h : ∀ e ∈ st.log, PlaceEv root e ∧ evValOK e = true := fun e he => ⟨hpl e he, List.all_eq_true.1 hcv e he⟩
  exact ⟨evsOK_placed hg h0 (fun o ho => by cases ho) h, fun x hx => wf_placed hg h0 (h _ (mem_adds hx))⟩

end CprocVerif.InitSim
