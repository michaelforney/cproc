import CprocVerif.Model.Scan
import CprocVerif.Lemmas.Lex

/-! The reader (`nextchar` field by field), `Moved` (what a buffered routine takes from the phase-2
character stream), the count `numLen` of the `number` loop, and the reader's part `PPLine.core` of
the scanner state. -/

namespace CprocVerif.Scan
open CprocVerif.Gen.TokenKinds

theorem chr_eq (s : S) : s.chr = s.stream.head? := by
  simp [S.chr, S.stream, List.head?_map]

@[simp] theorem inp_readHead (s : S) : s.readHead.inp = s.inp := by
  unfold S.readHead; split <;> simp_all

@[simp] theorem buf_readHead (s : S) : s.readHead.buf = s.buf := by
  unfold S.readHead; split <;> rfl

@[simp] theorem usebuf_readHead (s : S) : s.readHead.usebuf = s.usebuf := by
  unfold S.readHead; split <;> rfl

@[simp] theorem sawspace_readHead (s : S) : s.readHead.sawspace = s.sawspace := by
  unfold S.readHead; split <;> rfl

@[simp] theorem inp_nextchar (s : S) : s.nextchar.inp = s.inp.tail := by
  unfold S.nextchar; split <;> simp

@[simp] theorem stream_nextchar (s : S) : s.nextchar.stream = s.stream.tail := by
  simp [S.stream, List.map_tail]

@[simp] theorem usebuf_nextchar (s : S) : s.nextchar.usebuf = s.usebuf := by
  unfold S.nextchar; split <;> simp

@[simp] theorem sawspace_nextchar (s : S) : s.nextchar.sawspace = s.sawspace := by
  unfold S.nextchar; split <;> simp

theorem buf_nextchar (s : S) :
    s.nextchar.buf = if s.usebuf then s.buf ++ [s.chr.getD 0xff] else s.buf := by
  unfold S.nextchar; split <;> simp_all

@[simp] theorem length_stream (s : S) : s.stream.length = s.inp.length := by simp [S.stream]

theorem stream_pushbackDot (s : S) (l : Loc) :
    (pushbackDot s l).stream = c! '.' :: s.stream ∧ (pushbackDot s l).buf = s.buf ∧
    (pushbackDot s l).usebuf = s.usebuf ∧ (pushbackDot s l).sawspace = s.sawspace := by
  unfold pushbackDot
  split <;> simp_all [S.stream]

theorem chr_none_iff (s : S) : s.chr = none ↔ s.stream = [] := by
  rw [chr_eq]; cases s.stream <;> simp

theorem chr_some_iff (s : S) (c : UInt8) : s.chr = some c ↔ ∃ r, s.stream = c :: r := by
  rw [chr_eq]; cases s.stream <;> simp

theorem chr_of_stream {s : S} {c : UInt8} {r : List UInt8} (hs : s.stream = c :: r) :
    s.chr = some c := by
  rw [chr_eq, hs]; rfl

theorem nextchar_use (s : S) (c : UInt8) (r : List UInt8) (hs : s.stream = c :: r)
    (hu : s.usebuf = true) :
    s.nextchar.stream = r ∧ s.nextchar.buf = s.buf ++ [c] ∧ s.nextchar.usebuf = true ∧
    s.nextchar.sawspace = s.sawspace := by
  simp [hs, buf_nextchar, hu, chr_eq]

theorem nextchar_nouse (s : S) (c : UInt8) (r : List UInt8) (hs : s.stream = c :: r)
    (hu : s.usebuf = false) :
    s.nextchar.stream = r ∧ s.nextchar.buf = s.buf ∧ s.nextchar.usebuf = false ∧
    s.nextchar.sawspace = s.sawspace := by
  simp [hs, buf_nextchar, hu]

/-- progress of a sub-scanner that runs with `usebuf = true`: `u` went from the stream to the token buffer -/
def Moved (s s' : S) (u : List UInt8) : Prop :=
  s'.buf = s.buf ++ u ∧ s.stream = u ++ s'.stream ∧ s'.usebuf = true ∧ s'.sawspace = s.sawspace

theorem Moved.refl (s : S) (hu : s.usebuf = true) : Moved s s [] := by
  simp [Moved, hu]

theorem Moved.trans {a b c : S} {u v : List UInt8} (h1 : Moved a b u) (h2 : Moved b c v) :
    Moved a c (u ++ v) := by
  obtain ⟨a1, a2, a3, a4⟩ := h1
  obtain ⟨b1, b2, b3, b4⟩ := h2
  refine ⟨?_, ?_, b3, ?_⟩
  · rw [b1, a1, List.append_assoc]
  · rw [a2, b2, List.append_assoc]
  · rw [b4, a4]

theorem moved_nextchar (s : S) (c : UInt8) (hu : s.usebuf = true) (hc : s.chr = some c) :
    Moved s s.nextchar [c] := by
  obtain ⟨r, hr⟩ := (chr_some_iff s c).mp hc
  obtain ⟨h1, h2, h3, h4⟩ := nextchar_use s c r hr hu
  exact ⟨h2, by rw [hr, h1]; rfl, h3, h4⟩

theorem stream_nil_of_length {s : S} (h : s.inp.length ≤ 0) : s.stream = [] :=
  List.eq_nil_of_length_eq_zero (by rw [length_stream]; omega)

/-- how many further characters the `number` loop absorbs from the stream that follows the
current character, `allow` being `allowsign` -/
def numLen : Bool → List UInt8 → Nat
  | _, [] => 0
  | allow, c :: r =>
    if c = c! 'e' ∨ c = c! 'E' ∨ c = c! 'p' ∨ c = c! 'P' then 1 + numLen true r
    else if c = c! '+' ∨ c = c! '-' then (if allow then 1 + numLen false r else 0)
    else if c = c! '_' ∨ c = c! '.' then 1 + numLen false r
    else if isalnum c then 1 + numLen false r
    else 0

theorem numLen_le : ∀ (a : Bool) (l : List UInt8), numLen a l ≤ l.length := by
  intro a l
  fun_induction numLen a l <;> simp only [List.length_cons, List.length_nil] at * <;> omega

theorem numberLoop_step (n : Nat) (a : Bool) (s : S) (c : UInt8) (r : List UInt8)
    (hs : s.nextchar.stream = c :: r) :
    (numberLoop (n + 1) a s = s.nextchar ∧ numLen a (c :: r) = 0) ∨
    ∃ a', numberLoop (n + 1) a s = numberLoop n a' s.nextchar ∧ numLen a (c :: r) = numLen a' r + 1 := by
  rw [numberLoop, numLen]
  simp only [chr_eq, hs, List.head?_cons]
  by_cases h1 : c = 101 ∨ c = 69 ∨ c = 112 ∨ c = 80
  · rw [if_pos h1, if_pos h1]; exact .inr ⟨true, rfl, Nat.add_comm _ _⟩
  rw [if_neg h1, if_neg h1]
  by_cases h2 : c = 43 ∨ c = 45
  · rw [if_pos h2, if_pos h2]
    cases a
    · exact .inl ⟨rfl, rfl⟩
    · exact .inr ⟨false, rfl, Nat.add_comm _ _⟩
  rw [if_neg h2, if_neg h2]
  by_cases h3 : c = 95 ∨ c = 46
  · rw [if_pos h3, if_pos h3]; exact .inr ⟨false, rfl, Nat.add_comm _ _⟩
  rw [if_neg h3, if_neg h3]
  cases isalnum c
  · exact .inl ⟨rfl, rfl⟩
  · exact .inr ⟨false, rfl, Nat.add_comm _ _⟩

theorem ite_or_same {α : Type} (p q : Prop) [Decidable p] [Decidable q] (x y : α) :
    (if p then x else if q then x else y) = if p ∨ q then x else y := by
  by_cases p <;> by_cases q <;> simp [*]

open CprocVerif.Spec.Lex in
theorem numLen_cons (a : Bool) (c : UInt8) (r : List UInt8) :
    numLen a (c :: r) =
      if isExpLetter c then 1 + numLen true r
      else if isSign c then (if a then 1 + numLen false r else 0)
      else if isItem c then 1 + numLen false r else 0 := by
  have h1 : (c = 101 ∨ c = 69 ∨ c = 112 ∨ c = 80) ↔ isExpLetter c = true := by simp [isExpLetter, or_assoc]
  have h2 : (c = 43 ∨ c = 45) ↔ isSign c = true := by simp [isSign]
  have h3 : ((c = 95 ∨ c = 46) ∨ isalnum c = true) ↔ isItem c = true := by
    simp only [isItem, isNondigit, isDigit, isalnum, isalpha, isdigit, Bool.or_eq_true,
      decide_eq_true_eq, Bool.and_eq_true]
    grind
  rw [numLen, ite_or_same]
  simp only [h1, h2, h3]

open CprocVerif.Spec.Lex in
theorem numLen_ppTailLen : ∀ l : List UInt8,
    numLen false l = ppTailLen l ∧ numLen true l = ppTailLenExp l
  | [] => ⟨rfl, rfl⟩
  | c :: r => by
    obtain ⟨ih1, ih2⟩ := numLen_ppTailLen r
    rw [numLen_cons, numLen_cons, ppTailLenExp, ppTailLen_cons, ih1, ih2]
    by_cases hs : isSign c = true
    · simp [hs, sign_not_exp hs, sign_not_item hs]
    · simp [hs]

end CprocVerif.Scan

namespace CprocVerif.PPLine
open CprocVerif.Scan CprocVerif.Gen.TokenKinds

/-- the fields of the scanner state that the location bookkeeping depends on -/
def core (s : S) : List (Nat × UInt8) × Nat × Loc × Nat × Nat :=
  (s.inp, s.trail, s.loc, s.skipped, s.pos)

theorem inp_of_core {s s1 : S} (hc : core s1 = core s) : s1.inp = s.inp :=
  congrArg (·.1) hc

theorem chr_of_core {s s1 : S} (hc : core s1 = core s) : s1.chr = s.chr := by
  simp [S.chr, inp_of_core hc]

abbrev Plain (k : Kind) : Prop := k ≠ .TEOF ∧ k ≠ .TNEWLINE

theorem ite_intro {α : Type} {P : α → Prop} {c : Prop} [Decidable c] {x y : α} (hx : c → P x)
    (hy : ¬ c → P y) : P (if c then x else y) := by
  split
  · exact hx ‹_›
  · exact hy ‹_›

end CprocVerif.PPLine
