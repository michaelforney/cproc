import CprocVerif.Lemmas.PPFnTable

/-! # Arguments with macro names: the abstraction with paint marks and the invariant

With macro names inside arguments, a token that comes back from an argument can be a painted
macro name (`hide = true`): the abstraction must carry it (`mkHp`: `painted` = the token is
hidden and names a macro — identifiers that name no macro are hidden by the model and left
unpainted by the reference, to no effect).  The continuation of the source is arbitrary (`X`):
steps that start no invocation never look at it.  `FnState` is the invariant the files `PPFnRawnext` …
`PPFnText` work with (`GoodF`, `GoodP` are instances, `toFn`); `Live` is kept out of it: only the
argument loop needs it, and there it holds of the empty stack the loop starts from. -/

namespace CprocVerif.PP
open CprocVerif.Gen.TokenKinds
open CprocVerif.Spec.MacroRef (HTok Item PTok MacroDef RErr Flag expandH hsadd union pendItems lookup)
open CprocVerif.Spec

/-- the annotation `flatG` is read with here: the reference's token, its hide set the live names (oldest first), with
the paint mark of `mkHp` (`annH` in `PPFnClasses` is the same without).  The suffix `P`/`p` of the names that follow
(`FlatP`, `GoodP`, `RawP`, `ExpandP`, `absP`, `TextP`) marks the variant that allows for painted tokens -/
def annHp (ms0 : List Macro) (L : List Name) (t : Tok) : HTok := mkHp ms0 L.reverse t

/-- `RawP` and `flatG` speak of `annHp` on the live names (innermost first), `ExpandP` of `mkHp` on the hide set -/
theorem annHp_liveNames (ms0 : List Macro) (ctx : List Frame) (t : Tok) :
    annHp ms0 (liveNames ctx) t = mkHp ms0 (hsOf ctx) t := rfl

def absX (ms0 : List Macro) (st : St) (X : List Item) : List Item :=
  (flatG (annHp ms0) st.macros st.ctx).map Item.tok ++ X

theorem eraseHs_mkHp (ms0 : List Macro) (hs : List Name) (t : Tok) : eraseHs (mkHp ms0 hs t) = mkHp ms0 [] t := rfl

/-- what may sit on the context stack -/
def FlatP (ms0 : List Macro) (t : Tok) : Prop :=
  t.kind ≠ .TNEWLINE ∧ t.kind ≠ .TEOF ∧ ¬ IsFunName ms0 t

structure FnState (ms0 : List Macro) (st : St) : Prop where
  stat : st.macros.map stat = ms0.map stat
  inv : InvC st.ctx st.macros st.depth
  wf : CtxWF st.macros st.ctx
  flatOk : ∀ t ∈ flat st.macros st.ctx, FlatP ms0 t
  prag : st.prag = false
  ppnl : st.ppnl = false

/-- every token the stack will deliver sits in or above the frame of a macro under replacement: so `macrodepth`
is positive when `rawnext` hands it out, which is how `expandfunc` tells it from a token of the invocation
(`st.depth ≤ e.depth`, used in `efLoop_tail`) -/
def Live (st : St) : Prop := ∀ L ∈ flatG (fun L _ => L) st.macros st.ctx, L ≠ []

theorem Live.of_nil {st : St} (h : st.ctx = []) : Live st := by
  intro L hL; rw [h] at hL; cases hL

theorem FnState.sameBut {ms0 : List Macro} {a b : St} (g : FnState ms0 a) : SameBut b a → FnState ms0 b
  | ⟨_, _, _, _, h⟩ => h ▸ ⟨g.stat, g.inv, g.wf, g.flatOk, g.prag, g.ppnl⟩

theorem Live.sameBut {a b : St} (g : Live a) : SameBut b a → Live b
  | ⟨_, _, _, _, h⟩ => h ▸ g

/-- the reference's token for `t` carries no paint mark -/
def NoPaint (ms0 : List Macro) (t : Tok) : Prop := (t.hide && isMac ms0 t) = false

theorem NoPaint.of_hide {ms0 : List Macro} {t : Tok} (h : t.hide = false) : NoPaint ms0 t := by simp [NoPaint, h]
theorem NoPaint.of_kind {ms0 : List Macro} {t : Tok} (h : t.kind ≠ .TIDENT) : NoPaint ms0 t := by simp [NoPaint, isMac, h]
theorem NoPaint.mkHp {ms0 : List Macro} {t : Tok} (h : NoPaint ms0 t) (hs : List Name) : mkHp ms0 hs t = mkH hs t := by
  unfold NoPaint at h; simp [PP.mkHp, mkH, h]

theorem flatP_of_kl {ms0 : List Macro} {t b : Tok} (h1 : t.kind = b.kind) (h2 : t.lit = b.lit) (hb : FlatP ms0 b) :
    FlatP ms0 t := by
  unfold FlatP IsFunName at *
  rw [h1, h2]
  exact hb

theorem flatP_of_kh {ms0 : List Macro} {t b : Tok} (h : kh t = kh b) (hb : FlatP ms0 b) : FlatP ms0 t :=
  flatP_of_kl (congrArg (·.1) h) (congrArg (·.2.1) h) hb

end CprocVerif.PP
