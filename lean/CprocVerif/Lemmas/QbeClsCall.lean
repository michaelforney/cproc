import CprocVerif.Lemmas.QbeClsEnv
import CprocVerif.Lemmas.QbeClsWf

/-!
  C03, classes: phis, function entry (arguments to parameters), returns and call results.
  `…_safe`: under the statically checked agreement no class error is raised.  `…_typed`: whenever
  the step succeeds (also through an unchecked indirect call) what it binds has the class of the
  bound temporary, because the machine coerces at these points.
-/

namespace CprocVerif.C03.Cls
open CprocVerif.Qbe

theorem tyCompat_eq (a p : Ty) : tyCompat a p = tyAgree a p := by
  cases a <;> cases p <;> rfl

theorem tyAgree_agg_right {a : Ty} {t : String} (h : tyAgree a (.agg t) = true) : a = .agg t := by
  cases a with
  | agg x => exact congrArg Ty.agg (beq_iff_eq.1 h)
  | _ => cases h

theorem tyAgree_agg_left {p : Ty} {t : String} (h : tyAgree (.agg t) p = true) : p = .agg t := by
  cases p with
  | agg y => exact congrArg Ty.agg (beq_iff_eq.1 h).symm
  | _ => cases h

theorem tyAgree_cls {a p : Ty} (h : tyAgree a p = true) : a.cls = p.cls := by
  cases a with
  | agg x => rw [tyAgree_agg_left h]
  | _ =>
    cases p with
    | agg y => cases h
    | _ => exact beq_iff_eq.1 h

variable {p : Prog} {tc : ClsMap} {env : Env} {mem : Mem}

theorem evalPhis_typed (h : EnvTyped tc env) {blk pred : String} {phis : List Phi}
    (hph : ∀ ph ∈ phis, ∀ s ∈ ph.srcs, argOk tc ph.k s.2 = true) :
    match evalPhis p env blk pred phis with
    | .ok bs => ∀ b ∈ bs, ∃ ph ∈ phis, b.1 = ph.res ∧ b.2.kind = ph.k.kind
    | .error e => ¬ ClassStuck e := by
  induction phis with
  | nil => exact fun _ h => nomatch h
  | cons ph rest ih =>
    have ih' := ih (fun ph' hph' => hph ph' (.tail _ hph'))
    simp only [evalPhis]
    cases hsrc : ph.srcs.find? (fun s => s.1 == pred) with
    | none => exact not_classStuck_stuck nofun
    | some src =>
      dsimp only
      cases hv : readVal p env src.2 with
      | error r => exact not_classStuck_readVal hv
      | ok v =>
        have hc := safe_coerce
          (readVal_kind h (hph ph (.head _) src (List.mem_of_find?_eq_some hsrc)) hv)
        dsimp only
        cases hv' : v.coerce ph.k with
        | error e => exact not_classStuck_of_not_clsErr (hc.error hv')
        | ok v' =>
          rw [hv'] at hc
          dsimp only
          cases hrs : evalPhis p env blk pred rest with
          | error e => rwa [hrs] at ih'
          | ok rs =>
            rw [hrs] at ih'
            exact List.forall_mem_cons.2 ⟨⟨ph, .head _, rfl, hc⟩, fun b hb =>
              have ⟨ph', hm, h1, h2⟩ := ih' b hb
              ⟨ph', .tail _ hm, h1, h2⟩⟩

theorem bindAll_typed (h : EnvTyped tc env) {bs : List (String × RVal)}
    (hbs : ∀ b ∈ bs, ∀ c, tc[b.1]? = some c → b.2.kind = c.kind ∨ b.2.kind = Kind.u) :
    EnvTyped tc (bindAll env bs) := by
  induction bs generalizing env with
  | nil => exact h
  | cons b bs ih =>
    exact ih (envTyped_insert h (hbs b (.head _))) fun b hb => hbs b (.tail _ hb)

theorem prepArgs_typed {ps : List (Ty × String)} {as : List (Ty × RVal)} {vals : List RVal}
    {mem' : Mem} (h : prepArgs p ps as mem = .ok (vals, mem'))
    (htc : ∀ q ∈ ps, tc[q.2]? = some q.1.cls) (henv : EnvTyped tc env) :
    EnvTyped tc (bindParams env ps vals) := by
  induction ps generalizing as mem vals env with
  | nil =>
    cases h
    exact henv
  | cons q ps ih =>
    obtain ⟨pt, x⟩ := q
    have step : ∀ {v : RVal} {as' rs mem1}, v.kind = pt.cls.kind →
        prepArgs p ps as' mem1 = .ok (rs, mem') →
        EnvTyped tc (bindParams env ((pt, x) :: ps) (v :: rs)) := fun hk h4 =>
      ih h4 (fun q hq => htc q (.tail _ hq)) (envTyped_insert henv fun c hc =>
        .inl (Option.some.inj ((htc (pt, x) (.head _)).symm.trans hc) ▸ hk))
    cases as with
    | nil => cases h
    | cons a as =>
      simp only [prepArgs] at h
      split at h
      · cases h
      · split at h
        · split at h
          · cases h
          · obtain ⟨_, _, h⟩ := bind_ok h
            obtain ⟨_, _, h⟩ := bind_ok h
            obtain ⟨_, _, h⟩ := bind_ok h
            obtain ⟨_, h4, h⟩ := bind_ok h
            cases h
            exact step rfl h4
        · obtain ⟨v', hv', h⟩ := bind_ok h
          obtain ⟨_, h4, h⟩ := bind_ok h
          cases h
          exact step (coerce_kind hv') h4

theorem prepArgs_safe {ps : List (Ty × String)} {as : List (Ty × RVal)}
    (hlen : ps.length ≤ as.length) (htys : tysAgree (as.map (·.1)) (ps.map (·.1)) = true)
    (hk : ∀ a ∈ as, kindOk a.1.cls a.2.kind = true) :
    Safe (fun r => r.1.length = ps.length) (prepArgs p ps as mem) := by
  induction ps generalizing as mem with
  | nil => exact rfl
  | cons q ps ih =>
    obtain ⟨pt, x⟩ := q
    cases as with
    | nil => simp at hlen
    | cons a as =>
      obtain ⟨at', v⟩ := a
      simp only [List.map_cons, tysAgree, Bool.and_eq_true] at htys
      have hv := hk (at', v) (.head _)
      have ih' : ∀ mem, Safe _ (prepArgs p ps as mem) := fun mem =>
        ih (Nat.le_of_succ_le_succ hlen) htys.2 (fun a ha => hk a (.tail _ ha))
      simp only [prepArgs, tyCompat_eq, htys.1, Bool.not_true, Bool.false_eq_true, if_false]
      split
      · cases tyAgree_agg_right htys.1
        split
        · exact not_cls_unknownAgg _
        · exact (safe_asL hv).bind fun _ _ => (safe_readBytes _ _ _).bind fun _ _ =>
            (safe_alloc _ _ _ _).bind fun _ _ => (ih' _).bind fun _ hl => congrArg (· + 1) hl
      · rw [tyAgree_cls htys.1] at hv
        exact (safe_coerce hv).bind fun _ _ => (ih' _).bind fun _ hl => congrArg (· + 1) hl

theorem vaArea_safe {as : List (Ty × RVal)} {acc : ByteArray}
    (hk : ∀ a ∈ as, kindOk a.1.cls a.2.kind = true) :
    Safe (fun _ => True) (vaArea p mem as acc) := by
  induction as generalizing acc with
  | nil => simp only [vaArea]; trivial
  | cons a as ih =>
    obtain ⟨t, v⟩ := a
    have hv := hk (t, v) (.head _)
    have ih' : ∀ acc, Safe _ (vaArea p mem as acc) := fun _ => ih fun a ha => hk a (.tail _ ha)
    simp only [vaArea]
    split
    · split
      · exact not_cls_unknownAgg _
      · exact (safe_asL hv).bind fun _ _ => (safe_readBytes _ _ _).bind fun _ _ => ih' _
    · exact (safe_asK hv).bind fun _ _ => ih' _

/-- The (typed) arguments of a call agree with the signature of the function entered. -/
structure TyArgs (f : Func) (varAt : Option Nat) (targs : List (Ty × RVal)) : Prop where
  len : f.params.length ≤ targs.length
  nonvar : f.variadic = false → targs.length = f.params.length
  tys : tysAgree (targs.map (·.1)) (f.params.map (·.1)) = true
  marker : ∀ i, varAt = some i → f.variadic = true ∧ i = f.params.length
  kinds : ∀ a ∈ targs, kindOk a.1.cls a.2.kind = true

theorem enterFunc_safe {fi : FuncInfo} {targs : List (Ty × RVal)} {varAt : Option Nat}
    {mem : Mem} (h : TyArgs fi.f varAt targs) :
    Safe (fun _ => True) (enterFunc p fi targs varAt mem) := by
  have h1 : ¬ targs.length < fi.f.params.length := Nat.not_lt.2 h.len
  have h2 : ¬ ((!fi.f.variadic && targs.length != fi.f.params.length) = true) := by
    intro hc
    simp only [Bool.and_eq_true, Bool.not_eq_true', bne_iff_ne, ne_eq] at hc
    exact hc.2 (h.nonvar hc.1)
  have h3 : ¬ markerBad fi.f.variadic fi.f.params.length varAt = true := by
    cases hv : varAt with
    | none => nofun
    | some i =>
      obtain ⟨ha, hb⟩ := h.marker i hv
      simp [markerBad, ha, hb]
  unfold enterFunc
  refine .ite (not_cls_trap _) ?_
  rw [if_neg h1, if_neg h2, if_neg h3]
  have hva := vaArea_safe (p := p) (mem := { mem with sp := mem.sp - frameCost })
    (as := targs.drop fi.f.params.length) (acc := ByteArray.empty)
    (fun a ha => h.kinds a (List.mem_of_mem_drop ha))
  split
  · rename_i e he
    exact hva.error he
  · have hpa := prepArgs_safe (p := p) (mem := { mem with sp := mem.sp - frameCost })
      h.len h.tys h.kinds
    split
    · rename_i e he
      exact hpa.error he
    · rename_i vals mem2 hprep
      rw [hprep] at hpa
      have hl : vals.length = fi.f.params.length := hpa
      rw [if_neg (by simp [hl])]
      trivial

theorem enterFunc_typed {fi : FuncInfo} {targs : List (Ty × RVal)} {varAt : Option Nat}
    {mem : Mem} {nf : Frame} {mem' : Mem} (hnd : (fi.f.allDefs.map (·.1)).Nodup)
    (h : enterFunc p fi targs varAt mem = .ok (nf, mem')) :
    nf.fi = fi ∧ nf.bi = 0 ∧ nf.ii = 0 ∧ EnvTyped (tcOf fi.f) nf.env := by
  obtain ⟨vals, _, hprep, _, hfi, hbi, hii, henv⟩ := enterFunc_inv h
  exact ⟨hfi, hbi, hii, henv ▸ prepArgs_typed hprep
    (fun q hq => tcOf_lookup hnd (allDefs_param hq)) (envTyped_empty _)⟩

/-- The value delivered to a call fits the type `ty` the call names for its result. -/
def ResFits (ty : Ty) : RetVal → Prop
  | .none => True
  | .scalar v => (∀ n, ty ≠ .agg n) ∧ kindOk ty.cls v.kind = true
  | .agg n _ => ty = .agg n

theorem retValue_typed {fr : Frame} {v : Option RVal} {rv : RetVal}
    (h : retValue p fr mem v = .ok rv) {ty rt : Ty} (hrt : fr.fi.f.ret = some rt)
    (hag : tyAgree ty rt = true) : ResFits ty rv := by
  unfold retValue at h
  split at h
  · cases h; trivial
  · cases h
  · rename_i t v' hret
    split at h
    · cases h
    · obtain ⟨_, _, h⟩ := bind_ok h
      obtain ⟨_, _, h⟩ := bind_ok h
      cases h
      cases hret.symm.trans hrt
      exact tyAgree_agg_right hag
  · rename_i t v' hna hret
    obtain ⟨v'', hv'', h⟩ := bind_ok h
    cases h
    cases hret.symm.trans hrt
    refine ⟨fun n hn => hna n (tyAgree_agg_left (hn ▸ hag)), ?_⟩
    rw [coerce_kind hv'', tyAgree_cls hag]
    exact kindOk_self _

theorem retValue_safe {fr : Frame} {mem : Mem} {v : Option RVal}
    (h : ∀ rv, v = some rv → ∃ t, fr.fi.f.ret = some t ∧ kindOk t.cls rv.kind = true) :
    Safe (fun _ => True) (retValue p fr mem v) := by
  unfold retValue
  split
  · trivial
  · rename_i v' hret
    obtain ⟨t, ht, _⟩ := h v' rfl
    cases hret.symm.trans ht
  · rename_i t v' hret
    obtain ⟨t', ht, hk⟩ := h v' rfl
    cases hret.symm.trans ht
    split
    · exact not_cls_unknownAgg _
    · exact (safe_asL hk).bind fun _ _ => (safe_readBytes _ _ _).bind fun _ _ => trivial
  · rename_i ty v' _ hret
    obtain ⟨t', ht, hk⟩ := h v' rfl
    cases hret.symm.trans ht
    exact (safe_coerce hk).bind fun _ _ => trivial

theorem bindCallRes_typed {res : Option (String × Ty)} {rv : RetVal} {env' : Env} {mem' : Mem}
    (h : EnvTyped tc env)
    (hres : ∀ x ty, res = some (x, ty) → tc[x]? = some ty.cls)
    (hb : bindCallRes p env mem res rv = .ok (env', mem')) : EnvTyped tc env' := by
  rcases bindCallRes_inv hb with ⟨_, rfl⟩ | ⟨x, ty, v, hr, rfl, hv⟩
  · exact h
  · exact envTyped_insert h fun c hc => Option.some.inj ((hres x ty hr).symm.trans hc) ▸ hv

theorem bindCallRes_safe {res : Option (String × Ty)}
    {rv : RetVal} (hres : ∀ x ty, res = some (x, ty) → ResFits ty rv) :
    Safe (fun _ => True) (bindCallRes p env mem res rv) := by
  unfold bindCallRes
  split
  · trivial
  · rename_i x ty
    have hfit := hres x ty rfl
    split
    · trivial
    · split
      · rename_i n
        exact absurd rfl (hfit.1 n)
      · split
        · rename_i e he
          exact (safe_coerce hfit.2).error he
        · trivial
    · cases (hfit : ty = .agg _)
      rw [if_neg (by simp)]
      split
      · rename_i e he
        exact (safe_alloc _ _ _ _).error he
      · trivial

end CprocVerif.C03.Cls
