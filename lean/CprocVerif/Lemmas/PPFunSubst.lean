import CprocVerif.Lemmas.PPSubst
import CprocVerif.Lemmas.PPEqual
import CprocVerif.Lemmas.PPString

/-! # Lazy substitution against the reference's `subst`

The model replaces a parameter when its frame delivers it (`substBody`); the reference substitutes the whole replacement
list at once (`subst` over `elems`).  A replacement list is read once, front to back, into `pieces`: tokens, parameters,
`# parameter`.  `substBody`, `uses` and the reference's `elems` are three readings of that list, and every comparison
below is a statement about lists of pieces. -/

namespace CprocVerif.PP
open CprocVerif.Gen.TokenKinds
open CprocVerif.Spec.MacroRef (HTok Item PTok MacroDef RErr Flag Elem hsadd union pendItems subst elems paramIndex)
open CprocVerif.Spec

/-- `h.tok.key`, what `outKeys` keeps of a reference token (the counterpart of `Tok.key`, as `kh'` is of `kh`) -/
def k2' (h : HTok) : Kind × Option Name := (h.tok.kind, h.tok.lit)

theorem key_respace (l : List Tok) (sp : Bool) : (respace l sp).map Tok.key = l.map Tok.key := by
  cases l <;> simp [respace, Tok.key]

theorem k2'_respace (l : List HTok) (sp : Bool) : (MacroRef.respace l sp).1.map k2' = l.map k2' := by
  cases l <;> simp [MacroRef.respace, k2']

theorem k2'_hsadd (hs : List Name) (l : List HTok) : (hsadd hs l).map k2' = l.map k2' := by
  simp [hsadd, k2', List.map_map, Function.comp_def]

theorem respace_snd_of_ne_nil {l : List HTok} (sp : Bool) (h : l ≠ []) : (MacroRef.respace l sp).2 = false := by
  cases l with
  | nil => exact absurd rfl h
  | cons a r => rfl

theorem map_respace (f : Tok → HTok)
    (hsp : ∀ (t : Tok) (sp : Bool), f { t with space := sp } = { f t with tok := { (f t).tok with space := sp } })
    (l : List Tok) (sp : Bool) : (respace l sp).map f = (MacroRef.respace (l.map f) sp).1 := by
  cases l with
  | nil => rfl
  | cons a as => exact congrArg (· :: as.map f) (hsp a sp)

theorem macroparam_lt {ps : List Param} {t : Tok} {i : Nat} (h : macroparam ps t = some i) : i < ps.length := by
  unfold macroparam at h
  split at h
  · simp only at h
    split at h
    · rename_i hlt; cases h; exact hlt
    · cases h
  · cases h

/-- the occurrences of parameters in a replacement list: (index, behind `#`?) -/
def uses (ps : List Param) : List Tok → List (Nat × Bool)
  | [] => []
  | [t] =>
    if t.kind = .TIDENT then
      match macroparam ps t with
      | some i => [(i, false)]
      | none => []
    else []
  | t :: u :: r =>
    if t.kind = .THASH then
      match macroparam ps u with
      | some i => (i, true) :: uses ps r
      | none => uses ps (u :: r)
    else if t.kind = .TIDENT then
      match macroparam ps t with
      | some i => (i, false) :: uses ps (u :: r)
      | none => uses ps (u :: r)
    else uses ps (u :: r)

theorem macroparam_kind {ps : List Param} {t : Tok} (h : ¬ t.kind = .TIDENT) : macroparam ps t = none := by
  unfold macroparam; rw [if_neg h]

inductive Piece where
  | tok (t : Tok)
  | param (i : Nat) (t : Tok)
  | str (i : Nat) (t : Tok)

def Piece.one (ps : List Param) (t : Tok) : Piece :=
  match macroparam ps t with
  | some i => .param i t
  | none => .tok t

def pieces (ps : List Param) : List Tok → List Piece
  | [] => []
  | [t] => [.one ps t]
  | t :: u :: r =>
    if t.kind = .THASH then
      match macroparam ps u with
      | some i => .str i t :: pieces ps r
      | none => .tok t :: pieces ps (u :: r)
    else .one ps t :: pieces ps (u :: r)

def Piece.render (m : Macro) : Piece → List Tok
  | .tok t => [t]
  | .param i t => respace (m.args.getD i default).toks t.space
  | .str i t => [{ (m.args.getD i default).str with space := t.space }]

def Piece.use : Piece → Option (Nat × Bool)
  | .tok _ => none
  | .param i _ => some (i, false)
  | .str i _ => some (i, true)

def Piece.elem : Piece → Elem
  | .tok t => .tok (toP t)
  | .param i t => .param i t.space
  | .str i t => .str i t.space

theorem render_one (m : Macro) (t : Tok) :
    (Piece.one m.params t).render m =
      match macroparam m.params t with
      | some i => respace (m.args.getD i default).toks t.space
      | none => [t] := by
  unfold Piece.one; cases macroparam m.params t <;> rfl

theorem substBody_pieces (m : Macro) (body : List Tok) :
    substBody m body = (pieces m.params body).flatMap (Piece.render m) := by
  fun_induction pieces m.params body
  · rfl
  · simp only [substBody, List.flatMap_cons, List.flatMap_nil, List.append_nil, render_one]
    split
    · rfl
    · rename_i h; rw [macroparam_kind h]
  · rename_i h1 _ h2 ih; simp only [substBody, h1, h2, ↓reduceIte, List.flatMap_cons, ih]; rfl
  · rename_i h1 h2 ih; simp only [substBody, h1, h2, ↓reduceIte, List.flatMap_cons, ih]; rfl
  · rename_i h1 ih
    simp only [substBody, h1, ↓reduceIte, List.flatMap_cons, ih, render_one]
    split
    · cases macroparam m.params _ <;> rfl
    · rename_i h; rw [macroparam_kind h]; rfl

theorem uses_pieces (ps : List Param) (body : List Tok) : uses ps body = (pieces ps body).filterMap Piece.use := by
  fun_induction pieces ps body
  · rfl
  · simp only [uses, List.filterMap_cons, List.filterMap_nil, Piece.one]
    split
    · cases macroparam ps _ <;> rfl
    · rename_i h; rw [macroparam_kind h]; rfl
  · rename_i h1 _ h2 ih; simp only [uses, h1, h2, ↓reduceIte, List.filterMap_cons, ih, Piece.use]
  · rename_i h1 h2 ih; simp only [uses, h1, h2, ↓reduceIte, List.filterMap_cons, ih, Piece.use]
  · rename_i h1 ih
    simp only [uses, h1, ↓reduceIte, List.filterMap_cons, ih, Piece.one]
    split
    · cases macroparam ps _ <;> rfl
    · rename_i h; rw [macroparam_kind h]; rfl

theorem elems_pieces {ps : List Param} {md : MacroDef} (hf : md.func = true)
    (hidx : ∀ t : Tok, paramIndex md (toP t) = macroparam ps t) (body : List Tok) :
    elems md (body.map toP) = (pieces ps body).map Piece.elem := by
  have one : ∀ t, MacroRef.elemOf md (toP t) = (Piece.one ps t).elem := by
    intro t
    unfold MacroRef.elemOf Piece.one
    simp only [hf, ↓reduceIte, hidx]
    cases macroparam ps t <;> rfl
  fun_induction pieces ps body
  · rfl
  · simp only [List.map_cons, List.map_nil, elems, one]
  · rename_i h1 _ h2 ih
    have : (toP _).kind = Kind.THASH := h1
    simp only [List.map_cons, elems, hf, this, and_self, ↓reduceIte, hidx, h2, ← ih]; rfl
  · rename_i h1 h2 ih
    have : (toP _).kind = Kind.THASH := h1
    simp only [List.map_cons, elems, hf, this, and_self, ↓reduceIte, hidx, h2] at ih ⊢; rw [ih]; rfl
  · rename_i h1 ih
    have : ¬ (toP _).kind = Kind.THASH := h1
    simp only [List.map_cons, elems, this, and_false, ↓reduceIte, one] at ih ⊢; rw [ih]

/-- the token of the replacement list a piece was read from (for `# parameter`: the `#`) -/
def Piece.src : Piece → Tok
  | .tok t => t
  | .param _ t => t
  | .str _ t => t

def Piece.Ok (ps : List Param) : Piece → Prop
  | .tok _ => True
  | .param i t => macroparam ps t = some i
  | .str _ t => t.kind = .THASH

theorem mem_pieces {ps : List Param} {p : Piece} : ∀ {body : List Tok}, p ∈ pieces ps body → p.src ∈ body ∧ p.Ok ps := by
  have one : ∀ t, (Piece.one ps t).src = t ∧ (Piece.one ps t).Ok ps := by
    intro t
    unfold Piece.one
    cases hp : macroparam ps t with
    | none => exact ⟨rfl, trivial⟩
    | some i => exact ⟨rfl, hp⟩
  intro body
  fun_induction pieces ps body with
  | case1 => intro h; cases h
  | case2 t => intro h; cases List.mem_singleton.mp h; exact ⟨(one t).1.symm ▸ List.mem_cons_self .., (one t).2⟩
  | case3 t u r h1 i h2 ih =>
    intro h
    rcases List.mem_cons.mp h with rfl | h
    · exact ⟨List.mem_cons_self .., h1⟩
    · exact ⟨List.mem_cons_of_mem _ (List.mem_cons_of_mem _ (ih h).1), (ih h).2⟩
  | case4 t u r h1 h2 ih =>
    intro h
    rcases List.mem_cons.mp h with rfl | h
    · exact ⟨List.mem_cons_self .., trivial⟩
    · exact ⟨List.mem_cons_of_mem _ (ih h).1, (ih h).2⟩
  | case5 t u r h1 ih =>
    intro h
    rcases List.mem_cons.mp h with rfl | h
    · exact ⟨(one t).1.symm ▸ List.mem_cons_self .., (one t).2⟩
    · exact ⟨List.mem_cons_of_mem _ (ih h).1, (ih h).2⟩

theorem mem_uses {ps : List Param} {body : List Tok} {p : Piece} {x : Nat × Bool} (hp : p ∈ pieces ps body)
    (hx : p.use = some x) : x ∈ uses ps body := by
  rw [uses_pieces]; exact List.mem_filterMap.mpr ⟨p, hp, hx⟩

theorem hashFollowed_of_nohash (ps : List Param) : ∀ l : List Tok, (∀ t ∈ l, t.kind ≠ .THASH) → HashFollowed ps l
  | [], _ => trivial
  | [t], h => h t (List.mem_cons_self ..)
  | t :: u :: r, h => by
    unfold HashFollowed
    rw [if_neg (h t (List.mem_cons_self ..))]
    exact hashFollowed_of_nohash ps (u :: r) (fun x hx => h x (List.mem_cons_of_mem _ hx))

theorem hashFollowed_respace {ps : List Param} {body : List Tok} (sp : Bool) (h : HashFollowed ps body) :
    HashFollowed ps (respace body sp) := by
  cases body with
  | nil => exact h
  | cons t more =>
    cases more with
    | nil => exact h
    | cons u r => unfold respace; unfold HashFollowed at h ⊢; exact h

theorem uses_respace (ps : List Param) (body : List Tok) (sp : Bool) : uses ps (respace body sp) = uses ps body :=
  match body with
  | [] => rfl
  | [_] => rfl
  | _ :: _ :: _ => rfl

theorem uses_of_nohash (ps : List Param) (body : List Tok) (h : ∀ t ∈ body, t.kind ≠ .THASH) (x : Nat × Bool)
    (hx : x ∈ uses ps body) : x.2 = false ∧ ∃ t ∈ body, macroparam ps t = some x.1 := by
  rw [uses_pieces] at hx
  obtain ⟨p, hp, hpx⟩ := List.mem_filterMap.mp hx
  obtain ⟨hsrc, hok⟩ := mem_pieces hp
  cases p with
  | tok t => cases hpx
  | param i t => cases hpx; exact ⟨rfl, t, hsrc, hok⟩
  | str i t => exact absurd hok (h t hsrc)

/-- through an observation that does not see white space (`ψ` of model tokens, `φ` of reference tokens): arguments may
be empty, and `pend` is arbitrary -/
theorem substBody_obs {γ : Type} (ψ : Tok → γ) (φ : HTok → γ)
    (hψ : ∀ (l : List Tok) (sp : Bool), (respace l sp).map ψ = l.map ψ)
    (hφ : ∀ (l : List HTok) (sp : Bool), (MacroRef.respace l sp).1.map φ = l.map φ)
    {m : Macro} {md : MacroDef} (hf : md.func = true) (hidx : ∀ t : Tok, paramIndex md (toP t) = macroparam m.params t)
    (raw full : Nat → List HTok) {body : List Tok}
    (hbody : ∀ t ∈ body, ∀ sp, ψ t = φ ⟨{ toP t with space := sp }, [], false⟩)
    (hplain : ∀ i, (i, false) ∈ uses m.params body → ((m.args.getD i default).toks).map ψ = (full i).map φ)
    (hstr : ∀ i, (i, true) ∈ uses m.params body → ∀ sp sp', ψ { (m.args.getD i default).str with space := sp } =
      φ ⟨{ MacroRef.stringizeRef ((raw i).map (·.tok)) with space := sp' }, [], false⟩) (pend : Bool) :
    (substBody m body).map ψ = (subst raw full (elems md (body.map toP)) pend).map φ := by
  have aux : ∀ l : List Piece, (∀ p ∈ l, p ∈ pieces m.params body) → ∀ pend,
      (l.flatMap (Piece.render m)).map ψ = (subst raw full (l.map Piece.elem) pend).map φ := by
    intro l
    induction l with
    | nil => intro _ _; rfl
    | cons p l ih =>
      intro hl pend
      have ih := ih (fun q hq => hl q (List.mem_cons_of_mem _ hq))
      have hp := hl p (List.mem_cons_self ..)
      rw [List.flatMap_cons, List.map_append, List.map_cons]
      cases p with
      | tok t =>
        simp only [Piece.render, Piece.elem, subst, List.map_cons, List.map_nil, List.singleton_append, ih false,
          hbody t (mem_pieces hp).1 ((toP t).space || pend)]
      | param i t =>
        simp only [Piece.render, Piece.elem, subst, List.map_append, hψ, hφ, hplain i (mem_uses hp rfl)]
        rw [ih]
      | str i t =>
        simp only [Piece.render, Piece.elem, subst, List.map_cons, List.map_nil, List.singleton_append, ih false,
          hstr i (mem_uses hp rfl) t.space (t.space || pend)]
  rw [substBody_pieces, elems_pieces hf hidx]
  exact aux _ (fun _ h => h) pend

/-- 6.10.3.1, 6.10.3.2: `full i` is the reference's completely replaced argument, `raw i` the argument it spells -/
theorem substBody_spec (m : Macro) (md : MacroRef.MacroDef) (hf : md.func = true)
    (hidx : ∀ t : Tok, MacroRef.paramIndex md (toP t) = macroparam m.params t)
    (raw full : Nat → List MacroRef.HTok)
    (hargs : ∀ i, ((m.args.getD i default).toks).map kh = (full i).map kh')
    (hstr : ∀ i, kh (m.args.getD i default).str =
      ((MacroRef.stringizeRef ((raw i).map (·.tok))).kind, (MacroRef.stringizeRef ((raw i).map (·.tok))).lit, false)) :
    ∀ (body : List Tok), (∀ t ∈ body, t.hide = false) → ∀ pend : Bool,
      (substBody m body).map kh =
        (MacroRef.subst raw full (MacroRef.elems md (body.map toP)) pend).map kh' := fun _ hb pend =>
  substBody_obs kh kh' kh_respace kh'_respace hf hidx raw full
    (fun t ht _ => congrArg (fun b => (t.kind, t.lit, b)) (hb t ht)) (fun i _ => hargs i) (fun i _ _ _ => hstr i) pend

theorem substBody_key (m : Macro) (md : MacroDef) (hf : md.func = true)
    (hidx : ∀ t : Tok, paramIndex md (toP t) = macroparam m.params t)
    (raw full : Nat → List HTok) (body : List Tok) (hnh : ∀ t ∈ body, t.kind ≠ .THASH)
    (hargs : ∀ i, (i, false) ∈ uses m.params body →
      ((m.args.getD i default).toks).map Tok.key = (full i).map k2') (pend : Bool) :
    (substBody m body).map Tok.key = (subst raw full (elems md (body.map toP)) pend).map k2' :=
  substBody_obs Tok.key k2' key_respace k2'_respace hf hidx raw full (fun _ _ _ => rfl) hargs
    (fun _ hi => Bool.noConfusion (uses_of_nohash _ _ hnh _ hi).1) pend

/-- exactly, white space included: so no argument that is substituted may be empty -/
theorem substBody_map {m : Macro} {md : MacroDef} (f : Tok → HTok)
    (hsp : ∀ (t : Tok) (sp : Bool), f { t with space := sp } = { f t with tok := { (f t).tok with space := sp } })
    (hf : md.func = true) (hidx : ∀ t : Tok, paramIndex md (toP t) = macroparam m.params t)
    (raw full : Nat → List HTok) {body : List Tok}
    (hbody : ∀ t ∈ body, f t = ⟨toP t, [], false⟩)
    (hplain : ∀ i, (i, false) ∈ uses m.params body →
      ((m.args.getD i default).toks).map f = full i ∧ (m.args.getD i default).toks ≠ [])
    (hstr : ∀ i, (i, true) ∈ uses m.params body → ∀ sp, f { (m.args.getD i default).str with space := sp } =
      ⟨{ MacroRef.stringizeRef ((raw i).map (·.tok)) with space := sp }, [], false⟩) :
    (substBody m body).map f = subst raw full (elems md (body.map toP)) false := by
  have aux : ∀ l : List Piece, (∀ p ∈ l, p ∈ pieces m.params body) →
      (l.flatMap (Piece.render m)).map f = subst raw full (l.map Piece.elem) false := by
    intro l
    induction l with
    | nil => intro _; rfl
    | cons p l ih =>
      intro hl
      have ih := ih (fun q hq => hl q (List.mem_cons_of_mem _ hq))
      have hp := hl p (List.mem_cons_self ..)
      rw [List.flatMap_cons, List.map_append, List.map_cons, ih]
      cases p with
      | tok t =>
        simp only [Piece.render, Piece.elem, subst, List.map_cons, List.map_nil, hbody t (mem_pieces hp).1, Bool.or_false]
        rfl
      | param i t =>
        obtain ⟨h1, h2⟩ := hplain i (mem_uses hp rfl)
        have hne : full i ≠ [] := fun hh => h2 (List.map_eq_nil_iff.mp (h1.trans hh))
        simp only [Piece.render, Piece.elem, subst, map_respace f hsp, h1, Bool.or_false, respace_snd_of_ne_nil _ hne]
      | str i t =>
        simp only [Piece.render, Piece.elem, subst, List.map_cons, List.map_nil, hstr i (mem_uses hp rfl), Bool.or_false]
        rfl
  rw [substBody_pieces, elems_pieces hf hidx]
  exact aux _ (fun _ h => h)

theorem elems_param_mem_uses {m : Macro} {md : MacroDef} (hf : md.func = true)
    (hidx : ∀ t : Tok, paramIndex md (toP t) = macroparam m.params t) {body : List Tok} (i : Nat) (sp : Bool)
    (h : Elem.param i sp ∈ elems md (body.map toP)) : (i, false) ∈ uses m.params body := by
  rw [elems_pieces hf hidx] at h
  obtain ⟨p, hp, he⟩ := List.mem_map.mp h
  cases p <;> cases he
  exact mem_uses hp rfl

theorem mem_respace_kh {l : List Tok} {sp : Bool} {t : Tok} (h : t ∈ respace l sp) : ∃ b ∈ l, kh t = kh b := by
  have : kh t ∈ (respace l sp).map kh := List.mem_map_of_mem h
  rw [kh_respace] at this
  obtain ⟨b, hb, hbe⟩ := List.mem_map.mp this
  exact ⟨b, hb, hbe.symm⟩

theorem substBody_mem (m : Macro) (body : List Tok) :
    ∀ x ∈ substBody m body, (∃ b ∈ body, kh x = kh b) ∨
      (∃ i, (i, false) ∈ uses m.params body ∧ ∃ a ∈ (m.args.getD i default).toks, kh x = kh a) ∨
      (∃ i, (i, true) ∈ uses m.params body ∧ x.kind = (m.args.getD i default).str.kind ∧
        x.lit = (m.args.getD i default).str.lit ∧ x.hide = (m.args.getD i default).str.hide) := by
  intro x hx
  rw [substBody_pieces] at hx
  obtain ⟨p, hp, hxp⟩ := List.mem_flatMap.mp hx
  cases p with
  | tok t => cases List.mem_singleton.mp hxp; exact .inl ⟨x, (mem_pieces hp).1, rfl⟩
  | param i t =>
    obtain ⟨a, ha, hae⟩ := mem_respace_kh hxp
    exact .inr (.inl ⟨i, mem_uses hp rfl, a, ha, hae⟩)
  | str i t => cases List.mem_singleton.mp hxp; exact .inr (.inr ⟨i, mem_uses hp rfl, rfl, rfl, rfl⟩)

def Piece.setSpace (sp : Bool) : Piece → Piece
  | .tok t => .tok { t with space := sp }
  | .param i t => .param i { t with space := sp }
  | .str i t => .str i { t with space := sp }

theorem pieces_respace (ps : List Param) (t : Tok) (more : List Tok) (sp : Bool) :
    ∃ p l, pieces ps (t :: more) = p :: l ∧ pieces ps ({ t with space := sp } :: more) = p.setSpace sp :: l := by
  have one : Piece.one ps { t with space := sp } = (Piece.one ps t).setSpace sp := by
    unfold Piece.one
    show (match macroparam ps t with | some i => _ | none => _) = _
    cases macroparam ps t <;> rfl
  cases more with
  | nil => exact ⟨_, [], rfl, congrArg (· :: []) one⟩
  | cons u r =>
    unfold pieces
    by_cases hh : t.kind = .THASH
    · rw [if_pos hh, if_pos (show ({ t with space := sp } : Tok).kind = .THASH from hh)]
      cases macroparam ps u with
      | none => exact ⟨.tok t, _, rfl, rfl⟩
      | some i => exact ⟨.str i t, _, rfl, rfl⟩
    · rw [if_neg hh, if_neg (show ¬ ({ t with space := sp } : Tok).kind = .THASH from hh)]
      exact ⟨_, _, rfl, congrArg (· :: _) one⟩

theorem render_setSpace (m : Macro) (p : Piece) (sp : Bool) : (p.setSpace sp).render m = respace (p.render m) sp := by
  cases p with
  | tok t => rfl
  | param i t => show respace _ sp = respace (respace _ t.space) sp; cases (m.args.getD i default).toks <;> rfl
  | str i t => rfl

theorem substBody_respace (m : Macro) (body : List Tok) (sp : Bool)
    (hne : ∀ i, (i, false) ∈ uses m.params body → (m.args.getD i default).toks ≠ []) :
    substBody m (respace body sp) = respace (substBody m body) sp ∧ (body ≠ [] → substBody m body ≠ []) := by
  cases body with
  | nil => exact ⟨rfl, fun h => absurd rfl h⟩
  | cons t more =>
    obtain ⟨p, l, e1, e2⟩ := pieces_respace m.params t more sp
    obtain ⟨a, as, ha⟩ : ∃ a as, p.render m = a :: as := by
      cases p with
      | tok t => exact ⟨_, _, rfl⟩
      | str i t => exact ⟨_, _, rfl⟩
      | param i t' =>
        obtain ⟨a, as, ha⟩ := List.exists_cons_of_ne_nil (hne i (mem_uses (e1 ▸ List.mem_cons_self ..) rfl))
        exact ⟨_, as, show respace _ _ = _ by rw [ha]; rfl⟩
    show substBody m ({ t with space := sp } :: more) = _ ∧ _
    rw [substBody_pieces, substBody_pieces, e1, e2, List.flatMap_cons, List.flatMap_cons, render_setSpace, ha]
    exact ⟨rfl, fun _ => List.cons_ne_nil _ _⟩

theorem substBody_respace_key (m : Macro) (l : List Tok) (sp : Bool) :
    (substBody m (respace l sp)).map Tok.key = (substBody m l).map Tok.key := by
  cases l with
  | nil => rfl
  | cons t more =>
    obtain ⟨p, l, e1, e2⟩ := pieces_respace m.params t more sp
    show (substBody m ({ t with space := sp } :: more)).map Tok.key = _
    rw [substBody_pieces, substBody_pieces, e1, e2, List.flatMap_cons, List.flatMap_cons, List.map_append, List.map_append,
      render_setSpace, key_respace]

end CprocVerif.PP
