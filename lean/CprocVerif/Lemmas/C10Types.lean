import CprocVerif.Spec.Constraints
import CprocVerif.Lemmas.Types

/-! Lemmas for the acceptance-soundness theorems of `Props/C10.lean` about the typing model (`Model/Types.lean`):
the cases of `exprassign` and of `condexpr` in which pointers meet, outside the one pair both let through against C11
(`voidVsFuncPtr`); `++`/`--`; a counting lemma for `_Generic`.  For the binary operators acceptance soundness is
`binopType_iff` followed by `binopOk_split` (`Lemmas/Types.lean`). -/

namespace CprocVerif.C10Types
open CprocVerif.Types CprocVerif.Spec CprocVerif.Spec.Constraints CprocVerif.Types.Lemmas

theorem compat_spec (a b : Ty) (h : typecompatible a b = true) : compatible a b = true := by
  rw [spec_compatible_eq]; exact h

/-- `++`/`--`, stated for the first of the four operators that share the alternative of `unaryOp` -/
theorem incdec_sound (sc : Bool) (e o : Operand) (ha : e.ty.isArith = true ∨ e.ty.isPtr = true)
    (h : unaryOp sc .preinc e = some o) : Constraints.unop .preinc e = true := by
  simp only [unaryOp, Option.ite_none_left_eq_some, Bool.not_eq_true', Bool.not_eq_false] at h
  obtain ⟨hl, hc, hb, _⟩ := h
  rcases ha with ha | hp
  · simp [Constraints.unop, hl, hc, ha]
  · obtain ⟨q, b, ht⟩ := isPtr_cases hp
    simp_all [Constraints.unop, ptrToCompleteObject]

/-- `void *` against a pointer to function: the one case in which `exprassign` and `condexpr` let a
pointer pair through although 6.5.16.1p1 / 6.5.15p3 require a pointer to an *object* type next to
the pointer to void -/
def voidVsFuncPtr (a b : Ty) : Bool :=
  match a, b with
  | .ptr _ .void, .ptr _ fb => fb.isFunc
  | .ptr _ fa, .ptr _ .void => fa.isFunc
  | _, _ => false

theorem voidVsFuncPtr_false {qa qb : Qual} {a b : Ty} (h : voidVsFuncPtr (.ptr qa a) (.ptr qb b) = false) :
    (a = .void → b.isFunc = false) ∧ (b = .void → a.isFunc = false) := by
  constructor <;> rintro rfl
  · exact h
  · cases a <;> first | rfl | exact h

theorem ptrAssign_sound (t : Ty) (e : Operand) (hx : voidVsFuncPtr t e.ty = false)
    (h : ptrAssignOk t e = true) : assignToPointer t e = true := by
  unfold ptrAssignOk at h
  split at h
  · rename_i tq tb
    by_cases hn : e.nullconst = true
    · simp [assignToPointer, hn]
    · simp only [hn, Bool.false_eq_true, if_false] at h
      split at h
      · rename_i eq eb he
        rw [he] at hx
        simp only [Bool.and_eq_true, Bool.or_eq_true, beq_iff_eq] at h
        simp only [assignToPointer, he, h.2, Bool.true_and, Bool.or_eq_true]
        right
        rcases h.1 with (hv | hv) | hc
        · simp [hv, (voidVsFuncPtr_false hx).1 hv]
        · simp [hv, (voidVsFuncPtr_false hx).2 hv]
        · simp [compat_spec _ _ hc]
      · cases h
  · cases h

theorem exprassign_sound (t : Ty) (e : Operand) (hx : voidVsFuncPtr t e.ty = false)
    (h : exprassignOk t e = true) : simpleAssign t e = true := by
  unfold exprassignOk at h
  split at h
  · simp only [Bool.or_eq_true] at h
    rcases h with (h | h) | h
    · have ht : (Ty.arith (.basic .bool)).isArith = true := rfl
      simp [simpleAssign, ht, h]
    · simp [simpleAssign, h]
    · simp [simpleAssign, h]
  · rename_i a _
    have ht : (Ty.arith a).isArith = true := rfl
    simp [simpleAssign, ht, h]
  · have := ptrAssign_sound _ e hx h
    simp [simpleAssign, this]
  · simp [simpleAssign, h]
  · simp [simpleAssign, Ty.isStructUnion, compat_spec _ _ h]
  · simp [simpleAssign, Ty.isStructUnion, compat_spec _ _ h]
  · cases h

/-- operands after the conversions of 6.3.2.1p3-4: no array and no function type left -/
def converted (t : Ty) : Bool :=
  match t with
  | .arr .. => false
  | .func .. => false
  | _ => true

theorem condRes_sound (sc : Bool) (l r : Operand) (x : Ty × Operand × Operand)
    (hl : converted l.ty = true) (hx : voidVsFuncPtr l.ty r.ty = false)
    (h : condRes sc l r = some x) :
    condArms l r = true ∨ (l.ty = .nullptr ∧ r.ty = .nullptr) := by
  unfold condRes at h
  by_cases ha : (l.ty.isArith && r.ty.isArith) = true
  · left; simp only [condArms, ha, Bool.true_or]
  rw [if_neg ha] at h
  by_cases he : l.ty = r.ty
  · -- `condexpr` accepts equal types whatever they are: `hl` rules out array and function types, and two `nullptr_t`
    -- (C23) are the right disjunct
    cases ht : l.ty <;> rw [ht] at hl he <;> first | cases hl | skip
    · left; simp [condArms, ← he, ht]
    · rw [← he, ht] at ha; exact absurd rfl ha
    · right; exact ⟨rfl, he.symm⟩
    · left; simp [condArms, ← he, ht, ptrsToCompatible, compat_spec _ _ (compat_refl' _)]
    · left; simp [condArms, ← he, ht, Ty.isStructUnion]
    · left; simp [condArms, ← he, ht, Ty.isStructUnion]
  rw [if_neg he, if_neg (fun hv => he (hv.1.trans hv.2.symm))] at h
  left
  by_cases h1 : (l.nullconst && r.ty.isPtr) = true
  · simp only [Bool.and_eq_true] at h1; simp [condArms, h1.1, h1.2]
  by_cases h2 : (r.nullconst && l.ty.isPtr) = true
  · simp only [Bool.and_eq_true] at h2; simp [condArms, h2.1, h2.2]
  rw [if_neg h1, if_neg h2] at h
  split at h <;> first | cases h | skip
  rename_i lq lb rq rb hlt hrt
  rw [hlt, hrt] at hx
  split at h
  · -- one side points to void: the other must not point to a function
    rename_i hv
    rcases hv with rfl | rfl
    · simp [condArms, hlt, hrt, isVoidPtrAny, ptrToObject, (voidVsFuncPtr_false hx).1 rfl]
    · simp [condArms, hlt, hrt, isVoidPtrAny, ptrToObject, (voidVsFuncPtr_false hx).2 rfl]
  · have hc := (Option.ite_none_right_eq_some.1 h).1
    simp [condArms, hlt, hrt, ptrsToCompatible, compat_spec _ _ hc]

theorem filter_zipIdx_length {α : Type} (p : α → Bool) : ∀ (l : List α) (n : Nat),
    ((l.zipIdx n).filter (fun x => p x.1)).length = (l.filter p).length
  | [], _ => rfl
  | a :: l, n => by
    simp only [List.zipIdx_cons, List.filter_cons]
    cases p a <;> simp [filter_zipIdx_length p l (n + 1)]

end CprocVerif.C10Types
