import CprocVerif.Spec.Qbe
import CprocVerif.Spec.QbeWf

/-!
  C03, classes, static part: what `wf` (Spec/QbeWf.lean) guarantees about the classes of every
  instruction, jump and phi of every function, extracted from the monadic `for` loops of
  `wfFuncPre`, `checkIns`, `checkCall`, `checkJump`; the function and signature tables as lookups.
-/

namespace CprocVerif.C03.Cls
open CprocVerif.Qbe

theorem errIf_ok {c : Bool} {msg : String} : errIf c msg = .ok () ↔ c = false := by
  unfold errIf; cases c <;> simp

theorem errIf_bind_ok {β : Type} {c : Bool} {msg : String} {k : Unit → Except String β} {r : β} :
    (errIf c msg >>= k) = .ok r ↔ c = false ∧ k () = .ok r := by
  unfold errIf; cases c <;> simp [bind, Except.bind]

theorem throw_bind_ok {α β : Type} {e : String} {k : α → Except String β} {r : β} :
    ((throw e : Except String α) >>= k) = .ok r ↔ False := by
  simp [bind, Except.bind, throw, throwThe, MonadExceptOf.throw]

theorem error_bind_ok {α β : Type} {e : String} {k : α → Except String β} {r : β} :
    ((Except.error e : Except String α) >>= k) = .ok r ↔ False := by
  simp [bind, Except.bind]

theorem bind_ok {ε α β : Type} {x : Except ε α} {k : α → Except ε β} {r : β}
    (h : (x >>= k) = .ok r) : ∃ a, x = .ok a ∧ k a = .ok r := by
  cases x with
  | error e => simp [bind, Except.bind] at h
  | ok a => exact ⟨a, rfl, by simpa [bind, Except.bind] using h⟩

/-- `hbody` asks for `.yield`: the loop bodies of `Spec/QbeWf.lean` never `break`. -/
theorem forIn_list_ok {α ε : Type} (P : α → Prop) {f : α → PUnit → Except ε (ForInStep PUnit)}
    (hbody : ∀ a s, f a PUnit.unit = .ok s → s = .yield PUnit.unit ∧ P a) :
    ∀ (l : List α) r, forIn l PUnit.unit f = Except.ok r → ∀ a ∈ l, P a := by
  intro l
  induction l with
  | nil => intro r _ a ha; cases ha
  | cons x xs ih =>
    intro r h a ha
    rw [List.forIn_cons] at h
    cases hx : f x PUnit.unit with
    | error e => rw [hx] at h; cases h
    | ok s =>
      obtain ⟨rfl, hp⟩ := hbody x s hx
      rw [hx] at h
      rcases List.mem_cons.1 ha with rfl | ha
      · exact hp
      · exact ih r h a ha

theorem forIn_array_ok {α ε : Type} (P : α → Prop) {f : α → PUnit → Except ε (ForInStep PUnit)}
    (hbody : ∀ a s, f a PUnit.unit = .ok s → s = .yield PUnit.unit ∧ P a)
    (xs : Array α) (r : PUnit) (h : forIn xs PUnit.unit f = Except.ok r) :
    ∀ a ∈ xs.toList, P a := by
  rw [← Array.forIn_toList] at h
  exact forIn_list_ok P hbody _ _ h

theorem forIn_range_ok {ε : Type} (P : Nat → Prop) {f : Nat → PUnit → Except ε (ForInStep PUnit)}
    (hbody : ∀ a s, f a PUnit.unit = .ok s → s = .yield PUnit.unit ∧ P a)
    (n : Nat) (r : PUnit) (h : forIn [0:n] PUnit.unit f = Except.ok r) : ∀ i, i < n → P i := by
  rw [Std.Legacy.Range.forIn_eq_forIn_range'] at h
  intro i hi
  refine forIn_list_ok P hbody _ _ h i ?_
  simp only [List.mem_range', Std.Legacy.Range.size]
  exact ⟨i, by omega, by omega⟩

theorem mem_toList_of_getElem? {α : Type} {xs : Array α} {i : Nat} {a : α} (h : xs[i]? = some a) :
    a ∈ xs.toList := Array.mem_toList_iff.2 (Array.mem_of_getElem? h)

/-- The part of what `checkCall` establishes that the class proofs use.  Left out: `tyDefined`, the
    bound `i ≤ args.length` on the marker, and the rule that variadic arguments need a marker. -/
structure CallFacts (sigs : SigMap) (tc : ClsMap) (res : Option (String × Ty)) (callee : Val)
    (args : List (Ty × Val)) (varAt : Option Nat) : Prop where
  calleeOk : argOk tc .l callee = true
  argsCls : ∀ a ∈ args, argOk tc a.1.cls a.2 = true
  direct : ∀ name th sg, callee = .glob name th → sigs[name]? = some sg →
    sg.params.length ≤ args.length ∧
    (sg.variadic = false → args.length = sg.params.length) ∧
    tysAgree (args.map (·.1)) sg.params = true ∧
    (∀ i, varAt = some i → sg.variadic = true ∧ i = sg.params.length) ∧
    (∀ x t, res = some (x, t) → ∃ rt, sg.ret = some rt ∧ tyAgree t rt = true)

variable {sigs : SigMap} {types : Std.HashSet String} {tc : ClsMap} {f : Func}

theorem checkCall_facts {res : Option (String × Ty)} {callee : Val} {args : List (Ty × Val)}
    {varAt : Option Nat}
    (h : checkCall sigs types tc res callee args varAt = .ok ()) :
    CallFacts sigs tc res callee args varAt := by
  unfold checkCall at h
  obtain ⟨h1, h⟩ := errIf_bind_ok.1 h
  obtain ⟨_, hloop, h⟩ := bind_ok h
  refine ⟨by simpa using h1, ?_, ?_⟩
  · refine forIn_list_ok (fun a => argOk tc a.1.cls a.2 = true) ?_ _ _ hloop
    intro (t, v) s hs
    obtain ⟨_, hs⟩ := errIf_bind_ok.1 hs
    obtain ⟨h2, hs⟩ := errIf_bind_ok.1 hs
    cases hs
    exact ⟨rfl, by simpa using h2⟩
  · -- the checks of the result type and of the marker position stand in front of the join points
    extract_lets jCallee jVar at h
    replace h : jVar () = .ok () := by
      split at h
      · exact (errIf_bind_ok.1 h).2
      · exact h
    replace h : jCallee () = .ok () := by
      simp only [jVar] at h
      split at h
      · exact (errIf_bind_ok.1 h).2
      · exact h
    rintro name th sg rfl hsg
    simp -zeta only [jCallee, hsg] at h
    extract_lets np jRet at h
    obtain ⟨h2, h⟩ := errIf_bind_ok.1 h
    obtain ⟨h3, h⟩ := errIf_bind_ok.1 h
    obtain ⟨h4, h⟩ := errIf_bind_ok.1 h
    have hv : (∀ i, varAt = some i → sg.variadic = true ∧ i = sg.params.length) ∧
        jRet () = .ok () := by
      cases varAt with
      | none => exact ⟨nofun, (errIf_bind_ok.1 h).2⟩
      | some i =>
        obtain ⟨h5, h⟩ := errIf_bind_ok.1 h
        obtain ⟨h6, h⟩ := errIf_bind_ok.1 h
        exact ⟨fun j hj => by cases hj; exact ⟨by simpa using h5, by simpa using h6⟩, h⟩
    have h2 : sg.params.length ≤ args.length := by simpa using h2
    refine ⟨h2, fun hnv => ?_, by simpa using h4, hv.1, ?_⟩
    · rw [hnv] at h3
      have : ¬ sg.params.length < args.length := by simpa using h3
      omega
    · rintro x t rfl
      have hr := hv.2
      simp only [jRet] at hr
      cases hret : sg.ret with
      | none => rw [hret] at hr; cases hr
      | some rt =>
        rw [hret] at hr
        exact ⟨rt, rfl, by simpa using errIf_ok.1 hr⟩

def InsFacts (sigs : SigMap) (tc : ClsMap) : Ins → Prop
  | .op res o args => ∃ ks, o.sig (res.map (·.2)) = some ks ∧ argsOk tc ks args = true
  | .call res callee args varAt => CallFacts sigs tc res callee args varAt

theorem checkIns_ok {i : Ins} :
    checkIns sigs types tc i = .ok () ↔ undefinedTmp tc i.operands = none ∧
      match i with
      | .op res o args => ∃ ks, o.sig (res.map (·.2)) = some ks ∧ argsOk tc ks args = true
      | .call res callee args varAt => checkCall sigs types tc res callee args varAt = .ok () := by
  unfold checkIns
  cases undefinedTmp tc i.operands with
  | some t => simp
  | none =>
    cases i with
    | call res callee args varAt => simp
    | op res o args =>
      cases hs : o.sig (res.map (·.2)) with
      | none => simp [hs]
      | some ks => cases ha : argsOk tc ks args <;> simp [hs, ha]

theorem checkIns_facts {i : Ins}
    (h : checkIns sigs types tc i = .ok ()) : InsFacts sigs tc i := by
  have := (checkIns_ok.1 h).2
  cases i with
  | op res o args => exact this
  | call res callee args varAt => exact checkCall_facts this

def JumpFacts (f : Func) (tc : ClsMap) : Jump → Prop
  | .jnz v _ _ => argOk tc .w v = true
  | .ret (some v) => ∃ t, f.ret = some t ∧ argOk tc t.cls v = true
  | _ => True

theorem checkJump_facts {fi : FuncInfo} {j : Jump}
    (h : checkJump f fi tc j = .ok ()) : JumpFacts f tc j := by
  unfold checkJump at h
  obtain ⟨_, _, h⟩ := bind_ok h
  extract_lets jClass at h
  replace h : jClass () = .ok () := by
    split at h
    · simp only [throw_bind_ok] at h
    · exact h
  cases j with
  | jnz v a z => exact (by simpa using errIf_ok.1 h : argOk tc .w v = true)
  | ret v =>
    cases v with
    | none => trivial
    | some v =>
      simp only [jClass] at h
      cases hr : f.ret with
      | none => simp only [hr] at h; cases h
      | some t =>
        simp only [hr, errIf_ok] at h
        exact ⟨t, hr, by simpa using h⟩
  | _ => trivial

/-- The class of every temporary defined in `f`: the map that `wfFuncPre` builds. -/
def tcOf (f : Func) : ClsMap := f.allDefs.foldl (fun m d => m.insert d.1 d.2) {}

theorem foldl_insert_lookup (l : List (String × Cls)) (init : ClsMap) (t : String) :
    (t ∉ l.map (·.1) → (l.foldl (fun m d => m.insert d.1 d.2) init)[t]? = init[t]?) ∧
    ((l.map (·.1)).Nodup → ∀ c, (t, c) ∈ l →
      (l.foldl (fun m d => m.insert d.1 d.2) init)[t]? = some c) := by
  induction l generalizing init with
  | nil => simp
  | cons d l ih =>
    simp only [List.foldl_cons, List.map_cons, List.mem_cons, not_or, List.nodup_cons]
    refine ⟨fun ⟨hne, hnot⟩ => ?_, fun ⟨hx, hnd⟩ c hc => ?_⟩
    · rw [(ih _).1 hnot, Std.HashMap.getElem?_insert, if_neg (by simpa using Ne.symm hne)]
    · rcases hc with rfl | hc
      · rw [(ih _).1 hx, Std.HashMap.getElem?_insert_self]
      · exact (ih _).2 hnd c hc

theorem tcOf_lookup (hnd : (f.allDefs.map (·.1)).Nodup) {t : String} {c : Cls}
    (h : (t, c) ∈ f.allDefs) : (tcOf f)[t]? = some c :=
  (foldl_insert_lookup f.allDefs {} t).2 hnd c h

theorem mem_tcOf {t : String} : t ∈ tcOf f ↔ t ∈ f.allDefs.map (·.1) := by
  have : ∀ (l : List (String × Cls)) (init : ClsMap),
      t ∈ l.foldl (fun m d => m.insert d.1 d.2) init ↔ t ∈ init ∨ t ∈ l.map (·.1) := by
    intro l
    induction l with
    | nil => simp
    | cons d l ih =>
      intro init
      rw [List.foldl_cons, ih, Std.HashMap.mem_insert, List.map_cons, List.mem_cons, beq_iff_eq,
        or_assoc, or_left_comm, eq_comm]
  exact (this _ _).trans (by simp)

theorem allDefs_param {q : Ty × String} (h : q ∈ f.params) :
    (q.2, q.1.cls) ∈ f.allDefs := by
  unfold Func.allDefs
  exact List.mem_append_left _ (List.mem_map.2 ⟨q, h, rfl⟩)

theorem allDefs_block {bi : Nat} {b : Block} (hb : f.blocks[bi]? = some b)
    {d : String × Cls} (h : d ∈ b.defsList) : d ∈ f.allDefs := by
  unfold Func.allDefs
  exact List.mem_append_right _ (List.mem_flatMap.2 ⟨b, mem_toList_of_getElem? hb, h⟩)

theorem allDefs_phi {bi : Nat} {b : Block} (hb : f.blocks[bi]? = some b)
    {ph : Phi} (h : ph ∈ b.phis) : (ph.res, ph.k) ∈ f.allDefs :=
  allDefs_block hb (List.mem_append_left _ (List.mem_map.2 ⟨ph, h, rfl⟩))

theorem allDefs_op {bi ii : Nat} {b : Block} (hb : f.blocks[bi]? = some b)
    {x : String} {k : Cls} {o : Op} {args : List Val}
    (h : b.ins[ii]? = some (.op (some (x, k)) o args)) : (x, k) ∈ f.allDefs :=
  allDefs_block hb (List.mem_append_right _ (List.mem_filterMap.2
    ⟨_, mem_toList_of_getElem? h, rfl⟩))

theorem allDefs_call {bi ii : Nat} {b : Block} (hb : f.blocks[bi]? = some b)
    {x : String} {ty : Ty} {callee : Val} {args : List (Ty × Val)} {va : Option Nat}
    (h : b.ins[ii]? = some (.call (some (x, ty)) callee args va)) : (x, ty.cls) ∈ f.allDefs :=
  allDefs_block hb (List.mem_append_right _ (List.mem_filterMap.2
    ⟨_, mem_toList_of_getElem? h, rfl⟩))

structure BlockCls (sigs : SigMap) (f : Func) (b : Block) : Prop where
  ins : ∀ i ∈ b.ins.toList, InsFacts sigs (tcOf f) i
  term : ∀ j, b.term = some j → JumpFacts f (tcOf f) j
  phis : ∀ ph ∈ b.phis, ∀ s ∈ ph.srcs, argOk (tcOf f) ph.k s.2 = true

theorem wfFuncPre_loop (h : wfFuncPre sigs types f = .ok ()) :
    ∀ (bi : Nat) (b : Block), f.blocks[bi]? = some b → BlockCls sigs f b := by
  unfold wfFuncPre at h
  extract_lets fi n defs tc succs preds jL jB jP jR at h
  replace h := (errIf_bind_ok.1 h).2
  -- four guarded checks stand in front of the loop, each followed by a join point
  replace h : jR () = .ok () := by
    split at h
    · simp only [throw_bind_ok] at h
    · exact h
  replace h : jP () = .ok () := by
    simp only [jR] at h
    split at h
    · exact (errIf_bind_ok.1 h).2
    · exact h
  replace h : jB () = .ok () := by
    simp only [jP] at h
    obtain ⟨_, _, h⟩ := bind_ok h
    split at h
    · exact (errIf_bind_ok.1 h).2
    · exact h
  replace h : jL () = .ok () := by
    simp only [jB] at h
    split at h
    · exact (errIf_bind_ok.1 h).2
    · exact h
  simp -zeta only [jL] at h
  obtain ⟨_, hloop, _⟩ := bind_ok h
  intro bi b hb
  refine forIn_range_ok (fun bi => ∀ b, f.blocks[bi]? = some b → BlockCls sigs f b) ?_ _ _ hloop
    bi (Array.getElem?_eq_some_iff.1 hb).1 b hb
  clear hloop hb b bi h
  intro bi s hs
  split at hs
  · rename_i hnone
    cases hs
    exact ⟨rfl, fun b hb => by cases hnone.symm.trans hb⟩
  · rename_i b hb
    obtain ⟨_, hins, hs⟩ := bind_ok hs
    extract_lets predLabels jPhi at hs
    have hterm : ∀ j, b.term = some j → checkJump f fi tc j = .ok () := by
      intro j hj
      rw [hj] at hs
      simp only at hs
      split at hs
      · simp only [throw_bind_ok] at hs
      · assumption
    have hphi : jPhi () = .ok s := by
      split at hs
      · split at hs
        · simp only [throw_bind_ok] at hs
        · exact hs
      · exact hs
    simp -zeta only [jPhi] at hphi
    obtain ⟨_, hphis, hy⟩ := bind_ok hphi
    cases hy
    refine ⟨rfl, fun b' hb' => ?_⟩
    cases hb.symm.trans hb'
    refine ⟨?_, fun j hj => checkJump_facts (hterm j hj), ?_⟩
    · refine forIn_array_ok (fun i => InsFacts sigs (tcOf f) i) ?_ _ _ hins
      intro i s hs
      split at hs
      · simp only [throw_bind_ok] at hs
      · rename_i hc
        cases hs
        exact ⟨rfl, checkIns_facts hc⟩
    · refine forIn_list_ok (fun ph => ∀ s ∈ ph.srcs, argOk (tcOf f) ph.k s.2 = true) ?_ _ _ hphis
      intro ph s hs
      extract_lets jS at hs
      have hS : jS () = .ok s := by
        split at hs
        · simp only [throw_bind_ok] at hs
        · exact hs
      simp -zeta only [jS] at hS
      obtain ⟨_, hsrcs, hS⟩ := bind_ok hS
      obtain ⟨_, _, hy⟩ := bind_ok hS
      cases hy
      refine ⟨rfl, ?_⟩
      refine forIn_list_ok (fun x => argOk (tcOf f) ph.k x.2 = true) ?_ _ _ hsrcs
      intro x s hs
      obtain ⟨l, v⟩ := x
      simp -zeta only [errIf_bind_ok] at hs
      obtain ⟨_, _, hs⟩ := hs
      extract_lets jA at hs
      have hA : jA () = .ok s := by
        split at hs
        · simp only [throw_bind_ok] at hs
        · exact hs
      simp only [jA, errIf_bind_ok] at hA
      cases hA.2
      exact ⟨rfl, (by simpa using hA.1 : argOk tc ph.k v = true)⟩

structure FuncCls (sigs : SigMap) (f : Func) : Prop where
  nodup : (f.allDefs.map (·.1)).Nodup
  block : ∀ (bi : Nat) (b : Block), f.blocks[bi]? = some b → BlockCls sigs f b

theorem noDupCheck_nodup (xs : List String) (s : Std.HashSet String)
    (h : noDupCheck xs s = none) : xs.Nodup ∧ ∀ x ∈ xs, ¬ x ∈ s := by
  induction xs generalizing s with
  | nil => simp
  | cons x xs ih =>
    simp only [noDupCheck] at h
    split at h
    · cases h
    · rename_i hx
      obtain ⟨hnd, hns⟩ := ih _ h
      refine ⟨List.nodup_cons.2
        ⟨fun hm => hns x hm (Std.HashSet.mem_insert.2 (.inl (by simp))), hnd⟩, fun y hy hm => ?_⟩
      rcases List.mem_cons.1 hy with rfl | hy
      · exact hx (Std.HashSet.mem_iff_contains.1 hm)
      · exact hns y hy (Std.HashSet.mem_insert.2 (.inr hm))

theorem wfFunc_ok (h : wfFunc sigs types f = .ok ()) :
    (f.allDefs.map (·.1)).Nodup ∧ labelsOk f = true ∧
      wfFuncPre sigs types f = .ok () ∧ flowOk f (computeCert f) = true := by
  unfold wfFunc at h
  split at h
  · cases h
  · rename_i hnd
    split at h
    · cases h
    · rename_i hlab
      split at h
      · cases h
      · rename_i hpre
        dsimp only at h
        split at h
        · rename_i hflow
          exact ⟨(noDupCheck_nodup _ _ hnd).1, by simpa using hlab, hpre, hflow⟩
        · cases h

theorem wfDefs_wfFunc (defs : List Def) (types syms : Std.HashSet String)
    (h : wfDefs sigs defs types syms = .ok ()) (f : Func) (hf : Def.func f ∈ defs) :
    ∃ types', wfFunc sigs types' f = .ok () := by
  induction defs generalizing types syms with
  | nil => cases hf
  | cons d defs ih =>
    have hf' : d = .func f ∨ Def.func f ∈ defs := by simpa [eq_comm] using hf
    cases d with
    | type t =>
      simp only [wfDefs] at h
      split at h
      · cases h
      · exact ih _ _ h (hf'.resolve_left nofun)
    | data dd =>
      simp only [wfDefs] at h
      split at h
      · cases h
      · split at h
        · cases h
        · exact ih _ _ h (hf'.resolve_left nofun)
    | func g =>
      simp only [wfDefs] at h
      split at h
      · cases h
      · split at h
        · cases h
        · rename_i hg
          rcases hf' with hfg | hfd
          · cases hfg; exact ⟨_, hg⟩
          · exact ih _ _ h hfd

/-- The signature table `wf` checks calls against. -/
def sigsOf (m : Module) : SigMap := m.funcs.foldl (fun h f => h.insertIfNew f.name f.sig) {}

theorem wf_wfFunc {m : Module} (h : wf m = .ok ()) (hf : f ∈ m.funcs) :
    ∃ types, wfFunc (sigsOf m) types f = .ok () := by
  refine wfDefs_wfFunc _ _ _ h f ?_
  obtain ⟨d, hd, hdf⟩ := List.mem_filterMap.1 hf
  cases d <;> cases hdf
  exact hd

theorem wf_funcCls {m : Module} (h : wf m = .ok ()) (f : Func) (hf : f ∈ m.funcs) :
    FuncCls (sigsOf m) f :=
  have ⟨_, hw⟩ := wf_wfFunc h hf
  have ⟨hnd, _, hpre, _⟩ := wfFunc_ok hw
  ⟨hnd, wfFuncPre_loop hpre⟩

theorem foldl_insertIfNew_getElem? {α β : Type} (key : α → String) (val : α → β) (l : List α)
    (init : Std.HashMap String β) (name : String) :
    (l.foldl (fun h a => h.insertIfNew (key a) (val a)) init)[name]? =
      (init[name]?).or ((l.find? (key · == name)).map val) := by
  induction l generalizing init with
  | nil => simp
  | cons a l ih =>
    rw [List.foldl_cons, ih, Std.HashMap.getElem?_insertIfNew, List.find?_cons]
    by_cases hk : key a = name
    · subst hk
      by_cases hm : key a ∈ init <;> simp [hm]
    · have hk' : (key a == name) = false := by simpa using hk
      simp [hk']

theorem mkFuncTable_getElem? (fs : List Func) (name : String) :
    (mkFuncTable fs)[name]? = (fs.find? (·.name == name)).map FuncInfo.of := by
  simp [mkFuncTable, foldl_insertIfNew_getElem?]

theorem sigsOf_getElem? (m : Module) (name : String) :
    (sigsOf m)[name]? = (m.funcs.find? (·.name == name)).map Func.sig := by
  simp [sigsOf, foldl_insertIfNew_getElem?]

/-- For `fs = m.funcs` the fold on the left is `sigsOf m` and `mkFuncTable fs` is
    `(Prog.ofModule m).funcs`, both by unfolding. -/
theorem sigs_funcs (fs : List Func) (name : String) :
    (fs.foldl (fun (h : SigMap) f => h.insertIfNew f.name f.sig) {})[name]? =
      ((mkFuncTable fs)[name]?).map (fun fi => fi.f.sig) ∧
    ∀ fi, (mkFuncTable fs)[name]? = some fi → fi.f ∈ fs ∧ fi = FuncInfo.of fi.f ∧ fi.f.name = name := by
  refine ⟨?_, fun fi h => ?_⟩
  · rw [mkFuncTable_getElem?, foldl_insertIfNew_getElem?]
    cases fs.find? (·.name == name) <;> simp [FuncInfo.of]
  · rw [mkFuncTable_getElem?] at h
    obtain ⟨f, hf, rfl⟩ := Option.map_eq_some_iff.1 h
    have hn := List.find?_some hf
    exact ⟨List.mem_of_find?_eq_some hf, rfl, beq_iff_eq.1 hn⟩

end CprocVerif.C03.Cls
