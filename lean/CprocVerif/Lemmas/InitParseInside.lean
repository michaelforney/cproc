import CprocVerif.Lemmas.InitParse

/-!
# The cursor machine of `parseinit`: every initialiser lies inside the object

Invariant `J T` for an outermost type of known size `T`: every live slot lies inside the slot below it (`chain`), and the
`u` of a slot that has a child names a sub-object of the slot's type (`UOk`), which is what places the next element or
member when `advance` comes back to the slot.  `keeps_J`: an instance of `Keeps`.
-/

namespace CprocVerif.Init

mutual
  def TyOk : Ty → Prop
    | .scalar _ _ => True
    | .array n e => 1 ≤ n ∧ TyOk e
    | .agg _ _ size ms => MsOk size ms
  def MsOk (size : Nat) : Members → Prop
    | .nil => True
    | .cons _ ty off _ _ next => off + ty.size ≤ size ∧ TyOk ty ∧ MsOk size next
end

def UOk (s : Slot) : Prop :=
  match s.ty, s.u with
  | .array n e, .idx i => ∃ q, i = q * e.size ∧ q < n
  | .agg _ _ size _, .mem ms => MsOk size ms
  | _, _ => True

def EvIn (T : Nat) : Ev → Prop
  | .add i => i.start ≤ i.stop ∧ i.stop ≤ T
  | .clear a b => a ≤ b ∧ b ≤ T

structure J (T : Nat) (st : St) : Prop where
  inc : st.inc = false
  top : st.top = T
  root : (st.obj 0).ty.size = T ∧ (st.obj 0).offset = 0
  tys : ∀ k, k ≤ st.sub → TyOk (st.obj k).ty
  us : ∀ k, k < st.sub → UOk (st.obj k)
  chain : ∀ k, k < st.sub → (st.obj (k + 1)).offset + (st.obj (k + 1)).ty.size ≤ (st.obj k).offset + (st.obj k).ty.size
  log : ∀ e ∈ st.log, EvIn T e
  cur : ∀ c, st.cur = some c → c ≤ st.sub

theorem J.inside {T : Nat} {st : St} (h : J T st) : ∀ k, k ≤ st.sub → (st.obj k).offset + (st.obj k).ty.size ≤ T := by
  intro k
  induction k with
  | zero => intro _; rw [h.root.1, h.root.2]; omega
  | succ k ih => intro hk; have := h.chain k (by omega); have := ih (by omega); omega

theorem setSlot_obj (st : St) (k : Nat) (s : Slot) (j : Nat) :
    (st.setSlot k s).obj j = if j = k then s else st.obj j := rfl

theorem tyOk_array {n : Nat} {e : Ty} : TyOk (.array n e) ↔ 1 ≤ n ∧ TyOk e := Iff.rfl

theorem tyOk_agg {iu : Bool} {tag size : Nat} {ms : Members} : TyOk (.agg iu tag size ms) ↔ MsOk size ms := Iff.rfl

section
variable {T : Nat} {st st' : St} (h : J T st)
include h

theorem J.cur_le : st.cur.getD 0 ≤ st.sub := by
  cases hc : st.cur with
  | none => simp
  | some c => simpa using h.cur c hc

theorem J.tsize (k : Nat) : st.tsize k = (st.obj k).ty.size := by
  unfold St.tsize
  split
  · rename_i hk; rw [hk, h.top, h.root.1]
  · rfl

theorem J.tinc (k : Nat) : st.tinc k = false := by
  unfold St.tinc; rw [h.inc]; simp

theorem J.pop {k : Nat} (hk : k ≤ st.sub) {cur : Option Nat} (hc : ∀ c, cur = some c → c ≤ k) {il : IList} {anon : Bool} :
    J T { st with sub := k, cur := cur, il := il, anon := anon } :=
  ⟨h.inc, h.top, h.root, fun j hj => h.tys j (Nat.le_trans hj hk), fun j hj => h.us j (Nat.lt_of_lt_of_le hj hk),
    fun j hj => h.chain j (Nat.lt_of_lt_of_le hj hk), h.log, hc⟩

/-- replaces the top slot by one of the same type and offset (not the field `top`, as `Bnd.setTop` does) -/
theorem J.setTopSlot {s' : Slot} (hty : s'.ty = (st.obj st.sub).ty)
    (hoff : s'.offset = (st.obj st.sub).offset) : J T (st.setSlot st.sub s') := by
  refine ⟨h.inc, h.top, ?_, ?_, ?_, ?_, h.log, h.cur⟩
  · rw [setSlot_obj]; split
    · rename_i h0; rw [hty, hoff, ← h0]; exact h.root
    · exact h.root
  · intro j hj; rw [setSlot_obj]; split
    · rw [hty]; exact h.tys _ (Nat.le_refl _)
    · exact h.tys j hj
  · intro j hj
    rw [setSlot_obj, if_neg (by show j ≠ st.sub; have : j < st.sub := hj; omega)]
    exact h.us j hj
  · intro j hj
    have hj' : j < st.sub := hj
    rw [setSlot_obj, setSlot_obj, if_neg (show j ≠ st.sub by omega)]
    split
    · rename_i e; rw [hty, hoff, ← e]; exact h.chain j hj'
    · exact h.chain j hj'

theorem J.push {t : Ty} {off : Nat} (hu : UOk (st.obj st.sub)) (ht : TyOk t)
    (hoff : off + t.size ≤ (st.obj st.sub).ty.size) (e : subobj st t off = .ok st') : J T st' := by
  obtain ⟨_, rfl⟩ := subobj_eq e
  refine ⟨h.inc, h.top, ?_, fun j hj => ?_, fun j hj => ?_, fun j hj => ?_, h.log,
    fun c hc => Nat.le_succ_of_le (h.cur c hc)⟩
  all_goals simp only []
  · rw [if_neg (by omega)]; exact h.root
  · split
    · exact ht
    · exact h.tys j (by have : j ≤ st.sub + 1 := hj; omega)
  · have hj' : j < st.sub + 1 := hj
    rw [if_neg (by omega)]
    by_cases hjs : j = st.sub
    · rw [hjs]; exact hu
    · exact h.us j (by omega)
  · have hj' : j < st.sub + 1 := hj
    rw [if_neg (show j ≠ st.sub + 1 by omega)]
    by_cases hjs : j = st.sub
    · rw [hjs, if_pos rfl]; simp only []; omega
    · rw [if_neg (by omega)]; exact h.chain j (by omega)

theorem J.top_in : (st.obj st.sub).offset ≤ (st.obj st.sub).offset + st.tsize st.sub ∧
    (st.obj st.sub).offset + st.tsize st.sub ≤ T := by
  rw [h.tsize]
  exact ⟨Nat.le_add_right _ _, h.inside st.sub (Nat.le_refl _)⟩

theorem J.addLog (il : IList) {e : Ev} (he : EvIn T e) :
    J T { st with il := il, log := st.log ++ [e] } :=
  ⟨h.inc, h.top, h.root, h.tys, h.us, h.chain,
    List.forall_mem_append.2 ⟨h.log, List.forall_mem_singleton.2 he⟩, h.cur⟩

theorem J.pushElem {n q x : Nat} {es : Ty}
    (hty : (st.obj st.sub).ty = .array n es) (hq : q < n) (hx : x = q * es.size)
    (e : subobj (st.setSlot st.sub { st.obj st.sub with u := .idx x }) es x = .ok st') : J T st' := by
  refine (h.setTopSlot (s' := { st.obj st.sub with u := .idx x }) rfl rfl).push ?_ (tyOk_array.1 (hty ▸ h.tys _ (Nat.le_refl _))).2 ?_ e
  all_goals simp only [St.setSlot, if_pos, hty]
  · exact ⟨q, hx, hq⟩
  · rw [hx, Ty.size, ← Nat.succ_mul]
    exact Nat.mul_le_mul_right _ hq

theorem J.pushMem {iu : Bool} {tag size : Nat} {all : Members}
    (hty : (st.obj st.sub).ty = .agg iu tag size all) {nm : Option String} {ty : Ty} {off b a : Nat} {next : Members}
    (hm : MsOk size (.cons nm ty off b a next))
    (e : subobj (st.setSlot st.sub { st.obj st.sub with u := .mem (.cons nm ty off b a next) }) ty off = .ok st') :
    J T st' := by
  refine (h.setTopSlot (s' := { st.obj st.sub with u := .mem (.cons nm ty off b a next) }) rfl rfl).push ?_ hm.2.1 ?_ e
  all_goals simp only [St.setSlot, if_pos, hty]
  · exact hm
  · exact hm.1

end

theorem FindMs.keepJ {T : Nat} {name : String} {ms : Members} {st st' : St} (hf : FindMs name ms st st') :
    ∀ (iu : Bool) (tag size : Nat) (all : Members), J T st → (st.obj st.sub).ty = .agg iu tag size all → MsOk size ms →
      J T st' := by
  induction hf with
  | here hp => intro _ _ _ _ h ht hm; exact h.pushMem ht hm hp
  | skip _ _ ih => intro iu tag size all h ht hm; exact ih iu tag size all h ht hm.2.2
  | @inside iu' tag' size' ms' _ _ _ _ _ _ _ hp _ ih =>
    intro _ _ _ _ h ht hm
    have h1 := h.pushMem ht hm hp
    obtain ⟨_, rfl⟩ := push_ok hp
    have := ih iu' tag' size' ms' h1 (by simp) (tyOk_agg.1 hm.2.1)
    exact this.pop (Nat.le_refl _) this.cur
  | @pass ty off b a next st st1 st' hp _ _ ih =>
    intro iu tag size all h ht hm
    have h1 := h.pushMem ht hm hp
    obtain ⟨_, rfl⟩ := push_ok hp
    refine ih iu tag size all (J.pop h1 (Nat.sub_le _ _) (fun c hc => h.cur c hc)) ?_ hm.2.2
    simpa using ht

theorem findTy_J {T : Nat} (name : String) : ∀ (t : Ty) (st st' : St), J T st → (st.obj st.sub).ty = t →
    findTy name t st = .ok (some st') → J T st' :=
  fun t st st' h ht e => by
    obtain ⟨iu, tag, size, ms, rfl, hf⟩ := findTy_found name t st st' e
    exact hf.keepJ iu tag size ms h ht (tyOk_agg.1 (ht ▸ h.tys _ (Nat.le_refl _)))

theorem AdvStep.keepJ {T : Nat} {R : St → St → Prop} {st st' : St} (ha : AdvStep R st st')
    (ih : ∀ a, R a st' → J T a → (∀ c, a.cur = some c → c < a.sub) → J T st')
    (h : J T st) (hcs : ∀ c, st.cur = some c → c < st.sub) : J T st' := by
  have hp0 : st.sub ≠ 0 → J T { st with sub := st.sub - 1 } := fun _ =>
    J.pop h (by omega) (fun c hc => by have := hcs c hc; omega)
  -- leaving the slot below is possible when it is not `cur`
  have hcs' : some (st.sub - 1) ≠ st.cur → ∀ c, st.cur = some c → c < st.sub - 1 := fun hne c hc => by
    have := hcs c hc
    have : c ≠ st.sub - 1 := fun e => hne (by rw [← e]; exact hc.symm)
    omega
  cases ha with
  | @elem n e i hs0 hty hu hne hp =>
    have hu' := h.us (st.sub - 1) (by omega)
    unfold UOk at hu'
    rw [hty, hu] at hu'
    obtain ⟨q, hq1, hq2⟩ := hu'
    rw [h.tsize, hty] at hne
    simp only [Ty.size, hq1, ← Nat.succ_mul] at hne
    exact (hp0 hs0).pushElem hty (q := q + 1) (Nat.lt_of_le_of_ne hq2 fun h => hne (congrArg (· * e.size) h))
      (by rw [hq1, Nat.succ_mul]) hp
  | grow _ _ _ _ hti _ => rw [h.tinc] at hti; cases hti
  | mem hs0 hty hu hp =>
    have hu' := h.us (st.sub - 1) (by omega)
    unfold UOk at hu'
    rw [hty, hu] at hu'
    exact (hp0 hs0).pushMem hty hu'.2.2 hp
  | up hs0 hne _ hr => exact ih _ hr ((hp0 hs0).setTopSlot rfl rfl) (hcs' hne)
  | over hs0 hne _ _ hr => exact ih _ hr (hp0 hs0) (hcs' hne)

theorem advance_J {T : Nat} {fuel : Nat} : ∀ {st st' : St}, J T st → (∀ c, st.cur = some c → c < st.sub) →
    advance fuel st = .ok st' → J T st' := by
  induction fuel with
  | zero => intro st st' _ _ e; cases e
  | succ fuel ih => intro st st' h hcs e; exact (advance_round e).keepJ (fun _ ha hj hc => ih hj hc ha) h hcs

theorem ite_J {T : Nat} {c : Prop} [Decidable c] {a b : St} (ha : J T a) (hb : J T b) :
    J T (if c then a else b) := by split <;> assumption

section
variable {T : Nat} {st st' : St} (h : J T st)
include h

theorem desigStep_J {d : Desig} (e : desigStep st d = .ok st') : J T st' := by
  rcases desigStep_ok e with ⟨k, n, el, _, hty, ⟨hlt, hp⟩ | ⟨_, hti, _⟩⟩ | ⟨name, iu, tag, size, ms, _, hty, hf⟩
  · rw [h.tsize, hty] at hlt
    exact h.pushElem hty (Nat.lt_of_mul_lt_mul_right hlt) rfl hp
  · rw [h.tinc] at hti; cases hti
  · exact hf.keepJ iu tag size ms h hty (tyOk_agg.1 (hty ▸ h.tys _ (Nat.le_refl _)))

theorem designator_J {ds : List Desig} (e : designator st ds = .ok st') : J T st' := by
  unfold designator at e
  refine foldlM_desigStep (fun _ h e => desigStep_J h e) ?_ e
  exact h.pop h.cur_le (fun c hc' => by rw [hc']; simp)

theorem focus_J (e : focus st = .ok st') : J T st' := by
  have hok := h.tys _ (Nat.le_refl _)
  rcases focus_ok e with ⟨n, el, hty, hp⟩ | ⟨iu, tag, size, nm, ty, off, b, a, next, hty, hp⟩
  · rw [h.tinc] at hp
    exact h.pushElem hty (tyOk_array.1 (hty ▸ hok)).1 (Nat.zero_mul _).symm hp
  · exact h.pushMem hty (tyOk_agg.1 (hty ▸ hok)) hp

theorem closeBrace_J : J T (closeBrace st) := by
  rw [closeBrace_flat (h.tinc _)]
  exact h.pop h.cur_le fun k hk => Nat.le_of_lt (prevCur_lt st _ k hk)

theorem braceClear_J : J T (braceClear st) := by
  unfold braceClear
  exact ite_J (h.addLog _ h.top_in) h

end

theorem keeps_J (T : Nat) : Keeps (J T) Any Any where
  focus := focus_J
  designator h _ e := designator_J h e
  advance h hc hne e := advance_J h (fun c' hc' => by
    have := h.cur _ hc; rw [hc] at hc'; cases hc'; omega) e
  down h he := ((hit_state he).resolve_right fun ⟨ht, _⟩ => by rw [h.tinc] at ht; cases ht) ▸ h
  place h _ he _ := by
    obtain rfl := (hit_state he).resolve_right fun ⟨ht, _⟩ => by rw [h.tinc] at ht; cases ht
    exact h.addLog _ h.top_in
  braceClear := braceClear_J
  closeBrace := closeBrace_J
  complete h := ⟨rfl, h.top, h.root, h.tys, h.us, h.chain, h.log, h.cur⟩
  openSt {st} h := J.setTopSlot (st := { st with cur := some st.sub })
    (h.pop (Nat.le_refl _) fun c hc => by cases hc; exact Nat.le_refl _) rfl rfl

theorem parseItems_J {T : Nat} : ∀ (its : Items) (st st' : St), J T st → parseItems st its = .ok st' → J T st' :=
  fun its st st' h e =>
    (keeps_J T).parseItems its st st' h (itemsAll_of_forall (fun _ => trivial) (fun _ => trivial) its) e

/-- Field `log` of `J`: every initialiser and every cleared range lies inside the object. -/
theorem parseinit_J {t : Ty} {i : Ini} {st : St} (ht : TyOk t) (e : parseinit t false i = .ok st) : J t.size st :=
  (keeps_J t.size).parseinit
    ⟨rfl, rfl, ⟨rfl, rfl⟩, fun _ _ => ht, fun k hk => by simp [InitSim.st0] at hk, fun k hk => by simp [InitSim.st0] at hk,
      fun e he => by simp [InitSim.st0] at he, fun c hc => by cases hc⟩
    (iniAll_of_forall (fun _ => trivial) (fun _ => trivial) i) e

end CprocVerif.Init
