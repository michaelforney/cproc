import CprocVerif.Lemmas.InitAdd
import CprocVerif.Spec.Image

/-!
# `Spec/Image.lean` cell by cell, and the image of the list that `initadd` / `initclear` build

`cellFold l j c` is byte `j` after the writes `l`.  Writes to disjoint bit ranges commute, a write absorbs earlier writes
it covers (only an integer may cover part of a byte: `ByteVal`); so `initadd l new` has the image of `l ++ [new]`, and
`initclear` that of a write of zeros (`ImgEq`).  `foldl_applyEv`: the list built by a sequence of events that is `EvsOK`
is a `Forest` and has the image of the events read as writes.
-/

namespace CprocVerif.Image
open CprocVerif.Init

theorem testBit_ofBits (n : Nat) (f : Nat → Bool) (k : Nat) :
    (ofBits n f).testBit k = (decide (k < n) && f k) := by
  induction n generalizing f k with
  | zero => simp [ofBits]
  | succ n ih =>
    rw [ofBits]
    cases k with
    | zero => cases f 0 <;> simp [Nat.testBit_zero, Nat.add_mod]
    | succ k =>
      rw [Nat.testBit_succ, show (_ + 2 * ofBits n _) / 2 = ofBits n fun k => f (k + 1) by
        cases f 0 <;> simp <;> omega, ih]
      simp

theorem ofBits_lt (n : Nat) (f : Nat → Bool) : ofBits n f < 2 ^ n :=
  Nat.lt_pow_two_of_testBit _ fun k hk => by rw [testBit_ofBits, decide_eq_false (Nat.not_lt.2 hk)]; rfl

theorem ofBits_congr {n : Nat} {f g : Nat → Bool} (h : ∀ k < n, f k = g k) : ofBits n f = ofBits n g := by
  induction n generalizing f g with
  | zero => rfl
  | succ n ih => rw [ofBits, ofBits, h 0 (Nat.succ_pos _), ih fun k hk => h (k + 1) (Nat.succ_lt_succ hk)]

theorem testBit_div_mod (u m k : Nat) :
    (u / 2 ^ (8 * m) % 256).testBit k = (decide (k < 8) && u.testBit (8 * m + k)) := by
  rw [show (256 : Nat) = 2 ^ 8 from rfl, Nat.testBit_mod_two_pow, Nat.testBit_div_two_pow, Nat.add_comm]

theorem ofBits_shift (u m : Nat) : ofBits 8 (fun k => u.testBit (8 * m + k)) = u / 2 ^ (8 * m) % 256 := by
  apply Nat.eq_of_testBit_eq
  intro k
  rw [testBit_ofBits, testBit_div_mod]

theorem ofBits_testBit {x : Nat} (hx : x < 256) : ofBits 8 (fun k => x.testBit k) = x := by
  simpa [Nat.mod_eq_of_lt hx] using ofBits_shift x 0

def ByteVal (i : Init) : Prop :=
  match i.val with
  | .int _ _ => True
  | _ => i.before = 0 ∧ i.after = 0

theorem ByteVal.cases {i : Init} (h : ByteVal i) : (∃ w u, i.val = .int w u) ∨ (i.before = 0 ∧ i.after = 0) := by
  unfold ByteVal at h
  cases hv : i.val <;> rw [hv] at h
  · exact .inl ⟨_, _, rfl⟩
  all_goals exact .inr h

theorem writeCell_of_not_touches {i : Init} {j : Nat} {c : Cell} (h : ¬ touches i j) :
    writeCell i j c = c := by
  unfold writeCell; rw [if_neg h]

theorem touches_aligned {i : Init} (hb : i.before = 0 ∧ i.after = 0) (j : Nat) :
    touches i j ↔ i.start ≤ j ∧ j < i.stop := by
  unfold touches Init.lo Init.hi; omega

theorem int_of_partial {i : Init} {j : Nat} (hb : ByteVal i) (ht : touches i j)
    (hp : ¬ (i.lo ≤ 8 * j ∧ 8 * j + 8 ≤ i.hi)) : ∃ w u, i.val = .int w u :=
  hb.cases.resolve_right fun h => hp (by
    have := (touches_aligned h j).1 ht
    unfold Init.lo Init.hi; omega)

/-- the integer branch of `writeCell` without the test `touches` (`writeCell_int_byte`: on a byte value it makes no
difference) -/
def intCell (i : Init) (u : Nat) (j : Nat) (old : Cell) : Cell :=
  .byte (ofBits 8 fun k =>
    if i.lo ≤ 8 * j + k ∧ 8 * j + k < i.hi then u.testBit (8 * j + k - i.lo) else (Cell.toNat old).testBit k)

theorem writeCell_int {i : Init} {w u j : Nat} {c : Cell} (hv : i.val = .int w u) (ht : touches i j) :
    writeCell i j c = intCell i u j c := by
  unfold writeCell intCell; rw [if_pos ht, hv]

theorem writeCell_int_byte {i : Init} {w u : Nat} (hv : i.val = .int w u) (j : Nat) {n : Nat} (hn : n < 256) :
    writeCell i j (.byte n) = intCell i u j (.byte n) := by
  by_cases ht : touches i j
  · exact writeCell_int hv ht
  · rw [writeCell_of_not_touches ht, intCell, ← ofBits_testBit hn]
    refine congrArg Cell.byte (ofBits_congr fun k hk => ?_)
    rw [if_neg (by unfold touches at ht; omega), Cell.toNat, ofBits_testBit hn]

theorem writeCell_byteval {i : Init} {j : Nat} {c : Cell} (hv : ∀ w u, i.val ≠ .int w u) (ht : touches i j) :
    writeCell i j c = valCell i.val (j - i.start) := by
  unfold writeCell; rw [if_pos ht]
  split
  · rename_i w u h; exact absurd h (hv w u)
  · rfl

theorem toNat_intCell_testBit (i : Init) (u j : Nat) (c : Cell) (k : Nat) :
    (Cell.toNat (intCell i u j c)).testBit k =
      (decide (k < 8) && if i.lo ≤ 8 * j + k ∧ 8 * j + k < i.hi then u.testBit (8 * j + k - i.lo)
        else (Cell.toNat c).testBit k) := by
  unfold intCell Cell.toNat
  rw [testBit_ofBits]

theorem writeCell_aligned {i : Init} (hb : i.before = 0 ∧ i.after = 0) (j : Nat) (c : Cell) :
    writeCell i j c = if i.start ≤ j ∧ j < i.stop then valCell i.val (j - i.start) else c := by
  by_cases ht : touches i j
  · have hj := (touches_aligned hb j).1 ht
    rw [if_pos hj]
    cases hv : i.val with
    | int w u =>
      rw [writeCell_int hv ht, valCell, ← ofBits_shift]
      refine congrArg Cell.byte (ofBits_congr fun k hk => ?_)
      unfold Init.lo Init.hi
      rw [if_pos (by omega)]
      congr 1; omega
    | _ => rw [writeCell_byteval (by rw [hv]; simp) ht, hv]
  · rw [writeCell_of_not_touches ht, if_neg (mt (touches_aligned hb j).2 ht)]

theorem writeCell_comm {a b : Init} (hd : Disj a b) (ha : ByteVal a) (hb : ByteVal b) (j : Nat) (c : Cell) :
    writeCell a j (writeCell b j c) = writeCell b j (writeCell a j c) := by
  by_cases hta : touches a j
  · by_cases htb : touches b j
    · -- both touch the byte, neither covers it: both are integer writes
      unfold Disj touches at *
      obtain ⟨wa, ua, hva⟩ := int_of_partial ha hta (by omega)
      obtain ⟨wb, ub, hvb⟩ := int_of_partial hb htb (by omega)
      rw [writeCell_int hva hta, writeCell_int hvb htb, writeCell_int hva hta, writeCell_int hvb htb]
      refine congrArg Cell.byte (ofBits_congr fun k hk => ?_)
      rw [toNat_intCell_testBit, toNat_intCell_testBit]
      by_cases h1 : a.lo ≤ 8 * j + k ∧ 8 * j + k < a.hi
      · simp [h1, show ¬ (b.lo ≤ 8 * j + k ∧ 8 * j + k < b.hi) by omega, hk]
      · simp [h1, hk]
    · rw [writeCell_of_not_touches htb, writeCell_of_not_touches htb]
  · rw [writeCell_of_not_touches hta, writeCell_of_not_touches hta]

theorem writeCell_absorb {r n : Init} (hs : Inside r n) (hr : ByteVal r) (j : Nat) (c : Cell) :
    writeCell n j (writeCell r j c) = writeCell n j c := by
  by_cases htr : touches r j
  · have htn : touches n j := by unfold Inside at hs; unfold touches at *; omega
    cases hvn : n.val with
    | int wn un =>
      rw [writeCell_int hvn htn, writeCell_int hvn htn]
      refine congrArg Cell.byte (ofBits_congr fun k hk => ?_)
      by_cases h1 : n.lo ≤ 8 * j + k ∧ 8 * j + k < n.hi
      · rw [if_pos h1, if_pos h1]
      · -- a bit of the byte outside `n` is outside `r`, so `r` is an integer write that keeps it
        unfold Inside at hs
        obtain ⟨wr, ur, hvr⟩ := int_of_partial hr htr (by omega)
        rw [if_neg h1, if_neg h1, writeCell_int hvr htr, toNat_intCell_testBit, if_neg (by omega)]
        simp [hk]
    | _ => rw [writeCell_byteval (by rw [hvn]; simp) htn, writeCell_byteval (by rw [hvn]; simp) htn]
  · rw [writeCell_of_not_touches htr]

def cellFold (l : List Init) (j : Nat) (c : Cell) : Cell := l.foldl (fun c i => writeCell i j c) c

theorem cellAt_eq (l : List Init) (j : Nat) : cellAt l j = cellFold l j (.byte 0) := rfl

@[simp] theorem cellFold_nil (j : Nat) (c : Cell) : cellFold [] j c = c := rfl
@[simp] theorem cellFold_cons (i : Init) (l : List Init) (j : Nat) (c : Cell) :
    cellFold (i :: l) j c = cellFold l j (writeCell i j c) := rfl
theorem cellFold_append (l m : List Init) (j : Nat) (c : Cell) :
    cellFold (l ++ m) j c = cellFold m j (cellFold l j c) := by
  unfold cellFold; rw [List.foldl_append]

theorem cellFold_filter_untouched {l : List Init} {p : Init → Bool} {j : Nat}
    (h : ∀ x ∈ l, p x = false → ¬ touches x j) (c : Cell) : cellFold (l.filter p) j c = cellFold l j c := by
  induction l generalizing c with
  | nil => rfl
  | cons x xs ih =>
    obtain ⟨hx, hxs⟩ := List.forall_mem_cons.1 h
    have ih' := ih hxs
    rw [List.filter_cons]
    cases hp : p x with
    | true => exact ih' _
    | false =>
      rw [cellFold_cons, writeCell_of_not_touches (hx hp)]
      exact ih' _

theorem cellFold_untouched {l : List Init} {j : Nat} (h : ∀ x ∈ l, ¬ touches x j) (c : Cell) :
    cellFold l j c = c := by
  have := cellFold_filter_untouched (p := fun _ => false) (fun x hx _ => h x hx) c
  rw [List.filter_eq_nil_iff.2 (by simp)] at this
  exact this.symm

theorem cellFold_comm {m : List Init} {n : Init} (hd : ∀ x ∈ m, Disj x n ∧ ByteVal x) (hn : ByteVal n)
    (j : Nat) (c : Cell) : cellFold (m ++ [n]) j c = cellFold (n :: m) j c := by
  induction m generalizing c with
  | nil => rfl
  | cons x xs ih =>
    obtain ⟨⟨h1, h2⟩, hxs⟩ := List.forall_mem_cons.1 hd
    rw [List.cons_append, cellFold_cons, ih hxs, cellFold_cons, cellFold_cons, cellFold_cons]
    rw [writeCell_comm (a := n) (b := x) (by unfold Disj at *; omega) hn h2]

theorem cellFold_absorb {r : List Init} {n : Init} (hs : ∀ x ∈ r, Inside x n ∧ ByteVal x)
    (j : Nat) (c : Cell) : cellFold (r ++ [n]) j c = writeCell n j c := by
  induction r generalizing c with
  | nil => rfl
  | cons x xs ih =>
    obtain ⟨hx, hxs⟩ := List.forall_mem_cons.1 hs
    rw [List.cons_append, cellFold_cons, ih hxs]
    exact writeCell_absorb hx.1 hx.2 j c

theorem foldl_write (l : List Init) (img : List Cell) :
    l.foldl write img = img.mapIdx (fun j c => cellFold l j c) := by
  induction l generalizing img with
  | nil => exact List.ext_getElem? fun j => by simp [List.getElem?_mapIdx]
  | cons i l ih => rw [List.foldl_cons, ih, write, List.mapIdx_mapIdx]; rfl

theorem length_image (size : Nat) (l : List Init) : (image size l).length = size := by
  simp [image, foldl_write, zeros]

theorem getElem?_image {size j : Nat} (l : List Init) (hj : j < size) :
    (image size l)[j]? = some (cellAt l j) := by
  simp [image, foldl_write, zeros, hj, cellAt_eq]

theorem eq_image_of_cells {size : Nat} {l : List Init} {cells : List Cell} (hlen : cells.length = size)
    (h : ∀ j, j < size → cells[j]? = some (cellAt l j)) : cells = image size l := by
  apply List.ext_getElem?
  intro j
  by_cases hj : j < size
  · rw [h j hj, getElem?_image l hj]
  · have hj := Nat.le_of_not_lt hj
    rw [List.getElem?_eq_none (hlen ▸ hj), List.getElem?_eq_none ((length_image size l).symm ▸ hj)]

end CprocVerif.Image

namespace CprocVerif.InitSim
open CprocVerif.Init CprocVerif.Image

/-- the same image whatever the size of the object (`ImgEq.image`); in `InitSim` because the refinement files
(`Lemmas/InitRef*.lean`) state their results with it -/
def ImgEq (a b : List Init) : Prop := ∀ j, cellFold a j (.byte 0) = cellFold b j (.byte 0)

theorem ImgEq.refl (a : List Init) : ImgEq a a := fun _ => rfl

theorem ImgEq.symm {a b : List Init} (h : ImgEq a b) : ImgEq b a := fun j => (h j).symm

theorem ImgEq.trans {a b c : List Init} (h : ImgEq a b) (h' : ImgEq b c) : ImgEq a c :=
  fun j => (h j).trans (h' j)

theorem ImgEq.append {a b : List Init} (h : ImgEq a b) (m : List Init) : ImgEq (a ++ m) (b ++ m) := by
  intro j
  rw [cellFold_append, cellFold_append, h j]

theorem ImgEq.snoc {a b : List Init} (h : ImgEq a b) (i : Init) : ImgEq (a ++ [i]) (b ++ [i]) := h.append [i]

theorem ImgEq.image {a b : List Init} (h : ImgEq a b) (size : Nat) : image size a = image size b := by
  apply eq_image_of_cells (length_image size a)
  intro j hj
  rw [getElem?_image a hj, cellAt_eq, cellAt_eq, h j]

end CprocVerif.InitSim

namespace CprocVerif.Image
open CprocVerif.Init

theorem cellAt_zero_of_untouched {inits : List Init} (hb : ∀ i ∈ inits, ByteVal i) {j k : Nat} (hk : k < 8)
    (hfree : ∀ i ∈ inits, ¬ (i.lo ≤ 8 * j + k ∧ 8 * j + k < i.hi)) :
    ∃ n, cellAt inits j = .byte n ∧ n.testBit k = false := by
  rw [cellAt_eq]
  suffices h : ∀ c : Cell, (∃ n, c = .byte n ∧ n.testBit k = false) →
      ∃ n, cellFold inits j c = .byte n ∧ n.testBit k = false from h _ ⟨0, rfl, by simp⟩
  induction inits with
  | nil => intro c h; exact h
  | cons i is ih =>
    intro c ⟨n, hc, hn⟩
    rw [cellFold_cons]
    obtain ⟨hbi, hbs⟩ := List.forall_mem_cons.1 hb
    obtain ⟨hfi, hfs⟩ := List.forall_mem_cons.1 hfree
    apply ih hbs hfs
    by_cases ht : touches i j
    · obtain ⟨w, u, hv⟩ := int_of_partial hbi ht (by omega)
      rw [writeCell_int hv ht]
      refine ⟨_, rfl, ?_⟩
      rw [testBit_ofBits, if_neg hfi, hc]
      simp [hk, Cell.toNat, hn]
    · rw [writeCell_of_not_touches ht]; exact ⟨n, hc, hn⟩

theorem cellFold_initadd {new : Init} {l : List Init} (hf : Forest l)
    (hl : ∀ o ∈ l, Lam o new ∧ NonEmpty o ∧ ByteVal o) (hb : ByteVal new) (j : Nat) (c : Cell) :
    cellFold (initadd l new) j c = cellFold (l ++ [new]) j c := by
  obtain ⟨rem, hsplit, _, hrem, hback⟩ := initaddGo_spec hf (fun o ho => ⟨(hl o ho).1, (hl o ho).2.1⟩)
  have hbv : ∀ x, x ∈ rem ∨ x ∈ (initaddGo new l).2 → ByteVal x := fun x hx =>
    (hl x (by rw [hsplit]; simp only [List.mem_append]; exact .inr hx)).2.2
  rw [show l ++ [new] = (initaddGo new l).1 ++ (rem ++ ((initaddGo new l).2 ++ [new])) from
    (congrArg (· ++ [new]) hsplit).trans (by simp)]
  unfold initadd
  rw [cellFold_append, cellFold_append, cellFold_append,
    cellFold_comm (fun x hx => ⟨.inr (hback x hx), hbv x (.inr hx)⟩) hb, cellFold_cons, cellFold_cons,
    ← cellFold_absorb (fun x hx => ⟨hrem x hx, hbv x (.inl hx)⟩), cellFold_append]
  rfl

/-- the write that `initclear` amounts to -/
def zeroWrite (a b : Nat) : Init := ⟨a, b, 0, 0, .int (b - a) 0⟩

theorem writeCell_zeroWrite (a b j : Nat) (c : Cell) :
    writeCell (zeroWrite a b) j c = if a ≤ j ∧ j < b then .byte 0 else c := by
  rw [writeCell_aligned ⟨rfl, rfl⟩]
  simp [zeroWrite, valCell]

def ClearRel (x : Init) (a b : Nat) : Prop := x.within a b = true ∨ (x.hi ≤ 8 * a ∨ 8 * b ≤ x.lo)

theorem cellFold_initclear {l : List Init} {a b : Nat} (h : ∀ x ∈ l, ClearRel x a b) :
    InitSim.ImgEq (initclear l a b) (l ++ [zeroWrite a b]) := by
  intro j
  rw [cellFold_append, cellFold_cons, cellFold_nil, writeCell_zeroWrite]
  unfold initclear
  split
  · rename_i hj
    apply cellFold_untouched
    intro x hx
    rw [List.mem_filter] at hx
    rcases h x hx.1 with hw | hd
    · rw [hw] at hx; simp at hx
    · unfold touches; omega
  · rename_i hj
    apply cellFold_filter_untouched
    intro x hx hp
    have hw : a ≤ x.start ∧ x.stop ≤ b := by simpa [Init.within] using hp
    intro ht
    unfold touches Init.lo Init.hi at ht
    omega

def evWrite : Ev → Init
  | .add i => i
  | .clear a b => zeroWrite a b

/-- `prev`: the initialisers added before the sequence and not cleared since. -/
def EvsOK (prev : List Init) : List Ev → Prop
  | [] => True
  | .add i :: es => (∀ o ∈ prev, Lam o i) ∧ NonEmpty i ∧ ByteVal i ∧ EvsOK (prev ++ [i]) es
  | .clear a b :: es => (∀ o ∈ prev, ClearRel o a b) ∧ EvsOK (prev.filter (fun o => !o.within a b)) es

def adds : List Ev → List Init
  | [] => []
  | .add i :: es => i :: adds es
  | .clear _ _ :: es => adds es

theorem mem_initclear {l : List Init} {a b : Nat} {x : Init} (h : x ∈ initclear l a b) : x ∈ l := by
  unfold initclear at h; exact (List.mem_filter.1 h).1

theorem mem_foldl_applyEv {o : Init} : ∀ {evs : List Ev} {l : List Init}, o ∈ evs.foldl applyEv l → o ∈ l ∨ o ∈ adds evs
  | [], _, h => .inl h
  | .add _ :: es, _, h => (mem_foldl_applyEv (evs := es) h).elim
      (fun h => (mem_initadd h).elim (fun h => .inr (h ▸ List.mem_cons_self)) .inl) (fun h => .inr (List.mem_cons_of_mem _ h))
  | .clear _ _ :: es, _, h => (mem_foldl_applyEv (evs := es) h).imp_left mem_initclear

theorem foldl_applyEv {evs : List Ev} : ∀ {prev l : List Init}, EvsOK prev evs → Forest l →
    (∀ o ∈ l, o ∈ prev) → (∀ o ∈ prev, NonEmpty o ∧ ByteVal o) →
    Forest (evs.foldl applyEv l) ∧ InitSim.ImgEq (evs.foldl applyEv l) (l ++ evs.map evWrite) := by
  induction evs with
  | nil => intro prev l _ hf _ _; exact ⟨hf, by rw [List.map_nil, List.append_nil]; exact .refl _⟩
  | cons e es ih =>
    intro prev l hok hf hsub hprev
    -- one event: the new `prev`, and `applyEv l e` has the image of `l` with the event's write behind it
    have step : ∀ {prev'}, EvsOK prev' es → Forest (applyEv l e) → (∀ o ∈ applyEv l e, o ∈ prev') →
        (∀ o ∈ prev', NonEmpty o ∧ ByteVal o) → InitSim.ImgEq (applyEv l e) (l ++ [evWrite e]) →
        Forest ((e :: es).foldl applyEv l) ∧ InitSim.ImgEq ((e :: es).foldl applyEv l) (l ++ (e :: es).map evWrite) :=
      fun hrest hf' hsub' hprev' hcell =>
        (ih hrest hf' hsub' hprev').imp_right fun r => by simpa using r.trans (hcell.append _)
    cases e with
    | add i =>
      obtain ⟨hlam, hne, hbv, hrest⟩ := hok
      have hl : ∀ o ∈ l, Lam o i ∧ NonEmpty o ∧ ByteVal o := fun o ho => ⟨hlam o (hsub o ho), hprev o (hsub o ho)⟩
      refine step hrest (forest_initadd hf (fun o ho => ⟨(hl o ho).1, (hl o ho).2.1⟩) hne) (fun o ho => ?_)
        (List.forall_mem_append.2 ⟨hprev, List.forall_mem_singleton.2 ⟨hne, hbv⟩⟩) fun j => cellFold_initadd hf hl hbv j _
      exact (mem_initadd ho).elim (fun h => h ▸ by simp) (fun h => List.mem_append_left _ (hsub o h))
    | clear a b =>
      obtain ⟨hcl, hrest⟩ := hok
      refine step hrest (hf.filter _) (fun o ho => ?_) (fun o ho => hprev o (List.mem_filter.1 ho).1)
        (cellFold_initclear fun x hx => hcl x (hsub x hx))
      have := List.mem_filter.1 ho
      exact List.mem_filter.2 ⟨hsub o this.1, this.2⟩

end CprocVerif.Image

namespace CprocVerif.C07
open CprocVerif.Init CprocVerif.Image

theorem evsOK_of_laminar {inits : List Init} : ∀ {prev : List Init}, Laminar (prev ++ inits) →
    (∀ i ∈ inits, NonEmpty i ∧ ByteVal i) → EvsOK prev (inits.map Ev.add) := by
  induction inits with
  | nil => intro _ _ _; trivial
  | cons i is ih =>
    intro prev hl hw
    have h1 : ∀ o ∈ prev, Lam o i := by
      intro o ho
      have := List.pairwise_append.1 hl
      exact this.2.2 o ho i List.mem_cons_self
    refine ⟨h1, (hw i List.mem_cons_self).1, (hw i List.mem_cons_self).2, ?_⟩
    apply ih
    · rw [List.append_assoc]; exact hl
    · intro x hx; exact hw x (List.mem_cons_of_mem _ hx)

theorem foldl_applyEv_adds (inits l : List Init) :
    (inits.map Ev.add).foldl applyEv l = inits.foldl initadd l := by
  induction inits generalizing l with
  | nil => rfl
  | cons i is ih => simp only [List.map_cons, List.foldl_cons, applyEv]; exact ih _

theorem adds_map_add (inits : List Init) : adds (inits.map Ev.add) = inits := by
  induction inits with
  | nil => rfl
  | cons i is ih => simp [adds, ih]

end CprocVerif.C07
