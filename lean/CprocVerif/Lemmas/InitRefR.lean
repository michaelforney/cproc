import CprocVerif.Lemmas.InitRefImg
import CprocVerif.Lemmas.InitPlace

/-!
# The reference `Spec/InitRef.lean` alone

Its successful calls as an inductive relation without fuel (`Ref`, `ref_sound`), on whose derivations every later
induction runs.  A preorder that holds of the primitive state changes holds of every call (`ref_rel`).
-/

namespace CprocVerif.InitSim
open CprocVerif.Init CprocVerif.Image CprocVerif.InitRef

theorem enter_facts (st : RSt) (pl : Place) (pos : Nat) :
    (enter st pl pos).top = st.top ∧ st.nswitch ≤ (enter st pl pos).nswitch ∧
      ((enter st pl pos).nswitch = st.nswitch → (enter st pl pos).log = st.log) := by
  unfold enter
  split
  · split
    · split
      · exact ⟨rfl, Nat.le_refl _, fun _ => rfl⟩
      · exact ⟨rfl, Nat.le_succ _, fun h => absurd h (Nat.succ_ne_self _)⟩
    · exact ⟨rfl, Nat.le_refl _, fun _ => rfl⟩
  · exact ⟨rfl, Nat.le_refl _, fun _ => rfl⟩

theorem enter_top (st : RSt) (pl : Place) (pos : Nat) : (enter st pl pos).top = st.top :=
  (enter_facts st pl pos).1

theorem enter_nswitch_le (st : RSt) (pl : Place) (pos : Nat) : st.nswitch ≤ (enter st pl pos).nswitch :=
  (enter_facts st pl pos).2.1

theorem enter_log {st : RSt} {pl : Place} {pos : Nat} (h : (enter st pl pos).nswitch = st.nswitch) :
    (enter st pl pos).log = st.log :=
  (enter_facts st pl pos).2.2 h

theorem grow_facts (st : RSt) (pl : Place) (pos : Nat) :
    (grow st pl pos).log = st.log ∧ (grow st pl pos).nswitch = st.nswitch ∧ (grow st pl pos).act = st.act := by
  unfold grow
  split
  · split <;> exact ⟨rfl, rfl, rfl⟩
  · exact ⟨rfl, rfl, rfl⟩

theorem grow_nswitch (st : RSt) (pl : Place) (pos : Nat) : (grow st pl pos).nswitch = st.nswitch :=
  (grow_facts st pl pos).2.1

theorem grow_top_fixed {st : RSt} {pl : Place} (h : pl.unb = false) (pos : Nat) : (grow st pl pos).top = st.top := by
  unfold grow
  split
  · rw [h]; rfl
  · rfl

theorem child_nswitch_le (st : RSt) (pl : Place) (pos : Nat) : st.nswitch ≤ (grow (enter st pl pos) pl pos).nswitch := by
  rw [grow_nswitch]; exact enter_nswitch_le _ _ _

theorem child_log {st : RSt} {pl : Place} {pos : Nat} (h : (grow (enter st pl pos) pl pos).nswitch = st.nswitch) :
    (grow (enter st pl pos) pl pos).log = st.log := by
  rw [grow_nswitch] at h
  rw [(grow_facts _ pl pos).1, enter_log h]

theorem nsw_mid {a b c d : Nat} (h1 : a ≤ b) (h2 : b ≤ c) (h3 : c ≤ d) (h : d = a) : b = a ∧ c = b ∧ d = c := by
  omega

theorem wr_nswitch (st : RSt) (i : Init) : (wr st i).nswitch = st.nswitch := rfl
theorem wr_log (st : RSt) (i : Init) : (wr st i).log = st.log ++ [i] := rfl

theorem initOne_list_ok {f : Nat} {pl : Place} {its rest : Items} {st : RSt} {r : Items × RSt}
    (h : initOne f pl (.list its) rest st = .ok r) :
    ∃ f' st', f = f' + 1 ∧ braced f' pl its st = .ok st' ∧ r = (rest, st') := by
  unfold initOne at h
  split at h
  · cases h
  · rename_i heq; cases heq
    split at h
    · rename_i st' hb; cases h; exact ⟨_, st', rfl, hb, rfl⟩
    · cases h
  · rename_i heq; cases heq

theorem initOne_elide {f : Nat} {pl : Place} {e : Expr} (h : elides pl.ty e = true) (rest : Items) (st : RSt) :
    initOne (f + 1) pl (.expr e) rest st = contAgg f pl 0 (.cons [] (.expr e) rest) st := by
  unfold initOne
  split
  · rename_i heq; rw [heq] at h; cases h
  · rename_i heq; rw [heq] at h; cases h
  · rename_i heq
    rw [heq] at h
    split
    · rename_i ht; subst ht; simp [elides] at h
    · rfl
  · rfl

/-- the four ways `initOne` treats an expression -/
theorem expr_cases (t : Ty) (e : Expr) :
    (∃ size k, t = .scalar size k) ∨
    (∃ n es cls sg w scls cs, t = .array n (.scalar es (.int cls sg)) ∧ e = .str w scls cs) ∨
    (∃ isU tag size ms, t = .agg isU tag size ms ∧ e = .agg tag) ∨
    elides t e = true := by
  unfold elides
  split
  · exact .inl ⟨_, _, rfl⟩
  · exact .inr (.inl ⟨_, _, _, _, _, _, _, rfl, rfl⟩)
  · rename_i tag _ _ etag
    by_cases h : tag = etag
    · subst h; exact .inr (.inr (.inl ⟨_, _, _, _, rfl, rfl⟩))
    · exact .inr (.inr (.inr (by simp [h])))
  · exact .inr (.inr (.inr rfl))

theorem array_expr (n : Nat) (el : Ty) (e : Expr) :
    (∃ es cls sg w scls cs, el = .scalar es (.int cls sg) ∧ e = .str w scls cs) ∨ elides (.array n el) e = true := by
  rcases expr_cases (.array n el) e with ⟨_, _, h⟩ | ⟨_, es, cls, sg, w, scls, cs, h, rfl⟩ | ⟨_, _, _, _, h, _⟩ | he
  · cases h
  · cases h; exact .inl ⟨es, cls, sg, w, scls, cs, rfl, rfl⟩
  · cases h
  · exact .inr he

theorem initOne_expr_ok {f : Nat} {pl : Place} {e : Expr} {rest : Items} {st : RSt} {r : Items × RSt}
    (h : initOne f pl (.expr e) rest st = .ok r) : ∃ f', f = f' + 1 ∧
      ((elides pl.ty e = false ∧ ∃ i top, r = (rest, wr { st with top := top } i) ∧ (pl.unb = false → top = st.top)) ∨
       (elides pl.ty e = true ∧ contAgg f' pl 0 (.cons [] (.expr e) rest) st = .ok r)) := by
  cases f with
  | zero => rw [initOne.eq_1] at h; cases h
  | succ f =>
    refine ⟨f, rfl, ?_⟩
    rcases expr_cases pl.ty e with ⟨size, k, hty⟩ | ⟨n, es, cls, sg, w, scls, cs, hty, rfl⟩ |
        ⟨isU, tag, size, ms, hty, rfl⟩ | he
    · rw [initOne.eq_3 _ _ _ _ _ _ _ hty] at h
      split at h
      · cases h; exact .inl ⟨by rw [hty]; rfl, _, st.top, rfl, fun _ => rfl⟩
      · cases h
    · rw [initOne.eq_4 _ _ _ _ _ _ _ _ _ _ _ hty] at h
      split at h
      · cases h
      · cases h
        cases pl.unb
        · exact .inl ⟨by rw [hty]; rfl, _, st.top, rfl, fun _ => rfl⟩
        · exact .inl ⟨by rw [hty]; rfl, _, max st.top (w * cs.length), rfl, fun h => by cases h⟩
    · rw [initOne.eq_5 _ _ _ _ _ _ _ _ _ hty, if_pos rfl] at h
      cases h; exact .inl ⟨by rw [hty]; simp [elides], _, st.top, rfl, fun _ => rfl⟩
    · rw [initOne_elide he] at h
      exact .inr ⟨he, h⟩

/-- what `braced` does first for a non-scalar place -/
def zeroed (st : RSt) (pl : Place) : RSt :=
  zeroIfDirty st pl.off (if pl.unb then 0 else pl.ty.size) pl.depth

theorem zeroed_nswitch (st : RSt) (pl : Place) : (zeroed st pl).nswitch = st.nswitch :=
  (zeroIfDirty_facts _ _ _ _).2.1
theorem zeroed_top (st : RSt) (pl : Place) : (zeroed st pl).top = st.top := (zeroIfDirty_facts _ _ _ _).2.2
theorem zeroed_log (st : RSt) (pl : Place) :
    (zeroed st pl).log = zlog st.log pl.off (if pl.unb then 0 else pl.ty.size) := (zeroIfDirty_facts _ _ _ _).1

theorem braced_scalar_ok {f : Nat} {pl : Place} {size : Nat} {k : SK} (hty : pl.ty = .scalar size k)
    {its : Items} {st r : RSt} (h : braced (f + 1) pl its st = .ok r) :
    (its = .nil ∧ r = st) ∨
    (∃ e v, its = .cons [] (.expr e) .nil ∧ convScalar size k e = some v ∧
      r = wr st ⟨pl.off, pl.off + size, pl.before, pl.after, v⟩) := by
  cases its with
  | nil => rw [braced.eq_2 _ _ _ _ _ hty, hty] at h; cases h; exact .inl ⟨rfl, rfl⟩
  | cons ds i rest =>
    cases ds with
    | cons d ds => rw [braced.eq_5 _ _ _ _ _ _ _ _ _ hty] at h; cases h
    | nil =>
      cases i with
      | list l => rw [braced.eq_4 _ _ _ _ _ _ _ hty] at h; cases h
      | expr e =>
        cases rest with
        | cons ds2 i2 r2 => rw [braced.eq_6 _ _ _ _ _ _ _ _ _ hty] at h; cases h
        | nil =>
          rw [braced.eq_3 _ _ _ _ _ _ hty, hty] at h
          cases hc : convScalar size k e with
          | none => rw [hc] at h; cases h
          | some v => rw [hc] at h; cases h; exact .inr ⟨e, v, rfl, hc, rfl⟩

theorem braced_str {f : Nat} {pl : Place} {n es cls : Nat} {sg : Bool}
    (hty : pl.ty = .array n (.scalar es (.int cls sg))) (w scls : Nat) (cs : List Nat) (st : RSt) :
    braced (f + 1) pl (.cons [] (.expr (.str w scls cs)) .nil) st =
      Except.map (fun x => x.snd) (initOne f pl (.expr (.str w scls cs)) .nil (zeroed st pl)) := by
  rw [braced.eq_7 _ _ _ _ _ _ _ _ _ _ hty]
  unfold zeroed
  simp only [hty]

/-- the items are the optional-braces form of a string for a character array -/
def isStrInit (t : Ty) (its : Items) : Prop :=
  ∃ n es cls sg w scls cs, t = .array n (.scalar es (.int cls sg)) ∧ its = .cons [] (.expr (.str w scls cs)) .nil

theorem braced_loop {f : Nat} {pl : Place} (hty : ∀ size k, pl.ty ≠ .scalar size k) {its : Items}
    (hs : ¬ isStrInit pl.ty its) (st : RSt) :
    braced (f + 1) pl its st = loopB f pl 0 its (zeroed st pl) := by
  rw [braced.eq_8]
  · congr 1
    unfold zeroed
    split
    · rename_i s k h; exact absurd h (hty s k)
    · rfl
  · intro s k h _; exact hty s k h
  · intro s k e h _; exact hty s k h
  · intro s k a b h _; exact hty s k h
  · intro s k a b c d h _; exact hty s k h
  · intro s k a b c d h _; exact hty s k h
  · intro n es cls sg w scls cs h1 h2; exact hs ⟨n, es, cls, sg, w, scls, cs, h1, h2⟩

theorem scalar_or_not (t : Ty) : (∃ size k, t = .scalar size k) ∨ isScalarTy t = false := by
  cases t with
  | scalar s k => exact .inl ⟨s, k, rfl⟩
  | array n e => exact .inr rfl
  | agg u t s m => exact .inr rfl

theorem braced_ok {f : Nat} {pl : Place} {its : Items} {st r : RSt} (h : braced f pl its st = .ok r) :
    ∃ f', f = f' + 1 ∧
      ((its = .nil ∧ isScalarTy pl.ty = true ∧ r = st) ∨
       (∃ e g x, its = .cons [] (.expr e) .nil ∧ (∀ u t s m, pl.ty ≠ .agg u t s m) ∧ elides pl.ty e = false ∧
          initOne g pl (.expr e) .nil (if isScalarTy pl.ty then st else zeroed st pl) = .ok x ∧ r = x.2) ∨
       (isScalarTy pl.ty = false ∧ loopB f' pl 0 its (zeroed st pl) = .ok r)) := by
  cases f with
  | zero => rw [braced.eq_1] at h; cases h
  | succ f =>
    refine ⟨f, rfl, ?_⟩
    rcases scalar_or_not pl.ty with ⟨size, k, hty⟩ | hnsc
    · rcases braced_scalar_ok hty h with ⟨h1, rfl⟩ | ⟨e, v, h1, hcv, rfl⟩
      · exact .inl ⟨h1, by rw [hty]; rfl, rfl⟩
      · refine .inr (.inl ⟨e, 1, (.nil, _), h1, ?_, ?_, ?_, rfl⟩)
        · rw [hty]; intro _ _ _ _ h; cases h
        · rw [hty]; rfl
        · rw [initOne.eq_3 _ _ _ _ _ _ _ hty, hcv, hty]; rfl
    · have hns : ∀ size k, pl.ty ≠ .scalar size k := fun _ _ h => by rw [h] at hnsc; cases hnsc
      by_cases hs : isStrInit pl.ty its
      · obtain ⟨n, es, cls, sg, w, scls, cs, hty, rfl⟩ := hs
        rw [braced_str hty] at h
        cases hi : initOne f pl (.expr (.str w scls cs)) .nil (zeroed st pl) with
        | error e => rw [hi] at h; cases h
        | ok x =>
          rw [hi] at h; cases h
          refine .inr (.inl ⟨_, f, x, rfl, ?_, ?_, by rw [hnsc]; exact hi, rfl⟩)
          · rw [hty]; intro _ _ _ _ h; cases h
          · rw [hty]; rfl
      · rw [braced_loop hns hs] at h
        exact .inr (.inr ⟨hnsc, h⟩)

theorem contAgg_ok {f : Nat} {pl : Place} {pos : Nat} {its : Items} {st : RSt} {r : Items × RSt}
    (h : contAgg f pl pos its st = .ok r) : ∃ f', f = f' + 1 ∧
      ((r = (its, st) ∧ ∀ i rest, its = .cons [] i rest → childAt pl pos true = none) ∨
       ∃ i rest ch rest1 st1, its = .cons [] i rest ∧ childAt pl pos true = some ch ∧
         initOne f' ch i rest (grow (enter st pl pos) pl pos) = .ok (rest1, st1) ∧
         contAgg f' pl (pos + 1) rest1 st1 = .ok r) := by
  unfold contAgg at h
  split at h
  · cases h
  · cases h; exact ⟨_, rfl, .inl ⟨rfl, fun _ _ h => by cases h⟩⟩
  · cases h; exact ⟨_, rfl, .inl ⟨rfl, fun _ _ h => by cases h⟩⟩
  · split at h
    · rename_i hc; cases h; exact ⟨_, rfl, .inl ⟨rfl, fun _ _ _ => hc⟩⟩
    · rename_i ch hc
      split at h
      · rename_i rest1 st1 hi; exact ⟨_, rfl, .inr ⟨_, _, ch, rest1, st1, rfl, hc, hi, h⟩⟩
      · cases h

theorem loopB_ok {f : Nat} {pl : Place} {pos : Nat} {its : Items} {st r : RSt}
    (h : loopB f pl pos its st = .ok r) : ∃ f', f = f' + 1 ∧
      ((its = .nil ∧ r = st) ∨
       (∃ i rest ch rest1 st1, its = .cons [] i rest ∧ childAt pl pos true = some ch ∧
         initOne f' ch i rest (grow (enter st pl pos) pl pos) = .ok (rest1, st1) ∧
         loopB f' pl (pos + 1) rest1 st1 = .ok r) ∨
       (∃ d ds i rest p ps ch rest1 st1, its = .cons (d :: ds) i rest ∧ resolve pl.ty d = .ok (p :: ps) ∧
         childAt pl p false = some ch ∧
         desigPath f' ch ps ds i rest (grow (enter st pl p) pl p) = .ok (rest1, st1) ∧
         loopB f' pl (p + 1) rest1 st1 = .ok r)) := by
  unfold loopB at h
  split at h
  · cases h
  · cases h; exact ⟨_, rfl, .inl ⟨rfl, rfl⟩⟩
  · split at h
    · cases h
    · rename_i ch hc
      split at h
      · rename_i rest1 st1 hi; exact ⟨_, rfl, .inr (.inl ⟨_, _, ch, rest1, st1, rfl, hc, hi, h⟩)⟩
      · cases h
  · split at h
    · cases h
    · cases h
    · rename_i p ps hres
      split at h
      · cases h
      · rename_i ch hc
        split at h
        · rename_i rest1 st1 hi
          exact ⟨_, rfl, .inr (.inr ⟨_, _, _, _, p, ps, ch, rest1, st1, rfl, hres, hc, hi, h⟩)⟩
        · cases h

theorem desigPath_ok {f : Nat} {pl : Place} {ps : List Nat} {ds : List Desig} {i : Ini} {rest : Items} {st : RSt}
    {r : Items × RSt} (h : desigPath f pl ps ds i rest st = .ok r) : ∃ f', f = f' + 1 ∧
      ((ps = [] ∧ ds = [] ∧ initOne f' pl i rest st = .ok r) ∨
       (∃ d ds' ps', ps = [] ∧ ds = d :: ds' ∧ resolve pl.ty d = .ok ps' ∧ ps' ≠ [] ∧
         desigPath f' pl ps' ds' i rest st = .ok r) ∨
       (∃ p ps' ch rest1 st1, ps = p :: ps' ∧ childAt pl p false = some ch ∧
         desigPath f' ch ps' ds i rest (enter st pl p) = .ok (rest1, st1) ∧
         contAgg f' pl (p + 1) rest1 st1 = .ok r)) := by
  unfold desigPath at h
  split at h
  · cases h
  · exact ⟨_, rfl, .inl ⟨rfl, rfl, h⟩⟩
  · split at h
    · cases h
    · rename_i ps' hres
      split at h
      · cases h
      · rename_i hne; exact ⟨_, rfl, .inr (.inl ⟨_, _, ps', rfl, rfl, hres, hne, h⟩)⟩
  · split at h
    · cases h
    · rename_i ch hc
      split at h
      · rename_i rest1 st1 hi; exact ⟨_, rfl, .inr (.inr ⟨_, _, ch, rest1, st1, rfl, hc, hi, h⟩)⟩
      · cases h

/-- a call of one of the five functions of the reference (`initOne`, `contAgg`, `braced`, `loopB`, `desigPath`), without
its fuel and state -/
inductive Call
  | one (pl : Place) (ini : Ini) (rest : Items)
  | cont (pl : Place) (pos : Nat) (its : Items)
  | braced (pl : Place) (its : Items)
  | loop (pl : Place) (pos : Nat) (its : Items)
  | desig (pl : Place) (ps : List Nat) (ds : List Desig) (i : Ini) (rest : Items)

def Call.pl : Call → Place
  | .one pl _ _ | .cont pl _ _ | .braced pl _ | .loop pl _ _ | .desig pl _ _ _ _ => pl

/-- The successful calls of the reference, one constructor for each clause of `Spec/InitRef.lean` that does not fail:
`Ref c st rest' st'` says that the call `c` from the state `st` hands back the items `rest'` it did not consume (6.7.9p20;
`braced` and `loopB` consume their whole list) and ends in `st'`.  A derivation is the tree of calls; induction on it takes the
place of induction on the fuel.  The clauses of `initOne` for an expression that initialises the object itself (p11, p13, p14)
stay an equation of the function (`leaf`). -/
inductive Ref : Call → RSt → Items → RSt → Prop
  | list {pl its rest st st'} : Ref (.braced pl its) st .nil st' → Ref (.one pl (.list its) rest) st rest st'
  | leaf {f pl e rest st r} : elides pl.ty e = false → initOne f pl (.expr e) rest st = .ok r →
      Ref (.one pl (.expr e) rest) st r.1 r.2
  | elide {pl e rest st rest' st'} : elides pl.ty e = true → Ref (.cont pl 0 (.cons [] (.expr e) rest)) st rest' st' →
      Ref (.one pl (.expr e) rest) st rest' st'
  | stop {pl pos its st} : (∀ i rest, its = .cons [] i rest → childAt pl pos true = none) → Ref (.cont pl pos its) st its st
  | next {pl pos i rest ch rest1 st st1 rest' st'} : childAt pl pos true = some ch →
      Ref (.one ch i rest) (grow (enter st pl pos) pl pos) rest1 st1 → Ref (.cont pl (pos + 1) rest1) st1 rest' st' →
      Ref (.cont pl pos (.cons [] i rest)) st rest' st'
  | empty {pl st} : isScalarTy pl.ty = true → Ref (.braced pl .nil) st .nil st
  | whole {pl e st rest' st'} : (∀ u t s m, pl.ty ≠ .agg u t s m) → elides pl.ty e = false →
      Ref (.one pl (.expr e) .nil) (if isScalarTy pl.ty then st else zeroed st pl) rest' st' →
      Ref (.braced pl (.cons [] (.expr e) .nil)) st .nil st'
  | items {pl its st st'} : isScalarTy pl.ty = false → Ref (.loop pl 0 its) (zeroed st pl) .nil st' →
      Ref (.braced pl its) st .nil st'
  | done {pl pos st} : Ref (.loop pl pos .nil) st .nil st
  | plain {pl pos i rest ch rest1 st st1 st'} : childAt pl pos true = some ch →
      Ref (.one ch i rest) (grow (enter st pl pos) pl pos) rest1 st1 → Ref (.loop pl (pos + 1) rest1) st1 .nil st' →
      Ref (.loop pl pos (.cons [] i rest)) st .nil st'
  | desig {pl pos d ds i rest p ps ch rest1 st st1 st'} : resolve pl.ty d = .ok (p :: ps) → childAt pl p false = some ch →
      Ref (.desig ch ps ds i rest) (grow (enter st pl p) pl p) rest1 st1 → Ref (.loop pl (p + 1) rest1) st1 .nil st' →
      Ref (.loop pl pos (.cons (d :: ds) i rest)) st .nil st'
  | here {pl i rest st rest' st'} : Ref (.one pl i rest) st rest' st' → Ref (.desig pl [] [] i rest) st rest' st'
  | res {pl d ds ps i rest st rest' st'} : resolve pl.ty d = .ok ps → ps ≠ [] → Ref (.desig pl ps ds i rest) st rest' st' →
      Ref (.desig pl [] (d :: ds) i rest) st rest' st'
  | down {pl p ps ds i rest ch rest1 st st1 rest' st'} : childAt pl p false = some ch →
      Ref (.desig ch ps ds i rest) (enter st pl p) rest1 st1 → Ref (.cont pl (p + 1) rest1) st1 rest' st' →
      Ref (.desig pl (p :: ps) ds i rest) st rest' st'

theorem ref_sound (fuel : Nat) :
    (∀ pl ini rest st r, initOne fuel pl ini rest st = .ok r → Ref (.one pl ini rest) st r.1 r.2) ∧
    (∀ pl pos its st r, contAgg fuel pl pos its st = .ok r → Ref (.cont pl pos its) st r.1 r.2) ∧
    (∀ pl its st r, braced fuel pl its st = .ok r → Ref (.braced pl its) st .nil r) ∧
    (∀ pl pos its st r, loopB fuel pl pos its st = .ok r → Ref (.loop pl pos its) st .nil r) ∧
    (∀ pl ps ds i rest st r, desigPath fuel pl ps ds i rest st = .ok r → Ref (.desig pl ps ds i rest) st r.1 r.2) := by
  induction fuel using Nat.strongRecOn with
  | _ fuel ih =>
  refine ⟨?_, ?_, ?_, ?_, ?_⟩
  · intro pl ini rest st r h
    cases ini with
    | list its =>
      obtain ⟨f, st', rfl, hb, rfl⟩ := initOne_list_ok h
      exact .list ((ih f (Nat.lt_succ_self f)).2.2.1 _ _ _ _ hb)
    | expr e =>
      obtain ⟨f, rfl, ⟨he, _⟩ | ⟨he, hc⟩⟩ := initOne_expr_ok h
      · exact .leaf he h
      · exact .elide he ((ih f (Nat.lt_succ_self f)).2.1 _ _ _ _ _ hc)
  · intro pl pos its st r h
    obtain ⟨f, rfl, ⟨rfl, hn⟩ | ⟨i, rest, ch, rest1, st1, rfl, hch, hi, hc⟩⟩ := contAgg_ok h
    · exact .stop hn
    · have ih := ih f (Nat.lt_succ_self f)
      exact .next hch (ih.1 _ _ _ _ _ hi) (ih.2.1 _ _ _ _ _ hc)
  · intro pl its st r h
    obtain ⟨f, rfl, ⟨rfl, hs, rfl⟩ | ⟨e, g, x, rfl, hna, he, hi, rfl⟩ | ⟨hs, hl⟩⟩ := braced_ok h
    · exact .empty hs
    · exact .whole hna he (.leaf he hi)
    · exact .items hs ((ih f (Nat.lt_succ_self f)).2.2.2.1 _ _ _ _ _ hl)
  · intro pl pos its st r h
    obtain ⟨f, rfl, ⟨rfl, rfl⟩ | ⟨i, rest, ch, rest1, st1, rfl, hch, hi, hl⟩ |
      ⟨d, ds, i, rest, p, ps, ch, rest1, st1, rfl, hres, hch, hi, hl⟩⟩ := loopB_ok h
    · exact .done
    · have ih := ih f (Nat.lt_succ_self f)
      exact .plain hch (ih.1 _ _ _ _ _ hi) (ih.2.2.2.1 _ _ _ _ _ hl)
    · have ih := ih f (Nat.lt_succ_self f)
      exact .desig hres hch (ih.2.2.2.2 _ _ _ _ _ _ _ hi) (ih.2.2.2.1 _ _ _ _ _ hl)
  · intro pl ps ds i rest st r h
    obtain ⟨f, rfl, ⟨rfl, rfl, hi⟩ | ⟨d, ds', ps', rfl, rfl, hres, hne, hd⟩ | ⟨p, ps', ch, rest1, st1, rfl, hch, hd, hc⟩⟩ :=
      desigPath_ok h
    · exact .here ((ih f (Nat.lt_succ_self f)).1 _ _ _ _ _ hi)
    · exact .res hres hne ((ih f (Nat.lt_succ_self f)).2.2.2.2 _ _ _ _ _ _ _ hd)
    · have ih := ih f (Nat.lt_succ_self f)
      exact .down hch (ih.2.2.2.2 _ _ _ _ _ _ _ hd) (ih.2.1 _ _ _ _ _ hc)

/-- `R u` is the relation for a call at a place with `unb = u`; the places below have `unb = false`. -/
theorem ref_rel {R : Bool → RSt → RSt → Prop} (refl : ∀ u st, R u st st)
    (trans : ∀ {u a b c}, R u a b → R u b c → R u a c)
    (hwr : ∀ {u : Bool} (st : RSt) (top : Nat) (i : Init), (u = false → top = st.top) → R u st (wr { st with top := top } i))
    (hzero : ∀ (st : RSt) (pl : Place), R pl.unb st (zeroed st pl))
    (hchild : ∀ {st : RSt} {pl : Place} {pos : Nat} {r : RSt}, R false (grow (enter st pl pos) pl pos) r → R pl.unb st r)
    (henter : ∀ {st : RSt} {pl : Place} {pos : Nat} {r : RSt}, R false (enter st pl pos) r → R pl.unb st r)
    {c : Call} {st : RSt} {rest' : Items} {st' : RSt} (h : Ref c st rest' st') : R c.pl.unb st st' := by
  induction h with
  | list _ ih => exact ih
  | leaf he hi =>
    obtain ⟨_, _, ⟨_, i, top, rfl, ht⟩ | ⟨he', _⟩⟩ := initOne_expr_ok hi
    · exact hwr _ _ _ ht
    · rw [he] at he'; cases he'
  | elide _ _ ih => exact ih
  | stop _ => exact refl _ _
  | next hch _ _ ih1 ih2 => exact trans (hchild (childAt_not_unb hch ▸ ih1)) ih2
  | empty _ => exact refl _ _
  | @whole pl e st _ _ _ _ _ ih =>
    refine trans (b := if isScalarTy pl.ty then st else zeroed st pl) ?_ ih
    split
    · exact refl _ _
    · exact hzero st pl
  | items _ _ ih => exact trans (hzero _ _) ih
  | done => exact refl _ _
  | plain hch _ _ ih1 ih2 => exact trans (hchild (childAt_not_unb hch ▸ ih1)) ih2
  | desig _ hch _ _ ih1 ih2 => exact trans (hchild (childAt_not_unb hch ▸ ih1)) ih2
  | here _ ih => exact ih
  | res _ _ _ ih => exact ih
  | down hch _ _ ih1 ih2 => exact trans (henter (childAt_not_unb hch ▸ ih1)) ih2


theorem ref_nsw {c : Call} {st : RSt} {rest' : Items} {st' : RSt} (h : Ref c st rest' st') : st.nswitch ≤ st'.nswitch :=
  ref_rel (R := fun _ st r => st.nswitch ≤ r.nswitch) (fun _ _ => Nat.le_refl _) Nat.le_trans
    (fun _ _ _ _ => Nat.le_refl _) (fun st pl => Nat.le_of_eq (zeroed_nswitch st pl).symm)
    (Nat.le_trans (child_nswitch_le _ _ _)) (Nat.le_trans (enter_nswitch_le _ _ _)) h

theorem ref_top {c : Call} {st : RSt} {rest' : Items} {st' : RSt} (h : Ref c st rest' st') (hu : c.pl.unb = false) :
    st'.top = st.top :=
  ref_rel (R := fun u st r => u = false → r.top = st.top) (fun _ _ _ => rfl)
    (fun h h' hu => (h' hu).trans (h hu)) (fun _ _ _ ht hu => ht hu) (fun st pl _ => zeroed_top st pl)
    (fun h hu => by rw [h rfl, grow_top_fixed hu, enter_top]) (fun h _ => by rw [h rfl, enter_top]) h hu

theorem ref_ok {t : Ty} {inc : Bool} {i : Ini} {r : Result} (h : ref t inc i = .ok r) :
    ∃ rst, initOne 1000000 { ty := t, unb := inc } i .nil {} = .ok (.nil, rst) ∧
      r.size = (if inc then rst.top else t.size) ∧ r.writes = rst.log ∧ r.nswitch = rst.nswitch := by
  unfold ref at h
  split at h
  · cases h
  · cases h
  · rename_i rst hi
    split at h
    · cases h
    · cases h; exact ⟨rst, hi, rfl, rfl, rfl⟩

end CprocVerif.InitSim
