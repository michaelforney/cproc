import CprocVerif.Lemmas.ScanSkip
import CprocVerif.Lemmas.ScanLit

/-! Non-interference: kinds, lexemes and space flags depend only on the phase-2 character stream
(`S.view`), not on where the backslash-newline pairs were, nor on locations.

Every function of the scanner is run on two states with the same view; the results agree up to
the view again (`RelX`: same kind of diagnostic, or related values). -/

namespace CprocVerif.Scan
open CprocVerif.Gen.TokenKinds

theorem view_eq_iff (a b : S) : a.view = b.view ↔
    a.stream = b.stream ∧ a.buf = b.buf ∧ a.usebuf = b.usebuf ∧ a.sawspace = b.sawspace := by
  simp [S.view]

abbrev ViewEq (a b : S) : Prop := a.view = b.view

theorem ite_rel {α β : Type} (R : α → β → Prop) {c : Prop} [Decidable c] {x1 y1 : α} {x2 y2 : β}
    (hx : R x1 x2) (hy : R y1 y2) : R (if c then x1 else y1) (if c then x2 else y2) := by
  split <;> assumption

section
variable {a b : S} (h : a.view = b.view)
include h

theorem chr_of_view : a.chr = b.chr := by
  rw [chr_eq, chr_eq, ((view_eq_iff a b).mp h).1]

theorem len_of_view : a.inp.length = b.inp.length := by
  rw [← length_stream, ← length_stream, ((view_eq_iff a b).mp h).1]

theorem nextchar_rel : a.nextchar.view = b.nextchar.view := by
  have hc := chr_of_view h
  obtain ⟨h1, h2, h3, h4⟩ := (view_eq_iff a b).mp h
  rw [view_eq_iff]
  simp [buf_nextchar, h1, h2, h3, h4, hc]

theorem usebuf_rel (u : Bool) :
    ({ a with usebuf := u } : S).view = ({ b with usebuf := u } : S).view := by
  obtain ⟨h1, h2, _, h4⟩ := (view_eq_iff a b).mp h
  exact (view_eq_iff _ _).mpr ⟨h1, h2, rfl, h4⟩

theorem sawspace_rel (u : Bool) :
    ({ a with sawspace := u } : S).view = ({ b with sawspace := u } : S).view := by
  obtain ⟨h1, h2, h3, _⟩ := (view_eq_iff a b).mp h
  exact (view_eq_iff _ _).mpr ⟨h1, h2, h3, rfl⟩

theorem pushbackDot_rel (l1 l2 : Loc) : (pushbackDot a l1).view = (pushbackDot b l2).view := by
  obtain ⟨a1, a2, a3, a4⟩ := stream_pushbackDot a l1
  obtain ⟨b1, b2, b3, b4⟩ := stream_pushbackDot b l2
  obtain ⟨h1, h2, h3, h4⟩ := (view_eq_iff a b).mp h
  rw [view_eq_iff, a1, a2, a3, a4, b1, b2, b3, b4, h1, h2, h3, h4]
  exact ⟨rfl, rfl, rfl, rfl⟩

theorem afterPrefix_rel : (afterPrefix a).view = (afterPrefix b).view := by
  have g1 := nextchar_rel (usebuf_rel h true)
  unfold afterPrefix
  simp only [chr_of_view g1, ((view_eq_iff _ _).mp g1).2.1]
  exact ite_rel ViewEq (nextchar_rel g1) g1

end

def RelX {α β : Type} (R : α → β → Prop) : Except Err α → Except Err β → Prop
  | .error e1, .error e2 => e1.kind = e2.kind
  | .ok x, .ok y => R x y
  | _, _ => False

theorem RelX.cases {α β : Type} {R : α → β → Prop} {x : Except Err α} {y : Except Err β}
    (h : RelX R x y) :
    (∃ e1 e2, x = .error e1 ∧ y = .error e2 ∧ e1.kind = e2.kind) ∨
    (∃ u v, x = .ok u ∧ y = .ok v ∧ R u v) := by
  cases x <;> cases y
  · exact .inl ⟨_, _, rfl, rfl, h⟩
  · exact h.elim
  · exact h.elim
  · exact .inr ⟨_, _, rfl, rfl, h⟩

def RelP (r1 r2 : Kind × S) : Prop := r1.1 = r2.1 ∧ r1.2.view = r2.2.view

def RelEP (r1 r2 : Except Err (Kind × S)) : Prop :=
  match r1, r2 with
  | .error e1, .error e2 => e1.kind = e2.kind
  | .ok p1, .ok p2 => RelP p1 p2
  | _, _ => False

section
variable {a b : S} (h : a.view = b.view)
include h

theorem op2_rel (t1 t2 : Kind) : RelP (op2 a t1 t2) (op2 b t1 t2) := by
  have h1 := nextchar_rel h
  unfold op2
  simp only [chr_of_view h1]
  exact ite_rel _ ⟨rfl, h1⟩ ⟨rfl, nextchar_rel h1⟩

theorem op3_rel (t1 t2 t3 : Kind) : RelP (op3 a t1 t2 t3) (op3 b t1 t2 t3) := by
  have h1 := nextchar_rel h
  unfold op3
  simp only [chr_of_view h1, chr_of_view h]
  exact ite_rel _ ⟨rfl, nextchar_rel h1⟩ (ite_rel _ ⟨rfl, h1⟩ ⟨rfl, nextchar_rel h1⟩)

theorem op4_rel (t1 t2 t3 t4 : Kind) : RelP (op4 a t1 t2 t3 t4) (op4 b t1 t2 t3 t4) := by
  have h1 := nextchar_rel h
  have h2 := nextchar_rel h1
  unfold op4
  simp only [chr_of_view h1, chr_of_view h, chr_of_view h2]
  exact ite_rel _ ⟨rfl, h2⟩
    (ite_rel _ ⟨rfl, h1⟩ (ite_rel RelP ⟨rfl, h2⟩ ⟨rfl, nextchar_rel h2⟩))

end

theorem identLoop_rel : ∀ n {a b : S}, a.view = b.view → (identLoop n a).view = (identLoop n b).view
  | 0, _, _, h => h
  | n + 1, a, b, h => by
    unfold identLoop
    rw [chr_of_view h]
    exact ite_rel ViewEq (identLoop_rel n (nextchar_rel h)) h

theorem numberLoop_rel : ∀ n (al : Bool) {a b : S}, a.view = b.view →
    (numberLoop n al a).view = (numberLoop n al b).view
  | 0, _, _, _, h => h
  | n + 1, al, a, b, h => by
    have h1 := nextchar_rel h
    unfold numberLoop
    simp only [chr_of_view h1]
    cases b.nextchar.chr with
    | none => exact h1
    | some c =>
      have ih := fun al => numberLoop_rel n al h1
      exact ite_rel ViewEq (ih true) (ite_rel ViewEq (ite_rel ViewEq h1 (ih false))
        (ite_rel ViewEq (ih false) (ite_rel ViewEq h1 (ih false))))

theorem hexLoop_rel : ∀ n {a b : S}, a.view = b.view → (hexLoop n a).view = (hexLoop n b).view
  | 0, _, _, h => h
  | n + 1, a, b, h => by
    have h1 := nextchar_rel h
    unfold hexLoop
    simp only [chr_of_view h1]
    exact ite_rel ViewEq (hexLoop_rel n h1) h1

theorem lineLoop_rel : ∀ n {a b : S}, a.view = b.view → (lineLoop n a).view = (lineLoop n b).view
  | 0, _, _, h => h
  | n + 1, a, b, h => by
    have h1 := nextchar_rel h
    unfold lineLoop
    simp only [chr_of_view h1]
    exact ite_rel ViewEq (lineLoop_rel n h1) h1

section
variable {a b : S} (h : a.view = b.view)
include h

theorem ident_rel : RelP (ident a) (ident b) := by
  unfold ident
  rw [len_of_view h]
  exact ⟨rfl, identLoop_rel _ (usebuf_rel h true)⟩

theorem number_rel : RelP (number a) (number b) := by
  unfold number
  rw [len_of_view h]
  exact ⟨rfl, numberLoop_rel _ _ (usebuf_rel h true)⟩

theorem escape_rel : RelX ViewEq (escape a) (escape b) := by
  have h1 := nextchar_rel h
  have h2 := nextchar_rel h1
  have h3 := nextchar_rel h2
  unfold escape
  simp only [chr_of_view h1, chr_of_view h2, chr_of_view h3, len_of_view h2]
  repeat' apply ite_rel (RelX _)
  · exact rfl
  · exact hexLoop_rel _ h2
  · exact nextchar_rel h3
  · exact h3
  · exact h2
  · exact h2
  · exact rfl

end

theorem litLoop_rel (str : Bool) : ∀ n {a b : S}, a.view = b.view →
    RelX RelP (litLoop str n a) (litLoop str n b)
  | 0, _, _, _ => rfl
  | n + 1, a, b, h => by
    have h1 := nextchar_rel h
    unfold litLoop
    rw [chr_of_view h]
    cases b.chr with
    | none => exact rfl
    | some c =>
      refine ite_rel (RelX _) ?_ (ite_rel _ ⟨rfl, h1⟩ (ite_rel _ rfl (ite_rel _ rfl (litLoop_rel str n h1))))
      rcases (escape_rel h).cases with ⟨_, _, ha, hb, hk⟩ | ⟨_, _, ha, hb, hv⟩ <;> rw [ha, hb]
      · exact hk
      · exact litLoop_rel str n hv

section
variable {a b : S} (h : a.view = b.view)
include h

theorem quoted_rel (str : Bool) : RelX RelP (quoted str a) (quoted str b) := by
  have := nextchar_rel (usebuf_rel h true)
  rw [quoted_eq, quoted_eq, len_of_view this]
  exact litLoop_rel str _ this

end

theorem blockLoop_rel : ∀ n {a b : S}, a.view = b.view →
    RelX ViewEq (blockLoop n a) (blockLoop n b)
  | 0, _, _, _ => rfl
  | n + 1, a, b, h => by
    have h1 := nextchar_rel h
    unfold blockLoop
    simp only [chr_of_view h1, chr_of_view h]
    exact ite_rel _ rfl (ite_rel (RelX _) (blockLoop_rel n h1) h1)

/-- `comment` skipped a comment in both runs, or in neither -/
def RelO (o1 o2 : Option S) : Prop :=
  match o1, o2 with
  | none, none => True
  | some s1, some s2 => s1.view = s2.view
  | _, _ => False

theorem comment_rel {a b : S} (h : a.view = b.view) : RelX RelO (comment a) (comment b) := by
  have h1 := nextchar_rel h
  unfold comment
  simp only [chr_of_view h, len_of_view h, len_of_view h1]
  split
  · exact sawspace_rel (lineLoop_rel _ h) true
  · split
    · rcases (blockLoop_rel (b.nextchar.inp.length + 1) h1).cases with
        ⟨_, _, ha, hb, hk⟩ | ⟨_, _, ha, hb, hv⟩ <;> rw [ha, hb]
      · exact hk
      · exact sawspace_rel (nextchar_rel hv) true
    · exact trivial

/-- results of `scankind` agree up to view / error kind (locations and byte offsets differ) -/
def RelK (r1 r2 : Except Err (Kind × Loc × Nat × S)) : Prop :=
  match r1, r2 with
  | .error e1, .error e2 => e1.kind = e2.kind
  | .ok (k1, _, _, s1), .ok (k2, _, _, s2) => k1 = k2 ∧ s1.view = s2.view
  | _, _ => False

theorem relK_ok {k : Kind} {l1 l2 : Loc} {p1 p2 : Nat} {s1 s2 : S}
    (hv : s1.view = s2.view) : RelK (.ok (k, l1, p1, s1)) (.ok (k, l2, p2, s2)) := ⟨rfl, hv⟩

theorem relK_ret {r1 r2 : Kind × S} {l1 l2 : Loc} {p1 p2 : Nat} (h : RelP r1 r2) :
    RelK (.ok (r1.1, l1, p1, r1.2)) (.ok (r2.1, l2, p2, r2.2)) := h

theorem relK_lift {r1 r2 : Except Err (Kind × S)} {l1 l2 : Loc} {p1 p2 : Nat} (h : RelEP r1 r2) :
    RelK (match r1 with
          | .error e => .error e
          | .ok r => .ok (r.1, l1, p1, r.2))
         (match r2 with
          | .error e => .error e
          | .ok r => .ok (r.1, l2, p2, r.2)) := by
  cases r1 <;> cases r2 <;> exact h

theorem relK_lift' {a b : S} {r1 r2 : Except Err (Kind × S)} (h : RelX RelP r1 r2) :
    RelK (lift a r1) (lift b r2) := by
  rcases h.cases with ⟨_, _, ha, hb, hk⟩ | ⟨_, _, ha, hb, hv⟩ <;> rw [ha, hb]
  · exact hk
  · exact hv

theorem scankind_rel : ∀ (fuel : Nat) {a b : S}, a.view = b.view →
    RelK (scankind fuel a) (scankind fuel b)
  | 0, _, _, _ => rfl
  | fuel + 1, a, b, h => by
    have h1 := nextchar_rel h
    have h2 := nextchar_rel h1
    have g1 := nextchar_rel (usebuf_rel h true)
    have hminus := op3_rel h .TSUB .TSUBASSIGN .TDEC
    have hdiv := op2_rel h .TDIV .TDIVASSIGN
    rw [scankind, scankind, chr_of_view h]
    cases b.chr with
    | none => exact relK_ok h
    | some c =>
      simp only [chr_of_view h1, chr_of_view h2, hminus.1, chr_of_view hminus.2, hdiv.1]
      have lit := fun str => relK_lift' (a := a) (b := b) (quoted_rel h str)
      -- one goal per `return` of the switch, in the order of scan.c:  blank ! " # ## % & ' * + - ->
      -- /comment / < = > ^ | NL [ ] ( ) { } .digit . ..x ... ~ ? : :: ; , prefix digit letter other
      repeat' apply ite_rel RelK
      · exact scankind_rel fuel (nextchar_rel (sawspace_rel h true))
      · exact relK_ret (op2_rel h _ _)
      · exact lit true
      · exact relK_ok h1
      · exact relK_ok h2
      · exact relK_ret (op2_rel h _ _)
      · exact relK_ret (op3_rel h _ _ _)
      · exact lit false
      · exact relK_ret (op2_rel h _ _)
      · exact relK_ret (op3_rel h _ _ _)
      · exact relK_ok hminus.2
      · exact relK_ok (nextchar_rel hminus.2)
      · rcases (comment_rel hdiv.2).cases with ⟨_, _, ha, hb, hk⟩ | ⟨o1, o2, ha, hb, ho⟩ <;> rw [ha, hb]
        · exact hk
        · cases o1 <;> cases o2
          · exact relK_ok hdiv.2
          · exact ho.elim
          · exact ho.elim
          · exact scankind_rel fuel ho
      · exact relK_ok hdiv.2
      · exact relK_ret (op4_rel h _ _ _ _)
      · exact relK_ret (op2_rel h _ _)
      · exact relK_ret (op4_rel h _ _ _ _)
      · exact relK_ret (op2_rel h _ _)
      · exact relK_ret (op3_rel h _ _ _)
      iterate 7 exact relK_ok h1
      · obtain ⟨v1, v2, v3⟩ := (view_eq_iff _ _).mp h1
        exact relK_ret (number_rel ((view_eq_iff _ _).mpr ⟨v1, by rw [v2], v3⟩))
      · exact relK_ok h1
      · exact relK_ok (pushbackDot_rel h2 _ _)
      · exact relK_ok (nextchar_rel h2)
      iterate 3 exact relK_ok h1
      · exact relK_ok h2
      iterate 2 exact relK_ok h1
      · have g := afterPrefix_rel h
        show RelK
          (if (afterPrefix a).chr = some 39 then _ else if (afterPrefix a).chr = some 34 then _ else _)
          (if (afterPrefix b).chr = some 39 then _ else if (afterPrefix b).chr = some 34 then _ else _)
        rw [chr_of_view g]
        exact ite_rel RelK (relK_lift' (quoted_rel g false))
          (ite_rel RelK (relK_lift' (quoted_rel g true)) (relK_ret (ident_rel g)))
      · exact relK_ret (number_rel h)
      · exact relK_ret (ident_rel h)
      · exact relK_ok g1

/-- a token without its location / byte offset -/
structure Tok where
  kind : Kind
  lit : Option (List UInt8)
  space : Bool
  deriving DecidableEq, Repr

def Token.erase (t : Token) : Tok := ⟨t.kind, t.lit, t.space⟩

theorem scan_rel {a b : S} (h : a.view = b.view) :
    RelX (fun r1 r2 => r1.1.erase = r2.1.erase ∧ r1.2.view = r2.2.view) (scan a) (scan b) := by
  have hk := scankind_rel (b.inp.length + 2) (sawspace_rel h false)
  unfold scan
  rw [len_of_view h]
  generalize scankind (b.inp.length + 2) ({ a with sawspace := false } : S) = ra at hk ⊢
  generalize scankind (b.inp.length + 2) ({ b with sawspace := false } : S) = rb at hk ⊢
  cases ra <;> cases rb
  · exact hk
  · exact hk.elim
  · exact hk.elim
  · rename_i r1 r2
    obtain ⟨k1, l1, p1, s1⟩ := r1
    obtain ⟨k2, l2, p2, s2⟩ := r2
    obtain ⟨rfl, hv⟩ : k1 = k2 ∧ s1.view = s2.view := hk
    obtain ⟨v1, v2, v3, v4⟩ := (view_eq_iff _ _).mp hv
    simp only [v3]
    split
    · exact ⟨by simp [Token.erase, v2, v4], (view_eq_iff _ _).mpr ⟨v1, rfl, rfl, v4⟩⟩
    · exact ⟨by simp [Token.erase, v4], hv⟩

def eraseRun (r : List Token × Option Err) : List Tok × Option ErrKind :=
  (r.1.map Token.erase, r.2.map (·.kind))

theorem tokensLoop_rel : ∀ (n : Nat) {a b : S}, a.view = b.view →
    eraseRun (tokensLoop n a) = eraseRun (tokensLoop n b)
  | 0, _, _, _ => rfl
  | n + 1, a, b, h => by
    rw [tokensLoop, tokensLoop]
    rcases (scan_rel h).cases with ⟨_, _, ha, hb, hk⟩ | ⟨⟨t1, s1⟩, ⟨t2, s2⟩, ha, hb, ht, hv⟩ <;>
      rw [ha, hb]
    · simp only [eraseRun, List.map_nil, Option.map_some, hk]
    · have hk : t1.kind = t2.kind := congrArg Tok.kind ht
      have ih := tokensLoop_rel n hv
      simp only [eraseRun, Prod.mk.injEq] at ih
      simp only [hk]
      split <;> simp only [eraseRun, List.map_cons, List.map_nil, ht, Option.map_none, ih]

theorem map_snd_group : ∀ (t : List UInt8) (k : Nat), (group t k).1.map (·.2) = unsplice t := by
  intro t k
  fun_induction group t k with
  | case1 => simp [unsplice]
  | case2 => simp [unsplice]
  | case3 c d r k h ih => rw [unsplice]; simp only [h, and_self, if_true]; exact ih
  | case4 c d r k h ih => rw [unsplice]; simp only [h, if_false, List.map_cons, ih]

theorem view_init (text : List UInt8) : (S.init text).view = ⟨unsplice text, [], false, false⟩ := by
  unfold S.init S.view
  simp only [S.stream, inp_readHead, buf_readHead, usebuf_readHead, sawspace_readHead]
  rw [map_snd_group]

theorem tokensP_rel (t1 t2 : List UInt8) (h : unsplice t1 = unsplice t2) :
    eraseRun (tokensP t1) = eraseRun (tokensP t2) := by
  have hv : (S.init t1).view = (S.init t2).view := by rw [view_init, view_init, h]
  unfold tokensP
  rw [len_of_view hv]
  exact tokensLoop_rel _ hv

end CprocVerif.Scan
