import CprocVerif.Lemmas.PPDefine
import CprocVerif.Spec.MacroRef

/-! # Lazy parameter substitution: what the frame of a function-like macro delivers

`ctxnext` replaces a parameter only when it reaches it (pushing a frame with the argument's tokens, or the one-token
frame of its string for `# parameter`).  `substBody` is the eager description: the replacement list with every
parameter replaced by its stored argument, the first token of each replacement taking the white-space flag of the
parameter's place.  `flat` extends it to the whole context stack. -/

namespace CprocVerif.PP
open CprocVerif.Gen.TokenKinds

/-- in a function-like replacement list every `#` is followed by a parameter (forward form of what
`define` guarantees, `RevOk`) -/
def HashFollowed (ps : List Param) : List Tok → Prop
  | [] => True
  | [t] => t.kind ≠ .THASH
  | t :: u :: r =>
    if t.kind = .THASH then (macroparam ps u).isSome ∧ HashFollowed ps r else HashFollowed ps (u :: r)

def substBody (m : Macro) : List Tok → List Tok
  | [] => []
  | [t] =>
    if t.kind = .TIDENT then
      match macroparam m.params t with
      | some i => respace (m.args.getD i default).toks t.space
      | none => [t]
    else [t]
  | t :: u :: r =>
    if t.kind = .THASH then
      match macroparam m.params u with
      | some i => { (m.args.getD i default).str with space := t.space } :: substBody m r
      | none => t :: substBody m (u :: r)
    else if t.kind = .TIDENT then
      match macroparam m.params t with
      | some i => respace (m.args.getD i default).toks t.space ++ substBody m (u :: r)
      | none => t :: substBody m (u :: r)
    else t :: substBody m (u :: r)

def frameToks (ms : List Macro) (f : Frame) : List Tok :=
  match f.mac.bind (macroget ms) with
  | some m => if m.func then substBody m f.toks else f.toks
  | none => f.toks

def flat (ms : List Macro) : List Frame → List Tok
  | [] => []
  | f :: rest => frameToks ms f ++ flat ms rest

theorem substBody_cons (m : Macro) (t : Tok) (more : List Tok)
    (h : t.kind = .THASH → ∀ u r, more = u :: r → macroparam m.params u = none) :
    substBody m (t :: more) = substBody m [t] ++ substBody m more := by
  cases more with
  | nil => rw [substBody.eq_1, List.append_nil]
  | cons u r =>
    rw [substBody.eq_3, substBody.eq_2]
    by_cases hh : t.kind = .THASH
    · rw [if_pos hh, h hh u r rfl, if_neg (by rw [hh]; decide)]; rfl
    · rw [if_neg hh]
      split
      · split <;> rfl
      · rfl

theorem substBody_plain (m : Macro) (t : Tok) (more : List Tok) (hh : t.kind ≠ .THASH)
    (hp : t.kind = .TIDENT → macroparam m.params t = none) : substBody m (t :: more) = t :: substBody m more := by
  rw [substBody_cons m t more (fun h => absurd h hh), substBody.eq_2]
  split
  · rw [hp ‹_›]; rfl
  · rfl

theorem substBody_param (m : Macro) (t : Tok) (more : List Tok) (i : Nat) (hk : t.kind = .TIDENT)
    (hp : macroparam m.params t = some i) :
    substBody m (t :: more) = respace (m.args.getD i default).toks t.space ++ substBody m more := by
  rw [substBody_cons m t more (fun h => by rw [hk] at h; cases h), substBody.eq_2, if_pos hk, hp]

theorem substBody_hash (m : Macro) (t u : Tok) (r : List Tok) (i : Nat) (hh : t.kind = .THASH)
    (hp : macroparam m.params u = some i) :
    substBody m (t :: u :: r) = { (m.args.getD i default).str with space := t.space } :: substBody m r := by
  rw [substBody]; simp [hh, hp]

theorem hashFollowed_tail {ps : List Param} {t : Tok} {more : List Tok} (h : HashFollowed ps (t :: more))
    (hh : t.kind ≠ .THASH) : HashFollowed ps more := by
  cases more with
  | nil => trivial
  | cons u r => unfold HashFollowed at h; simpa [hh] using h

/-- bounds the fuel of `ctxnext` (`ctxnext_flatG` in `PPFlatG`): every `goto again` takes a parameter off the stack -/
def ctxSize (ctx : List Frame) : Nat := (ctx.map (·.toks.length)).sum

def CtxWF (ms : List Macro) (ctx : List Frame) : Prop :=
  ∀ f ∈ ctx, ∀ m, f.mac.bind (macroget ms) = some m → m.func = true → HashFollowed m.params f.toks

theorem macroget_setHide (ms : List Macro) (n : Name) (b : Bool) (k : Name) :
    macroget (setHide ms n b) k = (macroget ms k).map fun m => if m.name = n then { m with hide := b } else m := by
  unfold macroget setHide
  rw [List.find?_map]
  congr 2
  funext m
  show decide ((if m.name = n then { m with hide := b } else m).name = k) = decide (m.name = k)
  split <;> rfl

theorem substBody_hide (m : Macro) (b : Bool) : ∀ l : List Tok, substBody { m with hide := b } l = substBody m l
  | [] => rfl
  | [_] => rfl
  | t :: u :: r => by
    rw [substBody.eq_3, substBody.eq_3, substBody_hide m b r, substBody_hide m b (u :: r)]

theorem frameToks_setHide (ms : List Macro) (n : Name) (b : Bool) (f : Frame) :
    frameToks (setHide ms n b) f = frameToks ms f := by
  unfold frameToks
  cases hf : f.mac with
  | none => rfl
  | some k =>
    simp only [Option.bind_some, macroget_setHide]
    cases macroget ms k with
    | none => rfl
    | some m =>
      simp only [Option.map_some]
      split
      · simp only [substBody_hide]
      · rfl

theorem ctxWF_setHide {ms : List Macro} {ctx : List Frame} (n : Name) (b : Bool) (h : CtxWF ms ctx) :
    CtxWF (setHide ms n b) ctx := by
  intro f hf m hm hfun
  cases hfm : f.mac with
  | none => rw [hfm] at hm; cases hm
  | some k =>
    rw [hfm, Option.bind_some, macroget_setHide] at hm
    obtain ⟨m0, hg, rfl⟩ := Option.map_eq_some_iff.mp hm
    have h0 := h f hf m0 (by rw [hfm]; exact hg)
    split at hfun <;> split <;> exact h0 hfun

theorem frameToks_nil (ms : List Macro) (f : Frame) (h : f.toks = []) : frameToks ms f = [] := by
  unfold frameToks
  rw [h]
  cases f.mac.bind (macroget ms) with
  | none => rfl
  | some m => simp only; split <;> simp [substBody]

theorem frameToks_none (ms : List Macro) (toks : List Tok) : frameToks ms ⟨toks, none⟩ = toks := rfl

theorem ctxSize_cons (f : Frame) (rest : List Frame) : ctxSize (f :: rest) = f.toks.length + ctxSize rest := by
  simp [ctxSize]

open CprocVerif.Spec in
/-- class, spelling and the "never replace" mark of a model token / of a reference token -/
def kh (t : Tok) : Kind × Option Name × Bool := (t.kind, t.lit, t.hide)
open CprocVerif.Spec in
def kh' (h : MacroRef.HTok) : Kind × Option Name × Bool := (h.tok.kind, h.tok.lit, h.painted)

theorem kh_respace (l : List Tok) (sp : Bool) : (respace l sp).map kh = l.map kh := by
  cases l <;> rfl

open CprocVerif.Spec in
theorem kh'_respace (l : List MacroRef.HTok) (sp : Bool) : (MacroRef.respace l sp).1.map kh' = l.map kh' := by
  cases l <;> rfl

/-- adjacent pairs, front to back: a `#` is followed by a parameter (`RevOk` turned round; only the bridge from it
to `HashFollowed`, which walks as `ctxnext` does and skips the parameter after a `#`) -/
def FwdOk (ns : List Name) : List Tok → Prop
  | [] => True
  | [_] => True
  | a :: b :: r => (a.kind = .THASH → IsParamTok ns b) ∧ FwdOk ns (b :: r)

theorem fwdOk_snoc (ns : List Name) : ∀ (l : List Tok) (a b : Tok), FwdOk ns (l ++ [a]) →
    (a.kind = .THASH → IsParamTok ns b) → FwdOk ns (l ++ [a, b])
  | [], a, b, _, h => ⟨h, trivial⟩
  | [x], a, b, h1, h => by
    simp only [List.cons_append, List.nil_append] at h1 ⊢
    exact ⟨h1.1, h, trivial⟩
  | x :: y :: r, a, b, h1, h => by
    simp only [List.cons_append] at h1 ⊢
    exact ⟨h1.1, fwdOk_snoc ns (y :: r) a b h1.2 h⟩

theorem revOk_fwd (ns : List Name) : ∀ (l : List Tok), RevOk ns l → FwdOk ns l.reverse
  | [], _ => trivial
  | [_], _ => trivial
  | b :: a :: r, h => by
    have ih := revOk_fwd ns (a :: r) h.2
    simp only [List.reverse_cons, List.append_assoc, List.cons_append, List.nil_append] at ih ⊢
    exact fwdOk_snoc ns r.reverse a b ih h.1

theorem isParam_macroparam {ps : List Param} {u : Tok} (h : IsParamTok (pnames ps) u) : (macroparam ps u).isSome := by
  obtain ⟨hk, n, hn, hl⟩ := h
  unfold macroparam
  simp only [hk, ↓reduceIte]
  have : List.findIdx (fun p => some p.name = u.lit) ps < ps.length := by
    apply List.findIdx_lt_length_of_exists
    obtain ⟨p, hp, rfl⟩ := List.mem_map.mp hn
    exact ⟨p, hp, by simp [hl]⟩
  simp [this]

theorem fwdOk_hashFollowed (ps : List Param) (e : Tok) (he : e.kind ≠ .TIDENT) :
    ∀ (body : List Tok), FwdOk (pnames ps) (body ++ [e]) → HashFollowed ps body
  | [], _ => trivial
  | [t], h => by
    show t.kind ≠ .THASH
    intro hh
    exact he (h.1 hh).1
  | t :: u :: r, h => by
    unfold HashFollowed
    simp only [List.cons_append] at h
    split
    · rename_i hh
      refine ⟨isParam_macroparam (h.1 hh), ?_⟩
      cases r with
      | nil => trivial
      | cons v w => exact fwdOk_hashFollowed ps e he (v :: w) h.2.2
    · exact fwdOk_hashFollowed ps e he (u :: r) h.2

theorem wf_hashFollowed {m : Macro} (h : m.WF) (hf : m.func = true) : HashFollowed m.params m.body := by
  obtain ⟨e, he, hr⟩ := h.hashParam hf
  have := revOk_fwd _ _ hr
  simp only [List.reverse_cons, List.reverse_reverse] at this
  exact fwdOk_hashFollowed m.params e (by rcases he with he | he <;> rw [he] <;> decide) m.body this

end CprocVerif.PP
