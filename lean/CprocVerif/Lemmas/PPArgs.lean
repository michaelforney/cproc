import CprocVerif.Lemmas.PPObjSim

/-! # Argument collection: the parenthesis/comma logic of `expandfunc` splits at top-level commas

`collect` is the pair of nested loops of `expandfunc` run on a plain token list: every token is at invocation level
(`macrodepth <= depth`) and `expand` declines it, `argnext` delivers the next token of the list.  It returns exactly what
the reference computes in two passes: `matchParen` (find the `)` that matches) and `splitTop` (cut at the commas outside
parentheses, at most as many times as there are named parameters when the macro is variadic). -/

namespace CprocVerif.PP
open CprocVerif.Gen.TokenKinds
open CprocVerif.Spec.MacroRef (HTok Item matchParen splitTop)
open CprocVerif.Spec

/-- the argument loops of `expandfunc` on a plain token list: `i` = parameter index, `paren` =
open parentheses, `cur` = tokens of the argument so far (last first), `done` = finished arguments
(last first).  Result: all arguments in order, and the tokens after the closing parenthesis. -/
def collect (ps : List Param) : Nat → Nat → List Tok → List (List Tok) → List Tok →
    Except Err (List (List Tok) × List Tok)
  | _, _, _, _, [] => .error .eofInArgs
  | i, paren, cur, done, t :: r =>
    if paren = 0 ∧ (t.kind = .TRPAREN ∨ (t.kind = .TCOMMA ∧ (ps.getD i default).fvar = false)) then
      if t.kind = .TRPAREN ∨ i + 1 = ps.length then
        if i + 1 < ps.length then .error .notEnoughArgs
        else if t.kind ≠ .TRPAREN then .error .tooManyArgs
        else .ok ((cur.reverse :: done).reverse, r)
      else collect ps (i + 1) 0 [] (cur.reverse :: done) r
    else
      collect ps i
        (if t.kind = .TLPAREN then paren + 1 else if t.kind = .TRPAREN then paren - 1 else paren)
        (t :: cur) done r

/-- the test of `collect` (and of `efLoopBody`: `breakCond` in `PPArgsExec`) for the end of an argument -/
abbrev EndArg (ps : List Param) (i paren : Nat) (t : Tok) : Prop :=
  paren = 0 ∧ (t.kind = .TRPAREN ∨ (t.kind = .TCOMMA ∧ (ps.getD i default).fvar = false))

abbrev parenAfter (t : Tok) (paren : Nat) : Nat :=
  if t.kind = .TLPAREN then paren + 1 else if t.kind = .TRPAREN then paren - 1 else paren

section
variable {ps : List Param} {i paren : Nat} {cur : List Tok} {done : List (List Tok)} {t : Tok} {r : List Tok}

theorem collect_fin (hc : EndArg ps i paren t) (h2 : t.kind = .TRPAREN) (h1 : ¬ i + 1 < ps.length) :
    collect ps i paren cur done (t :: r) = .ok ((cur.reverse :: done).reverse, r) := by
  rw [collect, if_pos hc, if_pos (.inl h2), if_neg h1, if_neg (fun hk => hk h2)]

theorem collect_next (hc : EndArg ps i paren t) (hf : ¬ (t.kind = .TRPAREN ∨ i + 1 = ps.length)) :
    collect ps i paren cur done (t :: r) = collect ps (i + 1) 0 [] (cur.reverse :: done) r := by
  rw [collect, if_pos hc, if_neg hf]

theorem collect_go (hc : ¬ EndArg ps i paren t) :
    collect ps i paren cur done (t :: r) = collect ps i (parenAfter t paren) (t :: cur) done r := by
  rw [collect, if_neg hc]

theorem collect_cons_ok {args : List (List Tok)} {rest : List Tok} (h : collect ps i paren cur done (t :: r) = .ok (args, rest)) :
    (EndArg ps i paren t ∧ t.kind = .TRPAREN ∧ ¬ i + 1 < ps.length ∧ args = (cur.reverse :: done).reverse ∧ rest = r) ∨
    (EndArg ps i paren t ∧ ¬ (t.kind = .TRPAREN ∨ i + 1 = ps.length) ∧
      collect ps (i + 1) 0 [] (cur.reverse :: done) r = .ok (args, rest)) ∨
    (¬ EndArg ps i paren t ∧ collect ps i (parenAfter t paren) (t :: cur) done r = .ok (args, rest)) := by
  by_cases hc : EndArg ps i paren t
  · by_cases hf : t.kind = .TRPAREN ∨ i + 1 = ps.length
    · rw [collect, if_pos hc, if_pos hf] at h
      by_cases h1 : i + 1 < ps.length
      · rw [if_pos h1] at h; cases h
      · rw [if_neg h1] at h
        by_cases h2 : t.kind = .TRPAREN
        · rw [if_neg (fun hk => hk h2)] at h
          obtain ⟨e1, e2⟩ := Prod.mk.inj (Except.ok.inj h)
          exact .inl ⟨hc, h2, h1, e1.symm, e2.symm⟩
        · rw [if_pos h2] at h; cases h
    · exact .inr (.inl ⟨hc, hf, by rw [collect_next hc hf] at h; exact h⟩)
  · exact .inr (.inr ⟨hc, by rw [collect_go hc] at h; exact h⟩)

end

/-- an accepting run of `collect` -/
inductive Collected (ps : List Param) :
    Nat → Nat → List Tok → List (List Tok) → List Tok → List (List Tok) → List Tok → Prop
  | fin {i paren cur done t r} (hc : EndArg ps i paren t) (h2 : t.kind = .TRPAREN) (h1 : ¬ i + 1 < ps.length) :
      Collected ps i paren cur done (t :: r) (cur.reverse :: done).reverse r
  | next {i paren cur done t r args rest} (hc : EndArg ps i paren t) (hf : ¬ (t.kind = .TRPAREN ∨ i + 1 = ps.length))
      (more : Collected ps (i + 1) 0 [] (cur.reverse :: done) r args rest) : Collected ps i paren cur done (t :: r) args rest
  | go {i paren cur done t r args rest} (hc : ¬ EndArg ps i paren t)
      (more : Collected ps i (parenAfter t paren) (t :: cur) done r args rest) : Collected ps i paren cur done (t :: r) args rest

theorem collected_of_ok {ps : List Param} : ∀ {ts : List Tok} {i paren : Nat} {cur : List Tok} {done args : List (List Tok)}
    {rest : List Tok}, collect ps i paren cur done ts = .ok (args, rest) → Collected ps i paren cur done ts args rest := by
  intro ts
  induction ts with
  | nil => intro i paren cur done args rest h; simp [collect] at h
  | cons t r ih =>
    intro i paren cur done args rest h
    rcases collect_cons_ok h with ⟨hc, h2, h1, rfl, rfl⟩ | ⟨hc, hf, h⟩ | ⟨hc, h⟩
    · exact .fin hc h2 h1
    · exact .next hc hf (ih h)
    · exact .go hc (ih h)

def hT (t : Tok) : HTok := mkH [] t
def iT (t : Tok) : Item := .tok (hT t)

/-- only the last parameter can be `...`.  `paramLoop` builds nothing else (it rejects whatever follows `...`), but
that is not proved: `Macro.WF` does not record it, and the statements that need it assume it. -/
def VarLast (ps : List Param) : Prop := ∀ j, j + 1 < ps.length → (ps.getD j default).fvar = false

theorem matchParen_skip (t : Tok) (l : List Item) (d : Nat) (acc : List HTok) (h : ¬ (d = 0 ∧ t.kind = .TRPAREN)) :
    matchParen (iT t :: l) d acc =
      matchParen l (if t.kind = .TLPAREN then d + 1 else if t.kind = .TRPAREN then d - 1 else d) (hT t :: acc) := by
  rw [iT, matchParen]
  show (if t.kind = .TRPAREN then _ else if t.kind = .TLPAREN then _ else _) = _
  by_cases hr : t.kind = .TRPAREN
  · have hl : t.kind ≠ .TLPAREN := by rw [hr]; decide
    rw [if_pos hr, if_neg (fun hd => h ⟨hd, hr⟩), if_neg hl, if_pos hr]
  · rw [if_neg hr]
    split <;> rfl

theorem splitTop_comma (n d : Nat) (t : HTok) (r cur : List HTok) (hk : t.tok.kind = .TCOMMA) (hd : d = 0)
    (hn : n ≠ 0) : splitTop n d (t :: r) cur = cur.reverse :: splitTop (n - 1) d r [] := by
  rw [splitTop, if_pos ⟨hk, hd, hn⟩]

theorem splitTop_other (n d : Nat) (t : HTok) (r cur : List HTok)
    (h : ¬ (t.tok.kind = .TCOMMA ∧ d = 0 ∧ n ≠ 0)) :
    splitTop n d (t :: r) cur =
      splitTop n (if t.tok.kind = .TLPAREN then d + 1 else if t.tok.kind = .TRPAREN then d - 1 else d) r (t :: cur) := by
  rw [splitTop, if_neg h]
  split
  · rfl
  · split <;> rfl

/-- how many more top-level commas may split: the named parameters still to come when the macro is
variadic, else any number larger than the length of the rest (at `i = 0` these are the counts the reference's
`actuals` hands to `splitTop`: `m.params.length`, `inside.length + 1`) -/
def splitsLeft (ps : List Param) (i : Nat) (seg : List Tok) : Nat :=
  if (ps.getD (ps.length - 1) default).fvar then ps.length - 1 - i else seg.length + 1

def SplitsOK (ps : List Param) (i : Nat) (seg : List Tok) (n : Nat) : Prop :=
  if (ps.getD (ps.length - 1) default).fvar then n = ps.length - 1 - i else seg.length < n

theorem splitsOK_splitsLeft (ps : List Param) (i : Nat) (seg : List Tok) : SplitsOK ps i seg (splitsLeft ps i seg) := by
  unfold SplitsOK splitsLeft
  split
  · rfl
  · exact Nat.lt_succ_self _

/-- `collect_spec` in the form its induction needs: for any accumulator of `matchParen`, any tokens
after the `)`, and any admissible number of splits -/
theorem Collected.spec {ps : List Param} (hv : VarLast ps) {ts : List Tok} {i paren : Nat} {cur : List Tok}
    {done args : List (List Tok)} {rest : List Tok} (h : Collected ps i paren cur done ts args rest) : i < ps.length →
    ∃ seg rp, ts = seg ++ rp :: rest ∧ rp.kind = .TRPAREN ∧
      (∀ (X : List Item) (acc : List HTok),
        matchParen (seg.map iT ++ iT rp :: X) paren acc = some (acc.reverse ++ seg.map hT, hT rp, X, false)) ∧
      ∀ n, SplitsOK ps i seg n → args.map (·.map hT) = (done.reverse).map (·.map hT) ++
        splitTop n paren (seg.map hT) (cur.map hT) := by
  induction h with
  | @fin i paren cur done t r hc h2 h1 =>
    intro _
    refine ⟨[], t, rfl, h2, fun X acc => ?_, fun n _ => ?_⟩
    · rw [List.map_nil, List.nil_append, iT, matchParen, if_pos (show (hT t).tok.kind = .TRPAREN from h2), if_pos hc.1,
        List.map_nil, List.append_nil]
    · simp [splitTop, List.map_reverse]
  | @next i paren cur done t r args rest hc hf _ ih =>
    intro hi
    obtain ⟨rfl, hk⟩ := hc
    have hcomma : t.kind = .TCOMMA ∧ (ps.getD i default).fvar = false := hk.resolve_left fun hh => hf (.inl hh)
    have hi2 : i + 1 < ps.length := by
      have : i + 1 ≠ ps.length := fun hh => hf (.inr hh)
      omega
    obtain ⟨seg, rp, hts, hrp, hm, ha⟩ := ih hi2
    refine ⟨t :: seg, rp, by rw [hts]; rfl, hrp, fun X acc => ?_, fun n hn => ?_⟩
    · rw [List.map_cons, List.cons_append, matchParen_skip _ _ _ _ (by rw [hcomma.1]; simp),
        if_neg (by rw [hcomma.1]; decide), if_neg (by rw [hcomma.1]; decide), hm]
      simp
    · have hn0 : n ≠ 0 ∧ SplitsOK ps (i + 1) seg (n - 1) := by
        unfold SplitsOK at hn ⊢
        by_cases hva : (ps.getD (ps.length - 1) default).fvar = true
        · rw [if_pos hva] at hn ⊢; omega
        · rw [if_neg hva] at hn ⊢; simp only [List.length_cons] at hn; omega
      rw [ha _ hn0.2, List.map_cons, splitTop_comma _ _ _ _ _ hcomma.1 rfl hn0.1]
      simp [List.map_reverse]
  | @go i paren cur done t r args rest hc _ ih =>
    intro hi
    obtain ⟨seg, rp, hts, hrp, hm, ha⟩ := ih hi
    refine ⟨t :: seg, rp, by rw [hts]; rfl, hrp, fun X acc => ?_, fun n hn => ?_⟩
    · rw [List.map_cons, List.cons_append, matchParen_skip _ _ _ _ (fun hh => hc ⟨hh.1, .inl hh.2⟩), hm]
      simp
    · have hn' : SplitsOK ps i seg n := by
        unfold SplitsOK at hn ⊢
        by_cases hva : (ps.getD (ps.length - 1) default).fvar = true
        · rwa [if_pos hva] at hn ⊢
        · rw [if_neg hva] at hn ⊢; exact Nat.lt_of_succ_lt hn
      simp only [ha n hn', List.map_cons]
      rw [splitTop_other]
      · rfl
      · -- a top-level comma that does not end the argument: the parameter is `...`, no split is left
        rintro ⟨hk, hp0, hn0⟩
        have hvar : (ps.getD i default).fvar = true := by
          cases hf : (ps.getD i default).fvar with
          | true => rfl
          | false => exact absurd ⟨hp0, .inr ⟨hk, hf⟩⟩ hc
        have hil : i + 1 = ps.length := by
          by_cases hlt : i + 1 < ps.length
          · rw [hv i hlt] at hvar; cases hvar
          · omega
        unfold SplitsOK at hn
        rw [if_pos (by rw [show ps.length - 1 = i by omega]; exact hvar)] at hn
        omega

/-- the `)` found does not depend on what follows it -/
theorem collect_specX (ps : List Param) (hv : VarLast ps) (ts : List Tok) (i paren : Nat) (cur : List Tok)
    (done args : List (List Tok)) (rest : List Tok) (hi : i < ps.length)
    (h : collect ps i paren cur done ts = .ok (args, rest)) :
    ∃ seg rp, ts = seg ++ rp :: rest ∧ rp.kind = .TRPAREN ∧
      (∀ X : List Item, matchParen (seg.map iT ++ iT rp :: X) paren [] = some (seg.map hT, hT rp, X, false)) ∧
      args.map (·.map hT) = (done.reverse).map (·.map hT) ++
        splitTop (splitsLeft ps i seg) paren (seg.map hT) (cur.map hT) := by
  obtain ⟨seg, rp, h1, h2, h3, h4⟩ := (collected_of_ok h).spec hv hi
  exact ⟨seg, rp, h1, h2, fun X => h3 X [], h4 _ (splitsOK_splitsLeft ps i seg)⟩

theorem collect_spec (ps : List Param) (hv : VarLast ps) (ts : List Tok) (i paren : Nat) (cur : List Tok)
    (done args : List (List Tok)) (rest : List Tok) (hi : i < ps.length)
    (h : collect ps i paren cur done ts = .ok (args, rest)) :
    ∃ seg rp, ts = seg ++ rp :: rest ∧ rp.kind = .TRPAREN ∧
      matchParen (ts.map iT) paren [] = some (seg.map hT, hT rp, rest.map iT, false) ∧
      args.map (·.map hT) = (done.reverse).map (·.map hT) ++
        splitTop (splitsLeft ps i seg) paren (seg.map hT) (cur.map hT) := by
  obtain ⟨seg, rp, h1, h2, h3, h4⟩ := collect_specX ps hv ts i paren cur done args rest hi h
  refine ⟨seg, rp, h1, h2, ?_, h4⟩
  rw [h1]
  simpa using h3 (rest.map iT)

theorem Collected.consumed {ps : List Param} {ts : List Tok} {i paren : Nat} {cur : List Tok} {done args : List (List Tok)}
    {rest : List Tok} (h : Collected ps i paren cur done ts args rest) :
    ∃ pre, pre ≠ [] ∧ ts = pre ++ rest ∧ (∀ d ∈ done, d ∈ args) ∧
      ∀ a ∈ args, ∀ x ∈ a, x ∈ pre ∨ x ∈ cur ∨ ∃ d ∈ done, x ∈ d := by
  induction h with
  | @fin i paren cur done t r _ _ _ =>
    refine ⟨[t], nofun, rfl, fun d hd => by simp [hd], fun a ha x hx => ?_⟩
    rcases List.mem_cons.mp (List.mem_reverse.mp ha) with rfl | ha
    · exact .inr (.inl (List.mem_reverse.mp hx))
    · exact .inr (.inr ⟨a, ha, hx⟩)
  | @next i paren cur done t r args rest _ _ _ ih =>
    obtain ⟨pre, _, rfl, hd, hm⟩ := ih
    refine ⟨t :: pre, nofun, rfl, fun d hd' => hd d (List.mem_cons_of_mem _ hd'), fun a ha x hx => ?_⟩
    rcases hm a ha x hx with h1 | h1 | ⟨d, hd', hxd⟩
    · exact .inl (List.mem_cons_of_mem _ h1)
    · cases h1
    · rcases List.mem_cons.mp hd' with rfl | hd'
      · exact .inr (.inl (List.mem_reverse.mp hxd))
      · exact .inr (.inr ⟨d, hd', hxd⟩)
  | @go i paren cur done t r args rest _ _ ih =>
    obtain ⟨pre, _, rfl, hd, hm⟩ := ih
    refine ⟨t :: pre, nofun, rfl, hd, fun a ha x hx => ?_⟩
    rcases hm a ha x hx with h1 | h1 | h1
    · exact .inl (List.mem_cons_of_mem _ h1)
    · exact (List.mem_cons.mp h1).elim (fun e => .inl (e ▸ List.mem_cons_self ..)) fun h1 => .inr (.inl h1)
    · exact .inr (.inr h1)

theorem Collected.length {ps : List Param} {ts : List Tok} {i paren : Nat} {cur : List Tok} {done args : List (List Tok)}
    {rest : List Tok} (h : Collected ps i paren cur done ts args rest) :
    done.length = i → i < ps.length → args.length = ps.length := by
  induction h with
  | fin _ _ h1 => intro hd hi; simp only [List.length_reverse, List.length_cons, hd]; omega
  | next _ hf _ ih => intro hd hi; exact ih (by simp [hd]) (by have : _ + 1 ≠ ps.length := fun hh => hf (.inr hh); omega)
  | go _ _ ih => exact ih

theorem collect_length (ps : List Param) (ts : List Tok) (i paren : Nat) (cur : List Tok)
    (done args : List (List Tok)) (rest : List Tok) (hd : done.length = i) (hi : i < ps.length)
    (h : collect ps i paren cur done ts = .ok (args, rest)) : args.length = ps.length :=
  (collected_of_ok h).length hd hi

theorem collect_mem (ps : List Param) : ∀ (ts : List Tok) (i paren : Nat) (cur : List Tok)
    (done args : List (List Tok)) (rest : List Tok),
    collect ps i paren cur done ts = .ok (args, rest) →
    ∀ a ∈ args, ∀ x ∈ a, x ∈ ts ∨ x ∈ cur ∨ ∃ d ∈ done, x ∈ d := fun _ _ _ _ _ _ _ h a ha x hx =>
  have ⟨_, _, e, _, hm⟩ := (collected_of_ok h).consumed
  (hm a ha x hx).imp_left fun h1 => e ▸ List.mem_append_left _ h1

theorem collect_rest_lt (ps : List Param) (L : List Tok) (i paren : Nat) (cur : List Tok) (done args : List (List Tok))
    (rest : List Tok) (h : collect ps i paren cur done L = .ok (args, rest)) : rest.length < L.length := by
  obtain ⟨pre, hne, rfl, _⟩ := (collected_of_ok h).consumed
  have := List.length_pos_iff.mpr hne
  rw [List.length_append]; omega

end CprocVerif.PP
