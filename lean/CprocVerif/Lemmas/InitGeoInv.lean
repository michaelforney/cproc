import CprocVerif.Lemmas.InitGeoEvents
import CprocVerif.Lemmas.InitRefDesig

/-!
# Every initialiser `parseinit` produces sits at a place of the object's tree

A machine-only invariant (no reference involved): the live slots of `obj[]` are a path of the
tree of places, every logged `add` stores a value of the member's shape at such a place, every
logged `clear` clears a non-scalar place.  With `Lemmas/InitGeoEvents.lean` this gives the hypotheses
of `emitdata_image_ev` for the log of every successful `parseinit`.  The tree is the positional one (`childAt … true`,
in which a union has its first member only: two members of a union are neither nested nor disjoint), so a designator
that enters another member of a union leaves the invariant: hence `firstPath` here and `desigsOK` in the class.
-/

namespace CprocVerif.InitSim
open CprocVerif.Init CprocVerif.Image CprocVerif.InitRef

/-- slots `0 … sub` are the places `pl 0 = root, pl 1, …`, each the sub-object its parent's
cursor stands at -/
structure Stk (root : Place) (st : St) (pl : Nat → Place) : Prop where
  root : pl 0 = root
  ty : (st.obj st.sub).ty = (pl st.sub).ty
  off : (st.obj st.sub).offset = (pl st.sub).off
  lvl : ∀ k, k < st.sub → ∃ pos, Lvl st k (pl k) pos (pl (k + 1)) ∧ childAt (pl k) pos true = some (pl (k + 1))

/-- the invariant (objects of known size) -/
structure K (root : Place) (st : St) : Prop where
  inc : st.inc = false
  top : st.top = (st.obj 0).ty.size
  stk : ∃ pl, Stk root st pl
  log : ∀ e ∈ st.log, PlaceEv root e
  cur : ∀ c, st.cur = some c → c ≤ st.sub

variable {root : Place} {st st' : St} {pl : Nat → Place}

theorem K.flat (h : K root st) (k : Nat) : Flat st k := by
  refine ⟨by unfold St.tinc; rw [h.inc]; simp, ?_⟩
  unfold St.tsize
  split
  · rename_i hk; rw [hk, h.top]
  · rfl

theorem Stk.slot (h : Stk root st pl) :
    ∀ k, k ≤ st.sub → (st.obj k).ty = (pl k).ty ∧ (st.obj k).offset = (pl k).off := by
  intro k hk
  by_cases hks : k = st.sub
  · rw [hks]; exact ⟨h.ty, h.off⟩
  · obtain ⟨pos, hl, _⟩ := h.lvl k (Nat.lt_of_le_of_ne hk hks)
    exact ⟨hl.ty, hl.off⟩

theorem Stk.places {nu : Bool} {root : Place} {st : St} {pl : Nat → Place} (hg : PlGeo nu root) (h : Stk root st pl) :
    ∀ k, k ≤ st.sub → ∃ ps, walk root ps = some (pl k) ∧ PlGeo nu (pl k) := by
  intro k
  induction k with
  | zero => intro _; exact ⟨[], by rw [h.root]; rfl, by rw [h.root]; exact hg⟩
  | succ k ih =>
    intro hk
    obtain ⟨ps, hw, hgk⟩ := ih (Nat.le_of_lt hk)
    obtain ⟨pos, _, hc⟩ := h.lvl k hk
    refine ⟨ps ++ [pos], ?_, (child_geo hgk hc).1⟩
    rw [walk_append hw]
    simp only [walk, hc]

theorem Stk.pop (h : Stk root st pl) (hs : st'.sub ≤ st.sub)
    (hlow : ∀ j, j < st'.sub → st'.obj j = st.obj j) (hty : (st'.obj st'.sub).ty = (st.obj st'.sub).ty)
    (hoff : (st'.obj st'.sub).offset = (st.obj st'.sub).offset) : Stk root st' pl := by
  obtain ⟨s1, s2⟩ := h.slot st'.sub hs
  refine ⟨h.root, hty.trans s1, hoff.trans s2, fun k hk => ?_⟩
  obtain ⟨pos, hl, hc⟩ := h.lvl k (Nat.lt_of_lt_of_le hk hs)
  exact ⟨pos, hl.of_obj (hlow k hk), hc⟩

/-- `Stk.lvl` for the slots below `m` -/
def Lvls (st : St) (pl : Nat → Place) (m : Nat) : Prop :=
  ∀ k, k < m → ∃ pos, Lvl st k (pl k) pos (pl (k + 1)) ∧ childAt (pl k) pos true = some (pl (k + 1))

def upd (pl : Nat → Place) (k : Nat) (ch : Place) : Nat → Place := fun j => if j = k then ch else pl j

theorem upd_eq (pl : Nat → Place) (k : Nat) (ch : Place) : upd pl k ch k = ch := if_pos rfl
theorem upd_ne {pl : Nat → Place} {k j : Nat} (ch : Place) (h : j ≠ k) : upd pl k ch j = pl j := if_neg h

theorem Lvls.push {m pos : Nat} {ch : Place} (h : Lvls st pl m)
    (hl : Lvl st m (pl m) pos ch) (hc : childAt (pl m) pos true = some ch) : Lvls st (upd pl (m + 1) ch) (m + 1) := by
  intro k hk
  rw [upd_ne ch (Nat.ne_of_lt hk)]
  by_cases hkm : k = m
  · subst hkm; rw [upd_eq]; exact ⟨pos, hl, hc⟩
  · rw [upd_ne ch (fun h' => hkm (Nat.succ.inj h'))]
    exact h k (Nat.lt_of_le_of_ne (Nat.le_of_lt_succ hk) hkm)

theorem Stk.push {st0 : St} {pos : Nat} {ch : Place} (h : Stk root st0 pl)
    (hs : st'.sub = st0.sub + 1) (hlow : ∀ j, j < st0.sub → st'.obj j = st0.obj j)
    (hl : Lvl st' st0.sub (pl st0.sub) pos ch) (hc : childAt (pl st0.sub) pos true = some ch)
    (hty : (st'.obj (st0.sub + 1)).ty = ch.ty) (hoff : (st'.obj (st0.sub + 1)).offset = ch.off) :
    Stk root st' (upd pl (st0.sub + 1) ch) := by
  refine ⟨(upd_ne ch (Nat.succ_ne_zero _).symm).trans h.root, ?_, ?_, ?_⟩
  · rw [hs, upd_eq]; exact hty
  · rw [hs, upd_eq]; exact hoff
  · rw [hs]
    exact Lvls.push (fun k hk => (h.lvl k hk).imp fun pos' hp => ⟨hp.1.of_obj (hlow k hk), hp.2⟩) hl hc

theorem subTys_self (t : Ty) : t ∈ subTys t := by
  cases t <;> simp [subTys]

theorem subTysMs_drop (ms : Members) (p : Nat) : ∀ x ∈ subTysMs (Members.drop ms p), x ∈ subTysMs ms :=
  drop_ind (P := fun ms' => ∀ x ∈ subTysMs ms', x ∈ subTysMs ms)
    (fun _ _ _ _ _ _ h x hx => h x (by simp only [subTysMs, List.mem_append]; exact .inr hx)) p (fun _ hx => hx)

theorem subTys_child {q ch : Place} {p : Nat} {pp : Bool} (h : childAt q p pp = some ch) :
    ∀ x ∈ subTys ch.ty, x ∈ subTys q.ty := by
  intro x hx
  rcases childAt_inv h with ⟨n, e, hty, _, rfl⟩ | ⟨u, tag, size, ms, n, t, o, b, a, nx, hty, _, hd, rfl⟩
  · rw [hty]
    simp only [subTys, List.mem_cons]
    exact .inr hx
  · rw [hty]
    simp only [subTys, List.mem_cons]
    refine .inr (subTysMs_drop ms p x ?_)
    rw [hd]
    simp only [subTysMs, List.mem_append]
    exact .inl hx

theorem walk_subTys : ∀ (ps : List Nat) {q d : Place}, walk q ps = some d → d.ty ∈ subTys q.ty
  | [], q, d, h => by cases h; exact subTys_self _
  | p :: ps, q, d, h => by
    obtain ⟨ch, hc, hw⟩ := walk_cons.1 h
    exact subTys_child hc _ (walk_subTys ps hw)

theorem firstPathMs_drop : ∀ (p : Nat) (ms : Members) (ps : List Nat),
    firstPathMs ms p ps = firstPathMs (Members.drop ms p) 0 ps
  | 0, ms, ps => by cases ms <;> rfl
  | _ + 1, .nil, ps => rfl
  | p + 1, .cons _ _ _ _ _ nx, ps => firstPathMs_drop p nx ps

theorem firstPath_step {q ch : Place} {p : Nat} {ps : List Nat} (hf : firstPath q.ty (p :: ps) = true)
    (h : childAt q p false = some ch) : childAt q p true = some ch ∧ firstPath ch.ty ps = true := by
  rcases childAt_inv h with ⟨n, e, hty, _, rfl⟩ | ⟨u, tag, size, ms, n, t, o, b, a, nx, hty, _, hd, rfl⟩
  · rw [hty] at hf
    simp only [firstPath] at hf
    rw [childAt_elem hty] at h ⊢
    exact ⟨h, hf⟩
  · rw [hty] at hf
    simp only [firstPath, Bool.and_eq_true, Bool.or_eq_true, Bool.not_eq_true', beq_iff_eq] at hf
    have hcond : ¬ ((u && true && decide (p ≠ 0)) = true) := by
      rcases hf.1 with h1 | h1
      · simp [h1]
      · simp [h1]
    have := hf.2
    rw [firstPathMs_drop, hd] at this
    refine ⟨?_, this⟩
    rw [childAt_agg hty, if_neg hcond, hd]

theorem stk_chain : ∀ {m : Nat} {q : Place} {ps : List Nat} {m' : Nat} {q' : Place},
    Chain st' m q ps m' q' → ∀ (pl : Nat → Place), pl 0 = root → pl m = q → Lvls st' pl m →
    firstPath q.ty ps = true → ∃ pl' : Nat → Place, pl' 0 = root ∧ pl' m' = q' ∧ Lvls st' pl' m' := by
  intro m q ps m' q' hch
  induction hch with
  | nil m q => intro pl h0 hm hl _; exact ⟨pl, h0, hm, hl⟩
  | @cons m q ch p ps m' q' hl _ ih =>
    intro pl h0 hm hlv hf
    obtain ⟨hc, hfc⟩ := firstPath_step hf hl.child
    subst hm
    exact ih (upd pl (m + 1) ch) ((upd_ne ch (Nat.succ_ne_zero _).symm).trans h0) (upd_eq _ _ _) (hlv.push hl hc) hfc

theorem Stk.bits (hr : root.before = 0 ∧ root.after = 0) (h : Stk root st pl) :
    curBits st = .ok ((pl st.sub).before, (pl st.sub).after) := by
  cases hs : st.sub with
  | zero =>
    unfold curBits
    rw [if_pos hs, h.root, hr.1, hr.2]
  | succ k =>
    have hk : k < st.sub := hs ▸ Nat.lt_succ_self k
    obtain ⟨pos, hl, _⟩ := h.lvl k hk
    exact (curBits_congr (st := { st with sub := k + 1 }) hs (fun _ => rfl)).trans
      (sp_child hl (hs ▸ h.ty) (hs ▸ h.off)).bits

end CprocVerif.InitSim
