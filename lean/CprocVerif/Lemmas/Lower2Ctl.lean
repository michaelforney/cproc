/-
  C01, fragment 𝔽₂ — control at statement level: the static data of one activation (`Stat`), a position in the assembled
  item list (`Pos`), how the block open there ends (`TermAt`), and where the run of a statement ends, by outcome of the C
  execution (`Done`, `Post`).
-/
import CprocVerif.Lemmas.Lower2Expr
import CprocVerif.Lemmas.Lower2Mem
import CprocVerif.Lemmas.Lower2StmtStruct

set_option linter.unusedSimpArgs false

namespace CprocVerif.LowerMach2
open CprocVerif.Qbe CprocVerif.Lower CprocVerif.Lower2 CprocVerif.CSem CprocVerif.CSem2 CprocVerif.CInt
open CprocVerif.LowerArith CprocVerif.LowerMach CprocVerif.LowerMem

/-- What `ret` does once the returned value is known and the frame has been released (the tail of `Qbe.stepRet`). -/
def retCont (p : Prog) (rest : List Qbe.Frame) (mem : Mem) (trace : Array String) (rv : RetVal) : Step :=
  match rest with
  | [] => .done (.ret rv) trace
  | caller :: rest' =>
    match caller.curIns with
    | some (.call res _ _ _) =>
      match bindCallRes p caller.env mem res rv with
      | .error e => .done e.toEnd trace
      | .ok (env', mem') =>
        .next ⟨{ caller with env := env', ii := caller.ii + 1 } :: rest', mem', trace⟩
    | _ => .done (.stuck (.other "internal: return to a non-call")) trace

theorem stepRet_eq {p : Prog} {fr : Qbe.Frame} {rest : List Qbe.Frame} {mem : Mem} {trace : Array String}
    {v : Option RVal} {rv : RetVal} (h : retValue p fr mem v = .ok rv) :
    stepRet p fr rest mem trace v = retCont p rest (mem.popTo fr.stackMark fr.spMark) trace rv := by
  unfold stepRet retCont
  rw [h]
  rfl

theorem step_ret_fix {p : Prog} {ext : Qbe.Ext} (x : Fix) {env : Env} {M : Mem} {bi ii : Nat} {b : Block}
    {val : Val} {r : RVal} {rv : RetVal}
    (hb : x.fi.f.blocks[bi]? = some b) (hi : b.ins.size = ii) (ht : b.term = some (.ret (some val)))
    (hval : readVal p env val = .ok r) (hrv : retValue p (mkFr x env bi ii) M (some r) = .ok rv) :
    step p ext (mkSt x env M bi ii) = retCont p x.rest (M.popTo x.sm x.spm) x.tr rv := by
  simp only [step, mkSt, mkFr, hb, ins_none_of_size hi, stepTerm, ht, hval]
  exact stepRet_eq hrv

/-- Room on the IL stack for `d` more activations of functions with at most `K` cells (variables and further
    array elements).  An activation lowers `sp` by at most `64 + 32 * K` (`AInv.sp_lo`; `Stat.room_at` passes the rest on
    to the callees); the leading 64 covers the red zone and the rounding of the last `alloc` (`AInv.alloc`). -/
def Room (K d : Nat) (M : Mem) : Prop :=
  stackLimit + 64 + d * (64 + 32 * K) ≤ M.sp ∧ M.stack.size + d * (K + 1) < 2 ^ 64

theorem Room.small {K d : Nat} {M : Mem} (h : Room K (d + 1) M) {n x : Nat} (hK : n + x ≤ K) :
    stackLimit + 128 + 32 * n + 8 * x ≤ M.sp ∧ M.stack.size + n + 1 < 2 ^ 64 := by
  obtain ⟨h1, h2⟩ := h
  rw [Nat.succ_mul] at h1 h2
  constructor <;> omega

theorem Room.sp_enter {K d : Nat} {M : Mem} (h : Room K d M) (hd : 0 < d) :
    stackLimit + redZone + frameCost ≤ M.sp := by
  obtain ⟨d', rfl⟩ : ∃ d', d = d' + 1 := ⟨d - 1, by omega⟩
  obtain ⟨h1, _⟩ := h
  rw [Nat.succ_mul] at h1
  have : redZone = 16 := rfl
  have : frameCost = 64 := rfl
  omega

/-- Static data of the simulation of one activation: the assembled items (`S`, whose memory field is
    irrelevant), the final slot map `σ`; the program `P` whose functions a call may name and where the IL program
    has them; the memory `M0` at the call (the marks of the frame are taken from it); room for `d` nested calls of
    functions with at most `K` cells (variables and further array elements). -/
structure Stat where
  S : Sit
  σ : List Nat
  vtys : List CSem.Ty
  ret : CSem.Ty
  hret : S.x.fi.f.ret = some (.base (cls ret))
  P : List CSem2.Func
  M0 : Mem
  hsm : S.x.sm = M0.stack.size
  hspm : S.x.spm = M0.sp
  /-- number of elements of every variable -/
  cnts : List Nat
  /-- the read-only array parameters: element type, length, first cell of the elements seen -/
  W : List (CSem.Ty × Nat × Nat)
  K : Nat
  d : Nat
  hK : vtys.length + xcount cnts cnts.length ≤ K
  hroom : Room K (d + 1) M0
  hfuncs : ∀ fn g, lookup P fn = some g →
    ∃ sid, S.p.funcs[fn]? = some (FuncInfo.of (Lower2.emitFunc S.cs sid g))
  hP : ∀ fn g, lookup P fn = some g → CSem2.WT g ∧ callsOK P g.body = true ∧ g.vtys.length + g.extra ≤ K

def Stat.exit (T : Stat) (r : RVal) : Step := retCont T.S.p T.S.x.rest T.M0 T.S.x.tr (.scalar r)

/-- machine state at the position after the items `pre` -/
def Stat.at (T : Stat) (env : Env) (M : Mem) (pre : List Item) : State := (setM T.S M).at env pre

theorem Stat.at_def (T : Stat) (env : Env) (M : Mem) (pre : List Item) :
    T.at env M pre = mkSt T.S.x env M (posOf T.S.o0 pre).1 (posOf T.S.o0 pre).2 := rfl

abbrev Stat.Reach (T : Stat) (n : Nat) (a b : State) : Prop := LowerMach.Reach T.S.p T.S.ext n a b

theorem Stat.room_at (T : Stat) {s : Store} {env : Env} {M : Mem}
    (inv : SInv T.M0 T.S.cs T.cnts T.W T.σ T.vtys s env M) : Room T.K T.d M := by
  obtain ⟨h1, h2⟩ := T.hroom
  rw [Nat.succ_mul] at h1 h2
  have := inv.a.sp_lo
  have := inv.a.ssize
  have : T.vtys.length + xcount T.cnts T.vtys.length ≤ T.K := inv.clen ▸ T.hK
  constructor <;> omega

def CanJump (S : Sit) (l : String) : Prop :=
  ∃ j b, S.x.fi.labelIdx[l]? = some j ∧ S.x.fi.f.blocks[j]? = some b ∧ b.phis = []

def AtLabel (S : Sit) (l : String) (env : Env) (M : Mem) (st : State) : Prop :=
  ∃ j, S.x.fi.labelIdx[l]? = some j ∧ st = mkSt S.x env M j 0

theorem canJump_item (S : Sit) {pre post : List Item} {t : Option Jump} {l : String}
    (hits : S.its = pre ++ .lbl t l [] :: post) : CanJump S l := by
  obtain ⟨b', h1, _, h3, h4⟩ := S.target hits
  exact ⟨_, b', h4, h1, h3⟩

theorem canJump_ite {S : Sit} {a z : String} (ha : CanJump S a) (hz : CanJump S z) (b : Bool) :
    CanJump S (if b then a else z) := by
  cases b <;> assumption

theorem atLabel_item (T : Stat) {pre post : List Item} {t : Option Jump} {l : String} {ph : List Phi}
    (hits : T.S.its = pre ++ .lbl t l ph :: post) {env : Env} {M : Mem} {st : State}
    (h : AtLabel T.S l env M st) : st = T.at env M (pre ++ [.lbl t l ph]) := by
  obtain ⟨j, hj, rfl⟩ := h
  obtain ⟨b', _, _, _, h4⟩ := T.S.target hits
  rw [h4] at hj
  cases hj
  rw [Stat.at_def, posOf_lbl]

theorem atLabel_of_item (T : Stat) {pre post : List Item} {t : Option Jump} {l : String} {ph : List Phi}
    (hits : T.S.its = pre ++ .lbl t l ph :: post) (env : Env) (M : Mem) :
    AtLabel T.S l env M (T.at env M (pre ++ [.lbl t l ph])) := by
  obtain ⟨b', _, _, _, h4⟩ := T.S.target hits
  exact ⟨_, h4, by rw [Stat.at_def, posOf_lbl]⟩

theorem step_fall_item (T : Stat) {pre post : List Item} {l : String}
    (hits : T.S.its = pre ++ .lbl none l [] :: post) (env : Env) (M : Mem) :
    step T.S.p T.S.ext (T.at env M pre) = .next (T.at env M (pre ++ [.lbl none l []])) :=
  (setM T.S M).jump hits hits .fall (bs := []) rfl

theorem step_jnz_item (T : Stat) {pre post : List Item} {l a z : String} {ph : List Phi} {v : Val}
    (hits : T.S.its = pre ++ .lbl (some (.jnz v a z)) l ph :: post) {env : Env} (M : Mem) {c : RVal} {w : UInt64}
    (hv : readVal T.S.p env v = .ok c) (hc : c.asW = .ok w) (hl : CanJump T.S (if w != 0 then a else z)) :
    ∃ st, step T.S.p T.S.ext (T.at env M pre) = .next st ∧
      AtLabel T.S (if w != 0 then a else z) env M st := by
  obtain ⟨b, hb, hsz, hterm, _⟩ := T.S.term_at hits
  obtain ⟨j, tb, hj, htb, hph⟩ := hl
  exact ⟨_, (setM T.S M).leave hb hsz hterm (.jnz (next := l) hv hc) hj nofun htb (bs := []) (by rw [hph]; rfl),
    j, hj, rfl⟩

/-- The block that is open after the items `pos` ends with the jump `j`.  Whenever the lowering has set a jump on the open
    block (`SCtx.jump`), this holds at that position: the next label item, or the end of the function, carries it. -/
def TermAt (T : Stat) (pos : List Item) (j : Jump) : Prop :=
  ∃ b, T.S.x.fi.f.blocks[(posOf T.S.o0 pos).1]? = some b ∧ b.ins.size = (posOf T.S.o0 pos).2 ∧ b.term = some j

theorem TermAt.of_item {T : Stat} {pos post : List Item} {j : Jump} {l : String} {ph : List Phi}
    (hits : T.S.its = pos ++ .lbl (some j) l ph :: post) : TermAt T pos j := by
  obtain ⟨b, hb, hsz, hterm, _⟩ := T.S.term_at hits
  exact ⟨b, hb, hsz, hterm⟩

theorem TermAt.of_end {T : Stat} {pos : List Item} (hits : T.S.its = pos) : TermAt T pos T.S.ft :=
  T.S.end_at hits

theorem TermAt.jmp {T : Stat} {pos : List Item} {l : String} (h : TermAt T pos (.jmp l)) (hl : CanJump T.S l)
    (env : Env) (M : Mem) : ∃ st, step T.S.p T.S.ext (T.at env M pos) = .next st ∧ AtLabel T.S l env M st := by
  obtain ⟨b, hb, hsz, hterm⟩ := h
  obtain ⟨j, tb, hj, htb, hph⟩ := hl
  exact ⟨_, (setM T.S M).leave hb hsz hterm (.jmp (next := l) l) hj nofun htb (bs := []) (by rw [hph]; rfl),
    j, hj, rfl⟩

theorem step_jmp_item (T : Stat) {pre post : List Item} {l l' : String} {ph : List Phi}
    (hits : T.S.its = pre ++ .lbl (some (.jmp l')) l ph :: post) (hl : CanJump T.S l') (env : Env) (M : Mem) :
    ∃ st, step T.S.p T.S.ext (T.at env M pre) = .next st ∧ AtLabel T.S l' env M st :=
  (TermAt.of_item hits).jmp hl env M

theorem TermAt.ret {T : Stat} {pos : List Item} {val : Val} (h : TermAt T pos (.ret (some val))) {env : Env}
    (M : Mem) {r r' : RVal} (hval : readVal T.S.p env val = .ok r) (hco : r.coerce (cls T.ret) = .ok r')
    (hpop : M.popTo T.M0.stack.size T.M0.sp = T.M0) :
    step T.S.p T.S.ext (T.at env M pos) = T.exit r' := by
  obtain ⟨b, hb, hsz, hterm⟩ := h
  have hrv : retValue T.S.p (mkFr T.S.x env (posOf T.S.o0 pos).1 (posOf T.S.o0 pos).2) M (some r) =
      .ok (.scalar r') := by
    simp only [retValue, mkFr, T.hret, Ty.cls, hco, bind, Except.bind, pure, Except.pure]
  rw [Stat.at_def, step_ret_fix T.S.x hb hsz hterm hval hrv, T.hsm, T.hspm, hpop]
  rfl

theorem run_nores (T : Stat) {pre post : List Item} {o : Op} {args : List Val} {env : Env} {M M' : Mem}
    {vs : List RVal} {v : RVal}
    (hits : T.S.its = pre ++ .ins (.op none o args) :: post)
    (hr : readVals T.S.p env args = .ok vs) (hx : execOp o none vs M none = .ok (v, M')) :
    T.Reach 1 (T.at env M pre) (T.at env M' (pre ++ [.ins (.op none o args)])) := by
  obtain ⟨b, hb, hi⟩ := ins_at T.S.ft T.S.o0 pre post (.op none o args)
  rw [← hits, ← T.S.block_get] at hb
  apply Reach.one
  rw [Stat.at_def, Stat.at_def, posOf_ins]
  exact step_op_nores T.S.x hb hi hr hx

theorem run_res (T : Stat) {pre post : List Item} {k : Nat} {cl : Cls} {o : Op} {args : List Val}
    {env : Env} {M M' : Mem} {vs : List RVal} {v : RVal}
    (hits : T.S.its = pre ++ .ins (.op (some (tmpName k, cl)) o args) :: post)
    (hr : readVals T.S.p env args = .ok vs) (hx : execOp o (some cl) vs M none = .ok (v, M')) :
    T.Reach 1 (T.at env M pre)
      (T.at (env.insert (tmpName k) v) M' (pre ++ [.ins (.op (some (tmpName k, cl)) o args)])) :=
  (setM T.S M).run_ins hits hr hx

/-- The lowering context `c` before a statement placed after `pre`, when `nd` variables are declared. -/
structure Pos (T : Stat) (c : SCtx) (nd : Nat) (pre : List Item) : Prop where
  jump : c.jump = none
  cur : curOf T.S.o0 pre = c.cur
  curOK : CurOK c.ctx
  nslots : c.slots.length = nd
  le : ∀ i, i < nd → c.slots.getD i 0 ≤ c.lastid

/-- The context `o` is compatible with the final slot map `T.σ`. -/
def Ext (T : Stat) (o : SCtx) : Prop :=
  (∀ i, i < o.slots.length → T.σ.getD i 0 = o.slots.getD i 0) ∧
  (∀ k, o.slots.length ≤ k → k < T.vtys.length → o.lastid < T.σ.getD k 0)

theorem Ext.congr {T : Stat} {o o' : SCtx} (h : Ext T o) (hs : o'.slots = o.slots)
    (hl : o'.lastid = o.lastid) : Ext T o' := by
  unfold Ext at h ⊢
  rw [hs, hl]; exact h

theorem getD_append_left (a b : List Nat) {i : Nat} (h : i < a.length) : (a ++ b).getD i 0 = a.getD i 0 := by
  simp [List.getD, List.getElem?_append_left h]

theorem getD_append_right (a b : List Nat) {i : Nat} (h : a.length ≤ i) :
    (a ++ b).getD i 0 = b.getD (i - a.length) 0 := by
  simp [List.getD, List.getElem?_append_right h]

theorem getD_mem {l : List Nat} {i : Nat} (h : i < l.length) : l.getD i 0 ∈ l := by
  have : l.getD i 0 = l[i] := by simp [List.getD, List.getElem?_eq_getElem h]
  rw [this]; exact List.getElem_mem h

theorem Ext.before {T : Stat} {o1 o2 : SCtx} (h : Ext T o2) {new : List Nat}
    (hs : o2.slots = o1.slots ++ new) (hnew : ∀ sl ∈ new, o1.lastid < sl) (hl : o1.lastid ≤ o2.lastid) :
    Ext T o1 := by
  constructor
  · intro i hi
    rw [h.1 i (by rw [hs, List.length_append]; exact Nat.lt_add_right _ hi), hs, getD_append_left _ _ hi]
  · intro k hk hkv
    by_cases hk2 : k < o2.slots.length
    · rw [h.1 k hk2, hs, getD_append_right _ _ hk]
      apply hnew
      apply getD_mem
      rw [hs, List.length_append] at hk2
      exact Nat.sub_lt_left_of_lt_add hk hk2
    · exact Nat.lt_of_le_of_lt hl (h.2 k (Nat.le_of_not_lt hk2) hkv)

theorem slots_kept {T : Stat} {c : SCtx} {nd : Nat} {pre : List Item} (hp : Pos T c nd pre) {hi : Nat}
    (hpre : ∀ i, i < nd → T.σ.getD i 0 = c.slots.getD i 0)
    (hfut : ∀ k, nd ≤ k → k < T.vtys.length → hi < T.σ.getD k 0)
    {env env' : Env} (hf : Frame c.lastid hi env env') :
    ∀ k, k < T.vtys.length → env'[tmpName (T.σ.getD k 0)]? = env[tmpName (T.σ.getD k 0)]? := by
  intro k hk
  apply hf
  by_cases hkn : k < nd
  · left; rw [hpre k hkn]; exact hp.le k hkn
  · right; exact hfut k (Nat.le_of_not_lt hkn) hk

theorem Pos.ext {T : Stat} {c : SCtx} {nd : Nat} {pre : List Item} (hp : Pos T c nd pre) {o : SCtx}
    (hext : Ext T o) (hs : o.slots = c.slots) :
    (∀ i, i < nd → T.σ.getD i 0 = c.slots.getD i 0) ∧
      ∀ k, nd ≤ k → k < T.vtys.length → o.lastid < T.σ.getD k 0 :=
  ⟨fun i hi => hs ▸ hext.1 i (by rw [hs, hp.nslots]; exact hi),
    fun k hk hkv => hext.2 k (by rw [hs, hp.nslots]; exact hk) hkv⟩

theorem SInv.vars {T : Stat} {s : Store} {env : Env} {M : Mem}
    (inv : SInv T.M0 T.S.cs T.cnts T.W T.σ T.vtys s env M) {slots : List Nat} {nd : Nat}
    (hpre : ∀ i, i < nd → T.σ.getD i 0 = slots.getD i 0) :
    VarsIn (setM T.S M) slots (T.vtys.take nd) s env ∧
      ∀ (i : Nat) (t : CSem.Ty) (v' : Int), (T.vtys.take nd)[i]? = some t → s[i]? = some (some v') →
        InRange (t.intTy T.S.cs) v' := by
  refine ⟨?_, fun i t v' ht hv' => inv.range i t v' (take_get ht).1 hv'⟩
  intro i t v' ht hv'
  obtain ⟨ht', hi⟩ := take_get ht
  obtain ⟨a, r, h1, h2, h3⟩ := inv.a.load T.S.cs (lt_of_get ht') ht' hv'
  exact ⟨a, r, by rw [← hpre i hi]; exact h1, h2, h3⟩

theorem SInv.frameS {T : Stat} {c : SCtx} {nd : Nat} (hn : c.slots.length = nd)
    (hl : ∀ i, i < nd → c.slots.getD i 0 ≤ c.lastid) {o : SCtx}
    (hext : Ext T o) (hs : o.slots = c.slots) {hi : Nat} (hle : hi ≤ o.lastid) {s : Store} {env env' : Env} {M : Mem}
    (hf : Frame c.lastid hi env env') (inv : SInv T.M0 T.S.cs T.cnts T.W T.σ T.vtys s env M) :
    SInv T.M0 T.S.cs T.cnts T.W T.σ T.vtys s env' M := by
  refine inv.env fun k hk => hf _ ?_
  by_cases hkn : k < nd
  · left; rw [hext.1 k (by rw [hs, hn]; exact hkn), hs]; exact hl k hkn
  · right; exact Nat.lt_of_le_of_lt hle (hext.2 k (by rw [hs, hn]; omega) hk)

theorem SInv.frame {T : Stat} {c : SCtx} {nd : Nat} {pre : List Item} (hp : Pos T c nd pre) {o : SCtx}
    (hext : Ext T o) (hs : o.slots = c.slots) {hi : Nat} (hle : hi ≤ o.lastid) {s : Store} {env env' : Env} {M : Mem}
    (hf : Frame c.lastid hi env env') (inv : SInv T.M0 T.S.cs T.cnts T.W T.σ T.vtys s env M) :
    SInv T.M0 T.S.cs T.cnts T.W T.σ T.vtys s env' M :=
  inv.frameS hp.nslots hp.le hext hs hle hf

/- With the items of a statement in right-nested form `pre ++ (a ++ (x :: (b ++ …)))`, these steps move the
   split point to the right; the lists are found by unification. -/

theorem its_app {its p a r : List Item} (h : its = p ++ (a ++ r)) : its = p ++ a ++ r := by
  rw [h, List.append_assoc]

theorem its_snoc {its p r : List Item} {x : Item} (h : its = p ++ x :: r) : its = (p ++ [x]) ++ r := by
  rw [h, List.append_assoc]; rfl

theorem its_mid {its p a b r : List Item} (h : its = p ++ (a ++ b) ++ r) : its = p ++ a ++ (b ++ r) := by
  rw [h]; simp only [List.append_assoc]

/-- `funcexpr` on a controlling expression without array reads and calls (`Expr`), the conversion of `funcjnz`, and the
    value branched on.  The controlling expressions of the statements are `Expr3`: `if` and the loops go through
    `sim_branch` (`Lower2If`), not through this. -/
theorem sim_condOut (T : Stat) {c : SCtx} {nd : Nat} {pre post : List Item} (hp : Pos T c nd pre)
    (e : Expr) (k : Nat)
    (hext : Ext T (((c.upd (exprOut T.S.cs c e).ctx).addBlocks k).upd
      (jnzOut T.S.cs ((c.upd (exprOut T.S.cs c e).ctx).addBlocks k) e.ty (exprOut T.S.cs c e).val).ctx))
    (hwt : e.wt (T.vtys.take nd) = true) {s : Store} {v : Int} (hev : evalE T.S.cs s e = some v)
    (hits : T.S.its = pre ++ (exprOut T.S.cs c e).items ++
      (jnzOut T.S.cs ((c.upd (exprOut T.S.cs c e).ctx).addBlocks k) e.ty (exprOut T.S.cs c e).val).items ++ post)
    {env : Env} {M : Mem} (inv : SInv T.M0 T.S.cs T.cnts T.W T.σ T.vtys s env M) :
    ∃ n env' r w, T.Reach n (T.at env M pre) (T.at env' M (pre ++ (exprOut T.S.cs c e).items ++
        (jnzOut T.S.cs ((c.upd (exprOut T.S.cs c e).ctx).addBlocks k) e.ty (exprOut T.S.cs c e).val).items)) ∧
      SInv T.M0 T.S.cs T.cnts T.W T.σ T.vtys s env' M ∧
      readVal T.S.p env' (jnzOut T.S.cs ((c.upd (exprOut T.S.cs c e).ctx).addBlocks k) e.ty
        (exprOut T.S.cs c e).val).val = .ok r ∧ r.asW = .ok w ∧ (w ≠ 0 ↔ v ≠ 0) := by
  have sj := jnzArg_straight T.S.cs ((c.upd (exprOut T.S.cs c e).ctx).addBlocks k).ctx e.ty
    (exprOut T.S.cs c e).val
  have ge := exprOut_good T.S.cs c e
  obtain ⟨hvars, hrange⟩ := inv.vars (hp.ext hext rfl).1
  obtain ⟨n, env', hreach, hfr, r, hval, w, hw, hwv⟩ := RunsTo.seq
    (run_expr2 (setM T.S M) c.slots (T.vtys.take nd) s hrange e c.ctx pre _ env v hwt hev
      (by rw [setM_its, hits, List.append_assoc]; rfl) hp.cur hp.curOK (fun i t ht => hp.le i (take_get ht).2) hvars)
    ge.lastid sj.lastid fun env1 r1 _ hv1 hp1 =>
      sim_jnzArg (setM T.S M) ((c.upd (exprOut T.S.cs c e).ctx).addBlocks k).ctx e.ty (exprOut T.S.cs c e).val
        (pre ++ (exprOut T.S.cs c e).items) post env1 v r1 hits hv1 hp1.1 hp1.2
  refine ⟨n, env', r, w, by rw [List.append_assoc]; exact hreach, ?_, hval, hw, hwv⟩
  exact inv.frame hp hext rfl (Nat.le_refl _) hfr

/-- Where the run of a statement ends, by outcome of the C execution: after its items (position `pos`), at the label
    `break` / `continue` jump to, or at a `ret` that delivers the value. -/
def Done (T : Stat) (brk cont : String) (st0 : State) (pos : List Item) :
    CSem2.Outcome → Prop
  | .normal s' => ∃ n env' M', T.Reach n st0 (T.at env' M' pos) ∧ SInv T.M0 T.S.cs T.cnts T.W T.σ T.vtys s' env' M'
  | .brk s' => ∃ n env' M' st, SInv T.M0 T.S.cs T.cnts T.W T.σ T.vtys s' env' M' ∧ T.Reach n st0 st ∧
      AtLabel T.S brk env' M' st
  | .cont s' => ∃ n env' M' st, SInv T.M0 T.S.cs T.cnts T.W T.σ T.vtys s' env' M' ∧ T.Reach n st0 st ∧
      AtLabel T.S cont env' M' st
  | .ret v => InRange (T.ret.intTy T.S.cs) v ∧
      ∃ n st r, T.Reach n st0 st ∧ step T.S.p T.S.ext st = T.exit r ∧ RetRep T.ret v r

theorem Done.prepend {T : Stat} {brk cont : String} {st0 st1 : State} {pos : List Item}
    {out : CSem2.Outcome} {m : Nat} (hr : T.Reach m st0 st1)
    (h : Done T brk cont st1 pos out) : Done T brk cont st0 pos out := by
  cases out with
  | normal s' =>
    obtain ⟨n, env', M', h1, h2⟩ := h
    exact ⟨m + n, env', M', hr.trans h1, h2⟩
  | brk s' =>
    obtain ⟨n, env', M', st, h1, h2, h3⟩ := h
    exact ⟨m + n, env', M', st, h1, hr.trans h2, h3⟩
  | cont s' =>
    obtain ⟨n, env', M', st, h1, h2, h3⟩ := h
    exact ⟨m + n, env', M', st, h1, hr.trans h2, h3⟩
  | ret v =>
    obtain ⟨hrg, n, st, r, h1, h2, h3⟩ := h
    exact ⟨hrg, m + n, st, r, hr.trans h1, h2, h3⟩

theorem Done.move {T : Stat} {brk cont : String} {st0 : State} {pos pos' : List Item}
    {out : CSem2.Outcome} (h : Done T brk cont st0 pos out) (hn : ∀ s', out ≠ .normal s') :
    Done T brk cont st0 pos' out := by
  cases out with
  | normal s' => exact absurd rfl (hn s')
  | brk s' => exact h
  | cont s' => exact h
  | ret v => exact h

/-- a `switch` turns the `break` of its body into normal completion at `switch_join` -/
theorem Done.catch_brk {T : Stat} {lj cont brk : String} {st0 : State} {p' post' : List Item} {t' : Option Jump}
    {out : CSem2.Outcome} (h : Done T lj cont st0 (p' ++ [.lbl t' lj []]) out)
    (hits : T.S.its = p' ++ .lbl t' lj [] :: post') :
    Done T brk cont st0 (p' ++ [.lbl t' lj []]) (match out with | .brk s' => .normal s' | o => o) := by
  cases out with
  | brk s' =>
    obtain ⟨n, env', M', st, inv', hr, hat⟩ := h
    exact ⟨n, env', M', atLabel_item T hits hat ▸ hr, inv'⟩
  | _ => exact h

/-- What the run of the items of a statement (ending at position `pos` with context `o`) achieves: a statement that
    completes normally has set no jump; `break`, `continue` and `return` have executed theirs (`TermAt`), so every other
    outcome has left the statement. -/
def Post (T : Stat) (brk cont : String) (st0 : State) (pos : List Item) (o : SCtx)
    (out : CSem2.Outcome) : Prop :=
  Done T brk cont st0 pos out ∧ ∀ s', out = .normal s' → o.jump = none

theorem Done.post {T : Stat} {brk cont : String} {st0 : State} {pos : List Item} {o : SCtx}
    {out : CSem2.Outcome} (h : Done T brk cont st0 pos out) (hj : o.jump = none) :
    Post T brk cont st0 pos o out := ⟨h, fun _ _ => hj⟩

theorem Post.prepend {T : Stat} {brk cont : String} {st0 st1 : State} {pos : List Item}
    {o : SCtx} {out : CSem2.Outcome} {m : Nat} (hr : T.Reach m st0 st1)
    (h : Post T brk cont st1 pos o out) : Post T brk cont st0 pos o out :=
  ⟨h.1.prepend hr, h.2⟩

theorem Post.abnormal {T : Stat} {brk cont : String} {st0 : State} {pos pos' : List Item}
    {o o' : SCtx} {out : CSem2.Outcome} (h : Post T brk cont st0 pos o out)
    (hn : ∀ s', out ≠ .normal s') : Post T brk cont st0 pos' o' out :=
  ⟨h.1.move hn, fun s' hs => absurd hs (hn s')⟩

theorem Post.close {T : Stat} {brk cont : String} {st0 : State} {pos post : List Item}
    {o : SCtx} {out : CSem2.Outcome} (h : Post T brk cont st0 pos o out) {l : String}
    (hits : T.S.its = pos ++ .lbl o.jump l [] :: post) :
    Done T brk cont st0 (pos ++ [.lbl o.jump l []]) out := by
  cases out with
  | normal s' =>
    obtain ⟨⟨n, env', M', h1, h2⟩, hj⟩ := h
    rw [hj s' rfl] at hits ⊢
    exact ⟨n + 1, env', M', h1.trans (Reach.one (step_fall_item T hits env' M')), h2⟩
  | _ => exact h.1

/-- `funcjmp(l')` precedes the label: after a normal outcome control goes to `l'`.  For the other outcomes `Done` does
    not depend on the position (`Done.move`): `[]` stands for any. -/
theorem Post.closeJmp {T : Stat} {brk cont : String} {st0 : State} {pos post : List Item}
    {o : SCtx} {out : CSem2.Outcome} (h : Post T brk cont st0 pos o out) {l l' : String}
    (hits : T.S.its = pos ++ .lbl (some (o.jump.getD (.jmp l'))) l [] :: post) (hl' : CanJump T.S l') :
    match out with
    | .normal s' => ∃ n env' M' st, T.Reach n st0 st ∧ AtLabel T.S l' env' M' st ∧
        SInv T.M0 T.S.cs T.cnts T.W T.σ T.vtys s' env' M'
    | out => Done T brk cont st0 [] out := by
  cases out with
  | normal s' =>
    obtain ⟨⟨n, env', M', h1, h2⟩, hj⟩ := h
    rw [hj s' rfl] at hits
    obtain ⟨st, hs, hat⟩ := step_jmp_item T hits hl' env' M'
    exact ⟨n + 1, env', M', st, h1.trans (Reach.one hs), hat, h2⟩
  | _ => exact h.1

theorem Post.closeJmpAt {T : Stat} {brk cont : String} {st0 : State}
    {pos post p' post' : List Item} {o : SCtx} {out : CSem2.Outcome} (h : Post T brk cont st0 pos o out)
    {l l' : String} {t' : Option Jump}
    (hits : T.S.its = pos ++ .lbl (some (o.jump.getD (.jmp l'))) l [] :: post)
    (hits' : T.S.its = p' ++ .lbl t' l' [] :: post') :
    Done T brk cont st0 (p' ++ [.lbl t' l' []]) out := by
  have cj := h.closeJmp hits (canJump_item T.S hits')
  cases out with
  | normal s' =>
    obtain ⟨k, env', M', st, hr, hat, inv'⟩ := cj
    rw [atLabel_item T hits' hat] at hr
    exact ⟨k, env', M', hr, inv'⟩
  | _ => exact cj

end CprocVerif.LowerMach2
