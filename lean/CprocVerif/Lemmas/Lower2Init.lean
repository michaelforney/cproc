/-
  C01, fragment 𝔽₂ — the initialiser of one element of a local array (`T a[n] = {…};`, `funcinit`): the address
  of the element by a constant offset, the value, the store.
-/
import CprocVerif.Lemmas.Lower2Expr3

set_option linter.unusedSimpArgs false

namespace CprocVerif.LowerMach2
open CprocVerif.Qbe CprocVerif.Lower CprocVerif.Lower2 CprocVerif.CSem CprocVerif.CSem2 CprocVerif.CInt
open CprocVerif.LowerArith CprocVerif.LowerMach CprocVerif.LowerMem

theorem sim_initAddr (T : Stat) (k : Ctx) (slot : Nat) (t : CSem.Ty) (j : Nat) (a : UInt64)
    {pre post : List Item} {env : Env} {M : Mem}
    (hslot : env[tmpName slot]? = some ⟨.l, a⟩) (hsl : slot ≤ k.lastid)
    (hb : a.toNat + j * t.size < 2 ^ 64)
    (hits : T.S.its = pre ++ (initAddr k slot t j).items ++ post) :
    ∃ n0 env0 ra q, T.Reach n0 (T.at env M pre) (T.at env0 M (pre ++ (initAddr k slot t j).items)) ∧
      Frame k.lastid (initAddr k slot t j).ctx.lastid env env0 ∧
      (initAddr k slot t j).val = .tmp (tmpName q) ∧ q ≤ (initAddr k slot t j).ctx.lastid ∧
      env0[tmpName q]? = some ⟨.l, ra⟩ ∧ ra.toNat = a.toNat + j * t.size := by
  unfold initAddr at hits ⊢
  by_cases hj : j = 0
  · simp only [hj, if_true, List.append_nil] at hits ⊢
    exact ⟨0, env, a, slot, rfl, Frame.refl _ _ _, rfl, hsl, hslot, by omega⟩
  · simp only [hj, if_false] at hits ⊢
    have hjn : (UInt64.ofNat (j * t.size)).toNat = j * t.size := by
      rw [UInt64.toNat_ofNat']; exact Nat.mod_eq_of_lt (by omega)
    obtain ⟨n0, env0, hreach, hfr, r, hval, hr⟩ := run_funcinst (setM T.S M) k .add .l
      [.tmp (tmpName slot), .int (UInt64.ofNat (j * t.size))]
      (P := fun r => r = ⟨.l, a + UInt64.ofNat (j * t.size)⟩) hits
      (readVals_two (readVal_tmp hslot) (readVal_int _ _ _))
      (exec_arith (Or.inl rfl) _ none (x := a) (y := UInt64.ofNat (j * t.size))
        (z := a + UInt64.ofNat (j * t.size)) rfl rfl rfl) rfl
    subst hr
    refine ⟨n0, env0, a + UInt64.ofNat (j * t.size), k.lastid + 1, hreach, hfr, rfl, Nat.le_refl _, ?_, ?_⟩
    · exact readVal_tmp_inv hval
    · rw [UInt64.toNat_add, hjn]; exact Nat.mod_eq_of_lt hb

section
variable (T : Stat) {s : Store} {out : CSem2.Outcome} {lp : Bool × Bool} {brk cont : String} {c : SCtx}
  {nd nd' : Nat} {pre post : List Item} {env : Env} {M : Mem}

theorem sim_ainit (n : Nat) (hc : FuncSim T n) (arr : Nat) (t : CSem.Ty) (cnt xb j : Nat) (e : Expr3) :
    SimOf T (n + 1) (.ainit arr t cnt xb j e) := by
  intro s out lp brk cont c nd nd' pre post env M hex hfr hwt hp hext hits _ _ inv
  simp only [exec] at hex
  split at hex
  · rename_i hjn
    simp only [Option.map_eq_some_iff] at hex
    obtain ⟨v, hevv, rfl⟩ := hex
    simp only [frag, Bool.and_eq_true, decide_eq_true_eq] at hfr
    obtain ⟨⟨⟨⟨_, hcn⟩, hxb⟩, hfe⟩, hWa⟩ := hfr
    subst hxb
    simp only [Stmt.wt] at hwt
    split at hwt
    · rename_i hw
      obtain ⟨harr, hkt, hty, hwe⟩ := hw
      have he : j < T.cnts.getD arr 1 := by simp only [List.getD, hcn, Option.getD_some]; exact hjn
      obtain ⟨oa, hoa⟩ : ∃ oa, initAddr c.ctx (c.slots.getD arr 0) t j = oa := ⟨_, rfl⟩
      have s1 := hoa ▸ initAddr_straight c.ctx (c.slots.getD arr 0) t j
      obtain ⟨oe, hoe⟩ : ∃ oe, funcexpr3 T.S.cs c.slots e oa.ctx = oe := ⟨_, rfl⟩
      simp only [funcstmt, funcopen_none hp.jump, List.nil_append, hoa, hoe] at hext hits ⊢
      simp only [List.append_assoc, List.cons_append, List.nil_append] at hits
      have hl1 := s1.lastid
      have hl2 : oa.ctx.lastid ≤ oe.ctx.lastid := hoe ▸ (exprOut3_good T.S.cs (c.upd oa.ctx) e).lastid
      obtain ⟨hpre, hfut⟩ := hp.ext hext rfl
      have hfut0 : ∀ k, nd ≤ k → k < T.vtys.length → oa.ctx.lastid < T.σ.getD k 0 := fun k hk hkv =>
        Nat.lt_of_le_of_lt hl2 (hfut k hk hkv)
      obtain ⟨a, h1, hwa⟩ := inv.a.window (lt_of_get hkt) hkt
      obtain ⟨n0, env0, ra, q, hreach0, hfr0, hqv, hql, hq, hra⟩ := sim_initAddr T c.ctx (c.slots.getD arr 0) t j a
        (M := M) (hpre arr harr ▸ h1) (hp.le arr harr) (hwa.elem_lt he) (hoa ▸ its_app hits)
      rw [hoa] at hreach0 hfr0 hqv hql
      have inv0 : SInv T.M0 T.S.cs T.cnts T.W T.σ T.vtys s env0 M := inv.env (slots_kept hp hpre hfut0 hfr0)
      have hp1 : Pos T (c.upd oa.ctx) nd (pre ++ oa.items) :=
        ⟨hp.jump, (curOf_append_allIns _ _ _ s1.allIns).trans (hp.cur.trans s1.cur.symm),
          by obtain ⟨name, i, g1, g2⟩ := hp.curOK
             exact ⟨name, i, s1.cur.trans g1, s1.blockid.symm ▸ g2⟩, hp.nslots,
          fun i hi => Nat.le_trans (hp.le i hi) hl1⟩
      have h2' := its_app (its_app hits)
      have hoe' : exprOut3 T.S.cs (c.upd oa.ctx) e = oe := hoe
      obtain ⟨n1, env1, r, hreach1, inv1, hfr1, hval1, hrep1, hrgv⟩ := sim_exprOut3 T n hc hp1 e
        (hoe' ▸ hext) hwe hfe hevv (hoe' ▸ h2') inv0
      rw [hoe'] at hreach1 hfr1 hval1
      rw [hty] at hrep1 hrgv
      obtain ⟨M', hst, inv2⟩ := inv1.storeAt hkt hWa he hrgv (storeVal_of_rep hrep1)
        (((slots_kept hp1 hpre hfut hfr1 arr (lt_of_get hkt)).trans
          (slots_kept hp hpre hfut0 hfr0 arr (lt_of_get hkt))).trans h1)
      have hr3 := run_nores T h2' (readVals_two hval1 (hqv ▸ readVal_tmp ((hfr1 q (Or.inl hql)).trans hq)))
        (hst ⟨.l, ra⟩ (by rw [← hra]; simp))
      exact ⟨⟨n0 + n1 + 1, env1, M', by
        simpa only [List.append_assoc, List.cons_append, List.nil_append] using (hreach0.trans hreach1).trans hr3,
        inv2⟩, fun _ _ => hp.jump⟩
    · cases hwt
  · cases hex

end

end CprocVerif.LowerMach2
