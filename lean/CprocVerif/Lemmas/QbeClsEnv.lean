import CprocVerif.Lemmas.QbeClsOp
import CprocVerif.Lemmas.QbeClsMach

/-!
  C03, classes: the ends that are not class mismatches, the run-time typing invariant of
  environments (`EnvTyped`), and the kinds of operands read from a typed environment.
-/

namespace CprocVerif.C03.Cls
open CprocVerif.Qbe

theorem not_classStuck_of_ne {e : End} (h : ∀ s, e ≠ .stuck (.other s)) : ¬ ClassStuck e := by
  rintro ⟨w, _, rfl⟩
  exact h _ rfl

theorem not_classStuck_stuck {r : StuckReason} (h : ∀ s, r ≠ .other s) :
    ¬ ClassStuck (.stuck r) :=
  not_classStuck_of_ne fun s hs => h s (End.stuck.inj hs)

theorem not_classStuck_ret (v : RetVal) : ¬ ClassStuck (.ret v) := not_classStuck_of_ne nofun
theorem not_classStuck_trap (v : String) : ¬ ClassStuck (.trap v) := not_classStuck_of_ne nofun
theorem not_classStuck_unknownExtern (v : String) : ¬ ClassStuck (.unknownExtern v) :=
  not_classStuck_of_ne nofun
theorem not_classStuck_fuel : ¬ ClassStuck .fuel := not_classStuck_of_ne nofun

theorem not_classStuck_of_not_clsErr {e : OpErr} (h : ¬ ClsErr e) : ¬ ClassStuck e.toEnd :=
  fun hc => h (classStuck_toEnd hc)

/-- 99 is `c`, the first byte of `"class mismatch: "` (`OpErr.toEnd`). -/
theorem not_classStuck_other {s : String} (h : s.toByteArray.data.toList.head? ≠ some 99) :
    ¬ ClassStuck (.stuck (.other s)) := by
  rintro ⟨w, _, he⟩
  cases he
  rw [String.toByteArray_append, ByteArray.data_append, Array.toList_append] at h
  exact h rfl

theorem not_classStuck_noFunc (name : String) :
    ¬ ClassStuck (.stuck (.other ("no such function: " ++ name))) := by
  refine not_classStuck_other ?_
  rw [String.toByteArray_append, ByteArray.data_append, Array.toList_append, List.head?_append,
    show "no such function: ".toByteArray.data.toList.head? = some 110 by decide]
  nofun

variable {p : Prog} {tc : ClsMap} {env : Env}

theorem not_classStuck_readVal {v : Val} {r : StuckReason}
    (h : readVal p env v = .error r) : ¬ ClassStuck (.stuck r) := by
  obtain ⟨t, _, rfl, _⟩ := readVal_error h
  exact not_classStuck_stuck nofun

theorem not_classStuck_readVals {vs : List Val} {r : StuckReason}
    (h : readVals p env vs = .error r) : ¬ ClassStuck (.stuck r) := by
  obtain ⟨t, _, rfl, _⟩ := readVals_error h
  exact not_classStuck_stuck nofun

/-- The run-time typing invariant.  `Kind.u`: the undefined result of a call whose callee returned no
    value. -/
def EnvTyped (tc : ClsMap) (env : Env) : Prop :=
  ∀ (t : String) (v : RVal) (c : Cls), env[t]? = some v → tc[t]? = some c →
    v.kind = c.kind ∨ v.kind = Kind.u

theorem envTyped_empty (tc : ClsMap) : EnvTyped tc {} := by
  intro t v c h
  simp at h

theorem envTyped_insert (h : EnvTyped tc env) {x : String} {v : RVal}
    (hv : ∀ c, tc[x]? = some c → v.kind = c.kind ∨ v.kind = .u) :
    EnvTyped tc (env.insert x v) := by
  intro t v' c ht hc
  rw [Std.HashMap.getElem?_insert] at ht
  split at ht
  · rename_i hx
    have : x = t := by simpa using hx
    subst this
    cases ht
    exact hv c hc
  · exact h t v' c ht hc

theorem Cls.kind_inj {a b : Cls} (h : a.kind = b.kind) : a = b := by
  cases a <;> cases b <;> first | rfl | cases h

theorem kindOk_self (k : Cls) : kindOk k k.kind = true := by cases k <;> rfl

theorem readVal_kind (h : EnvTyped tc env) {k : Cls}
    {v : Val} {r : RVal} (ha : argOk tc k v = true) (hr : readVal p env v = .ok r) :
    kindOk k r.kind = true := by
  cases v with
  | tmp t =>
    simp only [readVal] at hr
    split at hr
    · rename_i v' hv'
      cases hr
      simp only [argOk] at ha
      split at ha
      · rename_i c hc
        rcases h t r c hv' hc with hk | hk
        · rw [hk]
          cases k <;> cases c <;> first | rfl | cases ha
        · rw [hk]; rfl
      · cases ha
    · cases hr
  | _ => cases hr; cases k <;> first | rfl | cases ha

theorem readVals_kinds (h : EnvTyped tc env) {ks : List Cls}
    {vs : List Val} {rs : List RVal} (ha : argsOk tc ks vs = true)
    (hr : readVals p env vs = .ok rs) : kindsOk ks rs = true := by
  induction vs generalizing ks rs with
  | nil =>
    cases hr
    cases ks with
    | nil => rfl
    | cons k ks => cases ha
  | cons v vs ih =>
    cases ks with
    | nil => cases ha
    | cons k ks =>
      obtain ⟨r, rs', rfl, hrv, hrs⟩ := readVals_cons_ok hr
      simp only [argsOk, Bool.and_eq_true] at ha
      simp only [kindsOk, Bool.and_eq_true]
      exact ⟨readVal_kind h ha.1 hrv, ih ha.2 hrs⟩

theorem zipTys_typed (h : EnvTyped tc env)
    {args : List (Ty × Val)} {avs : List RVal} (ha : ∀ a ∈ args, argOk tc a.1.cls a.2 = true)
    (hr : readVals p env (args.map (·.2)) = .ok avs) :
    avs.length = args.length ∧ (zipTys args avs).map (·.1) = args.map (·.1) ∧
    ∀ a ∈ zipTys args avs, kindOk a.1.cls a.2.kind = true := by
  induction args generalizing avs with
  | nil =>
    cases hr
    exact ⟨rfl, rfl, fun _ h => by cases h⟩
  | cons a args ih =>
    obtain ⟨t, v⟩ := a
    obtain ⟨r, rs', rfl, hrv, hrs⟩ := readVals_cons_ok hr
    obtain ⟨h1, h2, h3⟩ := ih (fun a ha' => ha a (.tail _ ha')) hrs
    refine ⟨congrArg (· + 1) h1, congrArg (t :: ·) h2, fun b hb => ?_⟩
    rcases List.mem_cons.1 hb with rfl | hb
    · exact readVal_kind h (ha (t, v) (.head _)) hrv
    · exact h3 b hb

end CprocVerif.C03.Cls
