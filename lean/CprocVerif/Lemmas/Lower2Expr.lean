/-
  C01, fragment 𝔽₂ — simulation of expressions over variables in stack slots: the store-based evaluator
  `CSem2.evalE` (indeterminate objects) against the two-sided frame of `Lemmas/Lower2Sim.lean`.  The shapes of
  the lowering (cast, negation, arithmetic, `&&`/`||`, `?:`, sequence) are combinators on lowering steps (`Sims`);
  `sims_expr3` applies one per case of `Lower2.funcexpr3`.  The array reads and the calls are leaves whose simulation
  is a hypothesis (it needs the memory and the other activations: `Lemmas/Lower2Expr3.lean`); the result carries its
  range, so that no separate type-soundness argument for the values of calls is needed.
-/
import CprocVerif.Lemmas.Lower2Sim
import CprocVerif.Lemmas.Lower2Struct

set_option linter.unusedSimpArgs false

namespace CprocVerif.LowerMach2
open CprocVerif.Qbe CprocVerif.Lower CprocVerif.Lower2 CprocVerif.CSem CprocVerif.CSem2 CprocVerif.CInt
open CprocVerif.LowerArith CprocVerif.LowerMach

theorem join_some {s : Store} {i : Nat} {v : Int} (h : (s[i]?).join = some v) : s[i]? = some (some v) := by
  cases hs : s[i]? with
  | none => rw [hs] at h; cases h
  | some o =>
    rw [hs] at h
    cases o with
    | none => cases h
    | some w =>
      have h' : some w = some v := h
      cases h'; rfl

theorem binTyped_of_wt {op : BinOp} {t lt rt : CSem.Ty} (hop : isLogic op = false)
    (h : (if isLogic op then t == .int
      else if op.isShift then lt == t && t.promoted && rt.promoted
      else if op.isCmp then lt == rt && lt.promoted && t == .int
      else lt == t && rt == t && t.promoted) = true) : BinTyped op t lt rt := by
  unfold BinTyped
  simp only [hop, Bool.false_eq_true, if_false] at h
  split <;> rename_i h1
  · simpa [h1, and_assoc] using h
  · split <;> rename_i h2
    · simpa [h1, h2, and_assoc] using h
    · simpa [h1, h2, and_assoc] using h

theorem bin_res_inRange (cs : Bool) {op : BinOp} {t lt rt : CSem.Ty} (hty : BinTyped op t lt rt)
    {a b v : Int} (ha : InRange (lt.intTy cs) a) (hb : InRange (rt.intTy cs) b)
    (h : bin op (lt.intTy cs) a b = some v) : InRange (t.intTy cs) v := by
  unfold BinTyped at hty
  by_cases hs : op.isShift = true
  · rw [if_pos hs] at hty
    obtain ⟨h1, h3, _⟩ := hty
    subst h1
    have := bin_inRange (ty_arith cs h3) op ha (fun h' => by rw [hs] at h'; cases h') h
    have hc : op.isCmp = false := by cases op <;> first | rfl | cases hs
    rw [binResTy, hc] at this
    exact this
  · rw [if_neg hs] at hty
    by_cases hc : op.isCmp = true
    · rw [if_pos hc] at hty
      obtain ⟨h1, h3, h4⟩ := hty
      subst h4
      have := bin_inRange (ty_arith cs h3) op ha (fun _ => h1 ▸ hb) h
      rw [binResTy, if_pos hc] at this
      exact this
    · rw [if_neg hc] at hty
      obtain ⟨h1, h3, h4⟩ := hty
      subst h1 h3
      have := bin_inRange (ty_arith cs h4) op ha (fun _ => hb) h
      rw [binResTy, if_neg hc] at this
      exact this

theorem arith_evalE3 {cs : Bool} {callf : String → List Int → Option Int} {s : Store} {op : BinOp}
    (hop : isLogic op = false) {t : CSem.Ty} {l r : Expr3} {v : Int}
    (h : evalE3 cs callf s (.bin op t l r) = some v) :
    ∃ a b, evalE3 cs callf s l = some a ∧ evalE3 cs callf s r = some b ∧
      bin op (l.ty.intTy cs) a b = some v := by
  cases op <;> simp only [isLogic, Bool.true_eq_false] at hop <;>
    simp only [evalE3, Option.bind_eq_some_iff] at h <;>
    obtain ⟨a, ha, b, hb, h⟩ := h <;> exact ⟨a, b, ha, hb, h⟩

/-- What `||` (`isOr`) / `&&` yields on the left operand `a`: the left operand decides, or the value is the truth
    value of a right operand `b` of which `Q` holds. -/
def LogicSC (isOr : Bool) (a v : Int) (Q : Int → Prop) : Prop :=
  if (isOr == decide (a ≠ 0)) = true then v = (if isOr = true then 1 else 0)
  else ∃ b, Q b ∧ v = b2i (decide (b ≠ 0))

theorem LogicSC.mono {isOr : Bool} {a v : Int} {Q Q' : Int → Prop} (h : LogicSC isOr a v Q)
    (hq : ∀ b, Q b → Q' b) : LogicSC isOr a v Q' := by
  unfold LogicSC at h ⊢
  split at h
  · rwa [if_pos ‹_›]
  · rw [if_neg ‹_›]
    obtain ⟨b, hb, hv⟩ := h
    exact ⟨b, hq b hb, hv⟩

theorem LogicSC.inRange {isOr : Bool} {a v : Int} {Q : Int → Prop} (h : LogicSC isOr a v Q) :
    InRange IntTy.int v := by
  unfold LogicSC at h
  split at h
  · subst h; cases isOr <;> decide
  · obtain ⟨b, _, rfl⟩ := h; exact inRange_b2i_int _

theorem logicSC_spec (isOr : Bool) {a : Int} {rb : Option Int} {v : Int}
    (h : (if isOr = true then lorSC a rb else landSC a rb) = some v) :
    LogicSC isOr a v fun b => rb = some b := by
  cases isOr <;> simp only [LogicSC, Bool.false_eq_true, if_false, if_true, lorSC, landSC] at h ⊢ <;>
    by_cases ha : a = 0 <;> simp [ha] at h ⊢
  · exact h.symm
  · obtain ⟨b, hb, rfl⟩ := h; exact ⟨b, hb, rfl⟩
  · obtain ⟨b, hb, rfl⟩ := h; exact ⟨b, hb, rfl⟩
  · exact h.symm

theorem logicSC_inRange (isOr : Bool) {a : Int} {rb : Option Int} {v : Int}
    (h : (if isOr = true then lorSC a rb else landSC a rb) = some v) : InRange IntTy.int v :=
  (logicSC_spec isOr h).inRange

theorem logic_evalE3 (cs : Bool) (callf : String → List Int → Option Int) (s : Store) (op : BinOp) (hop : isLogic op = true) (t : CSem.Ty)
    (l r : Expr3) (v : Int) (h : evalE3 cs callf s (.bin op t l r) = some v) :
    ∃ a, evalE3 cs callf s l = some a ∧ LogicSC (op == .lor) a v fun b => evalE3 cs callf s r = some b := by
  cases op <;> simp only [isLogic, Bool.false_eq_true] at hop <;>
    simp only [evalE3, Option.bind_eq_some_iff] at h <;> obtain ⟨a, ha, h2⟩ := h
  · exact ⟨a, ha, logicSC_spec true h2⟩
  · exact ⟨a, ha, logicSC_spec false h2⟩

theorem evalE_inRange (cs : Bool) (vtys : List CSem.Ty) (s : Store)
    (hs : ∀ (i : Nat) (t : CSem.Ty) (v : Int), vtys[i]? = some t → s[i]? = some (some v) →
      InRange (t.intTy cs) v)
    (e : Expr) : ∀ v, e.wt vtys = true → evalE cs s e = some v → InRange (e.ty.intTy cs) v := by
  induction e with
  | const t u =>
    intro v _ h
    simp only [evalE, Option.some.injEq] at h
    subst h
    exact wrap_inRange (ty_valid cs t) _
  | param t i =>
    intro v hw h
    simp only [Expr.wt, beq_iff_eq] at hw
    simp only [evalE] at h
    exact hs i t v hw (join_some h)
  | cast t e ih =>
    intro v _ h
    simp only [evalE, Option.map_eq_some_iff] at h
    obtain ⟨a, _, rfl⟩ := h
    exact wrap_inRange (ty_valid cs t) _
  | neg t e ih =>
    intro v _ h
    simp only [evalE, Option.bind_eq_some_iff] at h
    obtain ⟨a, _, h2⟩ := h
    exact arith_inRange (ty_valid cs t) h2
  | bin op t l r ihl ihr =>
    intro v hw h
    simp only [Expr.wt, Bool.and_eq_true] at hw
    obtain ⟨⟨hwl, hwr⟩, hty⟩ := hw
    cases hop : isLogic op
    · -- `h`, about `evalE`, is accepted for `evalE3` of the same node over `.pure` operands: they unfold alike
      obtain ⟨a, b, ha, hb, h2⟩ :=
        arith_evalE3 (callf := fun _ _ => none) (t := t) (l := .pure l) (r := .pure r) hop h
      exact bin_res_inRange cs (binTyped_of_wt hop hty) (ihl a hwl ha) (ihr b hwr hb) h2
    · simp only [hop, if_true, beq_iff_eq] at hty
      subst hty
      cases op <;> simp only [isLogic, Bool.false_eq_true] at hop <;>
        simp only [evalE, Option.bind_eq_some_iff] at h <;> obtain ⟨a, _, h2⟩ := h
      · exact logicSC_inRange true h2
      · exact logicSC_inRange false h2
  | cond t c a b ihc iha ihb =>
    intro v hw h
    simp only [Expr.wt, Bool.and_eq_true, beq_iff_eq] at hw
    obtain ⟨⟨⟨⟨_, hwa⟩, hwb⟩, hta⟩, htb⟩ := hw
    simp only [evalE, Option.bind_eq_some_iff] at h
    obtain ⟨vc, _, h2⟩ := h
    split at h2
    · have := iha v hwa h2; rwa [hta] at this
    · have := ihb v hwb h2; rwa [htb] at this

theorem wt_mono3 {a b : List CSem.Ty} (hab : ∀ (i : Nat) (t : CSem.Ty), a[i]? = some t → b[i]? = some t)
    (e : Expr3) : e.wt a = true → e.wt b = true := by
  induction e using Expr3.flatInduction with
  | const t u => exact id
  | param t i =>
    intro h
    simp only [Expr3.wt, Expr.wt, beq_iff_eq] at h ⊢
    exact hab i t h
  | idx hp t arr n xb i =>
    intro h
    simp only [Expr3.wt, Bool.and_eq_true, beq_iff_eq] at h ⊢
    exact ⟨hab arr t h.1, hp i h.2⟩
  | call hp rt fn args =>
    intro h
    simp only [Expr3.wt, List.all_eq_true] at h ⊢
    exact fun x hx => hp x (h x hx)
  | cast t e ih => exact ih
  | neg t e ih =>
    intro h
    simp only [Expr3.wt, Bool.and_eq_true] at h ⊢
    exact ⟨h.1, ih h.2⟩
  | bin op t l r ihl ihr =>
    intro h
    simp only [Expr3.wt, Bool.and_eq_true] at h ⊢
    exact ⟨⟨ihl h.1.1, ihr h.1.2⟩, h.2⟩
  | cond t c x y ihc ihx ihy =>
    intro h
    simp only [Expr3.wt, Bool.and_eq_true] at h ⊢
    exact ⟨⟨⟨⟨⟨ihc h.1.1.1.1.1, ihx h.1.1.1.1.2⟩, ihy h.1.1.1.2⟩, h.1.1.2⟩, h.1.2⟩, h.2⟩
  | comma t x y ihx ihy =>
    intro h
    simp only [Expr3.wt, Bool.and_eq_true] at h ⊢
    exact ⟨⟨ihx h.1.1, ihy h.1.2⟩, h.2⟩
  | pcast t e h => exact h
  | pneg t e h => exact h
  | pbin op t l r h => exact h
  -- `Expr3.wt` of `?:` has one more conjunct, `c.noIdx`, which is `true` for a pure `c`
  | pcond t c x y h => exact fun hw => (Bool.and_true _).symm.trans (h ((Bool.and_true _).trans hw))

theorem take_get {α : Type} {l : List α} {n i : Nat} {x : α} (h : (l.take n)[i]? = some x) :
    l[i]? = some x ∧ i < n := by
  rw [List.getElem?_take] at h
  split at h
  · exact ⟨h, by assumption⟩
  · cases h

theorem take_mono_wt3 {vtys : List CSem.Ty} {n m : Nat} (h : n ≤ m) (e : Expr3)
    (hw : e.wt (vtys.take n) = true) : e.wt (vtys.take m) = true := by
  refine wt_mono3 ?_ e hw
  intro i t hi
  obtain ⟨h1, h2⟩ := take_get hi
  rw [List.getElem?_take]
  simp [show i < m by omega, h1]

def RepIn (cs : Bool) (t : CSem.Ty) (v : Int) (r : RVal) : Prop := Rep t v r ∧ InRange (t.intTy cs) v

/-- Simulation of the lowering step `R` (a function of the context it starts from) wherever its items are placed; the
    invariant `I` of the environment is relative to the temporaries numbered so far. -/
def Sims (S : Sit) (I : Nat → Env → Prop) (R : Ctx → Out) (Q : RVal → Prop) : Prop :=
  ∀ (c : Ctx) (pre post : List Item) (env : Env), S.its = pre ++ (R c).items ++ post →
    curOf S.o0 pre = c.cur → CurOK c → I c.lastid env →
    RunsTo S c.lastid (R c).ctx.lastid env pre (R c).items (R c).val Q

section Combinators
variable {S : Sit} {I : Nat → Env → Prop} {E R : Ctx → Out} {P Q : RVal → Prop}

theorem Sims.andThen {B : Out → Out} (hE : Sims S I E P) (gE : ∀ c, Good c (E c))
    (lB : ∀ o, o.ctx.lastid ≤ (B o).ctx.lastid)
    (hB : ∀ (o : Out) (pre post : List Item) (env : Env) (r : RVal), S.its = pre ++ (B o).items ++ post →
      readVal S.p env o.val = .ok r → P r →
      RunsTo S o.ctx.lastid (B o).ctx.lastid env pre (B o).items (B o).val Q) :
    Sims S I (fun c => (E c).seq (B (E c))) Q := by
  intro c pre post env hits hcur hcok hi
  have hits1 : S.its = pre ++ (E c).items ++ ((B (E c)).items ++ post) := by
    rw [hits]; simp only [Out.seq, List.append_assoc]
  refine RunsTo.seq (hE c pre _ env hits1 hcur hcok hi) (gE c).lastid (lB _) ?_
  intro env1 r1 _ hv1 hp1
  exact hB (E c) _ post env1 r1 (by rw [hits]; simp only [Out.seq, List.append_assoc]) hv1 hp1

theorem sims_cast (t ety : CSem.Ty) {a : Int} (hE : Sims S I E (RepIn S.cs ety a)) (gE : ∀ c, Good c (E c)) :
    Sims S I (fun c => (E c).seq (convert S.cs (E c).ctx t ety (E c).val))
      (RepIn S.cs t (conv (ety.intTy S.cs) (t.intTy S.cs) a)) :=
  hE.andThen (B := fun o => convert S.cs o.ctx t ety o.val) gE (fun _ => (convert_straight _ _ _ _ _).lastid)
    fun o pre post env r hits hv hp =>
    (sim_convert S o.ctx t ety o.val pre post env a r hits hv hp.1 hp.2).weaken
      fun _ h => ⟨h.1, wrap_inRange (ty_valid S.cs t) _⟩

theorem sims_neg {t : CSem.Ty} (hpr : t.promoted = true) {a v : Int} (hv : un .neg (t.intTy S.cs) a = some v)
    (hE : Sims S I E (RepIn S.cs t a)) (gE : ∀ c, Good c (E c)) :
    Sims S I (fun c => (E c).seq (funcinst (E c).ctx .neg (cls t) [(E c).val])) (RepIn S.cs t v) :=
  hE.andThen (B := fun o => funcinst o.ctx .neg (cls t) [o.val]) gE (fun _ => (funcinst_straight _ _ _ _).lastid)
    fun o pre post env r hits hr hp => by
    obtain ⟨r', hx, hr'⟩ := neg_exec S.cs hpr S.M none hp.1 hv
    exact run_funcinst S _ _ _ _ hits (readVals_one hr) hx ⟨hr', arith_inRange (ty_valid S.cs t) hv⟩

variable (hI : ∀ {lo lo' : Nat} {env env' : Env}, I lo env → lo ≤ lo' → Agree lo env env' → I lo' env')
include hI

theorem Sims.seq (hE : Sims S I E P) (gE : ∀ c, Good c (E c)) (hR : Sims S I R Q) (gR : ∀ c, Good c (R c)) :
    Sims S I (fun c => (E c).seq (R (E c).ctx)) Q := by
  intro c pre post env hits hcur hcok hi
  have hits1 : S.its = pre ++ (E c).items ++ ((R (E c).ctx).items ++ post) := by
    rw [hits]; simp only [Out.seq, List.append_assoc]
  refine RunsTo.seq (hE c pre _ env hits1 hcur hcok hi) (gE c).lastid (gR _).lastid ?_
  intro env1 r1 hf _ _
  exact hR _ _ post env1 (by rw [hits]; simp only [Out.seq, List.append_assoc]) ((gE c).cur _ _ hcur)
    ((gE c).curOK hcok) (hI hi (gE c).lastid hf.agree)

theorem sims_op {P1 P2 : RVal → Prop} {o : Op} {k : Cls} (hE : Sims S I E P1) (gE : ∀ c, Good c (E c))
    (hR : Sims S I R P2) (gR : ∀ c, Good c (R c))
    (hx : ∀ r1 r2, P1 r1 → P2 r2 → ∃ rr, execOp o (some k) [r1, r2] S.M none = .ok (rr, S.M) ∧ Q rr) :
    Sims S I (fun c => ((E c).seq (R (E c).ctx)).seq
      (funcinst (R (E c).ctx).ctx o k [(E c).val, (R (E c).ctx).val])) Q := by
  intro c pre post env hits hcur hcok hi
  have gl := gE c
  have gr := gR (E c).ctx
  simp only [Out.seq] at hits ⊢
  have hits1 : S.its = pre ++ (E c).items ++ ((R (E c).ctx).items ++ ((funcinst (R (E c).ctx).ctx o k
      [(E c).val, (R (E c).ctx).val]).items ++ post)) := by rw [hits]; simp only [List.append_assoc]
  rw [List.append_assoc]
  refine RunsTo.seq (hE c pre _ env hits1 hcur hcok hi) gl.lastid
    (Nat.le_trans gr.lastid (funcinst_straight _ _ _ _).lastid) ?_
  intro env1 r1 hf1 hv1 hp1
  have hits2 : S.its = (pre ++ (E c).items) ++ (R (E c).ctx).items ++ ((funcinst (R (E c).ctx).ctx o k
      [(E c).val, (R (E c).ctx).val]).items ++ post) := by rw [hits]; simp only [List.append_assoc]
  refine RunsTo.seq (hR _ _ _ env1 hits2 (gl.cur _ _ hcur) (gl.curOK hcok) (hI hi gl.lastid hf1.agree))
    gr.lastid (funcinst_straight _ _ _ _).lastid ?_
  intro env2 r2 hf2 hv2 hp2
  have hv1' : readVal S.p env2 (E c).val = .ok r1 := by
    rw [readVal_agree gl.val hf2.agree]; exact hv1
  obtain ⟨rr, hx', hq⟩ := hx r1 r2 hp1 hp2
  exact run_funcinst S _ _ _ _ (post := post) (by rw [hits]; simp only [List.append_assoc])
    (readVals_two hv1' hv2) hx' hq

end Combinators

section Shapes
variable {S : Sit} {I : Nat → Env → Prop} {E R A B : Ctx → Out}
  (hI : ∀ {lo lo' : Nat} {env env' : Env}, I lo env → lo ≤ lo' → Agree lo env env' → I lo' env')
include hI

theorem sims_logic (isOr : Bool) (lty rty : CSem.Ty) {a v : Int}
    (hE : Sims S I E (RepIn S.cs lty a)) (gE : ∀ c, Good c (E c)) (gR : ∀ c, Good c (R c))
    (hsc : LogicSC isOr a v fun b => Sims S I R (RepIn S.cs rty b)) :
    Sims S I (fun c => logicOf S.cs isOr lty rty (E c) R) (RepIn S.cs .int v) := by
  intro c pre post env hits hcur hcok hi
  have hvint : InRange IntTy.int v := hsc.inRange
  have gl := gE c
  have hE' := hE c pre
  simp only [logicOf] at hits ⊢
  generalize E c = ol at hits gl hE' ⊢
  have sj := jnzArg_straight S.cs ⟨ol.ctx.lastid, ol.ctx.blockid + 2, ol.ctx.cur⟩ lty ol.val
  have hj := sim_jnzArg S ⟨ol.ctx.lastid, ol.ctx.blockid + 2, ol.ctx.cur⟩ lty ol.val
  generalize jnzArg S.cs ⟨ol.ctx.lastid, ol.ctx.blockid + 2, ol.ctx.cur⟩ lty ol.val = oj at hits sj hj ⊢
  have gr := gR ⟨oj.ctx.lastid, oj.ctx.blockid, lblName "logic_right" (ol.ctx.blockid + 1)⟩
  have hR' : ∀ b, Sims S I R (RepIn S.cs rty b) → _ :=
    fun b h => h ⟨oj.ctx.lastid, oj.ctx.blockid, lblName "logic_right" (ol.ctx.blockid + 1)⟩
  generalize R ⟨oj.ctx.lastid, oj.ctx.blockid, lblName "logic_right" (ol.ctx.blockid + 1)⟩ = or at hits gr hR' ⊢
  have sv := convert_straight S.cs or.ctx .bool rty or.val
  have hv := sim_convert S or.ctx .bool rty or.val
  generalize convert S.cs or.ctx .bool rty or.val = ov at hits sv hv ⊢
  have b1 := gl.blockid; have b2 := sj.blockid; have b3 := gr.blockid; have b4 := sv.blockid
  have l1 := gl.lastid; have l2 := sj.lastid; have l3 := gr.lastid; have l4 := sv.lastid
  simp only at b2 b3 l2 l3
  simp only [logicOut] at hits ⊢
  simp only [← List.append_assoc] at hits
  obtain ⟨k1, k2, k3⟩ : ol.ctx.blockid + 1 ≤ oj.ctx.blockid ∧ c.lastid ≤ oj.ctx.lastid ∧
      oj.ctx.lastid ≤ ov.ctx.lastid := by omega
  have hne : (oj.ctx.cur == ov.ctx.cur) = false := by
    rw [beq_eq_false_iff_ne]
    obtain ⟨n0, j0, h0, hj0⟩ := gl.curOK hcok
    obtain ⟨n2', j2, h3, h4⟩ := gr.curId "logic_right" (ol.ctx.blockid + 1) rfl
    intro heq'
    rw [sj.cur, sv.cur, h0, h3] at heq'
    have := lblName_inj heq'
    simp only at h4
    omega
  have h2 := its_shift hits
  have h1 := its_shift (its_shift (its_shift h2))
  obtain ⟨env1, hrun1, rj, hvj, w, hw, hwv⟩ := (RunsTo.seq (hE' _ env (its_shift h1) hcur hcok hi) l1 l2
    fun env1 r1 _ hv1 hp1 => hj _ _ env1 a r1 h1 hv1 hp1.1 hp1.2).run
  rw [← List.append_assoc] at hrun1
  have hgo := Goes.jnzSwap (next := lblName "logic_right" (ol.ctx.blockid + 1))
    (a := lblName "logic_right" (ol.ctx.blockid + 1)) (z := lblName "logic_join" (ol.ctx.blockid + 2)) isOr hvj hw
  unfold LogicSC at hsc
  rw [show decide (a ≠ 0) = (w != 0) by
    rw [Bool.eq_iff_iff]; simp only [decide_eq_true_eq, bne_iff_ne]; exact hwv.symm] at hsc
  by_cases hsc0 : (isOr == (w != 0)) = true
  · rw [if_pos hsc0] at hsc hgo
    obtain ⟨r', hco, hrep'⟩ := const01_rep isOr
    have hrun := (hrun1.mono (Nat.le_refl _) (by omega)).trans (Run.jump1 h1 h2 hgo
      (src := (oj.ctx.cur, .int (if isOr = true then 1 else 0)))
      (by rw [curOf_append_allIns _ _ _ sj.allIns, gl.cur _ _ hcur, sj.cur]; simp) (readVal_int _ _ _) hco
      (lo := c.lastid) (hi := ov.ctx.lastid + 1) (by omega) (Nat.le_refl _))
    simp only [List.append_assoc] at hrun ⊢
    exact hrun.runsTo (readVal_insert_self _ _ _ _) ⟨hsc ▸ hrep', hvint⟩
  · rw [if_neg hsc0] at hsc hgo
    obtain ⟨b, hR, rfl⟩ := hsc
    obtain ⟨env3, hrun3, rv, hvv, hrepv⟩ := (RunsTo.seq (hR' b hR _ _ env1 (its_shift h2) (curOf_lbl _ _ _ _ _)
      ⟨_, _, rfl, k1⟩ (hI hi k2 hrun1.frame.agree)) l3 l4 fun env3 r3 _ hv3 hp3 =>
        (hv _ _ env3 b r3 h2 hv3 hp3.1 hp3.2).weaken (fun _ h => h.2 rfl)).run
    rw [← List.append_assoc] at hrun3
    obtain ⟨r', hco, hrep'⟩ := rep_coerce ((rep_w int_size).2 hrepv.wrep)
    have hrun := (((hrun1.mono (Nat.le_refl _) (by omega)).trans (Run.jump0 h1 h1 hgo _ _)).trans
      (hrun3.mono k2 (by omega))).trans (Run.jump1 h2 h2 Goes.fall (src := (ov.ctx.cur, ov.val))
        (by rw [curOf_append_allIns _ _ _ sv.allIns, gr.cur _ _ (curOf_lbl _ _ _ _ _), ← sv.cur]; simp [hne]) hvv hco
        (lo := c.lastid) (hi := ov.ctx.lastid + 1) (by omega) (Nat.le_refl _))
    simp only [List.append_assoc] at hrun ⊢
    exact hrun.runsTo (readVal_insert_self _ _ _ _) ⟨hrep', hvint⟩

theorem sims_cond (t ety : CSem.Ty) {vc v : Int} (hE : Sims S I E (RepIn S.cs ety vc))
    (gE : ∀ c, Good c (E c)) (gA : ∀ c, Good c (A c)) (gB : ∀ c, Good c (B c))
    (hA : vc ≠ 0 → Sims S I A (RepIn S.cs t v)) (hB : ¬ vc ≠ 0 → Sims S I B (RepIn S.cs t v)) :
    Sims S I (fun c => condOf S.cs (cls t) ety c E A B) (RepIn S.cs t v) := by
  intro c pre post env hits hcur hcok hi
  have ge := gE ⟨c.lastid, c.blockid + 3, c.cur⟩
  have hE' := hE ⟨c.lastid, c.blockid + 3, c.cur⟩ pre
  simp only [condOf] at hits ⊢
  generalize E ⟨c.lastid, c.blockid + 3, c.cur⟩ = oc at hits ge hE' ⊢
  have sj := jnzArg_straight S.cs oc.ctx ety oc.val
  have hj := sim_jnzArg S oc.ctx ety oc.val
  generalize jnzArg S.cs oc.ctx ety oc.val = oj at hits sj hj ⊢
  have ga := gA ⟨oj.ctx.lastid, oj.ctx.blockid, lblName "cond_true" (c.blockid + 1)⟩
  have hA' := fun h => hA h ⟨oj.ctx.lastid, oj.ctx.blockid, lblName "cond_true" (c.blockid + 1)⟩
  generalize A ⟨oj.ctx.lastid, oj.ctx.blockid, lblName "cond_true" (c.blockid + 1)⟩ = oa at hits ga hA' ⊢
  have gb := gB ⟨oa.ctx.lastid, oa.ctx.blockid, lblName "cond_false" (c.blockid + 2)⟩
  have hB' := fun h => hB h ⟨oa.ctx.lastid, oa.ctx.blockid, lblName "cond_false" (c.blockid + 2)⟩
  generalize B ⟨oa.ctx.lastid, oa.ctx.blockid, lblName "cond_false" (c.blockid + 2)⟩ = ob at hits gb hB' ⊢
  have b1 := ge.blockid; have b2 := sj.blockid; have b3 := ga.blockid; have b4 := gb.blockid
  have l1 := ge.lastid; have l2 := sj.lastid; have l3 := ga.lastid; have l4 := gb.lastid
  simp only at b1 b3 b4 l1 l3 l4
  simp only [condOut] at hits ⊢
  simp only [← List.append_assoc] at hits
  have hcok0 : CurOK ⟨c.lastid, c.blockid + 3, c.cur⟩ := by
    obtain ⟨n, j, h1, h2⟩ := hcok; exact ⟨n, j, h1, Nat.le_trans h2 (Nat.le_add_right _ 3)⟩
  have hne : (oa.ctx.cur == ob.ctx.cur) = false := by
    rw [beq_eq_false_iff_ne]
    obtain ⟨n1', j1, h1, h2⟩ := ga.curId "cond_true" (c.blockid + 1) rfl
    obtain ⟨n2', j2, h3, h4⟩ := gb.curId "cond_false" (c.blockid + 2) rfl
    intro heq'
    rw [h1, h3] at heq'
    have := lblName_inj heq'
    simp only at h2 h4
    omega
  obtain ⟨k1, k2, k3, k4⟩ : c.blockid + 1 ≤ oj.ctx.blockid ∧ c.blockid + 2 ≤ oa.ctx.blockid ∧
      c.lastid ≤ oj.ctx.lastid ∧ c.lastid ≤ oa.ctx.lastid := by omega
  have h3 := its_shift hits
  have h2 := its_shift (its_shift h3)
  have h1 := its_shift (its_shift h2)
  obtain ⟨env1, hrun1, rj, hvj, w, hw, hwv⟩ := (RunsTo.seq (hE' _ env (its_shift h1) hcur hcok0 hi) l1 l2
    fun env1 r1 _ hv1 hp1 => hj _ _ env1 vc r1 h1 hv1 hp1.1 hp1.2).run
  rw [← List.append_assoc] at hrun1
  have hgo := Goes.jnz (next := lblName "cond_true" (c.blockid + 1)) (a := lblName "cond_true" (c.blockid + 1))
    (z := lblName "cond_false" (c.blockid + 2)) hvj hw
  by_cases hvc0 : vc ≠ 0
  · rw [show (w != 0) = true by simpa using hwv.2 hvc0, if_pos rfl] at hgo
    obtain ⟨env3, hrun3, ra, hva, hpa⟩ := (hA' hvc0 _ _ env1 h2 (curOf_lbl _ _ _ _ _) ⟨_, _, rfl, k1⟩
      (hI hi k3 hrun1.frame.agree)).run
    obtain ⟨r', hco, hr'⟩ := rep_coerce hpa.1
    have hrun := (((hrun1.mono (Nat.le_refl _) (by omega)).trans (Run.jump0 h1 h1 hgo _ _)).trans
      (hrun3.mono k3 (by omega))).trans (Run.jump1 h2 h3 (Goes.jmp _) (src := (oa.ctx.cur, oa.val))
        (by rw [ga.cur _ _ (curOf_lbl _ _ _ _ _)]; simp) hva hco (lo := c.lastid) (hi := ob.ctx.lastid + 1)
        (by omega) (Nat.le_refl _))
    simp only [List.append_assoc] at hrun ⊢
    exact hrun.runsTo (readVal_insert_self _ _ _ _) ⟨hr', hpa.2⟩
  · rw [show (w != 0) = false by simpa using fun h => hvc0 (hwv.1 h)] at hgo
    obtain ⟨env3, hrun3, rb, hvb, hpb⟩ := (hB' hvc0 _ _ env1 h3 (curOf_lbl _ _ _ _ _) ⟨_, _, rfl, k2⟩
      (hI hi k4 hrun1.frame.agree)).run
    obtain ⟨r', hco, hr'⟩ := rep_coerce hpb.1
    have hrun := (((hrun1.mono (Nat.le_refl _) (by omega)).trans (Run.jump0 h1 h2 hgo _ _)).trans
      (hrun3.mono k4 (by omega))).trans (Run.jump1 h3 h3 Goes.fall (src := (ob.ctx.cur, ob.val))
        (by rw [gb.cur _ _ (curOf_lbl _ _ _ _ _)]; simp [hne]) hvb hco (lo := c.lastid) (hi := ob.ctx.lastid + 1)
        (by omega) (Nat.le_refl _))
    simp only [List.append_assoc] at hrun ⊢
    exact hrun.runsTo (readVal_insert_self _ _ _ _) ⟨hr', hpb.2⟩

end Shapes

/-- the static conditions on the calls and array reads of an expression in the program `PP` with the element counts
    `cnts` -/
def eok (PP : List CSem2.Func) (cnts : List Nat) (e : Expr3) : Bool :=
  (PP.isEmpty || e.callsOK PP) && e.arrsOK cnts

/-- the hypothesis is what `eok` unfolds to on `.bin op t l r` and on `.comma t l r` alike -/
theorem eok_bin {PP : List CSem2.Func} {cnts : List Nat} {l r : Expr3}
    (h : ((PP.isEmpty || (l.callsOK PP && r.callsOK PP)) && (l.arrsOK cnts && r.arrsOK cnts)) = true) :
    eok PP cnts l = true ∧ eok PP cnts r = true := by
  simp only [eok, Bool.and_eq_true, Bool.or_eq_true] at h ⊢
  obtain ⟨h1, h2, h3⟩ := h
  rcases h1 with h1 | ⟨h1, h1'⟩
  · exact ⟨⟨Or.inl h1, h2⟩, ⟨Or.inl h1, h3⟩⟩
  · exact ⟨⟨Or.inr h1, h2⟩, ⟨Or.inr h1', h3⟩⟩

theorem eok_cond {PP : List CSem2.Func} {cnts : List Nat} {t : CSem.Ty} {c a b : Expr3}
    (h : eok PP cnts (.cond t c a b) = true) :
    eok PP cnts c = true ∧ eok PP cnts a = true ∧ eok PP cnts b = true := by
  simp only [eok, Expr3.callsOK, Expr3.arrsOK, Bool.and_eq_true, Bool.or_eq_true] at h ⊢
  obtain ⟨h1, ⟨h2, h3⟩, h4⟩ := h
  rcases h1 with h1 | ⟨⟨h1, h1'⟩, h1''⟩
  · exact ⟨⟨Or.inl h1, h2⟩, ⟨Or.inl h1, h3⟩, ⟨Or.inl h1, h4⟩⟩
  · exact ⟨⟨Or.inr h1, h2⟩, ⟨Or.inr h1', h3⟩, ⟨Or.inr h1'', h4⟩⟩

theorem sims_expr3 (S : Sit) (σ : List Nat) (vtys : List CSem.Ty) (s : Store)
    (hs : ∀ (i : Nat) (t : CSem.Ty) (v : Int), vtys[i]? = some t → s[i]? = some (some v) →
      InRange (t.intTy S.cs) v)
    (callf : String → List Int → Option Int)
    {I : Nat → Env → Prop}
    (hI : ∀ {lo lo' : Nat} {env env' : Env}, I lo env → lo ≤ lo' → Agree lo env env' → I lo' env')
    (hV : ∀ {lo : Nat} {env : Env}, I lo env → VarsIn S σ vtys s env)
    (PP : List CSem2.Func) (cnts : List Nat)
    (hX : ∀ (t : CSem.Ty) (arr n xb : Nat) (i : Expr) (v : Int),
      eok PP cnts (.idx t arr n xb i) = true → (Expr3.idx t arr n xb i).wt vtys = true →
      evalE3 S.cs callf s (.idx t arr n xb i) = some v →
      Sims S I (funcexpr3 S.cs σ (.idx t arr n xb i)) (RepIn S.cs t v))
    (hC : ∀ (rt : CSem.Ty) (fn : String) (args : List Expr) (v : Int),
      eok PP cnts (.call rt fn args) = true → (Expr3.call rt fn args).wt vtys = true →
      evalE3 S.cs callf s (.call rt fn args) = some v →
      Sims S I (funcexpr3 S.cs σ (.call rt fn args)) (RepIn S.cs rt v))
    (e : Expr3) : ∀ v, eok PP cnts e = true → e.wt vtys = true → evalE3 S.cs callf s e = some v →
      Sims S I (funcexpr3 S.cs σ e) (RepIn S.cs e.ty v) := by
  induction e using Expr3.flatInduction with
  | const t u =>
    intro v _ hwt hev c pre post env _ _ _ _
    simp only [evalE3, evalE, Option.some.injEq] at hev
    subst hev
    simp only [Expr3.wt, Expr.wt, Bool.and_eq_true, decide_eq_true_eq, Bool.or_eq_true, bne_iff_ne, ne_eq] at hwt
    unfold RunsTo
    simp only [funcexpr3, funcexpr2, List.append_nil]
    exact ⟨0, env, rfl, Frame.refl _ _ _, _, readVal_int _ _ _,
      const_rep S.cs t u hwt.1 (fun h => hwt.2.resolve_left (not_not_intro h)),
      wrap_inRange (ty_valid S.cs t) _⟩
  | param t i =>
    intro v _ hwt hev c pre post env hits _ _ hi
    simp only [evalE3, evalE] at hev
    simp only [Expr3.wt, Expr.wt, beq_iff_eq] at hwt
    obtain ⟨a, r, h1, h2, h3⟩ := hV hi i t v hwt (join_some hev)
    exact run_funcinst S c _ _ _ hits (readVals_one (readVal_tmp h1)) h2 ⟨h3, hs i t v hwt (join_some hev)⟩
  | idx _ t arr n xb i =>
    intro v hok hwt hev
    exact hX t arr n xb i v hok hwt hev
  | call _ rt fn args =>
    intro v hok hwt hev
    exact hC rt fn args v hok hwt hev
  | cast t e ih =>
    intro v hok hwt hev
    simp only [evalE3, Option.map_eq_some_iff] at hev
    obtain ⟨a, hea, rfl⟩ := hev
    exact sims_cast t e.ty (ih a hok hwt hea) (funcexpr3_good S.cs σ e)
  | neg t e ih =>
    intro v hok hwt hev
    simp only [evalE3, Option.bind_eq_some_iff] at hev
    obtain ⟨a, hea, hv⟩ := hev
    simp only [Expr3.wt, Bool.and_eq_true, beq_iff_eq] at hwt
    obtain ⟨⟨hty, hpr⟩, hwe⟩ := hwt
    exact sims_neg hpr hv (hty ▸ ih a hok hwe hea) (funcexpr3_good S.cs σ e)
  | bin op t l r ihl ihr =>
    intro v hok hwt hev
    simp only [Expr3.wt, Bool.and_eq_true] at hwt
    obtain ⟨⟨hwl, hwr⟩, hty⟩ := hwt
    obtain ⟨hokl, hokr⟩ := eok_bin hok
    cases hop : isLogic op
    · obtain ⟨a, b, hea, heb, hv⟩ := arith_evalE3 hop hev
      have hbt := binTyped_of_wt hop hty
      intro c
      rw [funcexpr3_arith S.cs σ op hop]
      exact sims_op hI (ihl a hokl hwl hea) (funcexpr3_good S.cs σ l) (ihr b hokr hwr heb)
        (funcexpr3_good S.cs σ r)
        (fun r1 r2 h1 h2 => by
          obtain ⟨rr, hx, hr⟩ := binop_exec S.cs op hop hbt S.M none h1.2 h2.2 h1.1 h2.1 hv
          exact ⟨rr, hx, hr, bin_res_inRange S.cs hbt h1.2 h2.2 hv⟩) c
    · simp only [hop, if_true, beq_iff_eq] at hty
      subst hty
      obtain ⟨a, hea, hsc⟩ := logic_evalE3 S.cs callf s op hop .int l r v hev
      intro c
      rw [funcexpr3_logic S.cs σ op hop]
      exact sims_logic hI (op == .lor) l.ty r.ty (ihl a hokl hwl hea) (funcexpr3_good S.cs σ l)
        (funcexpr3_good S.cs σ r) (hsc.mono fun b heb => ihr b hokr hwr heb) c
  | comma t a b iha ihb =>
    intro v hok hwt hev
    simp only [Expr3.wt, Bool.and_eq_true, beq_iff_eq] at hwt
    obtain ⟨⟨hwa, hwb⟩, hty⟩ := hwt
    subst hty
    simp only [evalE3, Option.bind_eq_some_iff] at hev
    obtain ⟨va, hea, heb⟩ := hev
    exact Sims.seq hI (iha va (eok_bin hok).1 hwa hea)
      (funcexpr3_good S.cs σ a)
      (ihb v (eok_bin hok).2 hwb heb)
      (funcexpr3_good S.cs σ b)
  | cond t e a b ihe iha ihb =>
    intro v hok hwt hev
    simp only [Expr3.wt, Bool.and_eq_true, beq_iff_eq] at hwt
    obtain ⟨⟨⟨⟨⟨hwe, hwa⟩, hwb⟩, hta⟩, htb⟩, _⟩ := hwt
    obtain ⟨hoke, hoka, hokb⟩ := eok_cond hok
    simp only [evalE3, Option.bind_eq_some_iff] at hev
    obtain ⟨vc, hevc, hev2⟩ := hev
    exact sims_cond hI t e.ty (ihe vc hoke hwe hevc) (funcexpr3_good S.cs σ e) (funcexpr3_good S.cs σ a)
      (funcexpr3_good S.cs σ b) (fun h => hta ▸ iha v hoka hwa (by rwa [if_pos h] at hev2))
      (fun h => htb ▸ ihb v hokb hwb (by rwa [if_neg h] at hev2))
  | pcast t e h => exact fun v hok hwt hev => h v hok hwt hev
  | pneg t e h => exact fun v hok hwt hev => h v hok hwt hev
  | pbin op t l r h => exact fun v hok hwt hev => h v hok hwt hev
  | pcond t c a b h => exact fun v hok hwt hev => h v hok ((Bool.and_true _).trans hwt) hev

theorem sims_expr2 (S : Sit) (σ : List Nat) (vtys : List CSem.Ty) (s : Store)
    (hs : ∀ (i : Nat) (t : CSem.Ty) (v : Int), vtys[i]? = some t → s[i]? = some (some v) →
      InRange (t.intTy S.cs) v)
    {I : Nat → Env → Prop}
    (hI : ∀ {lo lo' : Nat} {env env' : Env}, I lo env → lo ≤ lo' → Agree lo env env' → I lo' env')
    (hV : ∀ {lo : Nat} {env : Env}, I lo env → VarsIn S σ vtys s env) (e : Expr) (v : Int)
    (hwt : e.wt vtys = true) (hev : evalE S.cs s e = some v) :
    Sims S I (funcexpr2 S.cs σ e) (RepIn S.cs e.ty v) :=
  -- no leaf is met: an array read is not `eok` without element counts, a call has no value without callees
  sims_expr3 S σ vtys s hs (fun _ _ => none) hI hV [] []
    (fun _ _ _ _ _ _ h => absurd h (by simp [eok, Expr3.callsOK, Expr3.arrsOK]))
    (fun _ _ _ _ _ _ h => absurd h (by simp [evalE3])) (.pure e) v rfl hwt hev

theorem run_expr2 (S : Sit) (σ : List Nat) (vtys : List CSem.Ty) (s : Store)
    (hs : ∀ (i : Nat) (t : CSem.Ty) (v : Int), vtys[i]? = some t → s[i]? = some (some v) →
      InRange (t.intTy S.cs) v)
    (e : Expr) : ∀ (c : Ctx) (pre post : List Item) (env : Env) (v : Int),
    e.wt vtys = true → evalE S.cs s e = some v →
    S.its = pre ++ (funcexpr2 S.cs σ e c).items ++ post →
    curOf S.o0 pre = c.cur → CurOK c →
    (∀ (i : Nat) (t : CSem.Ty), vtys[i]? = some t → σ.getD i 0 ≤ c.lastid) →
    VarsIn S σ vtys s env →
    RunsTo S c.lastid (funcexpr2 S.cs σ e c).ctx.lastid env pre (funcexpr2 S.cs σ e c).items
      (funcexpr2 S.cs σ e c).val (RepIn S.cs e.ty v) :=
  fun c pre post env v hwt hev hits hcur hcok hn hpar =>
    sims_expr2 S σ vtys s hs
      (I := fun lo env => (∀ (i : Nat) (t : CSem.Ty), vtys[i]? = some t → σ.getD i 0 ≤ lo) ∧ VarsIn S σ vtys s env)
      (fun h hle ha => ⟨fun i t ht => Nat.le_trans (h.1 i t ht) hle, h.2.agree ha h.1⟩) (fun h => h.2)
      e v hwt hev c pre post env hits hcur hcok ⟨hn, hpar⟩

end CprocVerif.LowerMach2
