/-
  C01, fragment 𝔽₂ — the leaves of `sims_expr3` (`Lemmas/Lower2Expr.lean`) in an activation: an array read
  (address, load) and a call (arguments, `call`, the callee by `FuncSim`, the return into this frame), and with
  them `funcexpr` on an expression of a statement (`sim_exprOut3`).
-/
import CprocVerif.Lemmas.Lower2Arr
import CprocVerif.Lemmas.Lower2Call

set_option linter.unusedSimpArgs false

namespace CprocVerif.LowerMach2
open CprocVerif.Qbe CprocVerif.Lower CprocVerif.Lower2 CprocVerif.CSem CprocVerif.CSem2 CprocVerif.CInt
open CprocVerif.LowerArith CprocVerif.LowerMach CprocVerif.LowerMem

/-- The output of the expression as a variable `oe` with the equations that define it; how the statement proofs use it
    is said at `jnz_out` in `Lower2If`. -/
theorem expr_out (cs : Bool) {c : SCtx} (hj : c.jump = none) (e : Expr3) :
    ∃ oe : Out, lowerE3 cs c e = ⟨oe.items, oe.val, c.upd oe.ctx⟩ ∧ exprOut3 cs c e = oe ∧
      c.lastid ≤ oe.ctx.lastid ∧ c.blockid ≤ oe.ctx.blockid :=
  ⟨_, lowerE3_eq cs hj e, rfl, (exprOut3_good cs c e).lastid, (exprOut3_good cs c e).blockid⟩

section
variable (T : Stat) {s : Store} {c : SCtx} {nd : Nat} {M : Mem}

theorem sim_idxleaf (env0 : Env) (inv0 : SInv T.M0 T.S.cs T.cnts T.W T.σ T.vtys s env0 M)
    (hpre : ∀ i, i < nd → T.σ.getD i 0 = c.slots.getD i 0)
    (callf : String → List Int → Option Int)
    (t : CSem.Ty) (arr n xb : Nat) (i : Expr) (k : Ctx) (pre post : List Item) (env : Env) (v : Int)
    (hok : eok T.P T.cnts (.idx t arr n xb i) = true) (hwt : (Expr3.idx t arr n xb i).wt (T.vtys.take nd) = true)
    (hev : evalE3 T.S.cs callf s (.idx t arr n xb i) = some v)
    (hits : (setM T.S M).its = pre ++ (funcexpr3 T.S.cs c.slots (.idx t arr n xb i) k).items ++ post)
    (hcur : curOf T.S.o0 pre = k.cur) (hcok : CurOK k)
    (hn : ∀ (i : Nat) (t : CSem.Ty), (T.vtys.take nd)[i]? = some t → c.slots.getD i 0 ≤ k.lastid)
    (hinv : VarsIn (setM T.S M) c.slots (T.vtys.take nd) s env ∧
      ∀ j t', (T.vtys.take nd)[j]? = some t' →
        env[tmpName (c.slots.getD j 0)]? = env0[tmpName (c.slots.getD j 0)]?) :
    RunsTo (setM T.S M) k.lastid (funcexpr3 T.S.cs c.slots (.idx t arr n xb i) k).ctx.lastid env pre
      (funcexpr3 T.S.cs c.slots (.idx t arr n xb i) k).items (funcexpr3 T.S.cs c.slots (.idx t arr n xb i) k).val
      (fun r => Rep t v r ∧ InRange (t.intTy T.S.cs) v) := by
  simp only [Expr3.wt, Bool.and_eq_true, beq_iff_eq] at hwt
  obtain ⟨hkt0, hwi⟩ := hwt
  obtain ⟨hkt, harr⟩ := take_get hkt0
  simp only [eok, Expr3.callsOK, Expr3.arrsOK, Bool.and_eq_true, decide_eq_true_eq, Bool.or_true,
    Bool.true_and] at hok
  obtain ⟨⟨hc1, hcn⟩, hxb⟩ := hok
  subst hxb
  simp only [evalE3, Option.bind_eq_some_iff] at hev
  obtain ⟨iv, hevi, hev⟩ := hev
  split at hev
  · rename_i hiv
    have he : iv.toNat < T.cnts.getD arr 1 := by simp only [List.getD, hcn, Option.getD_some]; omega
    have hvv := join_some hev
    have hrgv : InRange (t.intTy T.S.cs) v := inv0.xrange arr iv.toNat t v hkt he hvv
    obtain ⟨a, ha1, habound, hload⟩ := inv0.a.loadAt T.S.cs (lt_of_get hkt) hkt he hvv
    have hslot : env[tmpName (c.slots.getD arr 0)]? = some ⟨.l, a⟩ := by
      rw [hinv.2 arr t hkt0, ← hpre arr harr]; exact ha1
    have hrange := (inv0.vars hpre).2
    simp only [funcexpr3, Out.seq] at hits ⊢
    have hits1 := its_mid (setM_its T.S M ▸ hits)
    obtain ⟨n1, env1, ra, hreach1, hfr1, hval1, hra⟩ := sim_addr T c.slots (T.vtys.take nd) s M hrange k
      (c.slots.getD arr 0) t i iv a hwi hevi hiv.1 habound hits1 hcur hcok hn hinv.1 hslot
      (hn arr t hkt0)
    obtain ⟨r, hxl, hrep⟩ := hload ra hra
    refine RunsTo.seq (P := fun r => r = ⟨.l, ra⟩) ⟨n1, env1, hreach1, hfr1, _, hval1, rfl⟩
      (lowerAddr_isGood T.S.cs c.slots k (c.slots.getD arr 0) t i).lastid (Nat.le_succ _) ?_
    intro env2 r2 _ hv2 hr2
    subst hr2
    exact run_funcinst (setM T.S M) _ _ _ _ (its_app hits1) (readVals_one hv2) hxl ⟨hrep, hrgv⟩
  · cases hev

theorem sim_callleaf (n : Nat) (hc : FuncSim T n) (env0 : Env)
    (inv0 : SInv T.M0 T.S.cs T.cnts T.W T.σ T.vtys s env0 M)
    (rt : CSem.Ty) (fn : String) (args : List Expr) (k : Ctx) (pre post : List Item) (env : Env) (v : Int)
    (hok : eok T.P T.cnts (.call rt fn args) = true) (hwt : (Expr3.call rt fn args).wt (T.vtys.take nd) = true)
    (hev : evalE3 T.S.cs (callOf T.P fun s' st' => exec T.S.cs T.P n s' st') s (.call rt fn args) = some v)
    (hits : (setM T.S M).its = pre ++ (funcexpr3 T.S.cs c.slots (.call rt fn args) k).items ++ post)
    (hcur : curOf T.S.o0 pre = k.cur) (hcok : CurOK k)
    (hn : ∀ (i : Nat) (t : CSem.Ty), (T.vtys.take nd)[i]? = some t → c.slots.getD i 0 ≤ k.lastid)
    (hvars : VarsIn (setM T.S M) c.slots (T.vtys.take nd) s env) :
    RunsTo (setM T.S M) k.lastid (funcexpr3 T.S.cs c.slots (.call rt fn args) k).ctx.lastid env pre
      (funcexpr3 T.S.cs c.slots (.call rt fn args) k).items (funcexpr3 T.S.cs c.slots (.call rt fn args) k).val
      (fun r => Rep rt v r ∧ InRange (rt.intTy T.S.cs) v) := by
  simp only [evalE3, Option.bind_eq_some_iff] at hev
  obtain ⟨vs, hvs, hcall⟩ := hev
  obtain ⟨g, hlk, hbody⟩ := callOf_some hcall
  have hne := isEmpty_of_lookup hlk
  simp only [eok, hne, Bool.false_or, Expr3.callsOK, hlk, Expr3.arrsOK, Bool.and_true,
    Bool.and_eq_true, beq_iff_eq, List.isEmpty_iff] at hok
  obtain ⟨⟨hret, hpar⟩, hpw⟩ := hok
  simp only [Expr3.wt] at hwt
  have hrange : ∀ (i : Nat) (t' : CSem.Ty) (w : Int), (T.vtys.take nd)[i]? = some t' →
      s[i]? = some (some w) → InRange (t'.intTy T.S.cs) w :=
    fun i t' w ht hw => inv0.range i t' w (take_get ht).1 hw
  simp only [funcexpr3] at hits ⊢
  have hits1 := its_mid (setM_its T.S M ▸ hits)
  obtain ⟨n1, env1, rs, hreach1, hfr1, hrd1, hreps1, htys1, hok1⟩ := sim_args T c.slots (T.vtys.take nd) s M
    hrange args k pre _ env vs hwt hvs hits1 hcur hcok hn hvars
  obtain ⟨kk, r', hreach2, hrep', hrg⟩ := sim_invoke T n hc hlk hret hits1 inv0 hrd1
    (by rw [htys1, ← hpar, List.map_map]; rfl) (hpar ▸ hreps1)
    (hpar ▸ hok1) (fun _ _ => rfl)
    (fun j t w h => by rw [hpw] at h; cases h) hbody
  exact ⟨n1 + kk, _, List.append_assoc _ _ _ ▸ hreach1.trans hreach2,
    Frame.trans hfr1 (Frame.insert env1 r' (Nat.lt_succ_self _) (Nat.le_refl _)) (Nat.le_refl _)
      (lowerArgs_lastid T.S.cs c.slots args k) (Nat.le_succ _) (Nat.le_refl _),
    r', readVal_insert_self _ _ _ _, hrep', hrg⟩

theorem sim_exprOut3 (n : Nat) (hc : FuncSim T n) {pre post : List Item} (hp : Pos T c nd pre)
    (e : Expr3) (hext : Ext T (c.upd (exprOut3 T.S.cs c e).ctx))
    (hwt : e.wt (T.vtys.take nd) = true) (hok : eok T.P T.cnts e = true) {v : Int}
    (hev : evalE3 T.S.cs (callOf T.P fun s' st' => exec T.S.cs T.P n s' st') s e = some v)
    (hits : T.S.its = pre ++ (exprOut3 T.S.cs c e).items ++ post) {env : Env}
    (inv : SInv T.M0 T.S.cs T.cnts T.W T.σ T.vtys s env M) :
    ∃ m env' r, T.Reach m (T.at env M pre) (T.at env' M (pre ++ (exprOut3 T.S.cs c e).items)) ∧
      SInv T.M0 T.S.cs T.cnts T.W T.σ T.vtys s env' M ∧ Frame c.lastid (exprOut3 T.S.cs c e).ctx.lastid env env' ∧
      readVal T.S.p env' (exprOut3 T.S.cs c e).val = .ok r ∧ Rep e.ty v r ∧
      InRange (e.ty.intTy T.S.cs) v := by
  have hpre := (hp.ext hext rfl).1
  obtain ⟨hvars, hrange⟩ := inv.vars hpre
  -- `I lo env1`: the slot temporaries are numbered up to `lo` and are in `env1` what they are in `env`, so that `inv`,
  -- stated at `env`, gives the leaves the slot addresses
  obtain ⟨m, env', hreach, hfr, r, hval, hrep, hrg⟩ := sims_expr3 (setM T.S M) c.slots (T.vtys.take nd) s hrange
    (callOf T.P fun s' st' => exec T.S.cs T.P n s' st')
    (I := fun lo env1 => (∀ (i : Nat) (t : CSem.Ty), (T.vtys.take nd)[i]? = some t → c.slots.getD i 0 ≤ lo) ∧
      VarsIn (setM T.S M) c.slots (T.vtys.take nd) s env1 ∧
      ∀ j t', (T.vtys.take nd)[j]? = some t' →
        env1[tmpName (c.slots.getD j 0)]? = env[tmpName (c.slots.getD j 0)]?)
    (fun h hle ha => ⟨fun i t ht => Nat.le_trans (h.1 i t ht) hle, h.2.1.agree ha h.1,
      fun j t' ht => by rw [ha _ (h.1 j t' ht)]; exact h.2.2 j t' ht⟩)
    (fun h => h.2.1) T.P T.cnts
    (fun t arr cnt xb i v' h1 h2 h3 k pre' post' env1 h4 h5 h6 h7 =>
      sim_idxleaf T env inv hpre _ t arr cnt xb i k pre' post' env1 v' h1 h2 h3 h4 h5 h6 h7.1 h7.2)
    (fun rt fn args v' h1 h2 h3 k pre' post' env1 h4 h5 h6 h7 =>
      sim_callleaf T n hc env inv rt fn args k pre' post' env1 v' h1 h2 h3 h4 h5 h6 h7.1 h7.2.1)
    e v hok hwt hev c.ctx pre post env hits hp.cur hp.curOK
    ⟨fun i t ht => hp.le i (take_get ht).2, hvars, fun j _ _ => rfl⟩
  exact ⟨m, env', r, hreach, inv.frame hp hext rfl (Nat.le_refl _) hfr, hfr, hval, hrep, hrg⟩

end

end CprocVerif.LowerMach2
