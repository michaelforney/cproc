/-
  C01, fragment 𝔽₂ — `x++` / `x--` as a statement (`EXPRINCDEC`): load, `add`/`sub` 1 at the class of the
  type (without promotion: the low bits are what matters), store.
-/
import CprocVerif.Lemmas.Lower2Leaf

set_option linter.unusedSimpArgs false

namespace CprocVerif.LowerMach2
open CprocVerif.Qbe CprocVerif.Lower CprocVerif.Lower2 CprocVerif.CSem CprocVerif.CSem2 CprocVerif.CInt
open CprocVerif.LowerArith CprocVerif.LowerMach CprocVerif.LowerMem

theorem inRange_one (cs : Bool) (t : CSem.Ty) (htb : t ≠ .bool) : InRange (t.intTy cs) 1 := by
  cases t <;> cases cs
  all_goals first | exact absurd rfl htb | decide

theorem one_rep (cs : Bool) (t : CSem.Ty) (htb : t ≠ .bool) : Rep t 1 ⟨.c, 1⟩ := by
  have h := const_rep cs t 1 (by decide) (fun h => absurd h htb)
  have hw : wrap (t.intTy cs) ((1 : Nat) : Int) = 1 :=
    wrap_of_inRange (ty_valid cs t) (inRange_one cs t htb)
  rw [hw] at h
  exact h

theorem incOp_binOpOf (cs : Bool) (inc : Bool) (tl : CSem.Ty) :
    binOpOf cs (if inc = true then BinOp.add else .sub) tl = (if inc = true then Op.add else Op.sub) := by
  cases inc <;> rfl

theorem incOp_isLogic (inc : Bool) : isLogic (if inc = true then BinOp.add else .sub) = false := by
  cases inc <;> rfl

theorem incOp_typed (inc : Bool) {t : CSem.Ty} (h : t.promoted = true) :
    BinTyped (if inc = true then BinOp.add else .sub) t t t := by
  cases inc <;> simp [BinTyped, BinOp.isShift, BinOp.isCmp, h]

theorem incdec_emod (inc : Bool) {a b c m n : Int} (hd : n ∣ m)
    (h1 : a % m = (if inc = true then b + 1 else b - 1) % m) (h2 : b % n = c % n) :
    a % n = (if inc = true then c + 1 else c - 1) % n := by
  rw [← Int.emod_emod_of_dvd a hd, h1, Int.emod_emod_of_dvd _ hd]
  cases inc
  · rw [if_neg Bool.false_ne_true, if_neg Bool.false_ne_true, Int.sub_emod, h2, ← Int.sub_emod]
  · rw [if_pos rfl, if_pos rfl, Int.add_emod, h2, ← Int.add_emod]

/-- the instruction of `EXPRINCDEC` on a representation of the old value gives what `funcstore`
    needs for the new one -/
theorem incdec_exec (cs : Bool) {t : CSem.Ty} (htb : t ≠ .bool) (inc : Bool) {v0 v' : Int} {r1 : RVal}
    (M : Mem) (hr0 : InRange (t.intTy cs) v0) (hrep : Rep t v0 r1)
    (hv : incdecVal cs t inc v0 = some v') :
    ∃ r', execOp (if inc = true then Op.add else Op.sub) (some (cls t)) [r1, ⟨.c, 1⟩] M none = .ok (r', M) ∧
      StoreVal t v' r' ∧ InRange (t.intTy cs) v' := by
  unfold incdecVal at hv
  obtain ⟨z, hz, rfl⟩ := Option.map_eq_some_iff.1 hv
  refine (?_ : ∃ r', _ ∧ StoreVal t _ r').imp fun r' h => ⟨h.1, h.2, wrap_inRange (ty_valid cs t) _⟩
  by_cases hsm : t.size < 4
  · -- `char`, `short`: computed in `int` by C, on the untruncated register by the machine
    have hP : incTy t = .int := by simp [incTy, hsm]
    rw [hP] at hz ⊢
    have hcl : cls t = .w := by
      unfold cls; rw [if_neg (by omega)]
    rw [hcl]
    have hrep' : WRep (8 * t.size) v0 r1 := by
      unfold Rep at hrep; rw [if_neg (by omega)] at hrep; exact hrep
    obtain ⟨x, hx, hxv⟩ := hrep'
    have hxl := asW_lt hx
    have hz' : z = if inc = true then v0 + 1 else v0 - 1 := by
      cases inc <;> simp only [bin, arith, Bool.false_eq_true, if_false, if_true] at hz ⊢
      all_goals
        have : (Ty.intTy cs .int).signed = true := rfl
        simp only [this, if_true] at hz
        split at hz
        · cases hz; rfl
        · cases hz
    have hb : bin (if inc = true then BinOp.add else .sub) (Ty.intTy cs .uint) (x.toNat : Int) 1 =
        some (wrap ⟨32, false⟩ (if inc = true then (x.toNat : Int) + 1 else (x.toNat : Int) - 1)) := by
      cases inc <;> simp [bin, arith, Ty.intTy, Ty.size, Ty.signed]
    obtain ⟨r', hx', hr'⟩ := binop_exec cs _ (incOp_isLogic inc) (incOp_typed inc (t := .uint) rfl) M none
      (show InRange (Ty.intTy cs .uint) (x.toNat : Int) by
        show InRange ⟨32, false⟩ _
        rw [inRange32u]; omega)
      (inRange_one cs .uint (by decide)) ((rep_w (t := .uint) rfl).2 ⟨x, hx, rfl⟩) (one_rep cs .uint (by decide)) hb
    rw [incOp_binOpOf] at hx'
    refine ⟨r', hx', ?_⟩
    rw [rep_w (t := .uint) rfl] at hr'
    obtain ⟨x', hx1, hx2⟩ := hr'
    have hw := wrap_mod32 false (if inc = true then (x.toNat : Int) + 1 else (x.toNat : Int) - 1)
    have hwt := wrap_mod_ty cs htb z
    unfold StoreVal
    rw [if_neg (by omega)]
    refine ⟨x', hx1, ?_⟩
    subst hz'
    show _ = conv _ _ _ % _
    unfold conv
    rw [hwt]
    refine incdec_emod inc ?_ (hx2.trans hw) hxv
    rcases size_cases t with hs | hs | hs | hs <;> rw [hs] <;> first | decide | omega
  · -- `int` and wider: the C operation itself
    have hP : incTy t = t := by simp [incTy, hsm]
    rw [hP] at hz ⊢
    have hpr : t.promoted = true := by
      cases t <;> simp [Ty.size] at hsm <;> rfl
    have hone : InRange (t.intTy cs) 1 := inRange_one cs t htb
    have hzr : InRange (t.intTy cs) z := bin_res_inRange cs (incOp_typed inc hpr) hr0 hone hz
    have hwz : conv (t.intTy cs) (t.intTy cs) z = z := wrap_of_inRange (ty_valid cs t) hzr
    rw [hwz]
    obtain ⟨r', hx', hr'⟩ := binop_exec cs _ (incOp_isLogic inc) (incOp_typed inc hpr) M none hr0 hone hrep (one_rep cs t htb) hz
    rw [incOp_binOpOf] at hx'
    exact ⟨r', hx', storeVal_of_rep hr'⟩

theorem AInv.load_bool (cs : Bool) {M0 : Mem} {cnts σ : List Nat} {W : List (CSem.Ty × Nat × Nat)} {vtys : List CSem.Ty} {s : Store} {i : Nat}
    {env : Env} {M : Mem} (h : AInv M0 cnts W σ vtys s i env M) {k : Nat} {v : Int} (hk : k < i)
    (hkt : vtys[k]? = some .bool) (hv : s[k]? = some (some v)) (hr : 0 ≤ v ∧ v ≤ 1) :
    ∃ a r, env[tmpName (σ.getD k 0)]? = some a ∧
      execOp (.load (loadOf cs .bool)) (some (cls .bool)) [a] M none = .ok (r, M) ∧ WRep 32 v r := by
  obtain ⟨a, h1, hw⟩ := h.window hk hkt
  obtain ⟨x, hload, hx⟩ := hw.load h.mem (h.cnt_pos hk hkt) (by rw [ecell_zero]; exact hv)
  simp only [Ty.size, Nat.reduceMul, Nat.zero_mul, Nat.add_zero] at hload hx
  refine ⟨⟨.l, a⟩, ⟨.w, x &&& mask32⟩, h1, ?_, _, rfl, ?_⟩
  · have hlo : loadOf cs .bool = .ub := rfl
    have hcl : cls .bool = .w := rfl
    rw [hlo, hcl]
    simp [execOp, needRes, bind, Except.bind, loadInfo, hload, truncTo, pure, Except.pure, Cls.kind]
  · show (((x &&& mask32) &&& mask32).toNat : Int) % 2 ^ 32 = v % 2 ^ 32
    rw [Int.emod_eq_of_lt hr.1 (by omega)] at hx
    have hlt : x.toNat < 2 ^ 32 := by omega
    rw [toNat_and_mask32, toNat_and_mask32, Nat.mod_eq_of_lt hlt, Nat.mod_eq_of_lt hlt, hx]

section
variable (T : Stat)

/-- `++`/`--`: `load`, `add`/`sub` 1, for a `_Bool` object `cnew … 0` (`convert(f, &typebool, &typeint, v)`),
    `store`.  The instructions before the `store` are run as one step that yields what `funcstore` needs. -/
theorem sim_incdec (n : Nat) (i : Nat) (t : CSem.Ty) (inc : Bool) : SimOf T (n + 1) (.incdec i t inc) := by
  intro s out lp brk cont c nd nd' pre post env M hex hfr hwt hp hext hits _ _ inv
  have hWi : T.W.length ≤ i := by simpa [frag] using hfr
  simp only [exec, Option.map_eq_some_iff, Option.bind_eq_some_iff] at hex
  obtain ⟨v', ⟨v0, hv0, hv'⟩, rfl⟩ := hex
  have hs0 := join_some hv0
  simp only [Stmt.wt, Option.ite_none_right_eq_some] at hwt
  obtain ⟨⟨hi, hkt⟩, _⟩ := hwt
  have hr0 := inv.range i t v0 hkt hs0
  simp only [funcstmt, funcopen_none hp.jump, List.nil_append] at hext hits ⊢
  have hslot : T.σ.getD i 0 = c.slots.getD i 0 := hext.1 i (by
    show i < c.slots.length; rw [hp.nslots]; exact hi)
  generalize hol : funcinst c.ctx (.load (loadOf T.S.cs t)) (cls t) [.tmp (tmpName (c.slots.getD i 0))] = ol
    at hext hits ⊢
  generalize hoa : funcinst ol.ctx (if inc = true then Op.add else Op.sub) (cls t) [ol.val, .int 1] = oa
    at hext hits ⊢
  generalize hov : (if t = .bool then convert T.S.cs oa.ctx .bool .int oa.val else ⟨[], oa.val, oa.ctx⟩) = ov
    at hext hits ⊢
  have hl1 : c.lastid ≤ ol.ctx.lastid := hol ▸ Nat.le_succ _
  have hl2 : ol.ctx.lastid ≤ oa.ctx.lastid := hoa ▸ Nat.le_succ _
  have hits' : T.S.its = pre ++ ol.items ++ (oa.items ++ (ov.items ++ (storeIns t ov.val (c.slots.getD i 0) :: post))) := by
    rw [hits]; simp only [List.append_assoc, List.singleton_append]
  obtain ⟨k, env', hreach, hfr, r', hval, hsv, hrv⟩ : RunsTo (setM T.S M) c.lastid ov.ctx.lastid env pre
      (ol.items ++ oa.items ++ ov.items) ov.val (fun r => StoreVal t v' r ∧ InRange (t.intTy T.S.cs) v') := by
    rw [List.append_assoc]
    by_cases htb : t = .bool
    · subst htb
      rw [if_pos rfl] at hov
      have hr0' : 0 ≤ v0 ∧ v0 ≤ 1 := by
        have : InRange ⟨1, false⟩ v0 := hr0
        simpa [InRange, minVal, maxVal] using this
      obtain ⟨a, r0, ha, hxl, hrep0⟩ := inv.a.load_bool T.S.cs (lt_of_get hkt) hkt hs0 hr0'
      rw [hslot] at ha
      obtain ⟨z, hz, rfl⟩ := Option.map_eq_some_iff.1 hv'
      have hia : InRange (Ty.intTy T.S.cs .int) v0 := by
        show InRange ⟨32, true⟩ v0
        rw [inRange32s]; omega
      have hbt := incOp_typed inc (t := .int) rfl
      have hone := inRange_one T.S.cs .int (by decide)
      have hzr : InRange (Ty.intTy T.S.cs .int) z := bin_res_inRange T.S.cs hbt hia hone hz
      obtain ⟨r1, hxa, hrep1⟩ := binop_exec T.S.cs _ (incOp_isLogic inc) hbt M none hia hone
        ((rep_w (t := .int) rfl).2 hrep0) (one_rep T.S.cs .int (by decide)) hz
      rw [incOp_binOpOf] at hxa
      have hl3 : oa.ctx.lastid ≤ ov.ctx.lastid := hov ▸ (convert_straight _ _ _ _ _).lastid
      subst hol hoa hov
      refine RunsTo.seq (run_funcinst (setM T.S M) c.ctx _ _ _ hits' (readVals_one (readVal_tmp ha)) hxl
        (P := fun r => r = r0) rfl) hl1 (Nat.le_trans hl2 hl3) ?_
      rintro env1 _ _ hv1 rfl
      refine RunsTo.seq (run_funcinst (setM T.S M) _ _ _ _ (post := _)
        (by rw [setM_its, hits']; simp only [List.append_assoc]; rfl) (readVals_two hv1 (readVal_int _ _ _)) hxa hrep1)
        hl2 hl3 ?_
      intro env2 r2 _ hv2 hp2
      exact (sim_convert (setM T.S M) _ .bool .int _ _ _ env2 z r2
        (by rw [setM_its, hits']; simp only [List.append_assoc, List.singleton_append]; rfl) hv2 hp2 hzr).weaken
        fun r h => ⟨storeVal_of_rep h.1, wrap_inRange (ty_valid T.S.cs .bool) _⟩
    · rw [if_neg htb] at hov
      obtain ⟨a, r0, ha, hxl, hrep0⟩ := inv.a.load T.S.cs (lt_of_get hkt) hkt hs0
      rw [hslot] at ha
      obtain ⟨r1, hxa, hsv, hrv⟩ := incdec_exec T.S.cs htb inc M hr0 hrep0 hv'
      subst hol hoa hov
      refine RunsTo.seq (run_funcinst (setM T.S M) c.ctx _ _ _ hits' (readVals_one (readVal_tmp ha)) hxl
        (P := fun r => r = r0) rfl) hl1 hl2 ?_
      rintro env1 _ _ hv1 rfl
      rw [List.append_nil]
      exact run_funcinst (setM T.S M) _ _ _ _ (post := _)
        (by rw [setM_its, hits']; simp only [List.append_assoc, List.nil_append]; rfl) (readVals_two hv1 (readVal_int _ _ _))
        hxa ⟨hsv, hrv⟩
  have inv2 := inv.frame hp hext rfl (Nat.le_refl _) hfr
  obtain ⟨M', hr3, inv3⟩ := sim_store T i t ov.val _ (pos := pre ++ (ol.items ++ oa.items ++ ov.items)) (post := post)
    (by rw [hits]; simp only [List.append_assoc, List.singleton_append]) hslot hkt hWi hval hrv hsv inv2
  refine ⟨⟨k + 1, env', M', ?_, inv3⟩, fun _ _ => hp.jump⟩
  have hall := Reach.trans hreach hr3
  simp only [List.append_assoc, storeIns] at hall ⊢
  exact hall

end

end CprocVerif.LowerMach2
