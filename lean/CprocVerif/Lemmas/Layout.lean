import CprocVerif.Lemmas.LayoutArith

/-! Lemmas for property C06 (object layout): `addmember`'s `(size, bits-left)` arithmetic computes
the bit-cursor layout of `Spec/Abi.lean`.  The two sides meet in one invariant, `Inv st c`: the bit
cursor is `c = 8·size − bits`; a struct member keeps it (`addmember_struct`), a union member has a
closed form (`addmember_union`).  `layout_ok_wf`: the hypothesis `Wf` holds whenever the model accepts. -/

namespace CprocVerif.Layout
open CprocVerif.Abi

/-- One call of `addmember` that reaches none of its `error(...)` branches, on type descriptors
as the parser produces them (alignments are powers of two; integer types have size = alignment
≤ 8). -/
def WfDecl (isUnion pack : Bool) (d : Decl) : Prop :=
  Pow2 d.ty.align ∧ (d.ty.incomplete = true → d.ty.isArray = true) ∧
  (isUnion = false → d.ty.flexible = false) ∧
  match d.width with
  | none => d.align = 0 ∨ (Pow2 d.align ∧ d.ty.align ≤ d.align)
  | some w => d.ty.isInt = true ∧ d.align = 0 ∧ pack = false ∧ (w = 0 → d.named = false) ∧
      w ≤ 8 * d.ty.size ∧ d.ty.size = d.ty.align ∧ d.ty.size ≤ 8

instance (isUnion pack : Bool) (d : Decl) : Decidable (WfDecl isUnion pack d) := by
  unfold WfDecl; split <;> infer_instance

/-- in a struct nothing follows a flexible array member -/
def WfDecls (isUnion pack : Bool) : List Decl → Prop
  | [] => True
  | d :: ds => WfDecl isUnion pack d ∧ (isUnion = false → d.ty.incomplete = true → ds = []) ∧
      WfDecls isUnion pack ds

def decWfDecls (isUnion pack : Bool) : (ds : List Decl) → Decidable (WfDecls isUnion pack ds)
  | [] => isTrue trivial
  | d :: ds => by
    unfold WfDecls
    have := decWfDecls isUnion pack ds
    infer_instance

instance (isUnion pack : Bool) (ds : List Decl) : Decidable (WfDecls isUnion pack ds) :=
  decWfDecls isUnion pack ds

/-- the declaration produces a `struct member` (`name || width == -1`) -/
def Decl.hasMember (d : Decl) : Bool := d.named || d.width.isNone

/-- bound on the bytes one declaration can add -/
def wt (d : Decl) : Nat := d.ty.size + d.align + d.ty.align

def wts : List Decl → Nat
  | [] => 0
  | d :: ds => wt d + wts ds

/-- The domain of `layout_ok` (`C06.layout_correct`): "struct/union has no members" is not raised, and sizes stay far
below 2^64 (`wts`: no 64-bit operation of `addmember` wraps, except `width - b->bits` and `b->bits - width`, which may:
`grow_calc`) -/
def Wf (isUnion pack : Bool) (ds : List Decl) : Prop :=
  WfDecls isUnion pack ds ∧ ds.any Decl.hasMember = true ∧ wts ds < 2 ^ 62

instance (isUnion pack : Bool) (ds : List Decl) : Decidable (Wf isUnion pack ds) := by
  unfold Wf; infer_instance

section
variable {isUnion pack : Bool} {st : St} {c : Nat} {d : Decl} {ds : List Decl} {T : Target}

theorem WfDecl.arrayOk (h : WfDecl isUnion pack d) :
    (d.ty.incomplete && !d.ty.isArray) = false := by
  cases hi : d.ty.incomplete
  · rfl
  · rw [h.2.1 hi]; rfl

theorem WfDecl.plain (h : WfDecl isUnion pack d) (hwd : d.width = none) :
    d.align = 0 ∨ (Pow2 d.align ∧ d.ty.align ≤ d.align) := by
  have := h.2.2.2; rw [hwd] at this; exact this

theorem WfDecl.bf {w : Nat} (h : WfDecl isUnion pack d)
    (hwd : d.width = some w) :
    d.ty.isInt = true ∧ d.align = 0 ∧ pack = false ∧ (w = 0 → d.named = false) ∧
      w ≤ 8 * d.ty.size ∧ d.ty.size = d.ty.align ∧ d.ty.size ≤ 8 := by
  have := h.2.2.2; rw [hwd] at this; exact this

theorem WfDecls.mem (h : WfDecls isUnion pack ds) : ∀ d ∈ ds, WfDecl isUnion pack d := by
  induction ds with
  | nil => intro _ hd; cases hd
  | cons a ds ih =>
    intro d hd
    rcases List.mem_cons.1 hd with rfl | hd
    · exact h.1
    · exact ih h.2.2 d hd

structure Inv (st : St) (c : Nat) : Prop where
  cur : c + st.bits = 8 * st.size
  bits : st.bits < 8

theorem effAlign_cases (hpa : Pow2 d.ty.align)
    (h : d.align = 0 ∨ (Pow2 d.align ∧ d.ty.align ≤ d.align)) :
    (if d.align < d.ty.align then (if pack then 1 else d.ty.align) else d.align) = effAlign pack d ∧
    Pow2 (effAlign pack d) ∧ effAlign pack d ≤ d.align + d.ty.align ∧
    (decide (d.align < d.ty.align) && d.align != 0) = false := by
  have hp := hpa.pos
  unfold effAlign
  rcases h with h | ⟨h1, h2⟩
  · rw [h]
    cases pack
    · simp [hp, hpa]
    · simp [hp]; exact ⟨by decide, by omega⟩
  · have : ¬ d.align < d.ty.align := by omega
    cases pack
    · simp [this, Nat.max_eq_left h2, h1]
    · have h3 : 1 ≤ d.align := h1.pos
      simp [this, Nat.max_eq_left h3, h1]

theorem updAlign_eq_max (a b : Nat) : updAlign true a b = max a b := by
  simp only [updAlign, Bool.true_and, decide_eq_true_eq, ite_lt_eq_max]

theorem bfWidth_ok {w z : Nat} (hw : w ≤ 8 * z) (hz : z ≤ 8) : ¬ w > u64 (z * 8) := by
  rw [u64_of_lt (by unfold M64; omega)]; omega

def Member.bitStart (m : Member) : Nat := 8 * m.offset + m.before
def Member.bitLen (m : Member) : Nat := match m.width with | some w => w | none => 8 * m.tsize
def Member.bitEnd (m : Member) : Nat := m.bitStart + m.bitLen

/-- one placement, per produced member; `c`, `c'`: the bit cursor before and after, `al`: what the declaration contributes
to the alignment of the aggregate -/
structure MemberOk (c c' al : Nat) (m : Member) : Prop where
  start : c ≤ m.bitStart
  fin : m.bitEnd ≤ c'
  aligned : m.talign ∣ m.offset
  unit : m.width.isSome → m.tsize ∣ m.offset ∧ m.tsize = m.talign
  bwa : ∀ w, m.width = some w → m.before + w + m.after = 8 * m.tsize ∧ 0 < w
  plain : m.width = none → m.before = 0 ∧ m.after = 0
  contrib : m.talign ≤ al
  pow : Pow2 m.talign

/-- The bound `8·wt d` on the advance of the cursor is, with `Inv`, what bounds the sizes the model's 64-bit arithmetic
sees.  `8 * m.offset < c + 8 * m.talign` (the member does not start a whole alignment unit after the cursor) is what QBE's
natural layout needs (`Lemmas/AbiDescPlace.lean`).  `x86_64` is immaterial here: a declaration that produces a member
contributes the same alignment on every target (`alignContrib_congr`). -/
theorem placeStruct_ok (hwf : WfDecl false pack d) :
    c ≤ (placeStruct pack c d).1 ∧ (placeStruct pack c d).1 ≤ c + 8 * wt d ∧
    ∀ m, (placeStruct pack c d).2 = some m →
      MemberOk c (placeStruct pack c d).1 (alignContrib x86_64 pack d) m ∧
      (placeStruct pack c d).1 = m.bitEnd ∧ 8 * m.offset < c + 8 * m.talign ∧
      m.tsize = d.ty.size ∧ m.talign = alignContrib x86_64 pack d ∧ m.width = d.width := by
  have hpa := hwf.1
  cases hwd : d.width with
  | none =>
    obtain ⟨_, e2, e3, _⟩ := effAlign_cases (pack := pack) hpa (hwf.plain hwd)
    have hp := e2.pos
    have h1 := le_roundUp c (a := 8 * effAlign pack d) (by omega)
    have h2 := roundUp_lt c (a := 8 * effAlign pack d) (by omega)
    obtain ⟨k, hk⟩ : 8 * effAlign pack d ∣ roundUp c (8 * effAlign pack d) := roundUp_dvd _ _
    have h3 : roundUp c (8 * effAlign pack d) / 8 = effAlign pack d * k := by
      rw [hk, Nat.mul_assoc, Nat.mul_div_cancel_left _ (by decide)]
    have h4 : 8 * (effAlign pack d * k) = roundUp c (8 * effAlign pack d) := by rw [hk, Nat.mul_assoc]
    simp only [placeStruct, hwd, alignContrib, h3, wt]
    refine ⟨Nat.le_trans h1 (Nat.le_add_right ..), by omega, ?_⟩
    rintro m ⟨rfl⟩
    refine ⟨⟨?_, ?_, Nat.dvd_mul_right _ _, (fun h => nomatch h), (fun w h => nomatch h), fun _ => ⟨rfl, rfl⟩,
      Nat.le_refl _, e2⟩, ?_, h4 ▸ h2, rfl, rfl, rfl⟩ <;>
      simp only [Member.bitEnd, Member.bitStart, Member.bitLen, h4, Nat.add_zero, Nat.le_refl]
    exact h1
  | some w =>
    obtain ⟨_, _, _, hw0n, hww, hza, hz8⟩ := hwf.bf hwd
    have hz0 : 0 < d.ty.size := by rw [hza]; exact hpa.pos
    cases w with
    | zero =>
      have := roundUp_lt c (a := 8 * d.ty.size) (by omega)
      simp only [placeStruct, hwd, wt]
      exact ⟨le_roundUp c (by omega), by omega, fun m hm => (nomatch hm)⟩
    | succ n =>
      have hU : 0 < 8 * d.ty.size := by omega
      have h1 := le_bfPos c (8 * d.ty.size) (n + 1) hU
      have h6 := bfPos_lt (c := c) hU (by omega : 0 < n + 1) hww
      have h5 := (fits_iff hU (by omega)).1 (Fits_of_bfPos (c := c) hU (by omega : 0 < n + 1) hww)
      simp only [placeStruct, hwd, alignContrib, x86_64, wt]
      generalize bfPos c (8 * d.ty.size) (n + 1) = p at *
      have h2 := Nat.div_add_mod p (8 * d.ty.size)
      have h4 : 8 * (p / (8 * d.ty.size) * d.ty.size) = 8 * d.ty.size * (p / (8 * d.ty.size)) := by
        rw [Nat.mul_comm (p / (8 * d.ty.size)) d.ty.size, Nat.mul_assoc]
      refine ⟨Nat.le_trans h1 (Nat.le_add_right ..), by omega, ?_⟩
      intro m hm
      cases hn : d.named with
      | false => simp [hn] at hm
      | true =>
        simp only [hn, ↓reduceIte, Option.some.injEq] at hm
        subst hm
        refine ⟨⟨?_, ?_, hza ▸ Nat.dvd_mul_left _ _, fun _ => ⟨Nat.dvd_mul_left _ _, hza⟩, ?_, (fun h => nomatch h),
          ?_, hpa⟩, ?_, ?_, rfl, ?_, rfl⟩
        · simp only [Member.bitStart, h4]; omega
        · simp only [Member.bitEnd, Member.bitStart, Member.bitLen, h4]; omega
        · rintro w ⟨rfl⟩
          simp only []; omega
        · simp only [Bool.true_or, ↓reduceIte, Nat.le_refl]
        · simp only [Member.bitEnd, Member.bitStart, Member.bitLen, h4]; omega
        · simp only [h4, ← hza]; omega
        · simp only [Bool.true_or, ↓reduceIte]

/-- the shape in which the three cases of `addmember_struct` end -/
theorem step_ok {sz al bt a' c' : Nat} {fl fl' : Bool} {m : Option Member} (h1 : c' + bt = 8 * sz) (h2 : bt < 8)
    (h4 : al = a') (h5 : fl = fl') :
    ∃ st', (Except.ok ((⟨sz, al, fl, bt⟩ : St), m) : Except Err (St × Option Member)) = .ok (st', m) ∧
      Inv st' c' ∧ st'.align = a' ∧ st'.flexible = fl' :=
  ⟨_, rfl, ⟨h1, h2⟩, h4, h5⟩

theorem addmember_struct
    (hwf : WfDecl false pack d) (hinv : Inv st c) (hfl : st.flexible = false)
    (hb : st.size + wt d < 2 ^ 62) :
    ∃ st', addmember false pack st d = .ok (st', (placeStruct pack c d).2) ∧
      Inv st' (placeStruct pack c d).1 ∧
      st'.align = max st.align (alignContrib x86_64 pack d) ∧
      st'.flexible = d.ty.incomplete := by
  have hflex := hwf.2.2.1 rfl
  have hc := hinv.cur
  have hbits := hinv.bits
  unfold wt at hb
  cases hwd : d.width with
  | none =>
    obtain ⟨e1, e2, e3, e4⟩ := effAlign_cases (pack := pack) hwf.1 (hwf.plain hwd)
    have hal : alignUp st.size (effAlign pack d) = roundUp st.size (effAlign pack d) :=
      alignUp_eq e2 (by unfold M64; omega)
    have hr1 := le_roundUp st.size e2.pos
    have hr2 := roundUp_lt st.size e2.pos
    have hcur := roundUp_cursor hc hbits e2.pos
    have hu : u64 (roundUp st.size (effAlign pack d) + d.ty.size) = roundUp st.size (effAlign pack d) + d.ty.size :=
      u64_of_lt (by unfold M64; omega)
    have h8 : 8 * roundUp st.size (effAlign pack d) / 8 = roundUp st.size (effAlign pack d) :=
      Nat.mul_div_cancel_left _ (by decide)
    simp only [addmember, hfl, hwd, hflex, placeStruct, alignContrib, hwf.arrayOk, e4, e1, hal, hcur, hu, h8,
      Bool.not_false, Bool.and_false, Bool.false_and, Bool.false_eq_true, ↓reduceIte, Bool.false_or,
      Bool.or_false]
    exact step_ok (by rw [Nat.add_zero, Nat.mul_add]) (by decide) (updAlign_eq_max _ _) (by simp)
  | some w =>
    obtain ⟨hint, hal0, hpk, hw0n, hww, hza, hz8⟩ := hwf.bf hwd
    obtain ⟨sz, bt, hr, hcur, hbt⟩ := bfStruct_spec (z := d.ty.size) (w := w) hc hbits (hza ▸ hwf.1) hz8 hww
      (by omega) rfl
    simp only [addmember, hfl, hwd, hflex, alignContrib, hwf.arrayOk, bfWidth_ok hww hz8, hint, hal0, hpk, hr,
      Bool.not_false, Bool.and_false, Bool.false_and, Bool.false_eq_true, ↓reduceIte, Bool.false_or,
      Bool.or_false, Bool.not_true, bne_self_eq_false, x86_64]
    cases w with
    | zero =>
      simp only [hw0n rfl, placeStruct, hwd, ↓reduceIte, beq_self_eq_true, Bool.true_and, Bool.false_eq_true,
        Nat.add_zero] at hcur ⊢
      exact step_ok hcur hbt (by simp [updAlign]) (by simp)
    | succ n =>
      simp only [placeStruct, hwd, Nat.add_one_ne_zero, ↓reduceIte, show (n + 1 == 0) = false from rfl,
        Bool.false_and, Bool.false_eq_true] at hcur ⊢
      refine step_ok hcur hbt ?_ (by simp)
      cases hn : d.named
      · simp [updAlign]
      · exact updAlign_eq_max _ _

theorem run_struct : ∀ (ds : List Decl) (st : St) (c : Nat),
    WfDecls false pack ds → Inv st c → st.flexible = false → st.size + wts ds < 2 ^ 62 →
    ∃ st', run false pack st ds = .ok (st', (structGo pack c ds).2) ∧
      Inv st' (structGo pack c ds).1 ∧
      st'.align = max st.align (aggAlign x86_64 pack ds) ∧
      st'.flexible = aggFlexible ds
  | [], st, c, _, hinv, hfl, _ => ⟨st, rfl, hinv, (Nat.max_zero _).symm, hfl⟩
  | d :: ds, st, c, hwf, hinv, hfl, hb => by
    obtain ⟨hd, hlast, hds⟩ := hwf
    simp only [wts] at hb
    obtain ⟨st1, e1, i1, a1, f1⟩ := addmember_struct (c := c) hd hinv hfl (by omega)
    have hflexd : d.ty.flexible = false := hd.2.2.1 rfl
    simp only [run, e1, structGo, aggAlign, aggFlexible, hflexd, Bool.or_false]
    cases hinc : d.ty.incomplete with
    | true =>
      cases hlast rfl hinc
      exact ⟨st1, rfl, i1, by rw [a1, aggAlign, Nat.max_zero], by rw [f1, hinc]; rfl⟩
    | false =>
      rw [hinc] at f1
      -- the size of the new state is bounded through the cursor: `8·size' = c' + bits'`, `c' ≤ c + 8·wt d`
      obtain ⟨st2, e2, i2, a2, f2⟩ := run_struct ds st1 (placeStruct pack c d).1 hds i1 f1
        (by have := (placeStruct_ok (c := c) hd).2.1; have := hinv.cur; have := i1.cur; have := i1.bits; omega)
      rw [e2]
      exact ⟨st2, rfl, i2, by rw [a2, a1, Nat.max_assoc], by rw [f2, Bool.false_or]⟩

theorem structGo_le : ∀ (ds : List Decl) (c : Nat), WfDecls false pack ds →
    (structGo pack c ds).1 ≤ c + 8 * wts ds
  | [], _, _ => Nat.le_refl _
  | d :: ds, c, hwf => by
    have h1 := (placeStruct_ok (c := c) hwf.1).2.1
    have h2 := structGo_le ds (placeStruct pack c d).1 hwf.2.2
    simp only [structGo, wts]; omega

/-- what a declaration contributes to `t->size` of a union before the final `ALIGNUP`: the size of the
member's *type* (also for a named bit-field); an unnamed bit-field `⌈width/8⌉` bytes -/
def unionGrow (d : Decl) : Nat :=
  if d.hasMember then d.ty.size else (d.width.getD 0 + 7) / 8

def unionTypeMax : List Decl → Nat
  | [] => 0
  | d :: ds => max (unionGrow d) (unionTypeMax ds)

theorem addmember_union (hwf : WfDecl true pack d) :
    ∃ st', addmember true pack st d = .ok (st', unionMember pack d) ∧
      st'.size = max st.size (unionGrow d) ∧
      st'.align = max st.align (alignContrib x86_64 pack d) ∧
      st'.flexible = (st.flexible || d.ty.incomplete || d.ty.flexible) := by
  cases hwd : d.width with
  | none =>
    obtain ⟨e1, _, _, e4⟩ := effAlign_cases (pack := pack) hwf.1 (hwf.plain hwd)
    simp only [addmember, hwd, unionMember, unionGrow, alignContrib, hwf.arrayOk, e4, e1, Decl.hasMember,
      Option.isNone_none, Bool.or_true, Bool.not_true, Bool.false_and, Bool.and_false, Bool.false_eq_true,
      ↓reduceIte, ite_lt_eq_max]
    exact ⟨_, rfl, rfl, updAlign_eq_max _ _, rfl⟩
  | some w =>
    obtain ⟨hint, hal0, hpk, hw0n, hww, hza, hz8⟩ := hwf.bf hwd
    have haft : s16 (sub64 (u64 (d.ty.size * 8)) w) = 8 * d.ty.size - w := by
      rw [u64_of_lt (by unfold M64; omega), sub64_of_le (by omega) (by unfold M64; omega), s16_of_lt (by omega),
        Nat.mul_comm]
    simp only [addmember, hwd, unionMember, unionGrow, alignContrib, hwf.arrayOk, bfWidth_ok hww hz8, hint, hal0,
      hpk, x86_64, Decl.hasMember, Option.isNone_some, Option.getD_some, Bool.or_false, Bool.not_true,
      Bool.false_and, Bool.and_false, Bool.false_eq_true, ↓reduceIte, bne_self_eq_false, ite_lt_eq_max]
    cases hn : d.named with
    | false =>
      -- unnamed bit-field: `t->size = max(t->size, (width + 7) / 8)`, no member, no alignment
      simp only [Bool.and_false, Bool.false_eq_true, ↓reduceIte, u64_of_lt (show w + 7 < M64 by unfold M64; omega)]
      exact ⟨_, rfl, rfl, (Nat.max_zero _).symm, rfl⟩
    | true =>
      have c6 : (w == 0) = false := beq_eq_false_iff_ne.2 fun h0 => by simpa [hn] using hw0n h0
      simp only [c6, haft, Bool.false_and, Bool.false_eq_true, ↓reduceIte]
      exact ⟨_, rfl, rfl, updAlign_eq_max _ _, rfl⟩

theorem run_union : ∀ (ds : List Decl) (st : St), WfDecls true pack ds →
    ∃ st', run true pack st ds = .ok (st', unionMembers pack ds) ∧
      st'.size = max st.size (unionTypeMax ds) ∧
      st'.align = max st.align (aggAlign x86_64 pack ds) ∧
      st'.flexible = (st.flexible || aggFlexible ds)
  | [], st, _ => ⟨st, rfl, (Nat.max_zero _).symm, (Nat.max_zero _).symm, (Bool.or_false _).symm⟩
  | d :: ds, st, hwf => by
    obtain ⟨st1, e1, s1, a1, f1⟩ := addmember_union (st := st) hwf.1
    obtain ⟨st2, e2, s2, a2, f2⟩ := run_union ds st1 hwf.2.2
    refine ⟨st2, ?_, ?_, ?_, ?_⟩
    · simp only [run, e1, e2, unionMembers]
    · rw [s2, s1, Nat.max_assoc]; rfl
    · rw [a2, a1, Nat.max_assoc]; rfl
    · rw [f2, f1]; simp only [aggFlexible, Bool.or_assoc]

theorem alignContrib_props (hwf : WfDecl isUnion pack d) :
    (alignContrib T pack d = 0 ∨ Pow2 (alignContrib T pack d)) ∧ alignContrib T pack d ≤ wt d ∧
    (d.hasMember = true → 0 < alignContrib T pack d) := by
  unfold wt Decl.hasMember
  cases hwd : d.width with
  | none =>
    obtain ⟨_, e2, e3, _⟩ := effAlign_cases (pack := pack) hwf.1 (hwf.plain hwd)
    simp only [alignContrib, hwd]
    exact ⟨Or.inr e2, by omega, fun _ => e2.pos⟩
  | some w =>
    simp only [alignContrib, hwd, Option.isNone_some, Bool.or_false]
    split
    · exact ⟨Or.inr hwf.1, by omega, fun _ => hwf.1.pos⟩
    · rename_i h
      exact ⟨Or.inl rfl, by omega, fun hn => absurd (by simp [hn]) h⟩

theorem aggAlign_props : ∀ {ds : List Decl}, WfDecls isUnion pack ds →
    (aggAlign T pack ds = 0 ∨ Pow2 (aggAlign T pack ds)) ∧ aggAlign T pack ds ≤ wts ds ∧
    (ds.any Decl.hasMember = true → 0 < aggAlign T pack ds)
  | [], _ => ⟨Or.inl rfl, Nat.le_refl _, by simp⟩
  | d :: ds, h => by
    obtain ⟨p1, p2, p3⟩ := alignContrib_props (T := T) h.1
    obtain ⟨q1, q2, q3⟩ := aggAlign_props h.2.2
    simp only [aggAlign, wts, List.any_cons, Bool.or_eq_true]
    refine ⟨?_, Nat.max_le.2 ⟨Nat.le_trans p2 (Nat.le_add_right ..), Nat.le_trans q2 (Nat.le_add_left ..)⟩, fun hm => ?_⟩
    · rcases p1 with p1 | p1
      · rw [p1, Nat.zero_max]; exact q1
      · rcases q1 with q1 | q1
        · rw [q1, Nat.max_zero]; exact Or.inr p1
        · exact Or.inr (p1.max q1)
    · rcases hm with hm | hm
      · exact Nat.lt_of_lt_of_le (p3 hm) (Nat.le_max_left ..)
      · exact Nat.lt_of_lt_of_le (q3 hm) (Nat.le_max_right ..)

theorem aggAlign_pow2 (h : Wf isUnion pack ds) :
    Pow2 (aggAlign T pack ds) ∧ aggAlign T pack ds ≤ wts ds := by
  obtain ⟨a1, a2, a3⟩ := aggAlign_props (T := T) h.1
  exact ⟨a1.resolve_left (Nat.ne_of_gt (a3 h.2.1)), a2⟩

theorem placeStruct_isSome (hwf : WfDecl isUnion pack d) :
    (placeStruct pack c d).2.isSome = d.hasMember := by
  unfold placeStruct Decl.hasMember
  cases hwd : d.width with
  | none => simp
  | some w =>
    cases w with
    | zero => simp [(hwf.bf hwd).2.2.2.1 rfl]
    | succ n => cases d.named <;> simp

theorem unionMember_isSome : (unionMember pack d).isSome = d.hasMember := by
  unfold unionMember Decl.hasMember
  cases hwd : d.width with
  | none => simp
  | some w => cases d.named <;> simp

theorem isEmpty_toList_append {α : Type} (o : Option α) (l : List α) :
    (o.toList ++ l).isEmpty = (!o.isSome && l.isEmpty) := by
  cases o <;> rfl

theorem structGo_isEmpty : ∀ {ds : List Decl} {c : Nat}, WfDecls false pack ds →
    (structGo pack c ds).2.isEmpty = !ds.any Decl.hasMember
  | [], _, _ => rfl
  | d :: ds, c, hwf => by
    have h1 := placeStruct_isSome (c := c) hwf.1
    have h2 := structGo_isEmpty (c := (placeStruct pack c d).1) hwf.2.2
    simp only [structGo, isEmpty_toList_append, h1, h2, List.any_cons, Bool.not_or]

theorem unionMembers_isEmpty : ∀ {ds : List Decl},
    (unionMembers pack ds).isEmpty = !ds.any Decl.hasMember
  | [] => rfl
  | d :: ds => by
    simp only [unionMembers, isEmpty_toList_append, unionMember_isSome, unionMembers_isEmpty (ds := ds),
      List.any_cons, Bool.not_or]

theorem layout_struct (h : Wf false pack ds) :
    layout false pack ds = .ok (Abi.layout x86_64 false pack ds) := by
  obtain ⟨hp, a2⟩ := aggAlign_pow2 (T := x86_64) h
  obtain ⟨hwf, hmem, hb⟩ := h
  have hle := structGo_le (pack := pack) ds 0 hwf
  obtain ⟨st', e, inv, ha, hf⟩ := run_struct ds {} 0 hwf ⟨rfl, by decide⟩ rfl (by simpa using hb)
  simp only [Nat.zero_max] at ha
  have hsz : ((structGo pack 0 ds).1 + 7) / 8 = st'.size := by
    have := inv.cur; have := inv.bits; omega
  have hal : alignUp st'.size (aggAlign x86_64 pack ds) = roundUp st'.size (aggAlign x86_64 pack ds) :=
    alignUp_eq hp (by unfold M64; omega)
  simp only [layout, e, structGo_isEmpty hwf, hmem, Abi.layout, ha, hal, hsz, hf, Bool.not_true,
    Bool.false_eq_true, ↓reduceIte]

theorem unionTypeMax_le : ∀ {ds : List Decl}, WfDecls true pack ds → unionTypeMax ds ≤ wts ds
  | [], _ => Nat.le_refl _
  | d :: ds, h => by
    refine Nat.max_le.2 ⟨Nat.le_trans ?_ (Nat.le_add_right ..), Nat.le_trans (unionTypeMax_le h.2.2) (Nat.le_add_left ..)⟩
    unfold unionGrow wt
    cases hwd : d.width with
    | none => simp only [Option.getD_none]; split <;> omega
    | some w => have := (h.1.bf hwd).2.2.2.2.1; simp only [Option.getD_some]; split <;> omega

/-- `t->size` and the spec's largest member differ only below the alignment: a named bit-field counts
with the size of its type in `t->size`, with `⌈width/8⌉` bytes in the spec -/
def UInv (sz mb al : Nat) : Prop := mb ≤ sz ∧ (sz ≤ mb ∨ (0 < mb ∧ sz ≤ al))

theorem UInv.max {a b c a' b' c' : Nat} (h : UInv a b c) (h' : UInv a' b' c') :
    UInv (max a a') (max b b') (max c c') := by
  unfold UInv at *; omega

theorem unionMax_inv : ∀ {ds : List Decl}, WfDecls true pack ds →
    UInv (unionTypeMax ds) (unionMax ds) (aggAlign x86_64 pack ds)
  | [], _ => ⟨Nat.le_refl _, Or.inl (Nat.le_refl _)⟩
  | d :: ds, h => by
    have hd : UInv (unionGrow d) (unionBytes d) (alignContrib x86_64 pack d) := by
      unfold UInv unionGrow unionBytes alignContrib Decl.hasMember
      cases hwd : d.width with
      | none => simp
      | some w =>
        obtain ⟨_, _, _, hw0n, hww, hza, _⟩ := h.1.bf hwd
        cases hn : d.named with
        | false => simp
        | true =>
          have : w ≠ 0 := fun h0 => by simpa [hn] using hw0n h0
          simp only [Bool.true_or, ↓reduceIte]
          omega
    exact hd.max (unionMax_inv h.2.2)

theorem roundUp_unionMax (hwf : WfDecls true pack ds) :
    roundUp (unionTypeMax ds) (aggAlign x86_64 pack ds) = roundUp (unionMax ds) (aggAlign x86_64 pack ds) := by
  obtain ⟨u1, u2 | ⟨u2, u3⟩⟩ := unionMax_inv hwf
  · rw [Nat.le_antisymm u2 u1]
  · rw [roundUp_small (by omega) u3, roundUp_small u2 (by omega)]

theorem layout_union (h : Wf true pack ds) :
    layout true pack ds = .ok (Abi.layout x86_64 true pack ds) := by
  obtain ⟨hp, a2⟩ := aggAlign_pow2 (T := x86_64) h
  obtain ⟨hwf, hmem, hb⟩ := h
  obtain ⟨st', e, hs, ha, hf⟩ := run_union ds {} hwf
  simp only [Nat.zero_max] at ha hs
  have hal : alignUp st'.size (aggAlign x86_64 pack ds) = roundUp st'.size (aggAlign x86_64 pack ds) :=
    alignUp_eq hp (by have := unionTypeMax_le hwf; unfold M64; omega)
  rw [hs, roundUp_unionMax hwf] at hal
  simp only [layout, e, unionMembers_isEmpty, hmem, Abi.layout, ha, hs, hal, hf, Bool.not_true,
    Bool.false_eq_true, ↓reduceIte, Bool.false_or]

theorem layout_ok (h : Wf isUnion pack ds) :
    layout isUnion pack ds = .ok (Abi.layout x86_64 isUnion pack ds) := by
  cases isUnion
  · exact layout_struct h
  · exact layout_union h

/-- what the parser guarantees about the type descriptors handed to `addmember` -/
def TypeWf (d : Decl) : Prop :=
  Pow2 d.ty.align ∧ (d.align = 0 ∨ Pow2 d.align) ∧
  (d.ty.isInt = true → d.ty.size = d.ty.align ∧ d.ty.size ≤ 8)

instance (d : Decl) : Decidable (TypeWf d) := by unfold TypeWf; infer_instance

theorem ok_of_ite {ε α : Type} {c : Prop} [Decidable c] {e : ε} {x : Except ε α} {r : α}
    (h : (if c then .error e else x) = .ok r) : ¬ c ∧ x = .ok r := by
  split at h
  · cases h
  · exact ⟨‹_›, h⟩

theorem addmember_ok_wf {r : St × Option Member}
    (ht : TypeWf d) (h : addmember isUnion pack st d = .ok r) :
    WfDecl isUnion pack d ∧ (isUnion = false → st.flexible = false) ∧
      r.1.flexible = (st.flexible || d.ty.incomplete || d.ty.flexible) ∧
      (r.2.isSome = true → d.hasMember = true) := by
  obtain ⟨t1, t2, t3⟩ := ht
  unfold addmember at h
  obtain ⟨c0, h⟩ := ok_of_ite h
  obtain ⟨c1, h⟩ := ok_of_ite h
  obtain ⟨c2, h⟩ := ok_of_ite h
  have k0 : isUnion = false → st.flexible = false := by
    intro hu; subst hu; simpa using c0
  have k1 : d.ty.incomplete = true → d.ty.isArray = true := by
    intro hi; simpa [hi] using c1
  have k2 : isUnion = false → d.ty.flexible = false := by
    intro hu; subst hu; simpa using c2
  cases hwd : d.width with
  | none =>
    simp only [hwd] at h
    obtain ⟨c3, h⟩ := ok_of_ite h
    have k3 : d.align = 0 ∨ (Pow2 d.align ∧ d.ty.align ≤ d.align) := by
      by_cases h0 : d.align = 0
      · exact Or.inl h0
      · exact Or.inr ⟨t2.resolve_left h0, by simpa [h0] using c3⟩
    refine ⟨⟨t1, k1, k2, by rw [hwd]; exact k3⟩, k0, ?_, fun _ => by simp [Decl.hasMember, hwd]⟩
    cases isUnion <;> simp at h <;> rw [← h]
  | some w =>
    simp only [hwd] at h
    obtain ⟨c4, h⟩ := ok_of_ite h
    obtain ⟨c5, h⟩ := ok_of_ite h
    obtain ⟨c6, h⟩ := ok_of_ite h
    obtain ⟨c7, h⟩ := ok_of_ite h
    obtain ⟨c8, h⟩ := ok_of_ite h
    have hint : d.ty.isInt = true := by simpa using c4
    obtain ⟨z1, z2⟩ := t3 hint
    rw [u64_of_lt (by unfold M64; omega)] at c8
    have hfin : r.1.flexible = (st.flexible || d.ty.incomplete || d.ty.flexible) ∧
        (r.2.isSome = true → d.named = true) := by
      cases isUnion <;> cases hn : d.named <;> simp [hn] at h <;> rw [← h] <;> simp
    refine ⟨⟨t1, k1, k2, ?_⟩, k0, hfin.1, fun hs => by simp [Decl.hasMember, hfin.2 hs]⟩
    rw [hwd]
    refine ⟨hint, by simpa using c5, by simpa using c6, ?_, by omega, z1, z2⟩
    intro hw0; subst hw0; simpa using c7

theorem run_cons_ok {r : St × List Member}
    (h : run isUnion pack st (d :: ds) = .ok r) :
    ∃ st1 m ms, addmember isUnion pack st d = .ok (st1, m) ∧ run isUnion pack st1 ds = .ok (r.1, ms) ∧
      r.2 = m.toList ++ ms := by
  simp only [run] at h
  split at h
  · cases h
  · rename_i st1 m h1
    split at h
    · cases h
    · rename_i st2 ms h2
      cases h
      exact ⟨st1, m, ms, h1, h2, rfl⟩

theorem run_ok_wf : ∀ (ds : List Decl) (st : St) (r : St × List Member),
    (∀ d ∈ ds, TypeWf d) → run isUnion pack st ds = .ok r →
    WfDecls isUnion pack ds ∧ (ds ≠ [] → isUnion = false → st.flexible = false) ∧
      (r.2.isEmpty = false → ds.any Decl.hasMember = true)
  | [], st, r, _, h => by
    cases h
    exact ⟨trivial, fun h => absurd rfl h, fun h => nomatch h⟩
  | d :: ds, st, r, ht, h => by
    obtain ⟨st1, m, ms, h1, h2, hr⟩ := run_cons_ok h
    obtain ⟨w1, w2, w3, w4⟩ := addmember_ok_wf (ht d List.mem_cons_self) h1
    obtain ⟨v1, v2, v3⟩ := run_ok_wf ds st1 _ (fun x hx => ht x (List.mem_cons_of_mem _ hx)) h2
    refine ⟨⟨w1, fun hu hinc => ?_, v1⟩, fun _ => w2, fun hne => ?_⟩
    · -- nothing follows a flexible array member: the next call would fail
      apply Classical.byContradiction
      intro hds
      have := v2 hds hu
      rw [w3, hinc] at this
      simp at this
    · rw [hr, isEmpty_toList_append] at hne
      simp only [List.any_cons, Bool.or_eq_true]
      cases m with
      | some mm => exact Or.inl (w4 rfl)
      | none => exact Or.inr (v3 hne)

def TypesWf (ds : List Decl) : Prop := (∀ d ∈ ds, TypeWf d) ∧ wts ds < 2 ^ 62

instance (ds : List Decl) : Decidable (TypesWf ds) := by unfold TypesWf; infer_instance

theorem layout_ok_wf {L : Layout} (ht : TypesWf ds)
    (h : layout isUnion pack ds = .ok L) : Wf isUnion pack ds := by
  unfold layout at h
  split at h
  · cases h
  · rename_i st ms h1
    obtain ⟨v1, _, v3⟩ := run_ok_wf ds {} _ ht.1 h1
    split at h
    · cases h
    · rename_i he
      exact ⟨v1, v3 (by simpa using he), ht.2⟩

theorem accepted_eq {L : Layout} (ht : TypesWf ds) (h : layout isUnion pack ds = .ok L) :
    Wf isUnion pack ds ∧ L = Abi.layout x86_64 isUnion pack ds := by
  have hwf := layout_ok_wf ht h
  rw [layout_ok hwf] at h
  exact ⟨hwf, (Except.ok.inj h).symm⟩

theorem aggFlexible_any : ∀ (ds : List Decl), aggFlexible ds = ds.any (fun d => d.ty.incomplete || d.ty.flexible)
  | [] => rfl
  | d :: ds => by simp only [aggFlexible, List.any_cons, aggFlexible_any ds, Bool.or_assoc]

theorem layout_flexible (T : Target) (isUnion pack : Bool) (ds : List Decl) :
    (Abi.layout T isUnion pack ds).flexible = aggFlexible ds := by
  unfold Abi.layout; cases isUnion <;> rfl

theorem MemberOk.mono {c c' al c0 c1 al' : Nat} {m : Member} (h : MemberOk c c' al m)
    (h1 : c0 ≤ c) (h2 : c' ≤ c1) (h3 : al ≤ al') : MemberOk c0 c1 al' m :=
  ⟨Nat.le_trans h1 h.start, Nat.le_trans h.fin h2, h.aligned, h.unit, h.bwa, h.plain,
    Nat.le_trans h.contrib h3, h.pow⟩

theorem MemberOk.span {c c' al : Nat} {m : Member} (h : MemberOk c c' al m) :
    m.bitEnd ≤ 8 * (m.offset + m.tsize) ∧ (m.width = none → 8 * (m.offset + m.tsize) ≤ m.bitEnd) := by
  unfold Member.bitEnd Member.bitStart Member.bitLen
  cases hw : m.width with
  | none => have := (h.plain hw).1; simp only []; omega
  | some w => have := (h.bwa w hw).1; simp only []; exact ⟨by omega, fun h => nomatch h⟩

theorem structGo_ok : ∀ (ds : List Decl) (c : Nat), WfDecls false pack ds →
    c ≤ (structGo pack c ds).1 ∧
    (∀ m ∈ (structGo pack c ds).2, MemberOk c (structGo pack c ds).1 (aggAlign x86_64 pack ds) m) ∧
    (structGo pack c ds).2.Pairwise (fun a b => a.bitEnd ≤ b.bitStart)
  | [], c, _ => ⟨Nat.le_refl _, by simp [structGo], by simp [structGo]⟩
  | d :: ds, c, hwf => by
    obtain ⟨p1, _, p2⟩ := placeStruct_ok (c := c) hwf.1
    obtain ⟨q1, q2, q3⟩ := structGo_ok ds (placeStruct pack c d).1 hwf.2.2
    simp only [structGo, aggAlign]
    refine ⟨Nat.le_trans p1 q1, ?_, ?_⟩
    · intro m hm
      rcases List.mem_append.1 hm with hm | hm
      · exact (p2 m (by simpa using hm)).1.mono (Nat.le_refl _) q1 (Nat.le_max_left _ _)
      · exact (q2 m hm).mono p1 (Nat.le_refl _) (Nat.le_max_right _ _)
    · rw [List.pairwise_append]
      refine ⟨?_, q3, ?_⟩
      · cases (placeStruct pack c d).2 <;> simp
      · intro a ha b hb
        exact Nat.le_trans (p2 a (by simpa using ha)).1.fin (q2 b hb).start

structure Placed (L : Layout) (m : Member) : Prop where
  inside : m.bitEnd ≤ 8 * L.size
  aligned : m.talign ∣ m.offset
  alignDvd : m.talign ∣ L.align
  unit : ∀ w, m.width = some w → m.tsize ∣ m.offset ∧ m.offset + m.tsize ≤ L.size ∧
    m.before + w + m.after = 8 * m.tsize ∧ 0 < w
  plain : m.width = none → m.before = 0 ∧ m.after = 0

theorem struct_facts (h : Wf false pack ds) :
    let L := Abi.layout x86_64 false pack ds
    (∀ m ∈ L.members, Placed L m) ∧ L.members.Pairwise (fun a b => a.bitEnd ≤ b.bitStart) ∧
    L.align ∣ L.size ∧ Pow2 L.align := by
  have hp := (aggAlign_pow2 (T := x86_64) h).1
  obtain ⟨q1, q2, q3⟩ := structGo_ok ds 0 h.1
  simp only [Abi.layout, Bool.false_eq_true, ↓reduceIte]
  refine ⟨?_, q3, roundUp_dvd _ _, hp⟩
  intro m hm
  have ok := q2 m hm
  have hsz := le_roundUp (((structGo pack 0 ds).1 + 7) / 8) hp.pos
  have hdvd : m.talign ∣ aggAlign x86_64 pack ds := ok.pow.dvd_of_le hp ok.contrib
  have hin : m.bitEnd ≤ 8 * roundUp (((structGo pack 0 ds).1 + 7) / 8) (aggAlign x86_64 pack ds) := by
    have := ok.fin; omega
  refine ⟨hin, ok.aligned, hdvd, ?_, ok.plain⟩
  intro w hw
  obtain ⟨u1, u2⟩ := ok.unit (by simp [hw])
  obtain ⟨b1, b2⟩ := ok.bwa w hw
  refine ⟨u1, ?_, b1, b2⟩
  apply mult_gap u1
  · rw [u2]; exact Nat.dvd_trans hdvd (roundUp_dvd _ _)
  · have : m.bitEnd = 8 * m.offset + m.before + w := by simp [Member.bitEnd, Member.bitStart, Member.bitLen, hw]
    simp only []
    omega

structure UMemberOk (tm al : Nat) (m : Member) : Prop where
  off : m.offset = 0
  before : m.before = 0
  tsize : m.tsize ≤ tm
  contrib : m.talign ≤ al
  pow : Pow2 m.talign
  bf : ∀ w, m.width = some w → 0 < w ∧ w ≤ 8 * m.tsize ∧ m.after = 8 * m.tsize - w ∧ m.tsize = m.talign
  plain : m.width = none → m.after = 0

theorem unionMember_ok {m : Member} (hwf : WfDecl true pack d) (hm : unionMember pack d = some m) :
    UMemberOk (unionGrow d) (alignContrib x86_64 pack d) m ∧
      m.tsize = d.ty.size ∧ m.talign = alignContrib x86_64 pack d ∧ m.width = d.width := by
  unfold unionMember at hm
  unfold unionGrow alignContrib Decl.hasMember
  cases hwd : d.width with
  | none =>
    rw [hwd] at hm
    obtain ⟨_, e2, _, _⟩ := effAlign_cases (pack := pack) hwf.1 (hwf.plain hwd)
    cases hm
    exact ⟨⟨rfl, rfl, by simp, Nat.le_refl _, e2, (fun w h => nomatch h), fun _ => rfl⟩, rfl, rfl, rfl⟩
  | some w =>
    rw [hwd] at hm
    obtain ⟨_, _, _, hw0n, hww, hza, _⟩ := hwf.bf hwd
    cases hn : d.named with
    | false => simp [hn] at hm
    | true =>
      simp only [hn, ↓reduceIte, Option.some.injEq] at hm
      subst hm
      have hw0 : w ≠ 0 := fun h => by simpa [hn] using hw0n h
      refine ⟨⟨rfl, rfl, by simp, by simp, hwf.1, ?_, fun h => nomatch h⟩, rfl, by simp, rfl⟩
      rintro w' ⟨rfl⟩
      exact ⟨by omega, hww, rfl, hza⟩

theorem UMemberOk.mono {tm al tm' al' : Nat} {m : Member} (h : UMemberOk tm al m) (h1 : tm ≤ tm')
    (h2 : al ≤ al') : UMemberOk tm' al' m :=
  ⟨h.off, h.before, Nat.le_trans h.tsize h1, Nat.le_trans h.contrib h2, h.pow, h.bf, h.plain⟩

theorem unionMembers_ok : ∀ (ds : List Decl), WfDecls true pack ds →
    ∀ m ∈ unionMembers pack ds, UMemberOk (unionTypeMax ds) (aggAlign x86_64 pack ds) m
  | [], _, m, hm => nomatch hm
  | d :: ds, hwf, m, hm => by
    simp only [unionMembers] at hm
    rcases List.mem_append.1 hm with hm | hm
    · exact (unionMember_ok hwf.1 (by simpa using hm)).1.mono (Nat.le_max_left ..) (Nat.le_max_left ..)
    · exact (unionMembers_ok ds hwf.2.2 m hm).mono (Nat.le_max_right ..) (Nat.le_max_right ..)

theorem union_facts (h : Wf true pack ds) :
    let L := Abi.layout x86_64 true pack ds
    (∀ m ∈ L.members, Placed L m ∧ m.offset = 0 ∧ m.before = 0) ∧ L.align ∣ L.size ∧ Pow2 L.align ∧
      L.size = roundUp (unionTypeMax ds) L.align := by
  have hp := (aggAlign_pow2 (T := x86_64) h).1
  simp only [Abi.layout, ↓reduceIte, ← roundUp_unionMax h.1]
  refine ⟨fun m hm => ?_, roundUp_dvd _ _, hp, trivial⟩
  have ok := unionMembers_ok ds h.1 m hm
  have hsz := le_roundUp (unionTypeMax ds) hp.pos
  have hts := ok.tsize
  refine ⟨⟨?_, by rw [ok.off]; exact Nat.dvd_zero _, ok.pow.dvd_of_le hp ok.contrib, fun w hw => ?_,
    fun h => ⟨ok.before, ok.plain h⟩⟩, ok.off, ok.before⟩
  · simp only [Member.bitEnd, Member.bitStart, Member.bitLen, ok.off, ok.before]
    cases hw : m.width with
    | none => simp only []; omega
    | some w => have := (ok.bf w hw).2.1; simp only []; omega
  · obtain ⟨b1, b2, b3, b4⟩ := ok.bf w hw
    refine ⟨by rw [ok.off]; exact Nat.dvd_zero _, ?_, ?_, b1⟩
    · rw [ok.off]; simp only []; omega
    · rw [ok.before, b3]; omega

def Decl.unnamedBf (d : Decl) : Bool := !d.named && d.width.isSome

theorem alignContrib_congr {T T' : Target}
    (h : d.unnamedBf = false ∨ T.unnamedBitfieldAligns = T'.unnamedBitfieldAligns) :
    alignContrib T pack d = alignContrib T' pack d := by
  unfold alignContrib
  cases hwd : d.width with
  | none => rfl
  | some w =>
    rcases h with h | h
    · have : d.named = true := by simpa [Decl.unnamedBf, hwd] using h
      simp [this]
    · rw [h]

theorem aggAlign_congr {T T' : Target} : ∀ {ds : List Decl},
    (∀ d ∈ ds, d.unnamedBf = false ∨ T.unnamedBitfieldAligns = T'.unnamedBitfieldAligns) →
    aggAlign T pack ds = aggAlign T' pack ds
  | [], _ => rfl
  | d :: ds, h => by
    simp only [aggAlign, alignContrib_congr (h d (List.mem_cons_self ..)),
      aggAlign_congr (fun x hx => h x (List.mem_cons_of_mem _ hx))]

theorem layout_congr {T T' : Target}
    (h : ∀ d ∈ ds, d.unnamedBf = false ∨ T.unnamedBitfieldAligns = T'.unnamedBitfieldAligns) :
    Abi.layout T isUnion pack ds = Abi.layout T' isUnion pack ds := by
  simp only [Abi.layout, aggAlign_congr h]

theorem layout_target (h : ∀ d ∈ ds, d.unnamedBf = false) :
    Abi.layout T isUnion pack ds = Abi.layout x86_64 isUnion pack ds :=
  layout_congr fun d hd => Or.inl (h d hd)

/-- `unnamedBitfieldAligns = false` is cproc's rule, on every target -/
theorem layout_ok_target (hT : ∀ d ∈ ds, d.unnamedBf = false ∨ T.unnamedBitfieldAligns = false)
    (h : Wf isUnion pack ds) : layout isUnion pack ds = .ok (Abi.layout T isUnion pack ds) := by
  rw [layout_ok h, layout_congr (T' := x86_64) hT]

end

mutual
  /-- a type none of whose (nested) definitions reaches an `error(...)` of `declarator`/`addmember`/
  `tagspec` (stated on the spec's sizes) -/
  def WfType : CType → Prop
    | .scalar _ a _ => Pow2 a
    | .array e none => WfType e ∧ (Abi.tinfo x86_64 e).incomplete = false
    | .array e (some n) => WfType e ∧ (Abi.tinfo x86_64 e).incomplete = false ∧
        (Abi.tinfo x86_64 e).size ≠ 0 ∧ (Abi.tinfo x86_64 e).size * n < 2 ^ 62
    | .su u p fs => WfFields fs ∧ Wf u p (Abi.decls x86_64 fs)
  def WfFields : Fields → Prop
    | .nil => True
    | .cons _ ty _ _ rest => WfType ty ∧ WfFields rest
end

mutual
  def decWfType : (t : CType) → Decidable (WfType t)
    | .scalar _ _ _ => by unfold WfType; infer_instance
    | .array e none => by unfold WfType; have := decWfType e; infer_instance
    | .array e (some _) => by unfold WfType; have := decWfType e; infer_instance
    | .su _ _ fs => by unfold WfType; have := decWfFields fs; infer_instance
  def decWfFields : (fs : Fields) → Decidable (WfFields fs)
    | .nil => isTrue trivial
    | .cons _ ty _ _ rest => by unfold WfFields; have := decWfType ty; have := decWfFields rest; infer_instance
end

instance (t : CType) : Decidable (WfType t) := decWfType t

mutual
  theorem tinfo_ok : ∀ (t : CType), WfType t → Layout.tinfo t = .ok (Abi.tinfo x86_64 t)
    | .scalar s a i, _ => by simp [Layout.tinfo, Abi.tinfo]
    | .array e none, h => by
      obtain ⟨h1, h2⟩ := h
      simp [Layout.tinfo, Abi.tinfo, tinfo_ok e h1, h2]
    | .array e (some n), h => by
      obtain ⟨h1, h2, h3, h4⟩ := h
      have hu : u64 ((Abi.tinfo x86_64 e).size * n) = (Abi.tinfo x86_64 e).size * n :=
        u64_of_lt (by unfold M64; omega)
      have hn : n ≤ 18446744073709551615 / (Abi.tinfo x86_64 e).size := by
        have hpos : 0 < (Abi.tinfo x86_64 e).size := by omega
        apply (Nat.le_div_iff_mul_le hpos).2
        rw [Nat.mul_comm]; omega
      simp [Layout.tinfo, Abi.tinfo, tinfo_ok e h1, h2, h3, hu, hn]
    | .su u p fs, h => by
      obtain ⟨h1, h2⟩ := h
      simp [Layout.tinfo, Abi.tinfo, decls_ok fs h1, layout_ok h2]
  theorem decls_ok : ∀ (fs : Fields), WfFields fs → Layout.decls fs = .ok (Abi.decls x86_64 fs)
    | .nil, _ => by simp [Layout.decls, Abi.decls]
    | .cons name ty al w rest, h => by
      obtain ⟨h1, h2⟩ := h
      simp [Layout.decls, Abi.decls, tinfo_ok ty h1, decls_ok rest h2]
end

mutual
  theorem typemember_ok : ∀ (t : CType) (name : String), WfType t →
      Layout.typemember t name = Abi.member x86_64 t name
    | .scalar _ _ _, _, _ => by simp [Layout.typemember, Abi.member]
    | .array _ _, _, _ => by simp [Layout.typemember, Abi.member]
    | .su u p fs, name, h => by
      obtain ⟨h1, h2⟩ := h
      simp only [Layout.typemember, Abi.member, decls_ok fs h1, layout_ok h2]
      exact findMember_ok fs _ name h1
  theorem findMember_ok : ∀ (fs : Fields) (ms : List Member) (name : String), WfFields fs →
      Layout.findMember fs ms name = Abi.memberIn x86_64 fs ms name
    | .nil, _, _, _ => by simp [Layout.findMember, Abi.memberIn]
    | .cons fname ty al w rest, ms, name, h => by
      obtain ⟨h1, h2⟩ := h
      by_cases hc : (fname.isSome || w.isNone) = true
      · cases ms with
        | nil => simp [Layout.findMember, Abi.memberIn, producesMember, hc]
        | cons m ms' =>
          cases fname with
          | some n =>
            simp only [Layout.findMember, Abi.memberIn, producesMember, Option.isSome_some, Bool.true_or, ↓reduceIte]
            by_cases hn : (n == name) = true
            · simp only [hn, ↓reduceIte]
            · simp only [hn, Bool.false_eq_true, ↓reduceIte]
              exact findMember_ok rest ms' name h2
          | none =>
            simp only [Layout.findMember, Abi.memberIn, producesMember, hc, ↓reduceIte, typemember_ok ty name h1]
            cases Abi.member x86_64 ty name with
            | none => simp only []; exact findMember_ok rest ms' name h2
            | some r => obtain ⟨off, sub, sty⟩ := r; simp only [Nat.add_comm]
      · simp only [Layout.findMember, Abi.memberIn, producesMember, hc, Bool.false_eq_true, ↓reduceIte]
        exact findMember_ok rest ms name h2
end

end CprocVerif.Layout

namespace CprocVerif.C06
open CprocVerif.Layout CprocVerif.Abi

theorem accepted_facts {isUnion pack : Bool} {ds : List Decl} {L : Layout} (ht : TypesWf ds)
    (h : Layout.layout isUnion pack ds = .ok L) :
    (∀ m ∈ L.members, Placed L m) ∧ L.align ∣ L.size ∧ Pow2 L.align := by
  obtain ⟨hwf, rfl⟩ := accepted_eq ht h
  cases isUnion with
  | false =>
    obtain ⟨f1, _, f3, f4⟩ := struct_facts hwf
    exact ⟨f1, f3, f4⟩
  | true =>
    obtain ⟨f1, f2, f3, _⟩ := union_facts hwf
    exact ⟨fun m hm => (f1 m hm).1, f2, f3⟩

end CprocVerif.C06
