/-
  C01 — what every lowering step keeps (`Straight` for instruction sequences, `Good` in general):
  counters only grow, result values are literals or already numbered temporaries, labels are fresh
  and pairwise different, the label of the block left open is tracked by `Ctx.cur` (`CurOK`).  `Emits` is the
  composition principle beneath both and beneath `SGood` of the statements: it also follows the blocks that are made
  first and labelled later, which neither `Good` nor `Straight` can express for a single label item.
-/
import CprocVerif.Lemmas.LowerMach

namespace CprocVerif.LowerMach
open CprocVerif.Qbe CprocVerif.Lower CprocVerif.CSem CprocVerif.CInt

def ValOK (n : Nat) (v : Val) : Prop :=
  (∃ k, v = .int k) ∨ ∃ j, j ≤ n ∧ v = .tmp (tmpName j)

theorem ValOK.mono {n m : Nat} {v : Val} (h : ValOK n v) (hnm : n ≤ m) : ValOK m v := by
  rcases h with h | ⟨j, hj, rfl⟩
  · exact Or.inl h
  · exact Or.inr ⟨j, by omega, rfl⟩

structure Straight (c : Ctx) (o : Out) : Prop where
  cur : o.ctx.cur = c.cur
  blockid : o.ctx.blockid = c.blockid
  lastid : c.lastid ≤ o.ctx.lastid
  allIns : ∀ it ∈ o.items, ∃ i, it = .ins i

theorem funcinst_straight (c : Ctx) (op : Op) (k : Cls) (args : List Val) :
    Straight c (funcinst c op k args) :=
  ⟨rfl, rfl, by simp [funcinst], by simp [funcinst]⟩

theorem funcinst_val (c : Ctx) (op : Op) (k : Cls) (args : List Val) :
    ValOK (funcinst c op k args).ctx.lastid (funcinst c op k args).val :=
  Or.inr ⟨c.lastid + 1, Nat.le_refl _, rfl⟩

theorem Straight.seq {c : Ctx} {a b : Out} (ha : Straight c a) (hb : Straight a.ctx b) :
    Straight c (a.seq b) :=
  ⟨by simp [Out.seq, hb.cur, ha.cur], by simp [Out.seq, hb.blockid, ha.blockid],
   by have := ha.lastid; have := hb.lastid; simp only [Out.seq]; omega,
   by
    intro it hit
    simp only [Out.seq, List.mem_append] at hit
    rcases hit with h | h
    · exact ha.allIns it h
    · exact hb.allIns it h⟩

theorem Straight.refl (c : Ctx) (v : Val) : Straight c ⟨[], v, c⟩ :=
  ⟨rfl, rfl, Nat.le_refl _, by simp⟩

theorem convert_cases (cs : Bool) (c : Ctx) (dst src : CSem.Ty) (l : Val) {P : Out → Prop}
    (h0 : P ⟨[], l, c⟩) (h1 : ∀ o k args, P (funcinst c o k args))
    (h2 : ∀ o1 k1 a1 o2 k2 a2,
      P ((funcinst c o1 k1 a1).seq (funcinst (funcinst c o1 k1 a1).ctx o2 k2 a2))) :
    P (convert cs c dst src l) := by
  unfold convert
  split
  · split
    · exact h2 ..
    · exact h2 ..
    · exact h1 ..
    · exact h1 ..
  · split
    · exact h0
    · split <;> exact h1 ..

theorem convert_straight (cs : Bool) (c : Ctx) (dst src : CSem.Ty) (l : Val) :
    Straight c (convert cs c dst src l) :=
  convert_cases cs c dst src l (Straight.refl _ _) (funcinst_straight c)
    (fun _ _ _ _ _ _ => (funcinst_straight _ _ _ _).seq (funcinst_straight _ _ _ _))

theorem convert_val (cs : Bool) (c : Ctx) (dst src : CSem.Ty) (l : Val) (hl : ValOK c.lastid l) :
    ValOK (convert cs c dst src l).ctx.lastid (convert cs c dst src l).val :=
  convert_cases cs c dst src l (P := fun o => ValOK o.ctx.lastid o.val) hl (funcinst_val c)
    (fun o1 k1 a1 o2 k2 a2 => funcinst_val (funcinst c o1 k1 a1).ctx o2 k2 a2)

theorem jnzArg_straight (cs : Bool) (c : Ctx) (t : CSem.Ty) (v : Val) :
    Straight c (jnzArg cs c t v) := by
  unfold jnzArg
  split
  · exact convert_straight _ _ _ _ _
  · split
    · exact convert_straight _ _ _ _ _
    · exact Straight.refl _ _

theorem jnzArg_val (cs : Bool) (c : Ctx) (t : CSem.Ty) (v : Val) (hl : ValOK c.lastid v) :
    ValOK (jnzArg cs c t v).ctx.lastid (jnzArg cs c t v).val := by
  unfold jnzArg
  split
  · exact convert_val _ _ _ _ _ hl
  · split
    · exact convert_val _ _ _ _ _ hl
    · exact hl

theorem adv_allIns (o : Open) (its : List Item) (h : ∀ it ∈ its, ∃ i, it = .ins i) :
    (adv o its).1 = [] ∧ (adv o its).2.label = o.label := by
  induction its generalizing o with
  | nil => exact ⟨rfl, rfl⟩
  | cons it its ih =>
    obtain ⟨i, rfl⟩ := h it (by simp)
    simp only [adv]
    exact ih _ (fun it' h' => h it' (by simp [h']))

theorem itemLabels_allIns (its : List Item) (h : ∀ it ∈ its, ∃ i, it = .ins i) :
    itemLabels its = [] := by
  induction its with
  | nil => rfl
  | cons it its ih =>
    obtain ⟨i, rfl⟩ := h it (by simp)
    simp only [itemLabels]
    exact ih (fun it' h' => h it' (by simp [h']))

theorem curOf_append_allIns (o : Open) (pre its : List Item) (h : ∀ it ∈ its, ∃ i, it = .ins i) :
    curOf o (pre ++ its) = curOf o pre := by
  simp only [curOf, adv_append]
  exact (adv_allIns _ _ h).2

theorem posOf_append_allIns (o : Open) (pre its : List Item) (h : ∀ it ∈ its, ∃ i, it = .ins i) :
    (posOf o (pre ++ its)).1 = (posOf o pre).1 := by
  simp only [posOf, adv_append, List.length_append]
  rw [(adv_allIns _ _ h).1]
  simp

theorem adv_label (o : Open) (its : List Item) :
    (adv o its).2.label = o.label ∨ (adv o its).2.label ∈ itemLabels its := by
  induction its generalizing o with
  | nil => exact Or.inl rfl
  | cons it its ih =>
    cases it with
    | ins i => exact ih _
    | lbl t l ph =>
      exact Or.inr ((ih ⟨l, ph, #[]⟩).elim (fun h => List.mem_cons.2 (Or.inl h)) (List.mem_cons_of_mem _))

theorem curOf_append_cases (o : Open) (pre its : List Item) :
    curOf o (pre ++ its) = curOf o pre ∨ curOf o (pre ++ its) ∈ itemLabels its := by
  simp only [curOf, adv_append]
  exact adv_label _ _

def LabelsIn (S : Nat → Prop) (L : List String) : Prop :=
  (∀ l ∈ L, ∃ name j, l = lblName name j ∧ S j) ∧ L.Nodup

theorem LabelsIn.nil (S : Nat → Prop) : LabelsIn S [] := ⟨by simp, by simp⟩

theorem LabelsIn.single {S : Nat → Prop} (name : String) (j : Nat) (h : S j) :
    LabelsIn S [lblName name j] :=
  ⟨by intro l hl; simp at hl; exact ⟨name, j, hl, h⟩, by simp⟩

theorem LabelsIn.weaken {S T : Nat → Prop} {L : List String} (h : LabelsIn S L)
    (hst : ∀ j, S j → T j) : LabelsIn T L :=
  ⟨fun l hl => by obtain ⟨n, j, e, hs⟩ := h.1 l hl; exact ⟨n, j, e, hst j hs⟩, h.2⟩

theorem LabelsIn.append {S T : Nat → Prop} {A B : List String} (hA : LabelsIn S A)
    (hB : LabelsIn T B) (hd : ∀ j, S j → T j → False) : LabelsIn (fun j => S j ∨ T j) (A ++ B) := by
  refine ⟨?_, ?_⟩
  · intro l hl
    rcases List.mem_append.1 hl with h | h
    · obtain ⟨n, j, e, hs⟩ := hA.1 l h; exact ⟨n, j, e, Or.inl hs⟩
    · obtain ⟨n, j, e, hs⟩ := hB.1 l h; exact ⟨n, j, e, Or.inr hs⟩
  · rw [List.nodup_append]
    refine ⟨hA.2, hB.2, ?_⟩
    intro x hx y hy hxy
    subst hxy
    obtain ⟨n1, j1, e1, h1⟩ := hA.1 x hx
    obtain ⟨n2, j2, e2, h2⟩ := hB.1 x hy
    have : j1 = j2 := lblName_inj (e1.symm.trans e2)
    subst this
    exact hd _ h1 h2

/-- What is known about the output of `funcexpr`. -/
structure Good (c : Ctx) (o : Out) : Prop where
  lastid : c.lastid ≤ o.ctx.lastid
  blockid : c.blockid ≤ o.ctx.blockid
  val : ValOK o.ctx.lastid o.val
  labels : LabelsIn (fun j => c.blockid < j ∧ j ≤ o.ctx.blockid) (itemLabels o.items)
  cur : ∀ (ol : Open) (pre : List Item), curOf ol pre = c.cur → curOf ol (pre ++ o.items) = o.ctx.cur
  -- the block left open is the one entered or one made here: this tells the two sources of a phi apart
  -- (`sims_logic`, `sims_cond` in `Lemmas/Lower2Expr`); it follows from `cur` and `labels` (`Emits.curId`)
  curId : ∀ name j, c.cur = lblName name j →
    ∃ name' j', o.ctx.cur = lblName name' j' ∧ (j' = j ∨ (c.blockid < j' ∧ j' ≤ o.ctx.blockid))

def CurOK (c : Ctx) : Prop := ∃ name j, c.cur = lblName name j ∧ j ≤ c.blockid

/-! ## Blocks that are made first and labelled later

cproc makes the blocks of a construct up front (`mkblock`, the label counter grows), lowers the parts, and labels those
blocks in between (`funclabel`).  `Emits U c its c' U'` follows the emission of `its` from the context `c` to `c'` with
the blocks made but not labelled yet: `U` before, `U'` after.  Its steps are a part that is `Good` or `Straight`
(`andThen`), `mkblock`, `lbl`, `tmp`; all reasoning about which labels can coincide is in `seq`, `frame`, `mkblock`,
`lbl`.  Which block is open afterwards (`curId`, `curOK`) is read off `cur` and `labels`. -/

structure Emits (U : Nat → Prop) (c : Ctx) (its : List Item) (c' : Ctx) (U' : Nat → Prop) : Prop where
  lastid : c.lastid ≤ c'.lastid
  blockid : c.blockid ≤ c'.blockid
  bound : ∀ j, U j → j ≤ c.blockid
  pend : ∀ j, U' j → U j ∨ (c.blockid < j ∧ j ≤ c'.blockid)
  labels : LabelsIn (fun j => (U j ∨ (c.blockid < j ∧ j ≤ c'.blockid)) ∧ ¬ U' j) (itemLabels its)
  cur : ∀ (ol : Open) (pre : List Item), curOf ol pre = c.cur → curOf ol (pre ++ its) = c'.cur

/-- a part that labels only blocks it makes itself -/
abbrev Emits0 (c : Ctx) (its : List Item) (c' : Ctx) : Prop := Emits (fun _ => False) c its c' (fun _ => False)

theorem Good.emits {c : Ctx} {o : Out} (g : Good c o) : Emits0 c o.items o.ctx :=
  ⟨g.lastid, g.blockid, fun _ h => h.elim, fun _ h => h.elim, g.labels.weaken fun _ h => ⟨Or.inr h, id⟩, g.cur⟩

theorem Straight.emits {c : Ctx} {o : Out} (s : Straight c o) : Emits0 c o.items o.ctx :=
  ⟨s.lastid, Nat.le_of_eq s.blockid.symm, fun _ h => h.elim, fun _ h => h.elim,
    by rw [itemLabels_allIns _ s.allIns]; exact LabelsIn.nil _,
    fun ol pre hp => by rw [curOf_append_allIns _ _ _ s.allIns, hp, s.cur]⟩

namespace Emits
variable {U U1 U2 : Nat → Prop} {c c1 c2 : Ctx} {i1 i2 its : List Item}

theorem bound' (h : Emits U c its c1 U1) : ∀ j, U1 j → j ≤ c1.blockid := fun j hj => by
  have := h.blockid
  rcases h.pend j hj with h' | h'
  · have := h.bound j h'; omega
  · exact h'.2

theorem seq (h1 : Emits U c i1 c1 U1) (h2 : Emits U1 c1 i2 c2 U2) : Emits U c (i1 ++ i2) c2 U2 := by
  have b1 := h1.blockid; have b2 := h2.blockid
  refine ⟨Nat.le_trans h1.lastid h2.lastid, Nat.le_trans b1 b2, h1.bound, fun j hj => ?_, ?_, fun ol pre hp => ?_⟩
  · rcases h2.pend j hj with h | h
    · exact (h1.pend j h).imp_right fun h' => ⟨h'.1, Nat.le_trans h'.2 b2⟩
    · exact Or.inr ⟨Nat.lt_of_le_of_lt b1 h.1, h.2⟩
  · rw [itemLabels_append]
    refine (h1.labels.append h2.labels ?_).weaken ?_
    · -- a label of the first part is not pending after it, and lies below what the second part makes
      rintro j ⟨h, hn⟩ ⟨h' | h', -⟩
      · exact hn h'
      · rcases h with h | h
        · have := h1.bound j h; omega
        · omega
    · rintro j (⟨h, hn⟩ | ⟨h, hn⟩)
      · refine ⟨h.imp_right fun h' => ⟨h'.1, Nat.le_trans h'.2 b2⟩, fun hj => ?_⟩
        rcases h2.pend j hj with h' | h'
        · exact hn h'
        · rcases h with h | h
          · have := h1.bound j h; omega
          · omega
      · refine ⟨?_, hn⟩
        rcases h with h | h
        · exact (h1.pend j h).imp_right fun h' => ⟨h'.1, Nat.le_trans h'.2 b2⟩
        · exact Or.inr ⟨Nat.lt_of_le_of_lt b1 h.1, h.2⟩
  · rw [← List.append_assoc]; exact h2.cur ol _ (h1.cur ol pre hp)

theorem frame (h : Emits0 c its c1) (hU : ∀ j, U j → j ≤ c.blockid) : Emits U c its c1 U :=
  ⟨h.lastid, h.blockid, hU, fun _ hj => Or.inl hj,
    h.labels.weaken fun j hj => ⟨Or.inr (hj.1.resolve_left id), fun hj' => by
      have := hU j hj'; have := (hj.1.resolve_left id).1; omega⟩,
    h.cur⟩

theorem andThen (h1 : Emits U c i1 c1 U1) (h2 : Emits0 c1 i2 c2) : Emits U c (i1 ++ i2) c2 U1 :=
  h1.seq (h2.frame h1.bound')

theorem nil (c : Ctx) : Emits0 c [] c :=
  ⟨Nat.le_refl _, Nat.le_refl _, fun _ h => h.elim, fun _ h => h.elim, LabelsIn.nil _,
    fun _ _ hp => by rw [List.append_nil]; exact hp⟩

theorem ins (c : Ctx) (i : Ins) : Emits0 c [.ins i] ⟨c.lastid + 1, c.blockid, c.cur⟩ :=
  Straight.emits (o := ⟨[.ins i], .int 0, ⟨c.lastid + 1, c.blockid, c.cur⟩⟩) ⟨rfl, rfl, Nat.le_succ _, by simp⟩

theorem ins0 (c : Ctx) (i : Ins) : Emits0 c [.ins i] c :=
  Straight.emits (o := ⟨[.ins i], .int 0, c⟩) ⟨rfl, rfl, Nat.le_refl _, by simp⟩

theorem mkblock (h : Emits U c its c1 U1) (k : Nat) :
    Emits U c its ⟨c1.lastid, c1.blockid + k, c1.cur⟩ (fun j => U1 j ∨ (c1.blockid < j ∧ j ≤ c1.blockid + k)) := by
  have b1 := h.blockid
  refine ⟨h.lastid, Nat.le_trans b1 (Nat.le_add_right _ k), h.bound, fun j hj => ?_, h.labels.weaken fun j hj => ?_, h.cur⟩
  · rcases hj with hj | hj
    · exact (h.pend j hj).imp_right fun h' => ⟨h'.1, Nat.le_trans h'.2 (Nat.le_add_right _ k)⟩
    · exact Or.inr ⟨Nat.lt_of_le_of_lt b1 hj.1, hj.2⟩
  · refine ⟨hj.1.imp_right fun h' => ⟨h'.1, Nat.le_trans h'.2 (Nat.le_add_right _ k)⟩, fun hj' => ?_⟩
    rcases hj' with hj' | hj'
    · exact hj.2 hj'
    · rcases hj.1 with h' | h'
      · have := h.bound j h'; omega
      · omega

/-- `functemp`, `n` times -/
theorem tmp (h : Emits U c its c1 U1) (n : Nat) : Emits U c its ⟨c1.lastid + n, c1.blockid, c1.cur⟩ U1 :=
  ⟨Nat.le_trans h.lastid (Nat.le_add_right _ n), h.blockid, h.bound, h.pend, h.labels, h.cur⟩

/-- `funclabel` on the block `j`, which was made and is not labelled yet -/
theorem lbl (h : Emits U c its c1 U1) (t : Option Jump) (name : String) (j : Nat) (ph : List Phi) (hj : U1 j) :
    Emits U c (its ++ [.lbl t (lblName name j) ph]) ⟨c1.lastid, c1.blockid, lblName name j⟩
      (fun x => U1 x ∧ x ≠ j) := by
  refine ⟨h.lastid, h.blockid, h.bound, fun x hx => h.pend x hx.1, ?_, fun ol pre _ => ?_⟩
  · rw [itemLabels_append]
    refine (h.labels.append (LabelsIn.single (S := fun x => x = j) name j rfl) ?_).weaken ?_
    · rintro x ⟨-, hn⟩ rfl
      exact hn hj
    · rintro x (⟨hx, hn⟩ | rfl)
      · exact ⟨hx, fun hx' => hn hx'.1⟩
      · exact ⟨h.pend x hj, fun hx' => hx'.2 rfl⟩
  · rw [← List.append_assoc]; exact curOf_lbl _ _ _ _ _

/-- seen from outside (a block made and never labelled has no label item) -/
theorem close {U' : Nat → Prop} (h : Emits (fun _ => False) c its c1 U') : Emits0 c its c1 :=
  ⟨h.lastid, h.blockid, h.bound, fun _ hj => hj.elim, h.labels.weaken fun _ hj => ⟨hj.1, id⟩, h.cur⟩

theorem labelsIn (h : Emits0 c its c1) : LabelsIn (fun j => c.blockid < j ∧ j ≤ c1.blockid) (itemLabels its) :=
  h.labels.weaken fun _ hj => hj.1.resolve_left id

theorem curId (h : Emits U c its c1 U1) (name : String) (j : Nat) (hc : c.cur = lblName name j) :
    ∃ name' j', c1.cur = lblName name' j' ∧
      (j' = j ∨ ((U j' ∨ (c.blockid < j' ∧ j' ≤ c1.blockid)) ∧ ¬ U1 j')) := by
  have e := h.cur ⟨c.cur, [], #[]⟩ [] rfl
  rcases curOf_append_cases ⟨c.cur, [], #[]⟩ [] its with h' | h'
  · exact ⟨name, j, by rw [← e, h']; exact hc, Or.inl rfl⟩
  · obtain ⟨n', j', e', hj'⟩ := h.labels.1 _ h'
    exact ⟨n', j', by rw [← e, e'], Or.inr hj'⟩

theorem curOK (h : Emits U c its c1 U1) : CurOK c → CurOK c1 := fun ⟨name, j, hc, hj⟩ => by
  obtain ⟨n', j', e, hj'⟩ := h.curId name j hc
  refine ⟨n', j', e, ?_⟩
  have := h.blockid
  rcases hj' with rfl | ⟨hu | hf, -⟩
  · omega
  · have := h.bound j' hu; omega
  · exact hf.2

theorem good {o : Out} (h : Emits0 c o.items o.ctx) (hv : ValOK o.ctx.lastid o.val) : Good c o :=
  ⟨h.lastid, h.blockid, hv, h.labelsIn, h.cur, fun name j hc => by
    obtain ⟨n', j', e, hj'⟩ := h.curId name j hc
    exact ⟨n', j', e, hj'.imp_right fun hj' => hj'.1.resolve_left id⟩⟩

end Emits

theorem Good.curOK {c : Ctx} {o : Out} (g : Good c o) : CurOK c → CurOK o.ctx := g.emits.curOK

theorem Straight.good {c : Ctx} {o : Out} (h : Straight c o) (hv : ValOK o.ctx.lastid o.val) : Good c o :=
  h.emits.good hv

theorem Good.seq {c : Ctx} {a b : Out} (ha : Good c a) (hb : Good a.ctx b) : Good c (a.seq b) :=
  (ha.emits.andThen hb.emits).good (o := a.seq b) hb.val

theorem Good.seq_straight {c : Ctx} {a b : Out} (ha : Good c a) (hb : Straight a.ctx b)
    (hv : ValOK b.ctx.lastid b.val) : Good c (a.seq b) := ha.seq (hb.good hv)

end CprocVerif.LowerMach
