import CprocVerif.Lemmas.InitRefMach
import CprocVerif.Lemmas.InitMach

/-!
# Moving the cursor: `subobj`, `focus`, `advance` on states described by `Lvl`/`SP`
-/

namespace CprocVerif.InitSim
open CprocVerif.Init CprocVerif.Image CprocVerif.InitRef

theorem push_spec {st st' : St} {u : U} {t : Ty} {off : Nat} (e : Push st u t off st') :
    st'.sub = st.sub + 1 ∧ Frame st.sub st st' ∧ st'.log = st.log ∧
    st'.obj st.sub = { st.obj st.sub with u := u } ∧ (st'.obj (st.sub + 1)).ty = t ∧
    (st'.obj (st.sub + 1)).offset = off + (st.obj st.sub).offset ∧ (st'.obj (st.sub + 1)).iscur = false := by
  obtain ⟨_, rfl⟩ := push_ok e
  refine ⟨rfl, ⟨rfl, rfl, rfl, fun j hj => ?_⟩, rfl, ?_, ?_, ?_, ?_⟩
  · simp [show j ≠ st.sub + 1 by omega, show j ≠ st.sub by omega]
  all_goals simp

/-- `top'` is `top` itself unless the slot is the array of unknown size -/
theorem push_child {st st' : St} {pl ch : Place} {p top' : Nat} {u : U} {t : Ty} {off : Nat}
    (hty : (st.obj st.sub).ty = pl.ty) (hoff : (st.obj st.sub).offset = pl.off)
    (hc : childAt pl p false = some ch) (hu : UAt u pl.ty p) (ht : ch.ty = t) (ho : ch.off = off + pl.off)
    (htop : top' = gtop pl p st.top) (e : Push { st with top := top' } u t off st') :
    AtChild st st' st.sub pl p ch := by
  obtain ⟨h1, h2, h3, h4, h5, h6, h7⟩ := push_spec e
  have hl : Lvl st' st.sub pl p ch := ⟨by rw [h4]; exact hty, by rw [h4]; exact hoff, hc, by rw [h4]; exact hu⟩
  exact ⟨h1, hl, sp_child hl (by rw [h5, ht]) (by rw [h6, ho, hoff]), ⟨h2.cur, h2.inc, h2.low⟩, h2.top.trans htop, h3,
    by rw [h4], h7⟩

theorem focus_step {st st' : St} {pl : Place} (hsz : Sz st st.sub pl 0) (hok : PlOk pl)
    (hty : (st.obj st.sub).ty = pl.ty) (hoff : (st.obj st.sub).offset = pl.off) (e : focus st = .ok st') :
    ∃ ch, childAt pl 0 true = some ch ∧ AtChild st st' st.sub pl 0 ch := by
  rcases focus_ok e with ⟨n, el, hty', hp⟩ | ⟨iu, tag, size, nm, ty, off, b, a, next, hty', hp⟩
  · have hpt : pl.ty = .array n el := hty.symm.trans hty'
    have hc := hok.child0 hpt
    refine ⟨_, hc, ?_⟩
    have hu : UAt (.idx 0) pl.ty 0 := by unfold UAt; rw [hpt]; simp
    cases hsz with
    | known hu' hfl =>
      rw [hfl.tinc] at hp
      exact push_child (top' := st.top) hty hoff (childAt_of_pos hc) hu rfl (by simp) (gtop_known hu' _ _).symm hp
    | unb hU hk hinc hw =>
      -- `focus` sets `t->size` to one element: right because nothing was stored before the first item
      cases hU.ty.symm.trans hpt
      rw [tinc_zero hk hinc] at hp
      exact push_child (top' := el.size) hty hoff (childAt_of_pos hc) hu rfl (by simp)
        (by rw [gtop_unb hU, hw.top0, Nat.zero_add, Nat.one_mul, Nat.zero_max]) hp
  · have hpt : pl.ty = .agg iu tag size (.cons nm ty off b a next) := hty.symm.trans hty'
    have hc : childAt pl 0 true =
        some { ty := ty, off := pl.off + off, before := b, after := a, depth := pl.depth + 1 } := by
      rw [childAt_agg hpt]; simp [Members.drop]
    exact ⟨_, hc, push_child (top' := st.top) hty hoff (childAt_of_pos hc) (by unfold UAt; rw [hpt]; simp [Members.drop]) rfl
      (by simp [Nat.add_comm]) (gtop_nonarray (fun _ _ h => by rw [hpt] at h; cases h) _ _).symm hp⟩

/-- brace elision (6.7.9p20) as the machine does it: `focus`, then the same expression for the first sub-object -/
theorem elide_step {st st1 : St} {pl : Place} {e : Expr} {pf : Nat} (hsz : Sz st st.sub pl 0) (hok : PlOk pl)
    (hty : (st.obj st.sub).ty = pl.ty) (hoff : (st.obj st.sub).offset = pl.off) (he : elides pl.ty e = true)
    (hb : exprBody pf st e = .ok st1) :
    ∃ pf' st2 ch, childAt pl 0 true = some ch ∧ AtChild st st2 st.sub pl 0 ch ∧ exprBody pf' st2 e = .ok st1 := by
  cases pf with
  | zero => exact absurd hb (exprBody_zero _ _ _)
  | succ pf =>
  rw [exprBody_down pf (hit_elide (by rw [hty]; exact he))] at hb
  cases hfo : focus st with
  | error er => rw [hfo] at hb; cases hb
  | ok st2 =>
  rw [hfo] at hb
  obtain ⟨ch, hch, ha⟩ := focus_step hsz hok hty hoff hfo
  exact ⟨pf, st2, ch, hch, ha, hb⟩

/-- `advance`'s test `i + size == t->size` (with `t` complete) at an array slot says whether the place has a next
element; if it has, `t->size` moves as `gtop` says -/
theorem next_elem {st : St} {k pos n : Nat} {pl ch : Place} {el : Ty} (hsz : Sz st k pl (pos + 1)) (hok : PlOk pl)
    (hl : Lvl st k pl pos ch) (hpt : pl.ty = .array n el) :
    ((pos + 1) * el.size = st.tsize k ∧ st.tinc k = false → childAt pl (pos + 1) true = none) ∧
    (¬((pos + 1) * el.size = st.tsize k ∧ st.tinc k = false) →
      childAt pl (pos + 1) true = some { ty := el, off := pl.off + (pos + 1) * el.size, depth := pl.depth + 1 } ∧
      gtop pl (pos + 1) st.top = if (pos + 1) * el.size = st.tsize k then st.top + el.size else st.top) := by
  cases hsz with
  | known hu0 hfl =>
    obtain ⟨_, hes⟩ := wf_array (hok.wf hu0) hpt
    have hlt : pos < n := by
      have := hl.child
      rw [childAt_array hpt hu0] at this
      split at this
      · assumption
      · cases this
    have hts : st.tsize k = n * el.size := by rw [hfl.tsize, hl.ty, hpt]; rfl
    rw [hts, hfl.tinc, childAt_array hpt hu0, gtop_known hu0]
    refine ⟨fun h => if_neg fun hnx => ?_, fun h => ?_⟩
    · have := Nat.eq_of_mul_eq_mul_right hes h.1; omega
    · have hne : pos + 1 ≠ n := fun h' => h ⟨by rw [h'], rfl⟩
      exact ⟨if_pos (by omega), (if_neg fun h' => hne (Nat.eq_of_mul_eq_mul_right hes h')).symm⟩
  | unb hU hk0 hinc hw =>
    subst hk0
    cases hU.ty.symm.trans hpt
    rw [show st.tinc 0 = true by unfold St.tinc; simp [hinc], show st.tsize 0 = st.top from if_pos rfl]
    exact ⟨fun h => (nomatch h.2), fun _ => ⟨childAt_unb hU _ _, by rw [gtop_unb hU, ← hw.adv hU.elpos]⟩⟩

theorem advance_lvl {st st' : St} {k f : Nat} {pl ch : Place} {pos : Nat} (hs : st.sub = k + 1)
    (hsz : Sz st k pl (pos + 1)) (hok : PlOk pl) (hl : Lvl st k pl pos ch) (e : advance (f + 1) st = .ok st') :
    (∃ ch', childAt pl (pos + 1) true = some ch' ∧ AtChild st st' k pl (pos + 1) ch') ∨
    (childAt pl (pos + 1) true = none ∧ st.cur ≠ some k ∧ ∃ st1, advance f st1 = .ok st' ∧ st1.sub = k ∧
      Frame k st st1 ∧ st1.log = st.log ∧ (st1.obj k).ty = (st.obj k).ty ∧
      (st1.obj k).offset = (st.obj k).offset) := by
  have hk : st.sub - 1 = k := by omega
  have hu := hl.u
  unfold UAt at hu
  have push : ∀ {u : U} {t : Ty} {off top' : Nat} {ch' : Place}, childAt pl (pos + 1) true = some ch' →
      top' = gtop pl (pos + 1) st.top → Push { st with sub := k, top := top' } u t off st' →
      ch'.ty = t → ch'.off = off + pl.off → UAt u pl.ty (pos + 1) → AtChild st st' k pl (pos + 1) ch' :=
    fun hc htop e' e1 e2 e3 =>
      (push_child (st := { st with sub := k }) hl.ty hl.off (childAt_of_pos hc) e3 e1 e2 htop e').of_sub (il := st.il)
  have pop : ∀ (u' : U), some k ≠ st.cur →
      advance f (({ st with sub := k } : St).setSlot k { st.obj k with u := u' }) = .ok st' →
      st.cur ≠ some k ∧ ∃ st1, advance f st1 = .ok st' ∧ st1.sub = k ∧ Frame k st st1 ∧ st1.log = st.log ∧
        (st1.obj k).ty = (st.obj k).ty ∧ (st1.obj k).offset = (st.obj k).offset := by
    intro u' hne e'
    refine ⟨fun h => hne h.symm, _, e', rfl, ⟨rfl, rfl, rfl, ?_⟩, rfl, by simp [St.setSlot], by simp [St.setSlot]⟩
    intro j hj
    have : j ≠ k := by omega
    simp [St.setSlot, this]
  have arr : ∀ {n : Nat} {el : Ty} {i : Nat}, (st.obj k).ty = .array n el → (st.obj k).u = .idx i →
      pl.ty = .array n el ∧ i + el.size = (pos + 1) * el.size ∧ UAt (.idx (i + el.size)) pl.ty (pos + 1) := by
    intro n el i hty' hu'
    have hpt : pl.ty = .array n el := hl.ty.symm.trans hty'
    rw [hpt] at hu
    have hi : i = pos * el.size := by rw [hu] at hu'; cases hu'; rfl
    have h1 : i + el.size = (pos + 1) * el.size := by rw [hi, Nat.add_mul, Nat.one_mul]
    exact ⟨hpt, h1, by unfold UAt; rw [hpt, h1]⟩
  cases advance_round e with
  | @elem n el i _ hty' hu' hne hp =>
    rw [hk] at hty' hu' hne hp
    obtain ⟨hpt, h1, h2⟩ := arr hty' hu'
    rw [h1] at hne hp
    obtain ⟨hc, hg⟩ := (next_elem hsz hok hl hpt).2 fun h => hne h.1
    exact .inl ⟨_, hc, push (top' := st.top) hc (by rw [hg, if_neg hne]) hp rfl (Nat.add_comm _ _) (h1 ▸ h2)⟩
  | @grow n el i _ hty' hu' heq hti hp =>
    -- `t->size` grows by one element when the cursor stood at the last one
    rw [hk] at hty' hu' heq hti hp
    obtain ⟨hpt, h1, h2⟩ := arr hty' hu'
    rw [h1] at heq hp
    obtain ⟨hc, hg⟩ := (next_elem hsz hok hl hpt).2 fun h => by rw [hti] at h; cases h.2
    exact .inl ⟨_, hc, push (top' := st.top + _) hc (by rw [hg, if_pos heq]) hp rfl (Nat.add_comm _ _) (h1 ▸ h2)⟩
  | @mem tag size ms nm0 t0 o0 b0 a0 nm t o b a nx _ hty' hu' hp =>
    rw [hk] at hty' hu' hp
    have hpt : pl.ty = .agg false tag size ms := hl.ty.symm.trans hty'
    rw [hpt] at hu
    have hd : Members.drop ms pos = .cons nm0 t0 o0 b0 a0 (.cons nm t o b a nx) := U.mem.inj (hu.symm.trans hu')
    have hd1 : Members.drop ms (pos + 1) = .cons nm t o b a nx := by rw [drop_succ, hd]
    have hc : childAt pl (pos + 1) true =
        some { ty := t, off := pl.off + o, before := b, after := a, depth := pl.depth + 1 } := by
      rw [childAt_agg hpt, hd1]; rfl
    exact .inl ⟨_, hc, push (top' := st.top) hc (gtop_nonarray (fun _ _ h => by rw [hpt] at h; cases h) _ _).symm hp rfl
      (Nat.add_comm _ _) (by unfold UAt; rw [hpt]; simp only []; rw [hd1])⟩
  | up _ hne hused e' =>
    rw [hk] at hne hused e'
    refine .inr ⟨?_, pop _ hne e'⟩
    cases hused with
    | array hty' hu' heq hti =>
      obtain ⟨hpt, h1, _⟩ := arr hty' hu'
      exact (next_elem hsz hok hl hpt).1 ⟨h1 ▸ heq, hti⟩
    | @struct tag size ms nm t o b a hty' hu' =>
      have hpt : pl.ty = .agg false tag size ms := hl.ty.symm.trans hty'
      rw [hpt] at hu
      have hd : Members.drop ms pos = .cons nm t o b a .nil := U.mem.inj (hu.symm.trans hu')
      rw [childAt_agg hpt, drop_succ, hd]; rfl
  | over _ hne hna hns e' =>
    -- a union (only its first member is reached by counting)
    rw [hk] at hne hna hns e'
    have hc : childAt pl (pos + 1) true = none := by
      cases hpt : pl.ty with
      | scalar s k' => exact childAt_scalar hpt _ _
      | array n el => exact absurd (hl.ty.trans hpt) (hna n el)
      | agg iu tag size ms =>
        cases iu with
        | false => exact absurd (hl.ty.trans hpt) (hns tag size ms)
        | true => rw [childAt_agg hpt]; simp
    exact .inr ⟨hc, fun h => hne h.symm, _, e', rfl, ⟨rfl, rfl, rfl, fun _ _ => rfl⟩, rfl, rfl, rfl⟩

/-- slot `j` has no sub-object after the one its cursor stands at -/
def Exh (st : St) (j : Nat) : Prop :=
  ∃ pl pos ch, PlWf pl ∧ Lvl st j pl pos ch ∧ childAt pl (pos + 1) true = none

theorem Exh.frame {st st' : St} {j m : Nat} (h : Exh st j) (hf : Frame m st st') (hj : j < m) : Exh st' j := by
  obtain ⟨pl, pos, ch, hw, hl, hc⟩ := h
  exact ⟨pl, pos, ch, hw, hl.frame hf hj, hc⟩

theorem advance_pops : ∀ (d : Nat) {st st' : St} {f k : Nat}, st.sub = k + 1 + d →
    (∀ j, k < j → j < st.sub → Exh st j) → advance f st = .ok st' →
    ∃ f1 st1, advance f1 st1 = .ok st' ∧ st1.sub = k + 1 ∧ Frame (k + 1) st st1 ∧ st1.log = st.log := by
  intro d
  induction d with
  | zero => intro st st' f k hs _ e; exact ⟨f, st, e, hs, Frame.refl _ _, rfl⟩
  | succ d ih =>
    intro st st' f k hs hex e
    cases f with
    | zero => rw [advance] at e; cases e
    | succ f =>
      obtain ⟨pl, pos, ch, hw, hl, hc⟩ := hex (k + 1 + d) (by omega) (by omega)
      rcases advance_lvl (k := k + 1 + d) (by omega) (.known hw.unb (flat_pos st (by omega))) (.known hw) hl e with
        ⟨_, hc', _⟩ | ⟨_, _, st1, e1, hs1, hf1, hl1, _, _⟩
      · rw [hc] at hc'; cases hc'
      obtain ⟨f2, st2, e2, hs2, hf2, hl2⟩ := ih (k := k) hs1
        (fun j h1 h2 => (hex j h1 (by omega)).frame hf1 (by omega)) e1
      exact ⟨f2, st2, e2, hs2, (hf1.mono (by omega)).trans hf2 (Nat.le_refl _), by rw [hl2, hl1]⟩

theorem advance_to_next {st stp : St} {k f : Nat} {pl ch ch' : Place} {pos : Nat}
    (hk : k < st.sub) (hsz : Sz st k pl (pos + 1)) (hok : PlOk pl) (hl : Lvl st k pl pos ch)
    (hex : ∀ j, k < j → j < st.sub → Exh st j) (hc : childAt pl (pos + 1) true = some ch')
    (e : advance f st = .ok stp) :
    AtChild st stp k pl (pos + 1) ch' := by
  obtain ⟨f1, st1, e1, hs1, hf1, hl1⟩ := advance_pops (st.sub - (k + 1)) (k := k) (by omega) hex e
  have hlow := hf1.low k (Nat.lt_succ_self _)
  have hsz1 : Sz st1 k pl (pos + 1) := hsz.frame (hf1.mono (Nat.le_succ _)) (by rw [hlow])
  cases f1 with
  | zero => rw [advance] at e1; cases e1
  | succ f1 =>
    rcases advance_lvl hs1 hsz1 hok (hl.frame hf1 (Nat.lt_succ_self _)) e1 with ⟨_, hc', h⟩ | ⟨hn, _⟩
    · rw [hc] at hc'; cases hc'
      exact ⟨h.sub, h.lvl, h.sp, (hf1.mono (Nat.le_succ _)).step.trans h.step (Nat.le_refl _), by rw [h.top, hf1.top],
        by rw [h.log, hl1], by rw [h.iscur, hlow], h.fresh⟩
    · rw [hc] at hn; cases hn

end CprocVerif.InitSim
