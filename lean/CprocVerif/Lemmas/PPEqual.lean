import CprocVerif.Model.PP
import CprocVerif.Spec.MacroRef

/-! # `macroequal` decides equality of definitions up to white space

for replacement lists of tokens shaped as the scanner shapes them (`Scanned`); of the reference alone, `identical`
(6.10.3p2) implies `identicalModSpace`. -/

namespace CprocVerif.PP
open CprocVerif.Gen.TokenKinds

/-- the observable part of a token: class and spelling -/
def Tok.key (t : Tok) : Kind × Option Name := (t.kind, t.lit)

/-- kinds whose tokens carry a spelling (`t->lit != NULL`) as the scanner delivers them -/
def hasLit (k : Kind) : Bool :=
  k = .TIDENT || k = .TNUMBER || k = .TCHARCONST || k = .TSTRINGLIT || k = .TOTHER

/-- the token is shaped as `scan()` shapes tokens -/
def Scanned (t : Tok) : Prop := t.lit.isSome = hasLit t.kind

instance (t : Tok) : Decidable (Scanned t) := by unfold Scanned; infer_instance

theorem tokensEqual_iff : ∀ (as bs : List Tok), (∀ a ∈ as, Scanned a) → (∀ b ∈ bs, Scanned b) →
    (tokensEqual as bs = true ↔ as.map Tok.key = bs.map Tok.key)
  | [], [], _, _ => by simp [tokensEqual]
  | [], _ :: _, _, _ => by simp [tokensEqual]
  | _ :: _, [], _, _ => by simp [tokensEqual]
  | a :: as, b :: bs, ha, hb => by
    have ih := tokensEqual_iff as bs (fun x hx => ha x (List.mem_cons_of_mem _ hx))
      (fun x hx => hb x (List.mem_cons_of_mem _ hx))
    have sa : Scanned a := ha a (List.mem_cons_self ..)
    have sb : Scanned b := hb b (List.mem_cons_self ..)
    rw [tokensEqual]
    by_cases hk : a.kind = b.kind
    · by_cases hl : a.lit = b.lit
      · simp [hk, hl, ih, Tok.key]
      · -- tokens of one kind both have a spelling or both have none
        have : a.lit.isSome = true := by
          rw [Scanned, hk, ← sb] at sa
          cases h1 : a.lit with
          | some _ => rfl
          | none =>
            cases h2 : b.lit with
            | none => exact absurd (h1.trans h2.symm) hl
            | some _ => rw [h1, h2] at sa; cases sa
        simp [hk, hl, this, Tok.key]
    · simp [hk, Tok.key]

theorem paramsEqual_iff : ∀ (ps qs : List Param), paramsEqual ps qs = true ↔ ps = qs
  | [], [] => by simp [paramsEqual]
  | [], _ :: _ => by simp [paramsEqual]
  | _ :: _, [] => by simp [paramsEqual]
  | ⟨n, a, b, c⟩ :: ps, ⟨n', a', b', c'⟩ :: qs => by
    simp [paramsEqual, paramsEqual_iff ps qs, and_assoc]

theorem bodyEqual_iff (b1 b2 : List Tok) (h1 : ∀ a ∈ b1, Scanned a) (h2 : ∀ b ∈ b2, Scanned b) :
    (if b1.length ≠ b2.length then false else tokensEqual b1 b2) = true ↔ b1.map Tok.key = b2.map Tok.key := by
  split
  · rename_i hl
    constructor
    · intro h; cases h
    · intro h
      have := congrArg List.length h
      simp only [List.length_map] at this
      exact absurd this hl
  · exact tokensEqual_iff _ _ h1 h2

theorem macroequal_iff (m1 m2 : Macro) (h1 : ∀ a ∈ m1.body, Scanned a) (h2 : ∀ b ∈ m2.body, Scanned b) :
    macroequal m1 m2 = true ↔
      (m1.func = m2.func ∧ (m1.func = true → m1.params = m2.params) ∧ m1.body.map Tok.key = m2.body.map Tok.key) := by
  have hb := bodyEqual_iff m1.body m2.body h1 h2
  unfold macroequal
  by_cases hf : m1.func = m2.func
  · cases hfun : m1.func with
    | false =>
      rw [hfun] at hf
      simp only [← hf, ne_eq, not_true_eq_false, ↓reduceIte, Bool.false_and, Bool.false_eq_true,
        false_imp_iff, true_and]
      exact hb
    | true =>
      rw [hfun] at hf
      simp only [← hf, ne_eq, not_true_eq_false, ↓reduceIte, Bool.true_and, forall_const, true_and]
      by_cases hp : m1.params = m2.params
      · have : paramsEqual m1.params m2.params = true := (paramsEqual_iff _ _).mpr hp
        rw [hp] at this
        simp only [hp, this, decide_true, Bool.and_self, Bool.not_true, Bool.false_eq_true, ↓reduceIte, true_and]
        exact hb
      · have : paramsEqual m1.params m2.params = false := by
          cases hq : paramsEqual m1.params m2.params with
          | false => rfl
          | true => exact absurd ((paramsEqual_iff _ _).mp hq) hp
        simp [hp, this]
  · simp [hf]

end CprocVerif.PP

namespace CprocVerif.Spec.MacroRef

theorem map_eq_of_zip {α β : Type} (f : α → β) : ∀ (as bs : List α), as.length = bs.length →
    (∀ p ∈ as.zip bs, f p.1 = f p.2) → as.map f = bs.map f
  | [], [], _, _ => rfl
  | a :: as, b :: bs, hl, h => by
    rw [List.map_cons, List.map_cons, h (a, b) (by simp), map_eq_of_zip f as bs (by simpa using hl)
      (fun p hp => h p (by simp [hp]))]

theorem sameSpacing_keys : ∀ {a b : List PTok}, sameSpacing a b = true → a.map (·.key) = b.map (·.key)
  | [], [], _ => rfl
  | [], _ :: _, h => nomatch h
  | _ :: _, [], h => nomatch h
  | x :: as, y :: bs, h => by
    -- stated by hand: the equation lemmas of `sameSpacing` (overlapping patterns) are dear to generate
    have h : (decide (x.key = y.key) && (as.zip bs).all (fun p => decide (p.1.key = p.2.key) && decide (p.1.space = p.2.space))
        && decide (as.length = bs.length)) = true := h
    simp only [Bool.and_eq_true, decide_eq_true_eq, List.all_eq_true] at h
    rw [List.map_cons, List.map_cons, h.1.1, map_eq_of_zip _ _ _ h.2 (fun p hp => (h.1.2 p hp).1)]

theorem identical_modSpace {a b : MacroDef} (h : identical a b = true) : identicalModSpace a b = true := by
  simp only [identical, identicalModSpace, Bool.and_eq_true, decide_eq_true_eq] at h ⊢
  exact ⟨h.1, sameSpacing_keys h.2⟩

end CprocVerif.Spec.MacroRef
