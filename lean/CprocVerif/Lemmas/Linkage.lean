import CprocVerif.Lemmas.LinkageAbs

/-!
Every quantity the spec computes from the whole annotated history `A` is an *aggregate* (`Agg`, a
finite record of `any`/`all`/`head?`/`getLast?` values), and the aggregates of `d :: A` are a function
of `d` and the aggregates of `A` (`aggs_cons`).  The model's entries for the file scope and the
innermost block, with a few ghost bits (`Ghost`), determine the aggregates (`G`, `related`).  That one
declaration keeps this relation, is accepted when the spec accepts, rejected when the spec says it
violates a constraint, and prints what the spec prescribes is a finite statement (`stepCheck`),
checked by kernel evaluation in `LinkageTable.lean` over one representative of each class of states the
declaration can tell apart.  Induction over the history (`LinkageInd.lean`) does the rest.
-/
namespace CprocVerif.Linkage
open CprocVerif.Link

theorem mAgg_kindNe (M : List Decl) (k : Kind) :
    (M.any fun d => d.form.kind ≠ k) = (mAgg M).kindNe k := by cases k <;> rfl

theorem mAgg_flagNe (M : List Decl) (b : Bool) :
    (M.any fun d => d.form.kind = .obj ∧ d.form.flag ≠ b) = (mAgg M).flagNe b := by cases b <;> rfl

theorem mAgg_cons (d : Decl) (M : List Decl) : mAgg (d :: M) = (mAgg M).cons d := by
  simp [mAgg, MAgg.cons, List.any_cons]

def aggs (A : List Decl) : Agg :=
  { fileM := mAgg (mates .file A),
    blockM := mAgg (mates .block A),
    fileLink := (A.find? Decl.atFile).map (·.link),
    headLink := A.head?.map (·.link),
    linkedM := mAgg (linkedDecls A),
    linkNeIntern := (linkedDecls A).any (fun d => d.link ≠ .intern),
    linkNeExtern := (linkedDecls A).any (fun d => d.link ≠ .extern),
    label := entityLabel A,
    hasDef := hasDefinition A,
    inlExt := A.any (fun d => d.form.kind = .func ∧ d.link = .extern ∧ d.form.flag),
    fTent := (A.filter Decl.atFile).any (fun d => d.form.kind = .obj ∧ ¬ d.form.hasDef ∧ d.form.sc ≠ .extern),
    fPure := (A.filter Decl.atFile).all (fun d => d.form.kind = .func → d.form.flag ∧ d.form.sc ≠ .extern),
    lHead := (linkedDecls A).head?.map (fun d => (d.form.kind, d.link)),
    lThread := (linkedDecls A).any (fun d => d.form.kind = .obj ∧ d.form.flag),
    fThreadTent := A.any (fun d => d.form.kind = .obj ∧ d.form.scope = .file ∧ d.form.flag ∧
                      ¬ d.form.hasDef ∧ d.form.sc ≠ .extern) }

theorem aggs_mates (A : List Decl) (sc : Scope) : (aggs A).mates sc = mAgg (mates sc A) := by
  cases sc <;> rfl

theorem aggs_visLink (A : List Decl) (f : Form) : (aggs A).visLink f = visLink f A := by
  simp only [Agg.visLink, visLink, aggs]

theorem aggs_linkNe (A : List Decl) {l : Link} (h : l ≠ .none) :
    (aggs A).linkNe l = (linkedDecls A).any fun d => decide (d.link ≠ l) := by
  cases l
  · exact absurd rfl h
  · rfl
  · rfl

theorem judge_eq (f : Form) (A : List Decl) : judge f A = judgeA f (aggs A) := by
  unfold judge judgeA
  simp only [mAgg_kindNe, mAgg_flagNe, aggs_mates, aggs_visLink]
  have h1 : ∀ l, (l ≠ Link.none ∧ ((linkedDecls A).any fun d => decide (d.link ≠ l)) = true) ↔
      (l ≠ .none ∧ (aggs A).linkNe l = true) :=
    fun l => and_congr_right fun h => by rw [aggs_linkNe A h]
  simp only [h1]
  rfl

theorem ite_ok {c : Prop} [Decidable c] {x y : Verdict} (h : (if c then x else y) = .ok) (hx : x ≠ .ok) :
    ¬ c ∧ y = .ok := by
  by_cases hc : c
  · rw [if_pos hc] at h; exact absurd h hx
  · rw [if_neg hc] at h; exact ⟨hc, h⟩

theorem judgeA_ok {f : Form} {a : Agg} (h : judgeA f a = .ok) :
    localViol f = false ∧ (c11Link f (a.visLink f) ≠ .none →
      a.linkedM.kindNe f.kind = false ∧ a.linkNe (c11Link f (a.visLink f)) = false) := by
  unfold judgeA at h
  obtain ⟨h1, h⟩ := ite_ok h nofun
  obtain ⟨h2, h⟩ := ite_ok h nofun
  obtain ⟨h3, h⟩ := ite_ok h nofun
  obtain ⟨h4, h⟩ := ite_ok h nofun
  obtain ⟨_, h⟩ := ite_ok h nofun
  obtain ⟨_, h⟩ := ite_ok h nofun
  obtain ⟨_, h⟩ := ite_ok h nofun
  obtain ⟨_, h⟩ := ite_ok h nofun
  obtain ⟨h9, h⟩ := ite_ok h nofun
  obtain ⟨h10, _⟩ := ite_ok h nofun
  exact ⟨by simp only [localViol, h1, h2, h3, h4, decide_false, Bool.or_self],
    fun hl => ⟨by simpa [hl] using h9, by simpa [hl] using h10⟩⟩

theorem entityLabel_cons (d : Decl) (A : List Decl) :
    entityLabel (d :: A) =
      if d.linked then (if (linkedDecls A).isEmpty then d.form.asm else entityLabel A)
      else entityLabel A := by
  unfold entityLabel linkedDecls
  by_cases h : d.linked
  · simp only [List.filter_cons, h, if_true]
    cases hL : List.filter Decl.linked A with
    | nil => simp
    | cons x xs => simp [List.getLast?_cons_cons]
  · simp [h]

theorem mates_block_cons (d : Decl) (A : List Decl) :
    mates .block (d :: A) = (match d.form.scope with
      | .file => []
      | .nested => [d]
      | .block => d :: mates .block A) := by
  show blockMates (d :: A) = _
  unfold blockMates
  cases d.form.scope <;> rfl

theorem aggs_cons (d : Decl) (A : List Decl) : aggs (d :: A) = aggCons d (aggs A) := by
  have hf : ∀ {β} (F : List Decl → β) (p : Decl → Bool),
      F ((d :: A).filter p) = if p d then F (d :: A.filter p) else F (A.filter p) := by
    intro β F p; cases h : p d <;> simp [h]
  apply Agg.ext
  · exact (hf mAgg Decl.atFile).trans (by rw [mAgg_cons]; rfl)
  · show mAgg (mates .block (d :: A)) = _
    rw [mates_block_cons]
    simp only [aggCons]
    cases d.form.scope <;> simp only [mAgg_cons, MAgg.nil] <;> rfl
  · show ((d :: A).find? Decl.atFile).map (·.link) = if d.atFile then some d.link else _
    rw [List.find?_cons]; cases d.atFile <;> rfl
  · rfl
  · exact (hf mAgg Decl.linked).trans (by rw [mAgg_cons]; rfl)
  · exact (hf (·.any _) Decl.linked).trans (by simp only [aggCons]; cases d.linked <;> rfl)
  · exact (hf (·.any _) Decl.linked).trans (by simp only [aggCons]; cases d.linked <;> rfl)
  · exact (entityLabel_cons d A).trans rfl
  · rfl
  · rfl
  · exact (hf (·.any _) Decl.atFile).trans (by simp only [aggCons]; cases d.atFile <;> rfl)
  · exact (hf (·.all _) Decl.atFile).trans rfl
  · exact (hf (fun L => L.head?.map fun d => (d.form.kind, d.link)) Decl.linked).trans rfl
  · exact (hf (·.any _) Decl.linked).trans (by simp only [aggCons]; cases d.linked <;> rfl)
  · rfl

instance decForallGhost {p : Ghost → Prop} [DecidablePred p] : Decidable (∀ x, p x) :=
  decidable_of_iff (∀ a b c d k l lt la, p ⟨a, b, c, d, (k : Option Kind).bind (fun k' => (l : Option Link).map (fun l' => (k', l'))), lt, la⟩ ∧ True)
    ⟨fun h x => by
      rcases x with ⟨a, b, c, d, e, lt, la⟩
      rcases e with _ | ⟨k, l⟩
      · exact (h a b c d none none lt la).1
      · exact (h a b c d (some k) (some l) lt la).1,
     fun h _ _ _ _ _ _ _ _ => ⟨h _, trivial⟩⟩

def valid (file top : Option Ent) (g : Ghost) : Bool :=
  validGhost g && validFile file g && validTop top g

/-- The simulation relation between the aggregates `a` of the history and the model's entries for the file scope and the
innermost block. -/
def related (a : Agg) (file top : Option Ent) : Bool :=
  relL a && relF a file && relT a file top

theorem related_elim {a : Agg} {file top : Option Ent} (h : related a file top = true) :
    valid file top (ghostOf a) = true ∧ a = G file top (ghostOf a) := by
  simp only [related, relL, relF, relT, Bool.and_eq_true, beq_iff_eq] at h
  obtain ⟨⟨⟨⟨⟨hg, _⟩, _⟩, _⟩, ⟨⟨⟨hf, _⟩, _⟩, _⟩⟩, ⟨⟨ht, _⟩, _⟩⟩ := h
  refine ⟨by simp only [valid, hg, hf, ht, Bool.and_self], ?_⟩
  apply Agg.ext <;> first | assumption | rfl

/-- What `stepCheck` says when the spec accepts `f` (`stepCheck_sound` in `LinkageSim.lean`), with the relation in full where the
check for a declaration inside a function body has only `relT` and `frame`.  `a'`, `l`: the aggregates after `f` and its linkage. -/
def Accepts (f : Form) (a a' : Agg) (l : Link) (v : View) (file : Option Ent) : Prop :=
  if devTStep f a then isError (declare v f) = true
  else ∃ e, declare v f = .ok e ∧
    related a' (if f.scope = .file then some e.ent else file) (if f.scope = .file then none else some e.ent) = true ∧
    effOK f a a' l e = true ∧ emitOK f a a' l e = true

def StepOK (f : Form) (a : Agg) (file top : Option Ent) : Prop :=
  (judgeA f a = .ok → Accepts f a (aggCons ⟨f, c11Link f (a.visLink f)⟩ a) (c11Link f (a.visLink f))
    (viewOf file top f.scope) file) ∧
  (mustReject (judgeA f a) = true → isError (declare (viewOf file top f.scope) f) = true)

theorem aggCons_frame {d : Decl} (a : Agg) (hd : d.atFile = false) :
    (aggCons d a).fileM = a.fileM ∧ (aggCons d a).fileLink = a.fileLink ∧
    (aggCons d a).hasDef = a.hasDef ∧ (aggCons d a).fTent = a.fTent ∧ (aggCons d a).fPure = a.fPure ∧
    (aggCons d a).fThreadTent = a.fThreadTent := by
  have : d.form.scope ≠ .file := by simpa [Decl.atFile] using hd
  simp [aggCons, hd, this]

theorem mainA_nodef {a : Agg} (h1 : a.hasDef = false) (h2 : a.fTent = false) : mainA a = none := by
  unfold mainA
  rcases a.lHead with _ | ⟨k, l⟩
  · rfl
  · cases k <;> simp [h1, h2]

theorem emittedA_nodef {a : Agg} (h1 : a.hasDef = false) (h2 : a.fTent = false) : emittedA a = none := by
  unfold emittedA
  rw [mainA_nodef h1 h2, ite_self]

/-- `relF` and `emittedA` read, besides the six aggregates of `aggCons_frame`, only `lHead`, `lThread`
and `label`: by `frame` these stay, or there is no file-scope entry, hence no definition either. -/
theorem related_frame {d : Decl} {a : Agg} {file top : Option Ent} {e : Ent} (hd : d.atFile = false)
    (hr : related a file top = true) (hL : relL (aggCons d a) = true)
    (hT : relT (aggCons d a) none (some e) = true) (hf : frame a (aggCons d a) file.isNone = true) :
    related (aggCons d a) file (some e) = true ∧ emittedA (aggCons d a) = emittedA a := by
  obtain ⟨h1, h2, h3, h4, h5, h6⟩ := aggCons_frame a hd
  simp only [related, Bool.and_eq_true] at hr
  obtain ⟨⟨_, hF⟩, _⟩ := hr
  simp only [frame, Bool.and_eq_true, Bool.or_eq_true, beq_iff_eq] at hf
  obtain ⟨hlab, hrest⟩ := hf
  have hT' : relT (aggCons d a) file (some e) = true := hT
  suffices h : relF (aggCons d a) file = relF a file ∧ emittedA (aggCons d a) = emittedA a by
    simp only [related, hL, h.1, hF, hT', h.2, Bool.and_self, and_self]
  rcases file with _ | fe
  · refine ⟨by simp only [relF, validFile, ghostOf, G, h1, h2, h3, h4, h5, h6, hlab], ?_⟩
    simp only [relF, validFile, ghostOf, Bool.and_eq_true, Bool.not_eq_true'] at hF
    obtain ⟨⟨⟨⟨⟨⟨v1, v2⟩, _⟩, _⟩, _⟩, _⟩, _⟩ := hF
    rw [emittedA_nodef v1 v2, emittedA_nodef (h3.trans v1) (h4.trans v2)]
  · simp only [Option.isNone_some, Bool.false_eq_true, false_or] at hrest
    obtain ⟨hh, hth⟩ := hrest
    exact ⟨by simp only [relF, validFile, ghostOf, G, h1, h2, h3, h4, h5, h6, hlab, hh, hth]; rfl,
      by simp only [emittedA, pendingA, mainA, h3, h4, h5, hh, hth]; rfl⟩

/-! ## What a declaration can see

`stepCheck` does not look at everything: a file-scope declaration sees no block; one inside a
function body sees of the file scope only the entry's kind, linkage, storage duration and label, and
if it opens a nested block it has no mates; `inlExt` matters only at the end of the unit; and of the
enclosing scope's entry `declare` reads only the linkage.  So it is enough to check one state of each
such class. -/

def Agg.seenFrom (a : Agg) : Scope → Agg
  | .file => { a with blockM := .nil, headLink := a.fileLink, inlExt := false }
  | .block => { a with inlExt := false, hasDef := false, fTent := false, fPure := true, fThreadTent := false }
  | .nested => { a with blockM := .nil, inlExt := false, hasDef := false, fTent := false, fPure := true,
                        fThreadTent := false }

-- by `rfl` once the scope is a constructor: `stepCheck` and what it calls test the scope before they read a field that `seenFrom`
-- resets, so the test reduces whatever the other fields are
theorem stepCheck_seenFrom (f : Form) (a : Agg) (v : View) (nofile : Bool) :
    stepCheck f a v nofile = stepCheck f (a.seenFrom f.scope) v nofile := by
  obtain ⟨k, sc, fl, s, hd, as⟩ := f
  cases s <;> rfl

theorem finishCheck_seenFrom (a : Agg) (file : Option Ent) :
    finishCheck a file = finishCheck (a.seenFrom .file) file := rfl

/-- an entry with the same kind, linkage, storage duration and label, as left by declarations that
define nothing -/
def Ent.strip (e : Ent) : Ent :=
  { e with defined := false, tentative := false, inlinedefn := decide (e.kind = .func ∧ e.link = .extern) }

theorem declare_strip {f : Form} (hf : f.scope ≠ .file) (v : View) :
    declare v f = declare { v with file := v.file.map Ent.strip } f := by
  rcases v with ⟨vs, vp, vf⟩
  simp only [declare, declObj, declFunc, declcommon, hf, decide_false]
  rcases vf with _ | p <;> rfl

def ViewEq (v w : View) : Prop :=
  v.same = w.same ∧ v.file = w.file ∧ (v.same = none → v.parent.map (·.link) = w.parent.map (·.link))

theorem declare_congr {v w : View} (h : ViewEq v w) (f : Form) : declare v f = declare w f := by
  rcases v with ⟨vs, vp, vf⟩
  rcases w with ⟨ws, wp, wf⟩
  obtain ⟨h1, h2, h3⟩ := h
  simp only at h1 h2 h3
  subst h1 h2
  cases vs with
  | some p => simp only [declare, declObj, declFunc, declcommon]
  | none =>
    have hg : ∀ fs : Bool, getlinkage f.kind f.sc (if fs = true then none else vp) fs =
        getlinkage f.kind f.sc (if fs = true then none else wp) fs := by
      intro fs
      cases fs
      · rcases vp with _ | p <;> rcases wp with _ | q <;> simp at h3 <;> simp [getlinkage, h3]
      · rfl
    simp only [declare, declObj, declFunc, declcommon, hg]

/-- the representatives of the file-scope entry and the ghost for a declaration in scope `sc`; `canonTop`, for the innermost
block's entry, is in `LinkageAbs.lean` -/
def canonFile : Scope → Option Ent → Option Ent
  | .file, file => file
  | _, file => file.map Ent.strip

def canonGhost : Scope → Ghost → Ghost
  | .file, g => { g with linl := false }
  | _, g => { g with linl := false, fdef := false, ftent := false, fpure := true }

theorem G_seenFrom_canon (file top : Option Ent) (g : Ghost) (sc : Scope) :
    (G file top g).seenFrom sc = (G (canonFile sc file) (canonTop sc top) (canonGhost sc g)).seenFrom sc := by
  cases sc
  · rfl
  · rcases file with _ | fe <;> rcases top with _ | t <;> rfl
  · rcases file with _ | fe <;> rcases top with _ | t <;> try rfl
    all_goals simp only [canonTop]; split <;> rfl

theorem declare_canon (file top : Option Ent) (f : Form) :
    declare (viewOf file top f.scope) f =
      declare (viewOf (canonFile f.scope file) (canonTop f.scope top) f.scope) f := by
  rcases hs : f.scope with _ | _ | _
  · rfl
  · rw [declare_strip (by simp [hs])]
    refine declare_congr ?_ f
    rcases file with _ | fe <;> rcases top with _ | t <;> exact ⟨rfl, rfl, fun _ => rfl⟩
  · rw [declare_strip (by simp [hs])]
    refine declare_congr ?_ f
    rcases file with _ | fe <;> rcases top with _ | t <;> refine ⟨rfl, rfl, fun _ => ?_⟩ <;> try rfl
    all_goals simp only [canonTop, viewOf]; split <;> rfl

theorem stepCheck_canon (f : Form) (file top : Option Ent) (g : Ghost) :
    stepCheck f (G file top g) (viewOf file top f.scope) file.isNone =
      stepCheck f (G (canonFile f.scope file) (canonTop f.scope top) (canonGhost f.scope g))
        (viewOf (canonFile f.scope file) (canonTop f.scope top) f.scope) (canonFile f.scope file).isNone := by
  have hn : (canonFile f.scope file).isNone = file.isNone := by
    cases f.scope <;> cases file <;> rfl
  rw [stepCheck_seenFrom, G_seenFrom_canon, ← stepCheck_seenFrom, hn]
  simp only [stepCheck, declare_canon file top f]

def allLink : List Link := [.none, .intern, .extern]
def allEnt : List (Option Ent) := none ::
  allKind.flatMap fun k => allLink.flatMap fun l => allBool.flatMap fun d => allBool.flatMap fun t =>
  allBool.flatMap fun i => allDur.flatMap fun du => allLabel.map fun a => some ⟨k, l, d, t, i, du, a, ()⟩

theorem mem_allBool (b : Bool) : b ∈ allBool := by cases b <;> simp [allBool]
theorem mem_allKind (b : Kind) : b ∈ allKind := by cases b <;> simp [allKind]
theorem mem_allLink (b : Link) : b ∈ allLink := by cases b <;> simp [allLink]
theorem mem_allDur (b : Dur) : b ∈ allDur := by cases b <;> simp [allDur]
theorem mem_allSC (b : SC) : b ∈ allSC := by cases b <;> simp [allSC]
theorem mem_allLabel (b : Option Label) : b ∈ allLabel := by
  rcases b with _ | l
  · simp [allLabel]
  · cases l <;> simp [allLabel]

theorem mem_allEnt (e : Option Ent) : e ∈ allEnt := by
  rcases e with _ | ⟨k, l, d, t, i, du, a, ⟨⟩⟩
  · simp [allEnt]
  · simp only [allEnt, List.mem_cons, List.mem_flatMap, List.mem_map]
    exact Or.inr ⟨k, mem_allKind k, l, mem_allLink l, d, mem_allBool d, t, mem_allBool t, i, mem_allBool i,
      du, mem_allDur du, a, mem_allLabel a, rfl⟩

theorem mem_formsAt {f : Form} (h : localViol f = false) (ha : f.asm = none) : f ∈ formsAt f.scope := by
  rcases f with ⟨k, sc, fl, s, hd, a⟩
  subst ha
  refine List.mem_filter.2 ⟨?_, by simp [h]⟩
  simp only [List.mem_flatMap, List.mem_map]
  exact ⟨k, mem_allKind k, sc, mem_allSC sc, fl, mem_allBool fl, hd, mem_allBool hd, rfl⟩

theorem mem_ghostsOf {g : Ghost} (sc : Scope) (h : validGhost g = true) :
    canonGhost sc g ∈ ghostsOf sc g.lent := by
  refine List.mem_filter.2 ⟨?_, (Bool.and_eq_true_iff).2
    ⟨by cases sc <;> exact h, by cases sc <;> simp [canonGhost]⟩⟩
  simp only [List.mem_flatMap, List.mem_map]
  cases sc <;> exact ⟨_, mem_allBool _, _, mem_allBool _, _, mem_allBool _, _, mem_allBool g.lthread, _,
    mem_allLabel g.label, rfl⟩

theorem mem_filesFor {file : Option Ent} {g : Ghost} (h : validFile file g = true) :
    file ∈ filesFor g := by
  refine List.mem_filter.2 ⟨?_, h⟩
  rcases file with _ | ⟨k, l, df, t, i, du, a, ⟨⟩⟩
  · simp
  · rcases g with ⟨g1, g2, g3, g4, lent, lt, la⟩
    cases k <;> cases du <;> cases lt <;> simp [validFile] at h <;>
      simp [h, mem_allBool]

theorem mem_topsFor {top : Option Ent} {g : Ghost} (sc : Scope) (h : validTop top g = true) :
    canonTop sc top ∈ topsFor g sc := by
  rcases top with _ | ⟨k, l, df, t, i, du, a, ⟨⟩⟩
  · cases sc <;> simp [topsFor, canonTop, validTop]
  · rcases g with ⟨g1, g2, g3, g4, lent, lt, la⟩
    simp only [validTop, Bool.and_eq_true, Bool.not_eq_true'] at h
    obtain ⟨rfl, h⟩ := h
    by_cases hl : l = .none
    · subst hl
      simp only [if_true, Bool.and_eq_true, decide_eq_true_eq, Option.isNone_iff_eq_none,
        Bool.not_eq_true'] at h
      obtain ⟨⟨⟨rfl, rfl⟩, rfl⟩, rfl⟩ := h
      cases sc <;> simp [topsFor, canonTop, validTop, mem_allDur]
    · simp only [hl, if_false, Bool.and_eq_true, decide_eq_true_eq, Bool.not_eq_true'] at h
      obtain ⟨⟨⟨rfl, rfl⟩, rfl⟩, h⟩ := h
      cases sc <;> simp [topsFor, canonTop, validTop, hl, List.mem_flatMap, mem_allBool, mem_allDur] <;>
        simpa using h

theorem validFile_canon {file : Option Ent} {g : Ghost} (sc : Scope) (h : validFile file g = true) :
    validFile (canonFile sc file) (canonGhost sc g) = true := by
  cases sc
  · exact h
  all_goals
    rcases file with _ | ⟨k, l, df, t, i, du, a, ⟨⟩⟩
    · simp only [validFile, Bool.and_eq_true] at h
      simp [canonFile, canonGhost, validFile, h.2]
    · cases k <;> simp only [validFile, Bool.and_eq_true, decide_eq_true_eq, Bool.not_eq_true'] at h <;>
        simp [canonFile, canonGhost, validFile, Ent.strip, h]

theorem simAll_spec {g : Ghost} {file top : Option Ent} {f : Form} (h : simAll g.lent f.scope = true)
    (hv : valid file top g = true) (hf : localViol f = false) (ha : f.asm = none) :
    stepCheck f (G file top g) (viewOf file top f.scope) file.isNone = true := by
  rw [stepCheck_canon]
  simp only [valid, Bool.and_eq_true] at hv
  simp only [simAll, List.all_eq_true] at h
  exact h _ (mem_ghostsOf f.scope hv.1.1) _ (mem_filesFor (validFile_canon f.scope hv.1.2)) _
    (mem_topsFor f.scope (g := canonGhost f.scope g) (by cases f.scope <;> exact hv.2)) f (mem_formsAt hf ha)

theorem finAll_spec {g : Ghost} {file top : Option Ent} (h : finAll g.lent = true)
    (hv : valid file top g = true) : finishCheck (G file top g) file = true := by
  rw [finishCheck_seenFrom, G_seenFrom_canon, ← finishCheck_seenFrom]
  simp only [valid, Bool.and_eq_true] at hv
  simp only [finAll, List.all_eq_true] at h
  exact h _ (mem_ghostsOf .file hv.1.1) _ (mem_filesFor hv.1.2)

end CprocVerif.Linkage
