import CprocVerif.Lemmas.InitGeoInv
import CprocVerif.Lemmas.InitParse
import CprocVerif.Lemmas.InitRefItem

/-!
# The invariant `K` is kept by every step of `parseinit`; hence every logged event is placed
-/

namespace CprocVerif.InitSim
open CprocVerif.Init CprocVerif.Image CprocVerif.InitRef

theorem K.frame {root : Place} {st st' : St} {m : Nat} (h : K root st) (hf : Frame m st st')
    (hm : (st'.obj m).ty = (st.obj m).ty) (hlog : st'.log = st.log) (hstk : ∃ pl, Stk root st' pl)
    (hcur : ∀ c, st.cur = some c → c ≤ st'.sub) : K root st' := by
  refine ⟨hf.inc.trans h.inc, ?_, hstk, by rw [hlog]; exact h.log, fun c hc => hcur c (hf.cur.symm.trans hc)⟩
  rw [hf.top, h.top]
  cases m with
  | zero => rw [hm]
  | succ m => rw [hf.low 0 (Nat.succ_pos m)]

theorem K.pop {root : Place} {st st' : St} (h : K root st) (ho : st'.obj = st.obj) (hs : st'.sub ≤ st.sub) (hi : st'.inc = st.inc)
    (ht : st'.top = st.top) (hl : ∀ e ∈ st'.log, PlaceEv root e) (hc : ∀ c, st'.cur = some c → c ≤ st'.sub) : K root st' := by
  obtain ⟨pl, hs'⟩ := h.stk
  exact ⟨hi.trans h.inc, by rw [ht, ho]; exact h.top,
    ⟨pl, Stk.pop hs' hs (fun j _ => by rw [ho]) (by rw [ho]) (by rw [ho])⟩, hl, hc⟩

theorem K.atChild {root ch : Place} {st st' : St} {pl : Nat → Place} {k pos : Nat} (h : K root st) (hs : Stk root st pl)
    (hk : k ≤ st.sub) (hu : (pl k).unb = false) (hc : childAt (pl k) pos true = some ch)
    (ha : AtChild st st' k (pl k) pos ch) (hcur : ∀ c, st.cur = some c → c ≤ k + 1) : K root st' := by
  have hs0 : Stk root ({ st with sub := k } : St) pl := Stk.pop hs hk (fun _ _ => rfl) rfl rfl
  exact h.frame (ha.frame hu) (by rw [ha.lvl.ty, (hs.slot k hk).1]) ha.log
    ⟨_, Stk.push hs0 ha.sub ha.step.low ha.lvl hc ha.sp.ty ha.sp.off⟩ (fun c hc' => by rw [ha.sub]; exact hcur c hc')

theorem K.cur_le {root : Place} {st : St} (h : K root st) : st.cur.getD 0 ≤ st.sub := by
  cases hc : st.cur with
  | none => exact Nat.zero_le _
  | some c => exact h.cur c hc

theorem conv_shape {s : Nat} {k : SK} {e : Expr} {v : Val} (h : convScalar s k e = some v) :
    (∃ u, v = .int s u) ∨ (∃ b, v = .flt s b ∧ k = .flt) ∨ (∃ sy o, v = .addr sy o) ∨ v = .other := by
  unfold convScalar at h
  split at h
  · split at h <;> cases h <;> exact .inl ⟨_, rfl⟩
  · cases h; exact .inr (.inl ⟨_, rfl, rfl⟩)
  · cases h; exact .inl ⟨_, rfl⟩
  · cases h; exact .inr (.inr (.inl ⟨_, _, rfl⟩))
  · split at h <;> cases h
    · exact .inr (.inr (.inl ⟨_, _, rfl⟩))
    · exact .inr (.inr (.inr rfl))
  · cases h
  · cases h; exact .inr (.inr (.inl ⟨_, _, rfl⟩))
  · cases h
  · cases h
  · cases h; exact .inr (.inr (.inr rfl))

theorem isChar_csize {c : Nat} (h : isChar c = true) : csize c = 1 := by
  unfold isChar at h
  simp only [Bool.or_eq_true, decide_eq_true_eq] at h
  rcases h with (rfl | rfl) | rfl <;> rfl

/-- a string literal that `hit` accepts for an array of integers has elements of their size -/
theorem str_width {es cls scls w : Nat} {cs : List Nat} (hl : es = csize cls)
    (hso : strOK (.str w scls cs) = true) (hok : ¬ (!(isChar cls && isChar scls) && decide (cls ≠ scls)) = true) :
    w = es ∧ (es = 1 ∨ es = 2 ∨ es = 4) := by
  simp only [strOK, Bool.and_eq_true, beq_iff_eq, Bool.or_eq_true] at hso
  have hcc : csize cls = csize scls := by
    cases h1 : isChar cls <;> cases h2 : isChar scls <;> simp only [h1, h2, Bool.and_false, Bool.and_true,
      Bool.not_false, Bool.not_true, Bool.true_and, Bool.false_and, Bool.false_eq_true, not_false_eq_true,
      decide_eq_true_eq, Decidable.not_not] at hok
    · rw [hok]
    · rw [hok]
    · rw [hok]
    · rw [isChar_csize h1, isChar_csize h2]
  have hw : w = es := by rw [hso.1, hl, hcc]
  exact ⟨hw, hw ▸ or_assoc.1 hso.2⟩

theorem closeBrace_K {root : Place} {st : St} (h : K root st) : K root (closeBrace st) := by
  rw [closeBrace_flat (h.flat _).tinc]
  exact h.pop rfl h.cur_le rfl rfl h.log (fun k hk => Nat.le_of_lt (prevCur_lt st _ k hk))

theorem openSt_K {root : Place} {st : St} (h : K root st) : K root (openSt st) := by
  obtain ⟨pl, hs⟩ := h.stk
  have hslot : ∀ j, ((openSt st).obj j).ty = (st.obj j).ty ∧ ((openSt st).obj j).offset = (st.obj j).offset ∧
      ((openSt st).obj j).u = (st.obj j).u := fun j => by
    by_cases hj : j = st.sub
    · rw [hj, openSt_top]; exact ⟨rfl, rfl, rfl⟩
    · rw [openSt_low st j hj]; exact ⟨rfl, rfl, rfl⟩
  refine ⟨h.inc, ?_, ⟨pl, hs.root, ?_, ?_, fun k hk => ?_⟩, h.log, fun c hc => by cases hc; exact Nat.le_refl _⟩
  · show st.top = _
    rw [(hslot 0).1]; exact h.top
  · exact (hslot st.sub).1.trans hs.ty
  · exact (hslot st.sub).2.1.trans hs.off
  · obtain ⟨pos, hl, hc⟩ := hs.lvl k hk
    exact ⟨pos, ⟨(hslot k).1.trans hl.ty, (hslot k).2.1.trans hl.off, hl.child, (hslot k).2.2 ▸ hl.u⟩, hc⟩

mutual
  theorem iniAll_of_class {tys : List Ty} : ∀ (i : Ini), strsOK i = true → desigsOK tys i = true →
      IniAll (fun ds => ∀ d ∈ ds, desigOK tys d = true) (fun e => strOK e = true) i
    | .expr e, hs, _ => by simpa only [IniAll, strsOK] using hs
    | .list its, hs, hd => by
      simp only [IniAll]
      exact itemsAll_of_class its (by simpa only [strsOK] using hs) (by simpa only [desigsOK] using hd)
  theorem itemsAll_of_class {tys : List Ty} : ∀ (its : Items), strsOKs its = true → desigsOKs tys its = true →
      ItemsAll (fun ds => ∀ d ∈ ds, desigOK tys d = true) (fun e => strOK e = true) its
    | .nil, _, _ => by simp only [ItemsAll]
    | .cons ds i rest, hs, hd => by
      simp only [strsOKs, Bool.and_eq_true] at hs
      simp only [desigsOKs, Bool.and_eq_true, List.all_eq_true] at hd
      simp only [ItemsAll]
      exact ⟨hd.1.1, iniAll_of_class i hs.1 hd.1.2, itemsAll_of_class rest hs.2 hd.2⟩
end

section
variable {nu : Bool} {root : Place} (hg : PlGeo nu root) (hr : root.before = 0 ∧ root.after = 0)
  {tys : List Ty} (htys : ∀ x ∈ subTys root.ty, x ∈ tys)
include hg

theorem focus_K {st st' : St} (h : K root st) (e : focus st = .ok st') : K root st' := by
  obtain ⟨pl, hs⟩ := h.stk
  obtain ⟨ps, hw, hgk⟩ := hs.places hg st.sub (Nat.le_refl _)
  obtain ⟨ch, hc, ha⟩ := focus_step (.known hgk.wf.unb (h.flat _)) (.known hgk.wf) hs.ty hs.off e
  exact h.atChild hs (Nat.le_refl _) hgk.wf.unb hc ha fun c hc' => Nat.le_succ_of_le (h.cur c hc')

theorem advance_K {f : Nat} {st st' : St} (h : K root st) (hcs : ∀ c, st.cur = some c → c < st.sub)
    (e : advance f st = .ok st') : K root st' := by
  induction f generalizing st with
  | zero => cases e
  | succ f ih =>
    cases hsk : st.sub with
    | zero => rw [advance, if_pos hsk] at e; cases e
    | succ k =>
      have hk : k < st.sub := hsk ▸ Nat.lt_succ_self k
      obtain ⟨pl, hs⟩ := h.stk
      obtain ⟨pos, hl, hc0⟩ := hs.lvl k hk
      obtain ⟨ps, hw, hgk⟩ := hs.places hg k (Nat.le_of_lt hk)
      rcases advance_lvl hsk (.known hgk.wf.unb (h.flat _)) (.known hgk.wf) hl e with ⟨ch', hc, ha⟩ |
          ⟨hc, hne, st1, e1, hs1, hf1, hl1, ht1, ho1⟩
      · exact h.atChild hs (Nat.le_of_lt hk) hgk.wf.unb hc ha fun c hc' => hsk ▸ Nat.le_of_lt (hcs c hc')
      · have hcs1 : ∀ c, st1.cur = some c → c < st1.sub := by
          intro c hc'
          rw [hf1.cur] at hc'
          have h1 := hcs c hc'
          rw [hsk] at h1
          rw [hs1]
          exact Nat.lt_of_le_of_ne (Nat.le_of_lt_succ h1) (fun hh => hne (by rw [hc', hh]))
        have hk1 : K root st1 := h.frame hf1 ht1 hl1
          ⟨pl, Stk.pop hs (by rw [hs1]; exact Nat.le_of_lt hk) (fun j hj => hf1.low j (by rw [hs1] at hj; exact hj))
            (by rw [hs1]; exact ht1) (by rw [hs1]; exact ho1)⟩
          (fun c hc' => Nat.le_of_lt (hcs1 c (hf1.cur.trans hc')))
        exact ih hk1 hcs1 e1

include htys in
theorem desigStep_K {st st' : St} {d : Desig} (hd : desigOK tys d = true) (h : K root st) (e : desigStep st d = .ok st') :
    K root st' := by
  obtain ⟨pl, hs⟩ := h.stk
  obtain ⟨ps, hw, hgk⟩ := hs.places hg st.sub (Nat.le_refl _)
  obtain ⟨path, hres, hf⟩ := desigStep_spec hs.ty hs.off hgk.wf (h.flat _) e
  have hfp : firstPath (pl st.sub).ty path = true := by
    have hmem := htys _ (walk_subTys ps hw)
    unfold desigOK at hd
    have := List.all_eq_true.1 hd _ hmem
    rw [hres] at this
    exact this
  obtain ⟨q', hch, hsp⟩ := hf.chain
  obtain ⟨pl', p0, pm, plv⟩ := stk_chain hch pl hs.root rfl
    (fun k hk => (hs.lvl k hk).imp fun pos hp => ⟨hp.1.frame hf.frame hk, hp.2⟩) hfp
  have hlt : st.sub < st'.sub := by
    rw [hch.len]
    exact Nat.lt_add_of_pos_right (List.length_pos_iff.2 hf.ne)
  exact h.frame hf.frame hf.ty hf.log ⟨pl', p0, pm ▸ hsp.ty, pm ▸ hsp.off, plv⟩
    (fun c hc' => Nat.le_trans (h.cur c hc') (Nat.le_of_lt hlt))

include htys in
theorem designator_K {st st' : St} {ds : List Desig} (hds : ∀ d ∈ ds, desigOK tys d = true) (h : K root st)
    (e : designator st ds = .ok st') : K root st' := by
  unfold designator at e
  refine foldlM_desigStep (fun hm hk he => desigStep_K hg htys (hds _ hm) hk he) ?_ e
  exact h.pop rfl h.cur_le rfl rfl h.log (fun c hc' => by
    have : st.cur = some c := hc'
    rw [this]; exact Nat.le_refl c)

include hr

theorem add_K {st : St} {v : Val} (h : K root st) (hsh : ∀ q : Place, q.ty = (st.obj st.sub).ty → Shape q v)
    {b a : Nat} (hb : curBits st = .ok (b, a)) : K root (addSt st b a v) := by
  obtain ⟨pl, hs⟩ := h.stk
  obtain ⟨ps, hw, hgk⟩ := hs.places hg st.sub (Nat.le_refl _)
  have hbits := hs.bits hr
  rw [hb] at hbits
  cases hbits
  refine h.pop rfl (Nat.le_refl _) rfl rfl ?_ h.cur
  intro ev hev
  rcases List.mem_append.1 hev with hev | hev
  · exact h.log ev hev
  · rw [List.mem_singleton.1 hev]
    refine ⟨ps, pl st.sub, hw, ⟨hs.off, ?_, rfl, rfl, hsh _ hs.ty.symm⟩⟩
    show (st.obj st.sub).offset + st.tsize st.sub = _
    rw [(h.flat _).tsize, hs.off, hs.ty]

omit hr in
theorem braceClear_K {st : St} (h : K root st) : K root (braceClear st) := by
  cases hcur : st.cur with
  | none => rw [braceClear_nocur hcur]; exact h
  | some c =>
    cases hsc : isScalarTy (st.obj st.sub).ty with
    | true => rw [braceClear_scalar hsc]; exact h
    | false =>
      obtain ⟨pl, hs⟩ := h.stk
      obtain ⟨ps, hw, _⟩ := hs.places hg st.sub (Nat.le_refl _)
      rw [braceClear_clear hcur (h.flat _) hsc]
      refine h.pop rfl (Nat.le_refl _) rfl rfl (fun ev hev => ?_) h.cur
      rcases List.mem_append.1 hev with hev | hev
      · exact h.log ev hev
      · rw [List.mem_singleton.1 hev]
        exact ⟨ps, pl st.sub, hw, hs.off, by rw [hs.off, hs.ty], by rw [← hs.ty]; exact hsc⟩

include htys

/-- `place`: `add:` stores a value of the shape that belongs to the type of the slot -/
theorem keeps_K : Keeps (K root) (fun ds => ∀ d ∈ ds, desigOK tys d = true) (fun e => strOK e = true) where
  focus := focus_K hg
  designator h hd e := designator_K hg htys hd h e
  advance h hc hne e := advance_K hg h (fun c' hc' => by
    rw [hc] at hc'; cases hc'; exact Nat.lt_of_le_of_ne (h.cur _ hc) (Ne.symm hne)) e
  down h he := ((hit_state he).resolve_right fun ⟨ht, _⟩ => by rw [(h.flat _).tinc] at ht; cases ht) ▸ h
  place {st st1 e v b a} h hso he hb := by
    obtain ⟨pl, hs⟩ := h.stk
    obtain rfl : st1 = st := (hit_state he).resolve_right fun ⟨ht, _⟩ => by rw [(h.flat _).tinc] at ht; cases ht
    refine add_K hg hr h ?_ hb
    rcases expr_cases (st1.obj st1.sub).ty e with ⟨size, k, hty⟩ | ⟨n, es, cls, sg, w, scls, cs, hty, rfl⟩ |
        ⟨isU, tag, size, ms, hty, rfl⟩ | hel
    · rw [hit_scalar hty] at he
      cases hcv : convScalar size k e with
      | none => rw [hcv] at he; cases he
      | some v' =>
        rw [hcv] at he; cases he
        exact fun q hq => by unfold Shape; rw [hq, hty]; exact conv_shape hcv
    · rw [hit_str hty (h.flat _).tinc] at he
      split at he
      · cases he
      · rename_i hbad
        cases he
        intro q hq
        obtain ⟨_, _, hgk⟩ := hs.places hg st1.sub (Nat.le_refl _)
        have hl := hgk.lay
        rw [← hs.ty, hty] at hl
        simp only [layOK, beq_iff_eq] at hl
        obtain ⟨rfl, h3⟩ := str_width hl hso hbad
        unfold Shape
        rw [hq, hty]
        exact ⟨cs, rfl, h3⟩
    · rw [hit_aggeq hty] at he; cases he
      exact fun q hq => by unfold Shape; rw [hq, hty]
    · rw [hit_elide hel] at he; cases he
  braceClear := braceClear_K hg
  closeBrace := closeBrace_K
  complete h := h.pop rfl (Nat.le_refl _) h.inc.symm rfl h.log h.cur
  openSt := openSt_K

theorem parseItems_K : ∀ (its : Items) (st st' : St), K root st → strsOKs its = true →
      desigsOKs tys its = true → parseItems st its = .ok st' → K root st' :=
  fun its st st' h hso hnd he => (keeps_K hg hr htys).parseItems its st st' h (itemsAll_of_class its hso hnd) he

end

theorem root_geo {t : Ty} (hwf : tyWf t = true) (hlay : layOK t = true) :
    PlGeo (noUnion t) { ty := t, unb := false } :=
  ⟨pl0_wf hwf, hlay, bitsOK_zero hlay, fun h => h⟩

theorem st0_K (t : Ty) : K { ty := t, unb := false } (st0 t false) :=
  ⟨rfl, rfl, ⟨fun _ => { ty := t, unb := false }, rfl, rfl, rfl, fun k hk => (by cases hk)⟩,
    fun e he => (by cases he), fun c hc => (by cases hc)⟩

theorem parseinit_placed {t : Ty} {i : Ini} {st : St} (hm : parseinit t false i = .ok st) (hwf : tyWf t = true)
    (hlay : layOK t = true) (hmode : desigsOK (subTys t) i = true) (hso : strsOK i = true) :
    (∀ e ∈ st.log, PlaceEv { ty := t, unb := false } e) ∧ st.top = t.size := by
  have hk := (keeps_K (root_geo hwf hlay) ⟨rfl, rfl⟩ (tys := subTys t) (fun x hx => hx)).parseinit (st0_K t)
    (iniAll_of_class i hso hmode) hm
  refine ⟨hk.log, ?_⟩
  rw [hk.top]
  obtain ⟨pl, hs⟩ := hk.stk
  rw [(hs.slot 0 (Nat.zero_le _)).1, hs.root]

end CprocVerif.InitSim
