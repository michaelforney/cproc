import CprocVerif.Spec.Qbe
import CprocVerif.Spec.QbeWf

/-!
  C03, classes: which ends of `Spec/Qbe.lean` are class mismatches, and the typing of one operation:
  if opcode and result class are in the table `Op.sig` and the operands have kinds acceptable for
  the classes of that row, `execOp` raises no class error and its result has the kind of the
  result class.
-/

namespace CprocVerif.C03.Cls
open CprocVerif.Qbe

/-- The `OpErr.mismatch` messages of `Spec/Qbe.lean` that denote an operand, result, argument,
    parameter or return value of the wrong class (or count).  NOT in the list, because they are not
    class errors: `"use of undefined call result"` (the callee executed `ret` without a value: the
    IL is well-formed, the source program has undefined behaviour), `"vastart in a non-variadic
    function"`, `"unknown aggregate type :…"`, `"integer argument expected"` (raised only inside
    the built-in externals `builtinExt`; what external functions owe is `ExtOkP` in
    `QbeClsStep.lean`).  The list is matched as text and nothing checks that it is exhaustive: a
    `.mismatch` message added to `Spec/Qbe.lean` and not entered here falls outside `ClassStuck`
    without any proof failing. -/
def classMsgs : List String := [
  -- operand readers (`asW asL asS asD asK coerce`: instructions, jnz, phis, stores, arguments,
  -- parameters, returned values, bound call results)
  "float value used as w", "w value used as l", "float value used as l",
  "value used as s", "value used as d",
  -- opcode / result-class table
  "not a binary integer operation", "not a float operation", "integer result in float class",
  "operation needs a result class", "load result class", "exts result class",
  "truncd result class", "swtof result class", "uwtof result class", "sltof result class",
  "ultof result class", "cast without result", "wrong number of operands",
  -- calls and returns against signatures
  "too few arguments in call", "too many arguments in call",
  "misplaced variadic marker in call", "argument type differs from parameter type",
  "internal: parameter count", "ret with a value in a function without return type",
  "scalar returned to an aggregate call", "aggregate returned to a call of another type"]

def ClsErr (e : OpErr) : Prop := ∃ w ∈ classMsgs, e = .mismatch w

def ClassStuck (e : End) : Prop := ∃ w ∈ classMsgs, e = (OpErr.mismatch w).toEnd

instance (e : OpErr) : Decidable (ClsErr e) := by unfold ClsErr; infer_instance
instance (e : End) : Decidable (ClassStuck e) := by unfold ClassStuck; infer_instance

theorem classStuck_toEnd {e : OpErr} (h : ClassStuck e.toEnd) : ClsErr e := by
  obtain ⟨w, hw, he⟩ := h
  cases e with
  | mismatch w' =>
    simp only [OpErr.toEnd, End.stuck.injEq, StuckReason.other.injEq] at he
    exact ⟨w, hw, by rw [(String.append_right_inj _).1 he]⟩
  | _ => cases he

theorem not_cls_oob (w : String) : ¬ ClsErr (.oob w) := by
  rintro ⟨_, _, h⟩; cases h
theorem not_cls_trap (w : String) : ¬ ClsErr (.trap w) := by
  rintro ⟨_, _, h⟩; cases h

/-- The mismatch messages that `step` itself raises and that are not class messages begin with
    `use`, `vas` or `unk`; no class message does.  (`"integer argument expected"` of `builtinExt`
    is not covered: it begins like the class message `"integer result in float class"`.)  The
    prefixes are compared as UTF-8 bytes, which the kernel evaluates far faster than characters. -/
theorem not_cls_of_prefix {w : String}
    (h : w.toByteArray.data.toList.take 3 ∈ [[117, 115, 101], [118, 97, 115], [117, 110, 107]]) :
    ¬ ClsErr (.mismatch w) := by
  have hall : ∀ w ∈ classMsgs,
      w.toByteArray.data.toList.take 3 ∉ [[117, 115, 101], [118, 97, 115], [117, 110, 107]] := by
    decide +kernel
  rintro ⟨_, hw, he⟩
  cases he
  exact hall _ hw h

theorem not_cls_undefResult : ¬ ClsErr (.mismatch "use of undefined call result") :=
  not_cls_of_prefix (by decide)

theorem not_cls_vastart : ¬ ClsErr (.mismatch "vastart in a non-variadic function") :=
  not_cls_of_prefix (by decide)

theorem not_cls_unknownAgg (t : String) :
    ¬ ClsErr (.mismatch ("unknown aggregate type :" ++ t)) := by
  refine not_cls_of_prefix ?_
  rw [String.toByteArray_append, ByteArray.data_append, Array.toList_append,
    List.take_append_of_le_length (by decide)]
  decide

/-- A value of this kind can be read at class `k` without a class error (`.u`, an undefined call
    result, at any class: its use is not a class error). -/
def kindOk (k : Cls) : Kind → Bool
  | .w => k == .w
  | .l => k == .l || k == .w
  | .s => k == .s
  | .d => k == .d
  | .c => k == .w || k == .l
  | .u => true

def Safe {α : Type} (P : α → Prop) : Except OpErr α → Prop
  | .ok a => P a
  | .error e => ¬ ClsErr e

theorem Safe.bind {α β : Type} {P : α → Prop} {Q : β → Prop} {x : Except OpErr α}
    {k : α → Except OpErr β} (hx : Safe P x) (hk : ∀ a, P a → Safe Q (k a)) :
    Safe Q (x >>= k) := by
  cases x with
  | error e => exact hx
  | ok a => exact hk a hx

theorem Safe.mono {α : Type} {P Q : α → Prop} {x : Except OpErr α} (hx : Safe P x)
    (h : ∀ a, P a → Q a) : Safe Q x := by
  cases x with
  | error e => exact hx
  | ok a => exact h a hx

theorem Safe.pure {α : Type} {P : α → Prop} {a : α} (h : P a) :
    Safe P (Pure.pure a : Except OpErr α) := h

theorem Safe.error {α : Type} {P : α → Prop} {x : Except OpErr α} {e : OpErr} (hx : Safe P x)
    (he : x = .error e) : ¬ ClsErr e := by
  rw [he] at hx
  exact hx

theorem Safe.ite {α : Type} {P : α → Prop} {c : Prop} [Decidable c] {x y : Except OpErr α}
    (hx : Safe P x) (hy : Safe P y) : Safe P (if c then x else y) := by
  split <;> assumption

theorem safe_asK {k : Cls} {v : RVal} (h : kindOk k v.kind = true) :
    Safe (fun _ => True) (v.asK k) := by
  obtain ⟨kd, bits⟩ := v
  cases k <;> cases kd <;> first
    | exact True.intro
    | exact not_cls_undefResult
    | cases h

theorem safe_asW {v : RVal} (h : kindOk .w v.kind = true) : Safe (fun _ => True) v.asW :=
  safe_asK (k := .w) h
theorem safe_asL {v : RVal} (h : kindOk .l v.kind = true) : Safe (fun _ => True) v.asL :=
  safe_asK (k := .l) h

theorem safe_coerce {k : Cls} {v : RVal} (h : kindOk k v.kind = true) :
    Safe (fun r => r.kind = k.kind) (v.coerce k) := by
  unfold RVal.coerce
  cases hx : v.asK k with
  | error e => exact (safe_asK h).error hx
  | ok b => rfl

theorem safe_load (m : Mem) (a n : Nat) : Safe (fun _ => True) (m.load a n) := by
  unfold Mem.load
  repeat' split
  all_goals first | trivial | exact not_cls_oob _

theorem safe_store (m : Mem) (a n : Nat) (v : UInt64) : Safe (fun _ => True) (m.store a n v) := by
  unfold Mem.store
  repeat' split
  all_goals first | trivial | exact not_cls_oob _

theorem safe_readBytes (m : Mem) (a n : Nat) : Safe (fun _ => True) (m.readBytes a n) := by
  unfold Mem.readBytes
  repeat' split
  all_goals first | trivial | exact not_cls_oob _

theorem safe_alloc (m : Mem) (a n : Nat) (i : Option ByteArray) :
    Safe (fun _ => True) (m.alloc a n i) :=
  .ite (not_cls_trap _) (.ite (not_cls_trap _) True.intro)

theorem safe_truncTo {k : Cls} (h : isInt k = true) (v : UInt64) :
    Safe (fun _ => True) (truncTo k v) := by
  cases k <;> first | exact True.intro | cases h

/-- The rows of `Op.sig` for the binary operations that `arith2` executes. -/
def arithOk (o : Op) (k : Cls) : Bool :=
  match o with
  | .add | .sub | .mul | .div => true
  | .udiv | .rem | .urem | .or | .xor | .and | .sar | .shr | .shl => isInt k
  | _ => false

theorem safe_arith2 {o : Op} {k : Cls} (h : arithOk o k = true) (x y : UInt64) :
    Safe (fun _ => True) (arith2 o k x y) := by
  cases o
  case div | rem =>
    cases k <;> first
      | exact True.intro
      | exact .ite (not_cls_trap _) (.ite (not_cls_trap _) True.intro)
      | cases h
  case udiv | urem =>
    cases k <;> first | exact .ite (not_cls_trap _) True.intro | cases h
  case add | sub | mul | or | xor | and | sar | shr | shl =>
    cases k <;> first | exact True.intro | cases h
  all_goals cases h

def kindsOk : List Cls → List RVal → Bool
  | [], [] => true
  | k :: ks, v :: vs => kindOk k v.kind && kindsOk ks vs
  | _, _ => false

theorem kindsOk_one {k : Cls} {vs : List RVal} (h : kindsOk [k] vs = true) :
    ∃ a, vs = [a] ∧ kindOk k a.kind = true := by
  match vs, h with
  | [a], h => exact ⟨a, rfl, by simpa [kindsOk] using h⟩
  | [], h => simp [kindsOk] at h
  | _ :: _ :: _, h => simp [kindsOk] at h

theorem kindsOk_two {k k' : Cls} {vs : List RVal} (h : kindsOk [k, k'] vs = true) :
    ∃ a b, vs = [a, b] ∧ kindOk k a.kind = true ∧ kindOk k' b.kind = true := by
  match vs, h with
  | [a, b], h => exact ⟨a, b, rfl, by simpa [kindsOk] using h⟩
  | [], h => simp [kindsOk] at h
  | [_], h => simp [kindsOk] at h
  | _ :: _ :: _ :: _, h => simp [kindsOk] at h

theorem needRes_some (k : Cls) : needRes (some k) = .ok k := rfl
theorem ok_bind {α β : Type} (a : α) (f : α → Except OpErr β) : (Except.ok a >>= f) = f a := rfl

def ResOk (k : Option Cls) (r : RVal × Mem) : Prop := ∀ c, k = some c → r.1.kind = c.kind

theorem safe_res (k : Cls) (bits : UInt64) (mem : Mem) :
    Safe (ResOk (some k)) (pure (⟨k.kind, bits⟩, mem)) :=
  fun _ hc => by cases hc; rfl

theorem safe_nores (v : RVal) (mem : Mem) : Safe (ResOk none) (pure (v, mem)) :=
  fun _ hc => nomatch hc

theorem safe_unop {k : Cls} {x : Except OpErr UInt64} {f : UInt64 → Except OpErr UInt64}
    {mem : Mem} (hx : Safe (fun _ => True) x) (hf : ∀ a, Safe (fun _ => True) (f a)) :
    Safe (ResOk (some k)) (do let a ← x; let r ← f a; pure (⟨k.kind, r⟩, mem)) :=
  hx.bind fun a _ => (hf a).bind fun r _ => safe_res k r mem

theorem safe_binop {k : Cls} {x y : Except OpErr UInt64}
    {f : UInt64 → UInt64 → Except OpErr UInt64} {mem : Mem} (hx : Safe (fun _ => True) x)
    (hy : Safe (fun _ => True) y) (hf : ∀ a b, Safe (fun _ => True) (f a b)) :
    Safe (ResOk (some k)) (do let a ← x; let b ← y; let r ← f a b; pure (⟨k.kind, r⟩, mem)) :=
  hx.bind fun a _ => hy.bind fun b _ => (hf a b).bind fun r _ => safe_res k r mem

theorem ite_some {α : Type} {c : Bool} {a b : α}
    (h : (if c = true then some a else none) = some b) : c = true ∧ a = b :=
  (Option.ite_none_right_eq_some.1 h).imp id Option.some.inj

theorem safe_execOp {o : Op} {k : Option Cls} {ks : List Cls} {vs : List RVal} {mem : Mem}
    {va : Option ByteArray} (hsig : o.sig k = some ks) (hvs : kindsOk ks vs = true) :
    Safe (ResOk k) (execOp o k vs mem va) := by
  -- The cases follow the rows of `Op.sig`.  In each, `hsig` gives the operand classes (and, for a
  -- conditional row, `isInt k`), `hvs` the operands, and the arm of `execOp` is a chain of binds.
  cases k with
  | none =>
    cases o
    case store t =>
      cases hsig
      obtain ⟨v, a, rfl, hv, ha⟩ := kindsOk_two hvs
      cases t <;> exact (safe_asL ha).bind fun _ _ => (safe_asK hv).bind fun _ _ =>
        (safe_store _ _ _ _).bind fun _ _ => safe_nores _ _
    case vastart =>
      cases hsig
      obtain ⟨a, rfl, ha⟩ := kindsOk_one hvs
      refine (safe_asL ha).bind fun _ _ => ?_
      cases va with
      | none => exact not_cls_vastart
      | some area =>
        exact (safe_alloc _ _ _ _).bind fun _ _ => (safe_store _ _ _ _).bind fun _ _ =>
          safe_nores _ _
    case load t => cases t <;> cases hsig
    all_goals cases hsig
  | some k =>
    cases o
    case add | sub | mul | div =>
      cases hsig
      obtain ⟨a, b, rfl, ha, hb⟩ := kindsOk_two hvs
      exact safe_binop (safe_asK ha) (safe_asK hb) (safe_arith2 rfl)
    case udiv | rem | urem | or | xor | and | sar | shr | shl =>
      obtain ⟨hk, rfl⟩ := ite_some hsig
      obtain ⟨a, b, rfl, ha, hb⟩ := kindsOk_two hvs
      exact safe_binop (safe_asK ha) (safe_asK hb) (safe_arith2 hk)
    case cmpw | cmpl | cmps | cmpd =>
      obtain ⟨hk, rfl⟩ := ite_some hsig
      obtain ⟨a, b, rfl, ha, hb⟩ := kindsOk_two hvs
      exact safe_binop (safe_asK ha) (safe_asK hb) fun _ _ => safe_truncTo hk _
    case neg =>
      cases hsig
      obtain ⟨a, rfl, ha⟩ := kindsOk_one hvs
      exact (safe_asK ha).bind fun _ _ => by cases k <;> exact safe_res _ _ _
    case copy =>
      cases hsig
      obtain ⟨a, rfl, ha⟩ := kindsOk_one hvs
      exact (safe_coerce ha).bind fun _ hr _ hc => by cases hc; exact hr
    case extsh | extuh | extsb | extub =>
      obtain ⟨hk, rfl⟩ := ite_some hsig
      obtain ⟨a, rfl, ha⟩ := kindsOk_one hvs
      exact safe_unop (safe_asW ha) fun _ => safe_truncTo hk _
    case extsw | extuw =>
      cases k <;> cases hsig
      obtain ⟨a, rfl, ha⟩ := kindsOk_one hvs
      exact safe_unop (safe_asW ha) fun _ => safe_truncTo rfl _
    -- in the remaining conversions `execOp` matches on the result class
    case stosi | stoui | dtosi | dtoui =>
      cases k <;> cases hsig <;>
        (obtain ⟨a, rfl, ha⟩ := kindsOk_one hvs
         exact safe_unop (safe_asK ha) fun _ => safe_truncTo rfl _)
    case exts | truncd | swtof | uwtof | sltof | ultof | cast =>
      cases k <;> cases hsig <;>
        (obtain ⟨a, rfl, ha⟩ := kindsOk_one hvs
         exact (safe_asK ha).bind fun _ _ => safe_res _ _ _)
    case alloc =>
      cases k <;> cases hsig
      obtain ⟨a, rfl, ha⟩ := kindsOk_one hvs
      exact (safe_asL ha).bind fun _ _ => (safe_alloc _ _ _ _).bind fun ⟨_, _⟩ _ =>
        safe_res .l _ _
    case vaarg =>
      cases hsig
      obtain ⟨a, rfl, ha⟩ := kindsOk_one hvs
      exact (safe_asL ha).bind fun _ _ => (safe_load _ _ _).bind fun _ _ =>
        (safe_load _ _ _).bind fun _ _ => (safe_store _ _ _ _).bind fun _ _ => by
          cases k <;> exact safe_res _ _ _
    case load t =>
      cases t
      case d | s | l =>
        cases k <;> cases hsig
        obtain ⟨a, rfl, ha⟩ := kindsOk_one hvs
        exact (safe_asL ha).bind fun _ _ => (safe_load _ _ _).bind fun _ _ => safe_res _ _ _
      all_goals
        obtain ⟨hk, rfl⟩ := ite_some hsig
        obtain ⟨a, rfl, ha⟩ := kindsOk_one hvs
        exact (safe_asL ha).bind fun _ _ => (safe_load _ _ _).bind fun _ _ =>
          (safe_truncTo hk _).bind fun _ _ => safe_res _ _ _
    case store | vastart => cases hsig

end CprocVerif.C03.Cls
