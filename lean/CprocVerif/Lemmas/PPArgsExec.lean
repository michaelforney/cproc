import CprocVerif.Lemmas.PPArgs
import CprocVerif.Lemmas.PPFuel

/-! # `expandfunc` inside `exec` runs the pure loop `collect`

For an invocation whose tokens come straight from the scanner (empty context stack), contain no new-line, `#`, end of
file or scanner diagnostic, and no macro name, the loops of `expandfunc` as executed by `exec` accept/reject exactly as
`collect` does, consume exactly the tokens up to the `)` that `collect` stops at, and store for each parameter: the
(painted) tokens of its argument if it is used plainly, the `stringize` string of its argument if it is used with `#`. -/

namespace CprocVerif.PP
open CprocVerif.Gen.TokenKinds

def PlainTok (ms : List Macro) (t : Tok) : Prop :=
  t.kind ≠ .TNEWLINE ∧ t.kind ≠ .THASH ∧ t.kind ≠ .TNONE ∧ t.kind ≠ .TEOF ∧
  (t.kind = .TIDENT → macroget ms (t.lit.getD []) = none)

instance (ms : List Macro) (t : Tok) : Decidable (PlainTok ms t) := by unfold PlainTok; infer_instance

/-- what `expand` leaves of an identifier that names no macro -/
def paint (t : Tok) : Tok := if t.kind = .TIDENT then { t with hide := true } else t

theorem expand_plain (n : Nat) (t : Tok) (st : St) (ht : PlainTok st.macros t) :
    exec (n + 1) (.expand t) st = .ok { st with rb := false, rt := paint t } := by
  rw [expand_eq, paint]
  by_cases hk : t.kind = .TIDENT
  · rw [if_neg (not_not_intro hk), if_pos hk, ht.2.2.2.2 hk]
  · rw [if_pos hk, if_neg hk]

/-- the state after `argnext` took the scanner's next token (`TEOF` at the end) -/
def argScanned (st : St) : St :=
  { st with raw := st.raw.tail, newline := false, rt := st.raw.headD eofTok, rb := false }

theorem argnext_scan (n : Nat) (st : St) (hctx : st.ctx = []) (hpl : ∀ t ∈ st.raw.head?, PlainTok st.macros t) :
    exec (n + 4) (.argLoop false) st = .ok (argScanned st) := by
  have h1 : exec (n + 3) .rawnext st = .ok (argScanned st) := by
    show rawnextBody (exec (n + 2)) st = _
    unfold rawnextBody
    rw [ctxnext_empty (n + 1) st hctx]
    show exec (n + 2) .nextinto { st with rb := false } = _
    obtain hraw | ⟨t, r, hraw⟩ : st.raw = [] ∨ ∃ t r, st.raw = t :: r := by cases st.raw <;> simp
    · rw [nextinto_eof (n + 1) { st with rb := false } hraw]; simp [argScanned, hraw]
    · have ht := hpl t (by rw [hraw]; rfl)
      rw [nextinto_tok (n + 1) { st with rb := false } t r hraw ht.2.2.1 ht.2.1]; simp [argScanned, hraw, ht.1]
  show argLoopBody (exec (n + 3)) false st = _
  unfold argLoopBody
  rw [h1]
  have hnl : (argScanned st).rt.kind ≠ .TNEWLINE := by
    unfold argScanned
    cases hraw : st.raw with
    | nil => simp [eofTok]
    | cons t r => exact (hpl t (by rw [hraw]; rfl)).1
  have hlen : ¬ ((argScanned st).raw.length + 1 < st.raw.length) := by
    unfold argScanned; simp only [List.length_tail]; omega
  simp only [hnl, hlen, ↓reduceIte, Bool.false_eq_true]

section shapes
variable (rec : Call → St → Res) (e : EF) (st : St)

/-- the argument record stored when the argument for the current parameter ends -/
def curArg (e : EF) : Arg :=
  ⟨e.cur.reverse, if (e.m.params.getD e.i default).fstr then strTok (e.str ++ [c! '"']) else default⟩

abbrev breakCond (e : EF) : Prop := EndArg e.m.params e.i e.paren e.t

theorem efLoop_finish (hne : e.t.kind ≠ .TEOF) (hl : st.depth ≤ e.depth) (hc : breakCond e)
    (hf : e.t.kind = .TRPAREN ∨ e.i + 1 = e.m.params.length) :
    efLoopBody rec e st = efFinish { e with depth := st.depth, done := curArg e :: e.done } st := by
  unfold efLoopBody breakCond curArg at *
  simp only [hne, ↓reduceIte, hl, decide_true, hc, and_self, hf]

theorem efLoop_nextarg (hne : e.t.kind ≠ .TEOF) (hl : st.depth ≤ e.depth) (hc : breakCond e)
    (hf : ¬ (e.t.kind = .TRPAREN ∨ e.i + 1 = e.m.params.length)) (st1 : St)
    (ha : rec (.argLoop false) st = .ok st1) :
    efLoopBody rec e st =
      efStart rec { e with depth := st.depth, done := curArg e :: e.done, i := e.i + 1, t := st1.rt } st1 := by
  unfold efLoopBody breakCond curArg at *
  simp only [hne, ↓reduceIte, hl, decide_true, hc, and_self, hf, ha]

abbrev nextParen (e : EF) : Nat := parenAfter e.t e.paren

def nextStr (e : EF) : List UInt8 :=
  if (e.m.params.getD e.i default).fstr then stringize e.str e.t else e.str

theorem efLoop_skip (hne : e.t.kind ≠ .TEOF) (hl : st.depth ≤ e.depth) (hc : ¬ breakCond e)
    (hp : (e.m.params.getD e.i default).ftok = false) (st2 : St)
    (ha : rec (.argLoop false) st = .ok st2) :
    efLoopBody rec e st =
      rec (.efLoop { e with depth := st.depth, paren := nextParen e, str := nextStr e, t := st2.rt }) st2 := by
  unfold efLoopBody breakCond nextParen nextStr at *
  simp only [hne, ↓reduceIte, hl, decide_true, true_and, hc, hp, Bool.false_eq_true, ha]

theorem efLoop_tok (hne : e.t.kind ≠ .TEOF) (hl : st.depth ≤ e.depth) (hc : ¬ breakCond e) (sx st2 : St)
    (hx : rec (.expand e.t) st = .ok sx) (hrb : sx.rb = false)
    (ha : rec (.argLoop false) st = .ok st2) (ha' : rec (.argLoop false) sx = .ok st2) :
    efLoopBody rec e st =
      rec (.efLoop { e with depth := st.depth, paren := nextParen e, str := nextStr e, t := st2.rt,
                            cur := if (e.m.params.getD e.i default).ftok then sx.rt :: e.cur else e.cur }) st2 := by
  cases hp : (e.m.params.getD e.i default).ftok with
  | true =>
    unfold efLoopBody breakCond nextParen nextStr at *
    simp only [hne, ↓reduceIte, hl, decide_true, true_and, hc, hp, hx, hrb, Bool.false_eq_true, false_and, ha']
  | false => rw [efLoop_skip rec e st hne hl hc hp st2 ha, if_neg Bool.false_ne_true]

end shapes

/-- what `expandfunc` stores for parameter `p` given the tokens `a` of its argument -/
def mkArg (p : Param) (a : List Tok) : Arg :=
  ⟨if p.ftok then a.map paint else [], if p.fstr then strTok (stringizeAll a) else default⟩

/-- the locals of `expandfunc` hold what `collect`'s accumulators (`CUR`, `DONE`, last first) say -/
structure Refines (ps : List Param) (e : EF) (CUR : List Tok) (DONE : List (List Tok)) : Prop where
  params : e.m.params = ps
  cur : e.cur = if (ps.getD e.i default).ftok then CUR.map paint else []
  str : e.str = if (ps.getD e.i default).fstr then CUR.reverse.foldl stringize [c! '"'] else [c! '"']
  done : e.done = (List.zipWith mkArg ps DONE.reverse).reverse
  ndone : DONE.length = e.i

theorem zipWith_snoc (ps : List Param) (D : List (List Tok)) (a : List Tok) (h : D.length < ps.length) :
    List.zipWith mkArg ps (D ++ [a]) = List.zipWith mkArg ps D ++ [mkArg (ps.getD D.length default) a] := by
  induction ps generalizing D with
  | nil => simp at h
  | cons p r ih =>
    cases D with
    | nil => cases r <;> simp [List.zipWith]
    | cons d ds =>
      simp only [List.cons_append, List.zipWith_cons_cons, List.length_cons, List.getD_cons_succ]
      rw [ih ds (by simpa using h)]

theorem curArg_eq {ps : List Param} {e : EF} {CUR : List Tok} {DONE : List (List Tok)} (hr : Refines ps e CUR DONE) :
    curArg e = mkArg (ps.getD e.i default) CUR.reverse := by
  unfold curArg mkArg
  rw [hr.params, hr.cur, hr.str]
  congr 1
  · split <;> simp [List.map_reverse]
  · split
    · simp [stringizeAll]
    · rfl

theorem Refines.done_cons {ps : List Param} {e : EF} {CUR : List Tok} {DONE : List (List Tok)}
    (hr : Refines ps e CUR DONE) (hi : e.i < ps.length) :
    curArg e :: e.done = (List.zipWith mkArg ps (CUR.reverse :: DONE).reverse).reverse := by
  rw [List.reverse_cons, zipWith_snoc ps DONE.reverse CUR.reverse (by simp [hr.ndone, hi]), List.reverse_append,
    hr.done, curArg_eq hr]
  simp [hr.ndone]

/-- the fields argument collection never touches -/
def Same3 (a b : St) : Prop := a.events = b.events ∧ a.ppnl = b.ppnl ∧ a.prag = b.prag

def Agrees (ps : List Param) (name : Name) (st : St) (c : Call) (r : Except Err (List (List Tok) × List Tok)) : Prop :=
  match r with
  | .error err => ∃ n, exec n c st = .error err
  | .ok (args, rest) => ∃ n st', exec n c st = .ok st' ∧ st'.raw = rest ∧ st'.ctx = [] ∧
      st'.macros = setArgs st.macros name (List.zipWith mkArg ps args) ∧ st'.depth = st.depth ∧ Same3 st' st

theorem collect_ne_fuel (ps : List Param) (L : List Tok) (i paren : Nat) (cur : List Tok) (done : List (List Tok)) :
    collect ps i paren cur done L ≠ .error .fuel := by
  fun_induction collect ps i paren cur done L <;> first | assumption | nofun

theorem agrees_step {ps : List Param} {name : Name} {st : St} {c c2 : Call}
    {R : Except Err (List (List Tok) × List Tok)} (hR : R ≠ .error .fuel)
    (hstep : ∀ k, exec (k + 5) c st = exec (k + 4) c2 (argScanned st))
    (h : Agrees ps name (argScanned st) c2 R) : Agrees ps name st c R := by
  unfold Agrees at *
  match R, hR, h with
  | .error err, hR, ⟨n, hn⟩ =>
    refine ⟨n + 5, ?_⟩
    rw [hstep]
    exact lift hn (fun hh => hR (by cases hh; rfl)) _ (Nat.le_add_right ..)
  | .ok (args, rest), _, ⟨n, st', hn, h1, h2, h3, h4, h5⟩ =>
    refine ⟨n + 5, st', ?_, h1, h2, h3, h4, h5⟩
    rw [hstep]
    exact lift hn nofun _ (Nat.le_add_right ..)

/-- the tokens `collect` looks at are plain -/
def PlainFor (ms : List Macro) (L : List Tok) (res : Except Err (List (List Tok) × List Tok)) : Prop :=
  match res with
  | .ok (_, rest) => ∀ x ∈ L.take (L.length - rest.length), PlainTok ms x
  | .error _ => ∀ x ∈ L, PlainTok ms x

theorem plainFor_of_all {ms : List Macro} {L : List Tok} (h : ∀ x ∈ L, PlainTok ms x)
    (res : Except Err (List (List Tok) × List Tok)) : PlainFor ms L res := by
  unfold PlainFor
  cases res with
  | error e => exact h
  | ok x => intro y hy; exact h y (List.mem_of_mem_take hy)

theorem plainFor_cons {ms : List Macro} {t : Tok} {r : List Tok} {res : Except Err (List (List Tok) × List Tok)}
    (hlt : ∀ x, res = .ok x → x.2.length < (t :: r).length) (h : PlainFor ms (t :: r) res) :
    PlainTok ms t ∧ PlainFor ms r res := by
  unfold PlainFor at h ⊢
  cases res with
  | error e => exact ⟨h t (List.mem_cons_self ..), fun x hx => h x (List.mem_cons_of_mem _ hx)⟩
  | ok x =>
    dsimp only at h ⊢
    rw [show (t :: r).length - x.2.length = (r.length - x.2.length) + 1 from Nat.succ_sub (Nat.le_of_lt_succ (hlt x rfl)),
      List.take_succ_cons] at h
    exact ⟨h t (List.mem_cons_self ..), fun y hy => h y (List.mem_cons_of_mem _ hy)⟩

theorem plainFor_head {ms : List Macro} {ps : List Param} {L : List Tok} {i paren : Nat} {cur : List Tok}
    {done : List (List Tok)} (h : PlainFor ms L (collect ps i paren cur done L)) : ∀ t ∈ L.head?, PlainTok ms t := by
  intro t ht
  cases L with
  | nil => cases ht
  | cons t' r =>
    cases ht
    exact (plainFor_cons (fun _ hx => collect_rest_lt ps _ _ _ _ _ _ _ hx) h).1

/-- the loop stands in the token list `L` that `collect` still has to read: the current token is the
head of `L` (`TEOF` at its end) and the scanner holds the tail -/
theorem efLoop_collect (ps : List Param) (name : Name) : ∀ (L : List Tok) (e : EF) (st : St) (CUR : List Tok)
    (DONE : List (List Tok)), Refines ps e CUR DONE → e.m.name = name → st.ctx = [] → st.depth ≤ e.depth →
    e.i < ps.length → PlainFor st.macros L (collect ps e.i e.paren CUR DONE L) → e.t = L.headD eofTok →
    st.raw = L.tail → Agrees ps name st (.efLoop e) (collect ps e.i e.paren CUR DONE L) := by
  intro L
  induction L with
  | nil =>
    intro e st CUR DONE hr hname hctx hl hi hpl het _
    refine ⟨1, ?_⟩
    show efLoopBody (exec 0) e st = _
    unfold efLoopBody
    rw [het]
    rfl
  | cons t r ih =>
    intro e st CUR DONE hr hname hctx hl hi hpl het hraw
    obtain rfl : e.t = t := het
    obtain rfl : st.raw = r := hraw
    obtain rfl := hr.params
    obtain ⟨hpt, hpl'⟩ := plainFor_cons (fun _ hx => collect_rest_lt _ _ _ _ _ _ _ _ hx) hpl
    have hne : e.t.kind ≠ .TEOF := hpt.2.2.2.1
    have hnext : ∀ {i' paren' cur' done'}, PlainFor st.macros st.raw (collect e.m.params i' paren' cur' done' st.raw) →
        ∀ k (s : St), s.ctx = [] → s.raw = st.raw → s.macros = st.macros →
          exec (k + 4) (.argLoop false) s = .ok (argScanned s) :=
      fun h k s h1 h2 h3 => argnext_scan k s h1 (by rw [h2, h3]; exact plainFor_head h)
    by_cases hc : breakCond e
    · by_cases hf : e.t.kind = .TRPAREN ∨ e.i + 1 = e.m.params.length
      · have hbody : exec 1 (.efLoop e) st = efFinish { e with depth := st.depth, done := curArg e :: e.done } st :=
          efLoop_finish (exec 0) e st hne hl hc hf
        unfold efFinish at hbody
        simp only [hr.done_cons hi, List.reverse_reverse, hname] at hbody
        rw [collect, if_pos hc, if_pos hf]
        by_cases h1 : e.i + 1 < e.m.params.length
        · rw [if_pos h1] at hbody ⊢
          exact ⟨1, hbody⟩
        · rw [if_neg h1] at hbody ⊢
          by_cases h2 : e.t.kind ≠ .TRPAREN
          · rw [if_pos h2] at hbody ⊢
            exact ⟨1, hbody⟩
          · rw [if_neg h2] at hbody ⊢
            exact ⟨1, _, hbody, rfl, hctx, rfl, rfl, ⟨rfl, rfl, rfl⟩⟩
      · have hi2 : e.i + 1 < e.m.params.length := by
          have : e.i + 1 ≠ e.m.params.length := fun hh => hf (.inr hh)
          omega
        have heq : collect e.m.params e.i e.paren CUR DONE (e.t :: st.raw) =
            collect e.m.params (e.i + 1) e.paren [] (CUR.reverse :: DONE) st.raw := by
          rw [collect_next hc hf, hc.1]
        rw [heq] at hpl' ⊢
        refine agrees_step (collect_ne_fuel _ _ _ _ _ _) (fun k => ?_) ?_ (c2 := .efLoop
          { e with depth := st.depth, done := curArg e :: e.done, i := e.i + 1, t := (argScanned st).rt,
                   cur := [], str := [c! '"'] })
        · show efLoopBody (exec (k + 4)) e st = _
          rw [efLoop_nextarg (exec (k + 4)) e st hne hl hc hf _ (hnext hpl' k st hctx rfl rfl)]
          unfold efStart
          rw [if_pos hi2]
        · exact ih _ (argScanned st) [] (CUR.reverse :: DONE)
            ⟨rfl, by split <;> rfl, by split <;> rfl, hr.done_cons hi, by simp [hr.ndone]⟩
            hname hctx (Nat.le_refl _) hi2 hpl' rfl rfl
    · have heq : collect e.m.params e.i e.paren CUR DONE (e.t :: st.raw) =
          collect e.m.params e.i (nextParen e) (e.t :: CUR) DONE st.raw := collect_go hc
      rw [heq] at hpl' ⊢
      refine agrees_step (collect_ne_fuel _ _ _ _ _ _) (fun k =>
        efLoop_tok (exec (k + 4)) e st hne hl hc { st with rb := false, rt := paint e.t } _
          (expand_plain (k + 3) e.t st hpt) rfl (hnext hpl' k st hctx rfl rfl) (hnext hpl' k _ hctx rfl rfl)) ?_
      refine ih _ (argScanned st) (e.t :: CUR) DONE ⟨rfl, ?_, ?_, hr.done, hr.ndone⟩ hname hctx (Nat.le_refl _)
        hi hpl' rfl rfl
      · show (if (e.m.params.getD e.i default).ftok = true then paint e.t :: e.cur else e.cur) = _
        rw [hr.cur]
        split <;> rfl
      · show nextStr e = _
        unfold nextStr
        rw [hr.str]
        split <;> simp [List.foldl_append]

theorem expandfunc_collect (m : Macro) (st : St) (hctx : st.ctx = [])
    (hpl : PlainFor st.macros st.raw (collect m.params 0 0 [] [] st.raw)) (hne : 0 < m.params.length) :
    Agrees m.params m.name st (.expandfunc m) (collect m.params 0 0 [] [] st.raw) := by
  refine agrees_step (collect_ne_fuel _ _ _ _ _ _) (fun k => ?_) ?_ (c2 := .efLoop
    { m := m, i := 0, depth := st.depth, paren := 0, t := (argScanned st).rt, done := [], cur := [], str := [c! '"'] })
  · exact expandfunc_eq (argnext_scan k st hctx (plainFor_head hpl)) hne
  · exact efLoop_collect m.params m.name st.raw _ (argScanned st) [] []
      ⟨rfl, by split <;> rfl, by split <;> rfl, by simp, rfl⟩ rfl hctx (Nat.le_refl _) hne hpl rfl rfl

end CprocVerif.PP
