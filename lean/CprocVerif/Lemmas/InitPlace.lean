import CprocVerif.Spec.InitRef
import CprocVerif.Spec.InitClass

/-!
# The tree of places of an object

`InitRef.childAt` makes the sub-objects of a place (an element of an array, a member of a struct or union) a tree; `walk`
descends it along a path of positions.  Only the outermost array may be of unknown size (`PlWfU`); its sub-objects are of known
size (`PlWf`).  No state of the cursor machine or of the reference occurs.
-/

namespace CprocVerif.InitSim
open CprocVerif.Init CprocVerif.InitRef

def Members.drop : Members → Nat → Members
  | ms, 0 => ms
  | .nil, _ + 1 => .nil
  | .cons _ _ _ _ _ r, k + 1 => Members.drop r k

theorem drop_nil (k : Nat) : Members.drop .nil k = .nil := by cases k <;> rfl

theorem drop_succ (ms : Members) (k : Nat) :
    Members.drop ms (k + 1) = match Members.drop ms k with
      | .nil => .nil
      | .cons _ _ _ _ _ r => r := by
  induction k generalizing ms with
  | zero => cases ms <;> simp [Members.drop]
  | succ k ih =>
    cases ms with
    | nil => simp [Members.drop]
    | cons n t o b a r => exact ih r

theorem get?_eq_drop (ms : Members) (k : Nat) :
    Members.get? ms k = match Members.drop ms k with
      | .nil => none
      | .cons n t o b a _ => some (n, t, o, b, a) := by
  induction k generalizing ms with
  | zero => cases ms <;> rfl
  | succ k ih =>
    cases ms with
    | nil => rfl
    | cons n t o b a r => exact ih r

theorem msWf_drop {ms : Members} (h : msWf ms = true) (k : Nat) : msWf (Members.drop ms k) = true := by
  induction k generalizing ms with
  | zero => cases ms <;> exact h
  | succ k ih =>
    cases ms with
    | nil => rfl
    | cons n t o b a r =>
      simp only [msWf, Bool.and_eq_true] at h
      exact ih h.2

theorem drop_ind {P : Members → Prop} (hstep : ∀ n t o b a nx, P (.cons n t o b a nx) → P nx) :
    ∀ (p : Nat) {ms : Members}, P ms → P (Members.drop ms p)
  | 0, ms, h => by cases ms <;> exact h
  | _ + 1, .nil, h => h
  | p + 1, .cons n t o b a nx, h => drop_ind hstep p (hstep n t o b a nx h)

theorem drop_drop : ∀ (a d : Nat) (ms : Members), Members.drop (Members.drop ms a) d = Members.drop ms (a + d)
  | 0, d, ms => by rw [Nat.zero_add]; cases ms <;> rfl
  | a + 1, d, .nil => by rw [drop_nil, drop_nil, drop_nil]
  | a + 1, d, .cons n t o b a' nx => by rw [Nat.add_right_comm]; exact drop_drop a d nx

structure PlWf (pl : Place) : Prop where
  ty : tyWf pl.ty = true
  unb : pl.unb = false
  bits : isScalarTy pl.ty = false → pl.before = 0 ∧ pl.after = 0

theorem wf_array {pl : Place} {n : Nat} {e : Ty} (hw : PlWf pl) (hty : pl.ty = .array n e) :
    1 ≤ n ∧ 0 < e.size := by
  have := hw.ty
  rw [hty] at this
  simp only [tyWf, Bool.and_eq_true, decide_eq_true_eq] at this
  exact ⟨this.1.1, this.1.2⟩

theorem childAt_elem {pl : Place} {n : Nat} {e : Ty} (hty : pl.ty = .array n e) (pos : Nat) (p : Bool) :
    childAt pl pos p =
      if pl.unb || pos < n then some { ty := e, off := pl.off + pos * e.size, depth := pl.depth + 1 } else none := by
  unfold childAt
  rw [hty]

theorem childAt_array {pl : Place} {n : Nat} {e : Ty} (hty : pl.ty = .array n e) (hu : pl.unb = false)
    (pos : Nat) (p : Bool) :
    childAt pl pos p = if pos < n then some { ty := e, off := pl.off + pos * e.size, depth := pl.depth + 1 } else none := by
  rw [childAt_elem hty, hu]
  simp

theorem childAt_agg {pl : Place} {u : Bool} {tag size : Nat} {ms : Members} (hty : pl.ty = .agg u tag size ms)
    (pos : Nat) (p : Bool) :
    childAt pl pos p = if u && p && pos ≠ 0 then none else
      match Members.drop ms pos with
      | .nil => none
      | .cons _ t o b a _ => some { ty := t, off := pl.off + o, before := b, after := a, depth := pl.depth + 1 } := by
  unfold childAt
  rw [hty]
  simp only [get?_eq_drop]
  split
  · rfl
  · cases Members.drop ms pos <;> rfl

theorem childAt_scalar {pl : Place} {s : Nat} {k : SK} (hty : pl.ty = .scalar s k) (pos : Nat) (p : Bool) :
    childAt pl pos p = none := by
  unfold childAt; rw [hty]

theorem childAt_inv {q ch : Place} {p : Nat} {pp : Bool} (h : childAt q p pp = some ch) :
    (∃ n e, q.ty = .array n e ∧ (q.unb = false → p < n) ∧
      ch = { ty := e, off := q.off + p * e.size, depth := q.depth + 1 }) ∨
    (∃ u tag size ms n t o b a nx, q.ty = .agg u tag size ms ∧ (pp = true → u = true → p = 0) ∧
      Members.drop ms p = .cons n t o b a nx ∧
      ch = { ty := t, off := q.off + o, before := b, after := a, depth := q.depth + 1 }) := by
  cases hty : q.ty with
  | scalar s k => rw [childAt_scalar hty] at h; cases h
  | array n e =>
    rw [childAt_elem hty] at h
    split at h
    · rename_i hc
      cases h
      exact .inl ⟨n, e, rfl, fun hu => by rw [hu, Bool.false_or, decide_eq_true_eq] at hc; exact hc, rfl⟩
    · cases h
  | agg u tag size ms =>
    rw [childAt_agg hty] at h
    split at h
    · cases h
    · rename_i hc
      cases hd : Members.drop ms p with
      | nil => rw [hd] at h; cases h
      | cons n t o b a nx =>
        rw [hd] at h; cases h
        refine .inr ⟨u, tag, size, ms, n, t, o, b, a, nx, rfl, fun hpp hu => ?_, hd, rfl⟩
        by_cases hp : p = 0
        · exact hp
        · exfalso; apply hc; simp [hu, hpp, hp]

theorem childAt_arr {q ch : Place} {p : Nat} {n : Nat} {e : Ty} {pp : Bool} (hty : q.ty = .array n e)
    (h : childAt q p pp = some ch) :
    (q.unb = false → p < n) ∧ ch = { ty := e, off := q.off + p * e.size, depth := q.depth + 1 } := by
  rcases childAt_inv h with ⟨_, _, hty', h1, h2⟩ | ⟨_, _, _, _, _, _, _, _, _, _, hty', _⟩ <;> cases hty.symm.trans hty'
  exact ⟨h1, h2⟩

theorem childAt_mem {q ch : Place} {p : Nat} {u : Bool} {tag size : Nat} {ms : Members} {pp : Bool}
    (hty : q.ty = .agg u tag size ms) (h : childAt q p pp = some ch) :
    (pp = true → u = true → p = 0) ∧ ∃ n t o b a nx, Members.drop ms p = .cons n t o b a nx ∧
      ch = { ty := t, off := q.off + o, before := b, after := a, depth := q.depth + 1 } := by
  rcases childAt_inv h with ⟨_, _, hty', _⟩ | ⟨_, _, _, _, n, t, o, b, a, nx, hty', h1, h2, h3⟩ <;> cases hty.symm.trans hty'
  exact ⟨h1, n, t, o, b, a, nx, h2, h3⟩

theorem childAt_nonscalar {q ch : Place} {p : Nat} {pp : Bool} (h : childAt q p pp = some ch) :
    isScalarTy q.ty = false := by
  rcases childAt_inv h with ⟨_, _, hty, _⟩ | ⟨_, _, _, _, _, _, _, _, _, _, hty, _⟩ <;> rw [hty] <;> rfl

theorem childAt_not_unb {pl ch : Place} {pos : Nat} {p : Bool} (h : childAt pl pos p = some ch) : ch.unb = false := by
  rcases childAt_inv h with ⟨_, _, _, _, rfl⟩ | ⟨_, _, _, _, _, _, _, _, _, _, _, _, _, rfl⟩ <;> rfl

theorem childAt_of_pos {pl : Place} {pos : Nat} {ch : Place} (h : childAt pl pos true = some ch) :
    childAt pl pos false = some ch := by
  rcases childAt_inv h with ⟨_, _, hty, _⟩ | ⟨_, _, _, _, _, _, _, _, _, _, hty, _⟩
  · rw [childAt_elem hty] at h ⊢
    exact h
  · rw [childAt_agg hty] at h ⊢
    split at h
    · cases h
    · simp only [Bool.and_false, Bool.false_and, Bool.false_eq_true, if_false]
      exact h

theorem childAt_wf {pl : Place} (hw : PlWf pl) {pos : Nat} {p : Bool} {ch : Place}
    (h : childAt pl pos p = some ch) : PlWf ch := by
  have hwt := hw.ty
  rcases childAt_inv h with ⟨n, e, hty, _, rfl⟩ | ⟨u, tag, size, ms, n, t, o, b, a, nx, hty, _, hd, rfl⟩ <;> rw [hty] at hwt
  · simp only [tyWf, Bool.and_eq_true] at hwt
    exact ⟨hwt.2, rfl, fun _ => ⟨rfl, rfl⟩⟩
  · simp only [tyWf, Bool.and_eq_true] at hwt
    have hd' := msWf_drop hwt.2 pos
    rw [hd] at hd'
    simp only [msWf, Bool.and_eq_true, Bool.or_eq_true, beq_iff_eq] at hd'
    refine ⟨hd'.1.1, rfl, fun hs => ?_⟩
    rcases hd'.1.2 with h' | h'
    · simp only [] at hs; rw [hs] at h'; cases h'
    · exact h'

theorem pl0_wf {t : Ty} (h : tyWf t = true) : PlWf { ty := t, unb := false } := ⟨h, rfl, fun _ => ⟨rfl, rfl⟩⟩

/-- the outermost array of unknown size (`T a[]`; `n` plays no part) -/
structure PlWfU (pl : Place) (n : Nat) (el : Ty) : Prop where
  ty : pl.ty = .array n el
  elwf : tyWf el = true
  elpos : 0 < el.size
  unb : pl.unb = true

def chU (pl : Place) (el : Ty) (pos : Nat) : Place := { ty := el, off := pl.off + pos * el.size, depth := pl.depth + 1 }

theorem childAt_unb {pl : Place} {n : Nat} {el : Ty} (h : PlWfU pl n el) (pos : Nat) (p : Bool) :
    childAt pl pos p = some (chU pl el pos) := by
  rw [childAt_elem h.ty, h.unb]
  rfl

theorem chU_wf {pl : Place} {n : Nat} {el : Ty} (h : PlWfU pl n el) (pos : Nat) : PlWf (chU pl el pos) :=
  ⟨h.elwf, rfl, fun _ => ⟨rfl, rfl⟩⟩

/-- a place the cursor can stand at; the places below it are of known size (`PlOk.child`) -/
inductive PlOk (pl : Place) : Prop
  | known : PlWf pl → PlOk pl
  | unb {n : Nat} {el : Ty} : PlWfU pl n el → PlOk pl

theorem PlOk.wf {pl : Place} (h : PlOk pl) (hu : pl.unb = false) : PlWf pl := by
  cases h with
  | known hw => exact hw
  | unb hU => rw [hU.unb] at hu; cases hu

theorem PlOk.child {pl ch : Place} {pos : Nat} {p : Bool} (h : PlOk pl) (hc : childAt pl pos p = some ch) : PlWf ch := by
  cases h with
  | known hw => exact childAt_wf hw hc
  | unb hU => rw [childAt_unb hU] at hc; cases hc; exact chU_wf hU pos

theorem PlOk.child0 {pl : Place} {n : Nat} {el : Ty} (h : PlOk pl) (hpt : pl.ty = .array n el) :
    childAt pl 0 true = some { ty := el, off := pl.off + 0 * el.size, depth := pl.depth + 1 } := by
  cases h with
  | known hw => rw [childAt_array hpt hw.unb, if_pos (Nat.lt_of_lt_of_le Nat.zero_lt_one (wf_array hw hpt).1)]
  | unb hU => rw [childAt_unb hU]; cases hU.ty.symm.trans hpt; rfl

/-- the sub-object reached from `q` through the positions `ps`, by counting (`childAt … true`): below a union only its
first member is on the tree -/
def walk (q : Place) : List Nat → Option Place
  | [] => some q
  | p :: ps =>
    match childAt q p true with
    | some ch => walk ch ps
    | none => none

theorem walk_cons {q d : Place} {p : Nat} {ps : List Nat} :
    walk q (p :: ps) = some d ↔ ∃ ch, childAt q p true = some ch ∧ walk ch ps = some d := by
  simp only [walk]
  cases childAt q p true <;> simp

theorem walk_append {q : Place} {ps : List Nat} {m : Place} {rs : List Nat} (h : walk q ps = some m) : walk q (ps ++ rs) = walk m rs := by
  induction ps generalizing q with
  | nil => cases h; rfl
  | cons p ps ih =>
    obtain ⟨ch, hc, hw⟩ := walk_cons.1 h
    simp only [walk, List.cons_append, hc]
    exact ih hw

end CprocVerif.InitSim
