import CprocVerif.Lemmas.ScanKind

/-! Character constants and string literals: what `charconst`/`stringlit`/`escape` accept is a
literal of 6.4.4.4 / 6.4.5, and an encoding prefix binds to the quote that follows it. -/

namespace CprocVerif.Scan
open CprocVerif.Gen.TokenKinds
open CprocVerif.Spec.Lex CprocVerif.PPLine

theorem hexLoop_read (n : Nat) (s : S) (hn : s.inp.length ≤ n) (hc : onChr isxdigit s.chr = true) :
    ∃ h hs, Read s (h :: hs) (hexLoop n s) ∧ isHexDigit h = true ∧ ∀ x ∈ hs, isHexDigit x = true := by
  cases hs : s.stream with
  | nil => rw [chr_eq, hs] at hc; cases hc
  | cons h t =>
    have hl := length_stream s
    rw [hs, List.length_cons] at hl
    refine ⟨h, t.takeWhile isxdigit, ⟨?_, ?_⟩, by rw [chr_eq, hs] at hc; exact hc,
      List.all_eq_true.mp List.all_takeWhile⟩
    · rw [hs]; exact List.cons_prefix_cons.mpr ⟨rfl, List.takeWhile_prefix _⟩
    · rw [hexLoop_eq n s (by rw [hs, List.tail_cons]; omega), hs, List.tail_cons, Nat.add_comm]; rfl

theorem escape_reads (q : UInt8) (s : S) (hc : s.chr = some (c! '\\')) :
    Reads s id (fun _ u => 2 ≤ u.length ∧ LitItem q u) (escape s) := by
  have r0 := Read.next hc
  unfold escape
  dsimp only
  refine ite_intro (P := Reads s _ _) (fun hx => ?_) fun _ => ite_intro (P := Reads s _ _) (fun ho1 => ?_)
    fun _ => ite_intro (P := Reads s _ _) (fun hs => ?_) fun _ => ErrAfter.took r0.took (ErrAfter.here _ nofun)
  · have r1 := r0.trans (.next hx)
    refine ite_intro (P := Reads s _ _) (fun _ => ErrAfter.took r1.took (ErrAfter.here _ nofun)) fun hd => ?_
    obtain ⟨h, hs, r2, k1, k2⟩ := hexLoop_read _ _ (Nat.le_refl _) (by simpa using hd)
    exact ⟨_, r1.trans r2, by simp, .hex h hs k1 k2⟩
  · obtain ⟨c1, k1, r1⟩ := read_onChr ho1
    refine ite_intro (P := Reads s _ _) (fun ho2 => ?_) fun _ => ⟨_, r0.trans r1, by simp, .oct1 c1 k1⟩
    obtain ⟨c2, k2, r2⟩ := read_onChr ho2
    refine ite_intro (P := Reads s _ _) (fun ho3 => ?_) fun _ =>
      ⟨_, (r0.trans r1).trans r2, by simp, .oct2 c1 c2 k1 k2⟩
    obtain ⟨c3, k3, r3⟩ := read_onChr ho3
    exact ⟨_, ((r0.trans r1).trans r2).trans r3, by simp, .oct3 c1 c2 c3 k1 k2 k3⟩
  · obtain ⟨c1, k1, r1⟩ := read_onChr hs
    exact ⟨_, r0.trans r1, by simp, .simple c1 k1⟩

def quoteOf (str : Bool) : UInt8 := if str then c! '"' else c! '\''

def litKind (str : Bool) : Kind := if str then .TSTRINGLIT else .TCHARCONST

def Body (str : Bool) (r : Kind × S) (u : List UInt8) : Prop :=
  r.1 = litKind str ∧ ∃ items : List (List UInt8), (∀ w ∈ items, LitItem (quoteOf str) w) ∧
    u = items.flatten ++ [quoteOf str]

theorem litLoop_reads (str : Bool) : ∀ (n : Nat) (s : S), s.len < n →
    Reads s (·.2) (Body str) (litLoop str n s)
  | 0, _, h => by omega
  | n + 1, s, hn => by
    unfold litLoop
    cases hc : s.chr with
    | none => exact ErrAfter.here s (by cases str <;> decide)
    | some c =>
      have cont : ∀ (v : List UInt8) (s1 : S), Read s v s1 → 0 < v.length → LitItem (quoteOf str) v →
          Reads s (·.2) (Body str) (litLoop str n s1) := fun v s1 hr hv hi => by
        have ih := litLoop_reads str n s1 (by have := hr.took.len; omega)
        generalize litLoop str n s1 = r at ih
        cases r with
        | error e => exact ErrAfter.took hr.took ih
        | ok a =>
          obtain ⟨u, hu, hk, items, hit, rfl⟩ := ih
          exact ⟨v ++ _, hr.trans hu, hk, v :: items, List.forall_mem_cons.mpr ⟨hi, hit⟩, by simp⟩
      dsimp only
      refine ite_intro (P := Reads s _ _) (fun hbs => ?_) fun hbs => ite_intro (P := Reads s _ _) (fun hq => ?_)
        fun hq => ite_intro (P := Reads s _ _) (fun _ => ErrAfter.here s (by cases str <;> decide)) fun hnl =>
        ite_intro (P := Reads s _ _) (fun _ => ErrAfter.here s (by cases str <;> decide)) fun h0 =>
        cont [c] s.nextchar (.next hc) Nat.one_pos (.plain c hq hbs hnl h0)
      · have he := escape_reads (quoteOf str) s (hbs ▸ hc)
        generalize escape s = r at he
        cases r with
        | error e => exact he
        | ok s1 => obtain ⟨v, hv, h2, hi⟩ := he; exact cont v s1 hv (by omega) hi
      · exact ⟨[c], .next hc, rfl, [], nofun, by rw [hq]; rfl⟩

def quoted (str : Bool) (s : S) : Except Err (Kind × S) := if str then stringlit s else charconst s

theorem quoted_eq (str : Bool) (s : S) :
    quoted str s = litLoop str (({ s with usebuf := true } : S).nextchar.inp.length + 1)
      ({ s with usebuf := true } : S).nextchar := by
  cases str <;> rfl

theorem quoted_reads (str : Bool) (s : S) (hc : s.chr = some (quoteOf str)) :
    Reads ({ s with usebuf := true } : S) (·.2) (fun r u => ∃ v, u = quoteOf str :: v ∧ Body str r v)
      (quoted str s) := by
  have r0 : Read ({ s with usebuf := true } : S) [quoteOf str] _ := .next hc
  have h := litLoop_reads str (({ s with usebuf := true } : S).nextchar.inp.length + 1) _ (Nat.lt_succ_self _)
  rw [quoted_eq]
  generalize litLoop str _ _ = r at h ⊢
  cases r with
  | error e => exact ErrAfter.took r0.took h
  | ok a => obtain ⟨u, hu, hb⟩ := h; exact ⟨_, r0.trans hu, u, rfl, hb⟩

theorem scankind_quote (f : Nat) (s : S) (str : Bool) (hc : s.chr = some (quoteOf str)) :
    scankind (f + 1) s = lift s (quoted str s) := by
  rw [scankind, hc]
  cases str <;> rfl

/-- length of the encoding prefix the text is assumed to start with -/
def prefixLen (cs : List UInt8) : Nat :=
  match cs with
  | c :: d :: _ => if c = c! 'u' ∧ d = c! '8' then 2 else 1
  | _ => 1

theorem scankind_prefixquote (f : Nat) (s : S) (p : List UInt8) (str : Bool) (t : List UInt8)
    (hp : p = b!"L" ∨ p = b!"u" ∨ p = b!"U" ∨ p = b!"u8")
    (hs : s.stream = p ++ quoteOf str :: t) (hr : Ready s) :
    ∃ s2, scankind (f + 1) s = lift s (quoted str s2) ∧ s2.buf = p ∧
      s2.stream = quoteOf str :: t ∧ s2.sawspace = s.sawspace := by
  obtain ⟨c, r, hcr, hL, hpe⟩ : ∃ c r, p ++ quoteOf str :: t = c :: r ∧
      (c = c! 'L' ∨ c = c! 'U' ∨ c = c! 'u') ∧
      (if c = c! 'u' ∧ r.head? = some (c! '8') then b!"u8" else [c]) = p := by
    have hq8 : quoteOf str ≠ 56 := by cases str <;> decide
    rcases hp with rfl | rfl | rfl | rfl
    · exact ⟨_, _, rfl, by simp, by simp⟩
    · exact ⟨_, _, rfl, by simp, by simp [hq8]⟩
    · exact ⟨_, _, rfl, by simp, by simp⟩
    · exact ⟨_, _, rfl, by simp, by simp⟩
  have hs' := hs.trans hcr
  have m := afterPrefix_moved hs' hr
  rw [hpe] at m
  have hst : (afterPrefix s).stream = quoteOf str :: t :=
    (List.append_cancel_left (hs.symm.trans m.2.1)).symm
  refine ⟨afterPrefix s, ?_, m.1.trans (by show s.buf ++ p = p; rw [hr.1]; rfl), hst, m.2.2.2⟩
  rw [scankind_tail f s c (chr_of_stream hs') (by rcases hL with rfl | rfl | rfl <;> decide),
    scanTail_prefix s hL, chr_eq, hst]
  cases str <;> rfl

end CprocVerif.Scan
