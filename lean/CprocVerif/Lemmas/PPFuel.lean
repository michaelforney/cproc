import CprocVerif.Model.PP

/-! # More fuel never changes a completed result

`Below r r'`: `r'` is `r` unless `r` is "out of fuel".  Every body uses its recursive entry only
as the head of a `match … with | .error e => .error e | .ok s => …`, under `if`s whose conditions
do not depend on it, or in tail position; so each body is monotone in its recursive entry
(`Below.bind`, `Below.ite`), hence `Ext (exec n) (exec (n + k))`. -/

namespace CprocVerif.PP
open CprocVerif.Gen.TokenKinds

def Below (r r' : Res) : Prop := r ≠ .error .fuel → r' = r

def Ext (f g : Call → St → Res) : Prop := ∀ c st, Below (f c st) (g c st)

theorem Below.rfl {r : Res} : Below r r := fun _ => Eq.refl r

theorem Below.bind {x y : Res} {K K' : St → Res} (hx : Below x y) (hK : ∀ s, Below (K s) (K' s)) :
    Below (match (generalizing := false) x with | .error e => .error e | .ok s => K s)
      (match (generalizing := false) y with | .error e => .error e | .ok s => K' s) := by
  intro hne
  cases x with
  | error e => rw [hx hne]
  | ok s => rw [hx nofun]; exact hK s hne

theorem Below.ite {c : Prop} [Decidable c] {a a' b b' : Res} (ha : Below a a') (hb : Below b b') :
    Below (if c then a else b) (if c then a' else b') := by
  by_cases hc : c
  · rw [if_pos hc, if_pos hc]; exact ha
  · rw [if_neg hc, if_neg hc]; exact hb

section
variable {f g : Call → St → Res} (h : Ext f g)
include h

theorem efStart_mono (e : EF) (st : St) : Below (efStart f e st) (efStart g e st) :=
  .ite (h _ _) .rfl

theorem body_mono : Ext (body f) (body g) := by
  intro c st
  cases c with
  | next => exact .bind (h _ _) fun _ => .bind (h _ _) fun _ => .ite (h _ _) .rfl
  | rawnext => exact .bind (h _ _) fun _ => .ite .rfl (h _ _)
  | ctxnext =>
    show Below (ctxnextBody f st) (ctxnextBody g st)
    unfold ctxnextBody
    split
    · exact .rfl
    · exact h _ _
  | nextinto =>
    show Below (nextintoBody f st) (nextintoBody g st)
    unfold nextintoBody
    split
    · exact .rfl
    · exact .ite (.bind (h _ _) fun _ => h _ _) .rfl
  | directive =>
    show Below (directiveBody f st) (directiveBody g st)
    unfold directiveBody
    split
    · exact .rfl
    · -- only `#pragma` calls back
      exact .ite .rfl <| .ite .rfl <| .ite .rfl <| .ite .rfl <| .ite .rfl <| .ite .rfl <| .ite .rfl <| .ite .rfl <|
        .ite (.bind (.bind (h _ _) fun _ => .rfl) fun _ => .rfl) .rfl
  | pragmaLoop => exact .ite (.bind (h _ _) fun _ => h _ _) .rfl
  | peekparen => exact .bind (h _ _) fun _ => .ite .rfl (h _ _)
  | peekLoop p => exact .bind (h _ _) fun _ => .ite (h _ _) .rfl
  | expand t =>
    show Below (expandBody f t st) (expandBody g t st)
    unfold expandBody
    refine .ite .rfl ?_
    split
    · exact .rfl
    · exact .ite .rfl (.ite (.bind (h _ _) fun _ => .ite .rfl (.bind (h _ _) fun _ => .rfl)) .rfl)
  | argLoop s => exact .bind (h _ _) fun _ => .ite (h _ _) .rfl
  | expandfunc m => exact .bind (h _ _) fun _ => efStart_mono h _ _
  | efLoop e =>
    exact .ite .rfl <| .ite (.ite .rfl (.bind (h _ _) fun _ => efStart_mono h _ _)) <|
      .ite (.bind (h _ _) fun _ => .bind (h _ _) fun _ => h _ _) (.bind (h _ _) fun _ => h _ _)

end

theorem exec_succ_ext : ∀ n, Ext (exec n) (exec (n + 1))
  | 0 => fun _ _ hne => absurd rfl hne
  | n + 1 => body_mono (exec_succ_ext n)

theorem exec_mono (n k : Nat) (c : Call) (st : St) (h : exec n c st ≠ .error .fuel) :
    exec (n + k) c st = exec n c st := by
  induction k with
  | zero => rfl
  | succ k ih => rw [← Nat.add_assoc, exec_succ_ext (n + k) c st (by rw [ih]; exact h), ih]

theorem exec_agree {a b : Nat} {c : Call} {st : St} (ha : exec a c st ≠ .error .fuel) (hb : exec b c st ≠ .error .fuel) :
    exec a c st = exec b c st := by
  rw [← exec_mono a b c st ha, Nat.add_comm, exec_mono b a c st hb]

theorem exec_det {a b : Nat} {c : Call} {st s s' : St} (h1 : exec a c st = .ok s) (h2 : exec b c st = .ok s') : s = s' :=
  Except.ok.inj ((h1.symm.trans (exec_agree (by rw [h1]; nofun) (by rw [h2]; nofun))).trans h2)

theorem exec_det_err {a b : Nat} {c : Call} {st s : St} {e : Err} (h1 : exec a c st = .ok s)
    (h2 : exec b c st = .error e) (he : e ≠ .fuel) : False :=
  nomatch (h1.symm.trans (exec_agree (by rw [h1]; nofun) (by rw [h2]; exact fun h => he (by cases h; rfl)))).trans h2

theorem lift {k : Nat} {c : Call} {st : St} {r : Res} (h : exec k c st = r) (hr : r ≠ .error .fuel) (n : Nat)
    (hn : k ≤ n) : exec n c st = r := by
  obtain ⟨d, rfl⟩ := Nat.exists_eq_add_of_le hn
  rw [exec_mono k d c st (by rw [h]; exact hr), h]

theorem run_succ (n : Nat) (st : St) (h : (run n st).2 ≠ some .fuel) : run (n + 1) st = run n st := by
  induction n generalizing st with
  | zero => exact absurd rfl h
  | succ n ih =>
    unfold run at h ⊢
    have hx := exec_succ_ext n .next st
    cases hn : exec n .next st with
    | error e =>
      rw [hn] at h hx
      rw [hx (fun hh => h (by cases hh; rfl))]
    | ok st1 =>
      rw [hn] at h hx
      rw [hx nofun]
      dsimp only at h ⊢
      split
      · rfl
      · rw [if_neg ‹_›] at h
        rw [ih st1 h]

theorem run_mono (n k : Nat) (st : St) (h : (run n st).2 ≠ some .fuel) : run (n + k) st = run n st := by
  induction k with
  | zero => rfl
  | succ k ih => rw [← Nat.add_assoc, run_succ _ _ (by rw [ih]; exact h), ih]

theorem liftOk {k n : Nat} {c : Call} {st s : St} (h : exec k c st = .ok s) (hn : k ≤ n) : exec n c st = .ok s :=
  lift h (by intro hh; cases hh) n hn

theorem run_stable {N n : Nat} {st : St} (h : (run N st).2 = none) (hn : N ≤ n) : run n st = run N st := by
  obtain ⟨d, rfl⟩ := Nat.exists_eq_add_of_le hn
  exact run_mono N d st (by rw [h]; exact fun hh => nomatch hh)

end CprocVerif.PP
