import CprocVerif.Lemmas.PPLinePhys
import CprocVerif.Lemmas.ScanAdv

/-! The location invariant of the scanner state and its preservation by `nextchar`. -/

namespace CprocVerif.PPLine
open CprocVerif.Scan CprocVerif.Gen.TokenKinds

/-- `l` is `q` with the line number shifted by `δ` (the effect of the line directives so far) -/
def LocRel (δ : Int) (l q : Loc) : Prop := (l.line : Int) = q.line + δ ∧ l.col = q.col

variable {text : List UInt8} {δ : Int}

theorem LocRel.advChar {l q : Loc} (h : LocRel δ l q) (c : UInt8) :
    LocRel δ (advChar l c) (advChar q c) := by
  unfold LocRel Scan.advChar at *
  split <;> simp <;> omega

theorem LocRel.advSplice {l q : Loc} (h : LocRel δ l q) (k : Nat) :
    LocRel δ (advSplice l k) (advSplice q k) := by
  unfold LocRel Scan.advSplice at *
  split
  · exact h
  · exact ⟨by simp only [Int.natCast_add]; omega, rfl⟩

/-- what `s->loc` is right after the byte at offset `o` has been read (`o = length`: after EOF
has been read) -/
def locAt (text : List UInt8) (o : Nat) : Loc :=
  match text[o]? with
  | some c => advChar (physAt text o) c
  | none => ⟨(physAt text o).line, (physAt text o).col + 1⟩

theorem physAt_succ (text : List UInt8) (o : Nat) (c : UInt8) (h : text[o]? = some c) :
    physAt text (o + 1) = advChar (physAt text o) c := by
  unfold physAt
  rw [List.take_add_one, h, advBytes_append]
  rfl

theorem locAt_some (text : List UInt8) (o : Nat) (c : UInt8) (h : text[o]? = some c) :
    locAt text o = physAt text (o + 1) := by
  rw [physAt_succ text o c h, locAt, h]

/-- byte offset of the current character `s->chr` (`text.length` at EOF).  On the second `.` of
`..x`, made current again by the push-back, the `skipped` line splices that follow it in the text
are already counted in `pos`. -/
def off (s : S) : Nat := if s.inp = [] then s.pos else s.pos - 1 - 2 * s.skipped

/-- the scanner state `s` describes the source text `text` correctly, line numbers shifted by `δ` -/
structure Inv (text : List UInt8) (δ : Int) (s : S) : Prop where
  /-- the unread bytes are what `getc` will deliver -/
  raw : group (text.drop s.pos) 0 = (s.inp.tail, s.trail)
  pos_le : s.pos ≤ text.length
  eof : s.inp = [] → s.pos = text.length ∧ s.skipped = 0
  cur : s.inp ≠ [] → 2 * s.skipped + 1 ≤ s.pos
  head : ∀ k c r, s.inp = (k, c) :: r → text[off s]? = some c
  loc : LocRel δ s.loc (locAt text (off s))
  /-- with the pending `skipped` line breaks applied, `s->loc` is the location of the last byte read -/
  ahead : s.inp ≠ [] → LocRel δ (advSplice s.loc s.skipped) (physAt text s.pos)
  /-- line breaks are pending only on the second `.` of `..x` -/
  dot : s.skipped ≠ 0 → s.chr = some (c! '.')

theorem off_of_core {s s' : S} (hc : core s' = core s) : off s' = off s := by
  simp only [core, Prod.mk.injEq] at hc
  simp [off, hc]

theorem Inv.of_core {s s' : S} (h : Inv text δ s)
    (hc : core s' = core s) : Inv text δ s' := by
  obtain ⟨_, _, _, _, _, _, _, _⟩ := s
  obtain ⟨_, _, _, _, _, _, _, _⟩ := s'
  simp only [core, Prod.mk.injEq] at hc
  obtain ⟨rfl, rfl, rfl, rfl, rfl⟩ := hc
  exact ⟨h.raw, h.pos_le, h.eof, h.cur, h.head, h.loc, h.ahead, h.dot⟩

theorem Inv.off_le {s : S} (h : Inv text δ s) : off s ≤ text.length := by
  have := h.pos_le
  unfold off
  split <;> omega

theorem chr_eq_none {s : S} : s.chr = none ↔ s.inp = [] := by
  unfold S.chr
  cases s.inp <;> simp

theorem chr_ne_none {s : S} : s.chr ≠ none ↔ s.inp ≠ [] := not_congr chr_eq_none

theorem inp_ne_of_chr {s : S} {c : UInt8} (h : s.chr = some c) : s.inp ≠ [] :=
  chr_ne_none.mp (h ▸ Option.some_ne_none c)

theorem Inv.get {s : S} (h : Inv text δ s) : text[off s]? = s.chr := by
  cases hi : s.inp with
  | nil => rw [off, if_pos hi, (h.eof hi).1, S.chr, hi]; exact List.getElem?_eq_none (Nat.le_refl _)
  | cons e r => rw [h.head e.1 e.2 r hi, S.chr, hi]; rfl

theorem readHead_nil (s : S) (h : s.inp = []) :
    s.readHead.inp = [] ∧ s.readHead.trail = 0 ∧ s.readHead.skipped = 0 ∧
    s.readHead.pos = s.pos + 2 * s.trail ∧
    s.readHead.loc = ⟨(advSplice (advSplice s.loc s.skipped) s.trail).line,
                      (advSplice (advSplice s.loc s.skipped) s.trail).col + 1⟩ := by
  simp [S.readHead, h]

theorem readHead_cons (s : S) (k : Nat) (c : UInt8) (r : List (Nat × UInt8))
    (h : s.inp = (k, c) :: r) :
    s.readHead.inp = (k, c) :: r ∧ s.readHead.trail = s.trail ∧ s.readHead.skipped = 0 ∧
    s.readHead.pos = s.pos + 2 * k + 1 ∧
    s.readHead.loc = advChar (advSplice (advSplice s.loc s.skipped) k) c := by
  simp [S.readHead, h]

structure After (text : List UInt8) (δ : Int) (o : Nat) (s' : S) : Prop where
  inv : Inv text δ s'
  sk : s'.skipped = 0
  lt : o < off s'

theorem After.mono {o o' : Nat} {s : S} (h : After text δ o s)
    (hle : o' ≤ o) : After text δ o' s := ⟨h.inv, h.sk, by have := h.lt; omega⟩

theorem After.of_core {o : Nat} {s s' : S} (h : After text δ o s)
    (hc : core s' = core s) : After text δ o s' :=
  ⟨h.inv.of_core hc, (congrArg (·.2.2.2.1) hc).trans h.sk, by rw [off_of_core hc]; exact h.lt⟩

theorem group_drop_nil {pos tr : Nat} (hraw : group (text.drop pos) 0 = ([], tr))
    (hle : pos ≤ text.length) :
    pos + 2 * tr = text.length ∧ physAt text text.length = advSplice (physAt text pos) tr := by
  obtain ⟨j, rfl, hsp⟩ := group_nil_inv _ _ _ hraw
  rw [Nat.zero_add]
  have hlen : pos + 2 * j = text.length := by
    have := congrArg List.length hsp
    simp at this
    omega
  exact ⟨hlen, hlen ▸ physAt_splices text pos j [] (by simpa using hsp)⟩

theorem group_drop_cons {pos tr k : Nat} {c : UInt8} {r : List (Nat × UInt8)}
    (hraw : group (text.drop pos) 0 = ((k, c) :: r, tr)) :
    text[pos + 2 * k]? = some c ∧ pos + 2 * k + 1 ≤ text.length ∧
    group (text.drop (pos + 2 * k + 1)) 0 = (r, tr) ∧
    group (text.drop (pos + 2 * k)) 0 = ((0, c) :: r, tr) ∧
    physAt text (pos + 2 * k) = advSplice (physAt text pos) k := by
  obtain ⟨j, t', rfl, hsp, hg, hg2⟩ := group_cons_inv _ _ _ _ _ _ hraw
  rw [Nat.zero_add]
  obtain ⟨d0, d1, d2, d3⟩ := drop_structure text pos (splices j) c t' hsp
  rw [length_splices] at d0 d1 d2 d3
  exact ⟨d1, d3, by rw [d2]; exact hg, by rw [d0]; exact hg2, physAt_splices text pos j _ hsp⟩

/-- stated for a state that need not satisfy `Inv`: `nextchar` (`nextchar_after`) and `scanfrom` (`init_inv`) are the two
instances -/
theorem readHead_after {s : S}
    (hraw : group (text.drop s.pos) 0 = (s.inp, s.trail)) (hle : s.pos ≤ text.length)
    (hl0 : LocRel δ (advSplice s.loc s.skipped) (physAt text s.pos)) :
    Inv text δ s.readHead ∧ s.readHead.skipped = 0 ∧ s.pos ≤ off s.readHead := by
  cases hi : s.inp with
  | nil =>
    rw [hi] at hraw
    obtain ⟨a1, a2, a3, a4, a5⟩ := readHead_nil s hi
    obtain ⟨hlen, hphys⟩ := group_drop_nil hraw hle
    have hoff : off s.readHead = text.length := by unfold off; rw [if_pos a1, a4, hlen]
    have hnone : text[text.length]? = none := List.getElem?_eq_none (Nat.le_refl _)
    refine ⟨{
      raw := by rw [a1, a2, a4, hlen]; simp [group]
      pos_le := by rw [a4, hlen]; exact Nat.le_refl _
      eof := fun _ => ⟨by rw [a4, hlen], a3⟩
      cur := fun hn => absurd a1 hn
      head := fun k c r hr => by rw [a1] at hr; cases hr
      loc := ?_
      ahead := fun hn => absurd a1 hn
      dot := fun hn => absurd a3 hn }, a3, by rw [hoff]; exact hle⟩
    rw [hoff, a5, locAt, hnone]
    have := hl0.advSplice s.trail
    rw [← hphys] at this
    exact ⟨this.1, by simp only; rw [this.2]⟩
  | cons e r =>
    obtain ⟨k, c⟩ := e
    rw [hi] at hraw
    obtain ⟨a1, a2, a3, a4, a5⟩ := readHead_cons s k c r hi
    obtain ⟨d1, d3, hg, _, hphys⟩ := group_drop_cons hraw
    have hoff : off s.readHead = s.pos + 2 * k := by
      unfold off; rw [if_neg (by rw [a1]; simp), a3, a4]; simp
    have hloc : LocRel δ s.readHead.loc (physAt text (s.pos + 2 * k + 1)) := by
      rw [a5, physAt_succ text _ c d1, hphys]
      exact (hl0.advSplice k).advChar c
    refine ⟨{
      raw := by rw [a1, a2, a4]; exact hg
      pos_le := by rw [a4]; exact d3
      eof := fun hn => by rw [a1] at hn; cases hn
      cur := fun _ => by rw [a3, a4]; simp
      head := fun k' c' r' hr => ?_
      loc := by rw [hoff, locAt_some text _ c d1]; exact hloc
      ahead := fun _ => by rw [a3, a4]; simpa [advSplice] using hloc
      dot := fun hn => absurd a3 hn }, a3, by rw [hoff]; exact Nat.le_add_right _ _⟩
    rw [a1] at hr
    simp only [List.cons.injEq, Prod.mk.injEq] at hr
    rw [hoff, ← hr.1.2]; exact d1

theorem nextchar_after {s : S} (h : Inv text δ s) (hne : s.inp ≠ []) :
    After text δ (off s) s.nextchar := by
  obtain ⟨b, e⟩ := nextchar_readHead s
  obtain ⟨hi, hs, ho⟩ := readHead_after (s := { s with inp := s.inp.tail, buf := b })
    h.raw h.pos_le (h.ahead hne)
  have hcur := h.cur hne
  rw [e]
  exact ⟨hi, hs, Nat.lt_of_lt_of_le (by simp only [off, hne, if_false]; omega) ho⟩

theorem init_inv (text : List UInt8) : Inv text 0 (S.init text) :=
  (readHead_after (s := ⟨(group text 0).1, (group text 0).2, ⟨1, 0⟩, 0, 0, [], false, false⟩)
    rfl (Nat.zero_le _) ⟨rfl, rfl⟩).1

theorem After.next {o : Nat} {s : S} (h : After text δ o s)
    (hne : s.inp ≠ []) : After text δ o s.nextchar :=
  (nextchar_after h.inv hne).mono (by have := h.lt; omega)

theorem inp_ne_of_len {s : S} (h : 0 < s.len) : s.inp ≠ [] := fun hn => by
  rw [S.len, hn] at h; exact Nat.lt_irrefl _ h

theorem After.adv {o : Nat} : ∀ (n : Nat) {s : S}, After text δ o s → n ≤ s.len →
    After text δ o (s.adv n)
  | 0, _, h, _ => h
  | n + 1, s, h, hn =>
    After.adv n (h.next (inp_ne_of_len (by omega))) (by rw [len_nextchar]; omega)

theorem adv_after {s s' : S} (h : Inv text δ s) {n : Nat} (h0 : 0 < n) (ht : Took s n s') :
    After text δ (off s) s' := by
  obtain ⟨m, rfl⟩ := Nat.exists_eq_succ_of_ne_zero (Nat.pos_iff_ne_zero.mp h0)
  have hn := ht.1
  exact (After.adv m (nextchar_after h (inp_ne_of_len (by omega)))
    (by rw [len_nextchar]; omega)).of_core ht.2

theorem Inv.took {s s' : S} (h : Inv text δ s) {n : Nat} (ht : Took s n s') : Inv text δ s' ∧ off s ≤ off s' := by
  rcases Nat.eq_zero_or_pos n with rfl | h0
  · exact ⟨h.of_core ht.2, Nat.le_of_eq (off_of_core ht.2).symm⟩
  · exact ⟨(adv_after h h0 ht).inv, Nat.le_of_lt (adv_after h h0 ht).lt⟩

end CprocVerif.PPLine
