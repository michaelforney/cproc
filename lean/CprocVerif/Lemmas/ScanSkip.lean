import CprocVerif.Lemmas.ScanKind

/-! White space, comments, new-line, EOF and stray characters in `scankind`. -/

namespace CprocVerif.Scan
open CprocVerif.Gen.TokenKinds
open CprocVerif.Spec.Lex

/-- the logical content of a scanner state: what it will see, and the token being built -/
structure View where
  stream : List UInt8
  buf : List UInt8
  usebuf : Bool
  sawspace : Bool
  deriving DecidableEq, Repr

def S.view (s : S) : View := ⟨s.stream, s.buf, s.usebuf, s.sawspace⟩

theorem view_nextchar_nouse (s : S) (hu : s.usebuf = false) :
    s.nextchar.view = ⟨s.stream.tail, s.buf, false, s.sawspace⟩ := by
  simp [S.view, buf_nextchar, hu]

theorem scankind_blank (f : Nat) (s : S) (c : UInt8) (hc : s.chr = some c)
    (hb : isBlank c = true) :
    scankind (f + 1) s = scankind f { s with sawspace := true }.nextchar := by
  have : c = c! ' ' ∨ c = c! '\t' ∨ c = 0x0c ∨ c = 0x0b := by
    simp only [isBlank, Bool.or_eq_true, decide_eq_true_eq] at hb
    grind
  rw [scankind, hc]
  exact if_pos this

/-! While nothing is recorded a state is, for the scanner, its view `⟨cs, b, false, w⟩`; the two
comment loops are followed on the text `cs` alone. -/

theorem view_adv (n : Nat) {s : S} {cs b : List UInt8} {w : Bool} (hv : s.view = ⟨cs, b, false, w⟩) :
    (s.adv n).view = ⟨cs.drop n, b, false, w⟩ := by
  obtain ⟨rfl, rfl, hu, rfl⟩ := View.mk.inj hv
  rw [S.view, stream_adv, buf_adv n s hu, usebuf_adv, sawspace_adv, hu]

theorem drop_takeWhile_length {α : Type} (p : α → Bool) (t : List α) :
    t.drop (t.takeWhile p).length = t.dropWhile p := by
  induction t with
  | nil => rfl
  | cons a t ih => simp only [List.takeWhile_cons, List.dropWhile_cons]; split <;> simp [ih]

theorem slashArm_line (f : Nat) (s : S) (t : List UInt8) (hs : s.stream = c! '/' :: c! '/' :: t) :
    slashArm f s =
      scankind f { s.adv (2 + (t.takeWhile (· ≠ NL)).length) with sawspace := true } := by
  have h1 : (s.adv 1).stream = c! '/' :: t := by rw [stream_adv, hs]; rfl
  have e2 : op2 s .TDIV .TDIVASSIGN = (.TDIV, s.adv 1) := by rw [op2_eq, hs]; rfl
  rw [slashArm, e2]
  simp only [if_true, comment, chr_of_stream h1]
  rw [lineLoop_eq _ _ (by rw [← length_stream, h1]; exact Nat.lt_succ_self _), h1, ← adv_add, List.tail_cons,
    ← Nat.add_assoc]

theorem slashArm_block (f : Nat) (s : S) (t : List UInt8) (hs : s.stream = c! '/' :: c! '*' :: t) :
    slashArm f s = match findCommentEnd t with
      | none => .error ⟨(s.adv (2 + max t.length 1)).loc, .eofComment⟩
      | some k => scankind f { s.adv (2 + k) with sawspace := true } := by
  have h1 : (s.adv 1).stream = c! '*' :: t := by rw [stream_adv, hs]; rfl
  have h2 : (s.adv 2).stream = t := by rw [stream_adv, hs]; rfl
  have e2 : op2 s .TDIV .TDIVASSIGN = (.TDIV, s.adv 1) := by rw [op2_eq, hs]; rfl
  rw [slashArm, e2]
  simp only [if_true, comment, chr_of_stream h1]
  rw [show (s.adv 1).nextchar = s.adv 2 from rfl, if_neg (by decide),
    blockLoop_eq ((s.adv 2).inp.length + 1) (s.adv 2) (Nat.lt_succ_self _), h2, len_eq_stream, h2]
  cases hf : findCommentEnd t with
  | none => simp only [← adv_add]
  | some k =>
    have := (findCommentEnd_ge _ _ hf).1
    simp only [← adv_add, ← adv_succ']
    rw [show 2 + (k - 1) + 1 = 2 + k by omega]

theorem sawspace_view (x : S) {cs b : List UInt8} {u w : Bool} (h : x.view = ⟨cs, b, u, w⟩) :
    ({ x with sawspace := true } : S).view = ⟨cs, b, u, true⟩ :=
  congrArg (fun v : View => (⟨v.stream, v.buf, v.usebuf, true⟩ : View)) h

theorem scankind_linecomment (f : Nat) (s : S) (t : List UInt8)
    (hs : s.stream = c! '/' :: c! '/' :: t) (hu : s.usebuf = false) :
    ∃ s', scankind (f + 1) s = scankind f s' ∧
      s'.view = ⟨t.dropWhile (· ≠ NL), s.buf, false, true⟩ := by
  refine ⟨_, (scankind_slash f s (chr_of_stream hs)).trans (slashArm_line f s t hs), sawspace_view (w := s.sawspace) _ ?_⟩
  rw [view_adv _ (show s.view = ⟨s.stream, s.buf, false, s.sawspace⟩ by rw [S.view, hu]), hs, Nat.add_comm,
    List.drop_succ_cons, List.drop_succ_cons, drop_takeWhile_length]

theorem scankind_blockcomment (f : Nat) (s : S) (t : List UInt8)
    (hs : s.stream = c! '/' :: c! '*' :: t) (hu : s.usebuf = false) :
    match findCommentEnd t with
    | none => ∃ e, scankind (f + 1) s = .error e ∧ e.kind = .eofComment
    | some k => ∃ s', scankind (f + 1) s = scankind f s' ∧
        s'.view = ⟨t.drop k, s.buf, false, true⟩ := by
  rw [scankind_slash f s (chr_of_stream hs), slashArm_block f s t hs]
  cases findCommentEnd t with
  | none => exact ⟨_, rfl, rfl⟩
  | some k =>
    refine ⟨_, rfl, sawspace_view (w := s.sawspace) _ ?_⟩
    rw [view_adv _ (show s.view = ⟨s.stream, s.buf, false, s.sawspace⟩ by rw [S.view, hu]), hs, Nat.add_comm,
      List.drop_succ_cons, List.drop_succ_cons]

theorem scankind_newline (f : Nat) (s : S) (hc : s.chr = some (c! '\n')) :
    scankind (f + 1) s = .ok (.TNEWLINE, s.loc, s.pos, s.nextchar) := by
  rw [scankind, hc]; rfl

theorem scankind_eof (f : Nat) (s : S) (hc : s.chr = none) :
    scankind (f + 1) s = .ok (.TEOF, s.loc, s.pos, s) := by
  rw [scankind]
  simp only [hc]

/-- a character that starts no token of 6.4 and is no white space -/
def isStray (c : UInt8) : Bool :=
  !(isSpecial c || isNondigit c || isDigit c)

theorem scankind_other (f : Nat) (s : S) (c : UInt8) (hc : s.chr = some c)
    (ho : isStray c = true) :
    scankind (f + 1) s = .ok (.TOTHER, s.loc, s.pos, { s with usebuf := true }.nextchar) := by
  simp only [isStray, Bool.not_eq_true', Bool.or_eq_false_iff] at ho
  obtain ⟨⟨k1, k2⟩, k3⟩ := ho
  have hL : ¬ (c = c! 'L' ∨ c = c! 'U' ∨ c = c! 'u') := by
    rintro (rfl | rfl | rfl) <;> exact absurd k2 (by decide)
  have ha : ¬ (isalpha c = true ∨ c = c! '_') := by
    simp only [isNondigit, isalpha, Bool.or_eq_false_iff, Bool.or_eq_true,
      decide_eq_false_iff_not] at k2 ⊢
    grind
  rw [scankind_tail f s c hc k1, scanTail, if_neg hL, if_neg (by rw [show isdigit c = isDigit c from rfl, k3]; nofun),
    if_neg ha]
  rfl

end CprocVerif.Scan
