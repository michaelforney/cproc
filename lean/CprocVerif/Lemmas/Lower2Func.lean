/-
  C01, fragment 𝔽₂ — one activation of a function, given the simulation of the statements of its body: the
  spills of the parameters and the `alloc`s of the locals in the start block, then the body, then `ret`.
  The activation may be nested: it starts from the memory `M0` of the caller and gives it back.
-/
import CprocVerif.Lemmas.Lower2Leaf

set_option linter.unusedSimpArgs false

namespace CprocVerif.LowerMach2
open CprocVerif.Qbe CprocVerif.Lower CprocVerif.Lower2 CprocVerif.CSem CprocVerif.CSem2 CprocVerif.CInt
open CprocVerif.LowerArith CprocVerif.LowerMach CprocVerif.LowerMem

def DeclsAt (vtys : List CSem.Ty) (cnts : List Nat) (nd : Nat) (tys : List (CSem.Ty × Nat)) : Prop :=
  ∀ (k : Nat) (t : CSem.Ty) (n : Nat), tys[k]? = some (t, n) →
    vtys[nd + k]? = some t ∧ cnts[nd + k]? = some n ∧ 1 ≤ n

theorem DeclsAt.nil (vtys : List CSem.Ty) (cnts : List Nat) (nd : Nat) : DeclsAt vtys cnts nd [] :=
  fun k t n h => by cases h

theorem DeclsAt.single {vtys : List CSem.Ty} {cnts : List Nat} {nd : Nat} {t : CSem.Ty} {n : Nat}
    (h1 : vtys[nd]? = some t) (h2 : cnts[nd]? = some n) (h3 : 1 ≤ n) : DeclsAt vtys cnts nd [(t, n)] := by
  intro k t' n' hk
  cases k with
  | zero => cases hk; exact ⟨h1, h2, h3⟩
  | succ k => cases hk

theorem DeclsAt.append {vtys : List CSem.Ty} {cnts : List Nat} {nd : Nat} {t1 t2 : List (CSem.Ty × Nat)}
    (h1 : DeclsAt vtys cnts nd t1) (h2 : DeclsAt vtys cnts (nd + t1.length) t2) :
    DeclsAt vtys cnts nd (t1 ++ t2) := by
  intro k t n hk
  by_cases hka : k < t1.length
  · rw [List.getElem?_append_left hka] at hk
    exact h1 k t n hk
  · rw [List.getElem?_append_right (by omega)] at hk
    have := h2 _ t n hk
    rwa [Nat.add_assoc, Nat.add_sub_cancel' (by omega)] at this

theorem wt_declTys (vtys : List CSem.Ty) (ret : CSem.Ty) (cnts : List Nat) (st : Stmt) :
    ∀ (lb lc : Bool) (nd nd' : Nat),
    Stmt.wt vtys ret lb lc nd st = some nd' → arrsOK cnts st = true → declsOK cnts st = true →
    DeclsAt vtys cnts nd (declTys st) := by
  induction st
  all_goals
    intro lb lc nd nd' h ha hd
    (try cases ‹Option Expr3›) <;>
    simp only [Stmt.wt, Option.ite_none_right_eq_some, Option.ite_none_left_eq_some, Option.some.injEq,
      Option.bind_eq_some_iff, arrsOK, declsOK, declTys, Bool.and_eq_true, decide_eq_true_eq] at h ha hd ⊢
  case decl.none | decl.some => exact .single (h.1.1 ▸ h.1.2.1) (h.1.1 ▸ hd) (Nat.le_refl _)
  case adecl => exact .single (h.1.1 ▸ h.1.2) (h.1.1 ▸ ha.1.2) ha.1.1
  case seq iha ihb =>
    obtain ⟨_, n1, h1, h2⟩ := h
    exact (iha _ _ _ _ h1 ha.1 hd.1).append ((wt_noDead _ _ _ _ _ _ _ h1).2 ▸ ihb _ _ _ _ h2 ha.2 hd.2)
  case itee iha ihb =>
    obtain ⟨_, n1, h1, h2⟩ := h
    exact (iha _ _ _ _ h1 ha.1.2 hd.1).append ((wt_noDead _ _ _ _ _ _ _ h1).2 ▸ ihb _ _ _ _ h2 ha.2 hd.2)
  case ite ih | while_ ih | switch_ ih => exact ih _ _ _ _ h.2 ha.2 hd
  case dowhile ih =>
    obtain ⟨_, n1, h1, _⟩ := h
    exact ih _ _ _ _ h1 ha.2 hd
  case for_.none _ ihb =>
    obtain ⟨⟨_, hs, _⟩, n1, h1, _⟩ := h
    rw [declTys_simple hs, List.append_nil]
    exact ihb _ _ _ _ h1 ha.2 hd.2
  case for_.some _ ihb _ =>
    obtain ⟨⟨_, hs, _⟩, n1, h1, _⟩ := h
    rw [declTys_simple hs, List.append_nil]
    exact ihb _ _ _ _ h1 ha.2 hd.2
  all_goals exact .nil _ _ _

theorem set_same {α : Type} {l : List α} {i : Nat} {x : α} (h : l[i]? = some x) : l.set i x = l := by
  obtain ⟨hi, rfl⟩ := List.getElem?_eq_some_iff.1 h
  exact List.set_getElem_self hi

theorem paramSlots_getD {n k : Nat} (h : k < n) : (paramSlots n).getD k 0 = 2 * k + 2 := by
  simp [paramSlots, List.getD, h]

theorem paramSlots_length (n : Nat) : (paramSlots n).length = n := by simp [paramSlots]

theorem initStore_pre_len (f : CSem2.Func) {ρ : List Int} (hl : ρ.length = f.params.length)
    (hp : f.pwin.length ≤ f.params.length) :
    (List.replicate f.pwin.length (none : Option Int) ++ (ρ.drop f.pwin.length).map some ++
      List.replicate (f.locals.length + f.extra) none).length = f.vtys.length + f.extra := by
  simp only [List.length_append, List.length_replicate, List.length_map, List.length_drop,
    CSem2.Func.vtys]
  omega

theorem initStore_param (f : CSem2.Func) {ρ : List Int} (ws : List (Option Int)) {i : Nat} {v : Int}
    (h : ρ[i]? = some v) (hi : f.pwin.length ≤ i) : (initStore f ρ ws)[i]? = some (some v) := by
  have hlt := lt_of_get h
  rw [initStore, List.getElem?_append_left (by simp; omega), List.getElem?_append_left (by simp; omega),
    List.getElem?_append_right (by simpa using hi)]
  simp only [List.length_replicate, List.getElem?_map, List.getElem?_drop, Nat.add_sub_cancel' hi, h,
    Option.map_some]

theorem initStore_ptr (f : CSem2.Func) (ρ : List Int) (ws : List (Option Int)) {i : Nat}
    (hi : i < f.pwin.length) : (initStore f ρ ws)[i]? = some none := by
  rw [initStore, List.getElem?_append_left (by simp; omega), List.getElem?_append_left (by simp; omega),
    List.getElem?_append_left (by simpa using hi)]
  simp [hi]

theorem initStore_none (f : CSem2.Func) {ρ : List Int} (ws : List (Option Int))
    (hl : ρ.length = f.params.length) (hp : f.pwin.length ≤ f.params.length) {i : Nat}
    (h1 : ρ.length ≤ i) (h2 : i < f.vtys.length + f.extra) (v : Int) :
    (initStore f ρ ws)[i]? ≠ some (some v) := by
  rw [initStore, List.getElem?_append_left (by rw [initStore_pre_len f hl hp]; exact h2),
    List.getElem?_append_right (by simp; omega)]
  rw [List.getElem?_replicate]
  split <;> simp

theorem initStore_some (f : CSem2.Func) {ρ : List Int} (ws : List (Option Int))
    (hl : ρ.length = f.params.length) (hp : f.pwin.length ≤ f.params.length) {i : Nat} {v : Int}
    (hi : i < f.vtys.length + f.extra)
    (h : (initStore f ρ ws)[i]? = some (some v)) : ρ[i]? = some v ∧ f.pwin.length ≤ i := by
  by_cases hpi : i < f.pwin.length
  · rw [initStore_ptr f ρ ws hpi] at h; cases h
  · by_cases hir : i < ρ.length
    · obtain ⟨x, hx⟩ : ∃ x, ρ[i]? = some x := ⟨ρ[i], List.getElem?_eq_getElem hir⟩
      rw [initStore_param f ws hx (by omega)] at h
      simp only [Option.some.injEq] at h
      exact ⟨by rw [hx, h], by omega⟩
    · exact absurd h (initStore_none f ws hl hp (by omega) hi v)

theorem initStore_win (f : CSem2.Func) {ρ : List Int} (ws : List (Option Int))
    (hl : ρ.length = f.params.length) (hp : f.pwin.length ≤ f.params.length) (k : Nat) :
    (initStore f ρ ws)[f.vtys.length + f.extra + k]? = ws[k]? := by
  rw [initStore, List.getElem?_append_right (by rw [initStore_pre_len f hl hp]; omega),
    initStore_pre_len f hl hp]
  congr 1; omega

theorem initStore_len (f : CSem2.Func) {ρ : List Int} (ws : List (Option Int))
    (hl : ρ.length = f.params.length) (hp : f.pwin.length ≤ f.params.length) :
    f.vtys.length + f.extra ≤ (initStore f ρ ws).length := by
  rw [initStore, List.length_append, initStore_pre_len f hl hp]; omega

/-- a slot temporary `%.(2a+2)` is no argument temporary `%.(2b+1)` -/
theorem slot_ne_arg (a b : Nat) : 2 * a + 2 ≠ 2 * b + 1 := by omega

theorem spill_eq (t : CSem.Ty) (i : Nat) :
    spill t i = [allocIns (t, 1) (2 * i + 2), storeIns t (.tmp (tmpName (2 * i + 1))) (2 * i + 2)] := by
  simp only [spill, allocIns, storeIns, Nat.mul_one]

/-- the one step the prologue takes for a parameter and for a block-scope object alike -/
theorem run_alloc (T : Stat) {W : List (CSem.Ty × Nat × Nat)} {s : Store} {i : Nat} {env : Env} {M : Mem}
    {t : CSem.Ty} {n sl : Nat} {pre post : List Item}
    (hcl : T.cnts.length = T.vtys.length)
    (hsmall : stackLimit + 128 + 32 * T.vtys.length + 8 * xcount T.cnts T.cnts.length ≤ T.M0.sp ∧
      T.M0.stack.size + T.vtys.length + 1 < 2 ^ 64)
    (hits : T.S.its = pre ++ allocIns (t, n) sl :: post)
    (hti : T.vtys[i]? = some t) (hci : T.cnts.getD i 1 = n) (hn : 1 ≤ n) (hnmax : n ≤ 100000000)
    (hσi : T.σ.getD i 0 = sl)
    (hlow : ∀ k, k < i → T.σ.getD k 0 ≠ sl)
    (hnone : ∀ e v, e < n → s[ecell i (xbase T.cnts i) e]? ≠ some (some v))
    (inv : AInv T.M0 T.cnts W T.σ T.vtys s i env M) :
    ∃ (a : UInt64) (M' : Mem), T.Reach 1 (T.at env M pre)
        (T.at (env.insert (tmpName sl) ⟨.l, a⟩) M' (pre ++ [allocIns (t, n) sl])) ∧
      AInv T.M0 T.cnts W T.σ T.vtys s (i + 1) (env.insert (tmpName sl) ⟨.l, a⟩) M' := by
  have hil : i < T.cnts.length := by rw [hcl]; exact lt_of_get hti
  have hmono := xcount_mono T.cnts (a := i + 1) (b := T.cnts.length) hil
  have hiv := lt_of_get hti
  obtain ⟨hroom', hsm'⟩ : stackLimit + 128 + 32 * (i + 1) + 8 * xcount T.cnts (i + 1) ≤ T.M0.sp ∧
      T.M0.stack.size + i + 1 < 2 ^ 64 := by omega
  obtain ⟨base, M1, hxa, hnext⟩ := inv.alloc (t := t) hil (hci ▸ hn) (hci ▸ hnmax) hroom' hsm' (hci ▸ hnone)
  rw [hci] at hxa
  exact ⟨base.toUInt64, M1, run_res T hits (readVals_one (readVal_int _ _ _)) hxa,
    hnext _ (fun k hk => getElem?_insert_tmp env _ fun h => hlow k hk h.symm) (by rw [hσi]; simp) hti⟩

/-- State of the prologue after the first `i` variables got their slot.  `ρ`: the arguments as the machine passes
    them (for an array parameter: the address). -/
structure PInv2 (T : Stat) (params : List CSem.Ty) (ρ : List Int) (s : Store) (i : Nat) (env : Env)
    (M : Mem) : Prop where
  a : AInv T.M0 T.cnts (T.W.take i) T.σ T.vtys s i env M
  args : ∀ (k : Nat) (t : CSem.Ty) (v : Int), params[k]? = some t → ρ[k]? = some v →
    ∃ r, env[tmpName (2 * k + 1)]? = some r ∧ StoreVal t v r

section Prologue
variable (T : Stat) (params : List CSem.Ty) (ρ : List Int) (s : Store)
  (hσp : ∀ k, k < params.length → T.σ.getD k 0 = 2 * k + 2)
  (hvp : ∀ (k : Nat) (t : CSem.Ty), params[k]? = some t → T.vtys[k]? = some t)
  (hsp : ∀ (k : Nat) (v : Int), T.W.length ≤ k → ρ[k]? = some v → s[k]? = some (some v))
  (hsw : ∀ k, k < T.W.length → s[k]? = some none ∧ params[k]? = some .ulong)
  (hpw : ∀ (j : Nat) (t : CSem.Ty) (w c0 : Nat), T.W[j]? = some (t, w, c0) →
    T.vtys.length + xcount T.cnts T.cnts.length ≤ c0 ∧
      ∃ pv : UInt64, ρ[j]? = some (pv.toNat : Int) ∧ Window T.M0 (fun e => s[c0 + e]?) pv t w)
  (hlen : ρ.length = params.length) (hcl : T.cnts.length = T.vtys.length)
  (hcp : ∀ k, k < params.length → T.cnts.getD k 1 = 1)
  (hsmall : stackLimit + 128 + 32 * T.vtys.length + 8 * xcount T.cnts T.cnts.length ≤ T.M0.sp ∧
    T.M0.stack.size + T.vtys.length + 1 < 2 ^ 64)

include hσp hvp hsp hsw hpw hlen hcl hcp hsmall in
/-- one parameter: `alloc`, `store`; an array parameter then joins the windows -/
theorem run_spill (t : CSem.Ty) (i : Nat) (hti : params[i]? = some t) (pre post : List Item)
    (env : Env) (M : Mem) (hits : T.S.its = pre ++ spill t i ++ post)
    (inv : PInv2 T params ρ s i env M) :
    ∃ env' M', T.Reach 2 (T.at env M pre) (T.at env' M' (pre ++ spill t i)) ∧
      PInv2 T params ρ s (i + 1) env' M' := by
  have hi : i < params.length := lt_of_get hti
  have hiv : i < T.vtys.length := lt_of_get (hvp i t hti)
  have hσi := hσp i hi
  rw [spill_eq] at hits ⊢
  simp only [List.append_assoc, List.cons_append, List.nil_append] at hits
  -- the slot, allocated as if the variable held no value yet
  obtain ⟨_, M1, hr1, ha1⟩ := run_alloc T hcl hsmall hits (hvp i t hti) (hcp i hi) (Nat.le_refl _) (by decide) hσi
    (fun k hk h => by rw [hσp k (Nat.lt_trans hk hi)] at h; omega)
    (fun e v' he => by
      cases Nat.lt_one_iff.1 he
      rw [ecell_zero, List.getElem?_set]
      split
      · split <;> simp
      · exact absurd rfl ‹¬ i = i›) (inv.a.forget i)
  obtain ⟨v, hv⟩ : ∃ v, ρ[i]? = some v := ⟨ρ[i]'(by omega), List.getElem?_eq_getElem (by omega)⟩
  obtain ⟨r0, hr0, hsv0⟩ := inv.args i t v hti hv
  obtain ⟨a, M2, h1, hxs, ha2⟩ := ha1.store hcl (k := i) (Nat.lt_succ_self _)
    (by rw [List.length_take]; exact Nat.min_le_left _ _) (hvp i t hti) (v := v) (r := r0) hsv0
  rw [hσi] at h1
  have hr2 := run_nores T (its_snoc hits) (readVals_two
    (readVal_tmp ((getElem?_insert_tmp env _ (slot_ne_arg i i)).trans hr0)) (readVal_tmp h1)) hxs
  refine ⟨_, M2, by
    have := hr1.trans hr2
    simp only [List.append_assoc, List.singleton_append] at this
    exact this, ?_,
    fun k t' v' ht' hv' => by
      rw [getElem?_insert_tmp env _ (slot_ne_arg i k)]; exact inv.args k t' v' ht' hv'⟩
  by_cases hiW : i < T.W.length
  · obtain ⟨hsi, hpt⟩ := hsw i hiW
    obtain ⟨⟨t', w, c0⟩, hq⟩ : ∃ q, T.W[i]? = some q := ⟨T.W[i], List.getElem?_eq_getElem hiW⟩
    obtain ⟨hc0, pv, hpv, hwin⟩ := hpw i t' w c0 hq
    cases hv.symm.trans hpv
    have htu : t = .ulong := Option.some.inj (hti.symm.trans hpt)
    have := ha2.addWin (by simp; omega) (htu ▸ hvp i t hti) (pv := pv)
      (by rw [List.getElem?_set_self (by simpa using lt_of_get hsi)]) hc0
      (hwin.mono (Nat.le_refl _) fun e v' _ hv' => by
        have hne : i ≠ c0 + e := by omega
        rwa [List.getElem?_set_ne hne, List.getElem?_set_ne hne] at hv')
    rw [List.set_set, List.set_set, set_same hsi] at this
    rwa [List.take_succ, hq]
  · rw [List.set_set, set_same (hsp i v (by omega) hv)] at ha2
    rwa [List.take_of_length_le (by omega)] at ha2 ⊢

include hσp hvp hsp hsw hpw hlen hcl hcp hsmall in
theorem run_spills (ts : List CSem.Ty) : ∀ (i : Nat) (pre post : List Item) (env : Env) (M : Mem),
    (∀ (k : Nat) (t : CSem.Ty), ts[k]? = some t → params[i + k]? = some t) →
    T.S.its = pre ++ spills ts i ++ post → PInv2 T params ρ s i env M →
    ∃ n env' M', T.Reach n (T.at env M pre) (T.at env' M' (pre ++ spills ts i)) ∧
      PInv2 T params ρ s (i + ts.length) env' M' := by
  induction ts with
  | nil =>
    intro i pre post env M _ _ inv
    exact ⟨0, env, M, by simp [spills, Stat.Reach, LowerMach.Reach], by simpa using inv⟩
  | cons t ts ih =>
    intro i pre post env M hty hits inv
    simp only [spills] at hits ⊢
    obtain ⟨env1, M1, hr1, inv1⟩ := run_spill T params ρ s hσp hvp hsp hsw hpw hlen hcl hcp hsmall t i
      (by simpa using hty 0 t rfl) pre (spills ts (i + 1) ++ post) env M
      (by rw [hits]; simp only [List.append_assoc]) inv
    obtain ⟨n, env2, M2, hr2, inv2⟩ := ih (i + 1) (pre ++ spill t i) post env1 M1
      (fun k t' h => by have := hty (k + 1) t' (by simpa using h); rwa [Nat.add_assoc, Nat.add_comm 1 k])
      (by rw [hits]; simp only [List.append_assoc]) inv1
    refine ⟨2 + n, env2, M2, ?_, ?_⟩
    · rw [← List.append_assoc]; exact hr1.trans hr2
    · have : i + (t :: ts).length = i + 1 + ts.length := by simp; omega
      rw [this]; exact inv2

include hcl hsmall in
theorem run_allocs (hinc : ∀ a b, a < b → b < T.vtys.length → T.σ.getD a 0 < T.σ.getD b 0)
    (hxs : xcount T.cnts T.cnts.length ≤ 1000000)
    (tys : List (CSem.Ty × Nat)) : ∀ (slots : List Nat) (i : Nat) (pre post : List Item) (env : Env) (M : Mem),
    slots.length = tys.length →
    DeclsAt T.vtys T.cnts i tys →
    (∀ (k : Nat), k < tys.length → T.σ.getD (i + k) 0 = slots.getD k 0) →
    (∀ (j : Nat) (v : Int), i ≤ j → j < T.vtys.length + xcount T.cnts T.cnts.length →
      s[j]? ≠ some (some v)) →
    T.S.its = pre ++ List.zipWith allocIns tys slots ++ post → AInv T.M0 T.cnts T.W T.σ T.vtys s i env M →
    ∃ n env' M', T.Reach n (T.at env M pre) (T.at env' M' (pre ++ List.zipWith allocIns tys slots)) ∧
      AInv T.M0 T.cnts T.W T.σ T.vtys s (i + tys.length) env' M' := by
  induction tys with
  | nil =>
    intro slots i pre post env M _ _ _ _ _ inv
    exact ⟨0, env, M, by simp [Stat.Reach, LowerMach.Reach], by simpa using inv⟩
  | cons d tys ih =>
    intro slots i pre post env M hl hty hsl hsn hits inv
    obtain ⟨t, n⟩ := d
    cases slots with
    | nil => simp at hl
    | cons sl slots =>
      simp only [List.length_cons, Nat.add_right_cancel_iff] at hl
      simp only [List.zipWith_cons_cons] at hits ⊢
      obtain ⟨hti, hci, hn1⟩ : T.vtys[i]? = some t ∧ T.cnts[i]? = some n ∧ 1 ≤ n := by
        simpa using hty 0 t n rfl
      have hiv := lt_of_get hti
      have hil : i < T.cnts.length := by rw [hcl]; exact hiv
      have hmono := xcount_mono T.cnts (a := i + 1) (b := T.cnts.length) hil
      have hxsucc := xcount_succ T.cnts hil
      have hcd : T.cnts.getD i 1 = n := by simp [List.getD, hci]
      have hσi : T.σ.getD i 0 = sl := by simpa using hsl 0 (by simp)
      obtain ⟨a, M1, hr1, ha1⟩ := run_alloc T hcl hsmall (pre := pre) (sl := sl)
        (post := List.zipWith allocIns tys slots ++ post) (by rw [hits]; simp) hti hcd hn1 (by omega) hσi
        (fun k hk h => Nat.ne_of_lt (hinc k i hk hiv) (h.trans hσi.symm))
        (fun e v he => by refine hsn _ v ?_ ?_ <;> unfold ecell xbase <;> split <;> omega) inv
      obtain ⟨m, env2, M2, hr2, inv2⟩ := ih slots (i + 1) (pre ++ [allocIns (t, n) sl]) post _ M1 hl
        (fun k t' n' h => by
          have := hty (k + 1) t' n' (by simpa using h); rwa [Nat.add_assoc, Nat.add_comm 1 k])
        (fun k hk => by
          have := hsl (k + 1) (by simp; omega)
          rw [Nat.add_assoc, Nat.add_comm 1 k]; simpa using this)
        (fun j v hj hj2 => hsn j v (Nat.le_of_succ_le hj) hj2)
        (by rw [hits]; simp) ha1
      refine ⟨1 + m, env2, M2, by simpa only [List.append_assoc, List.singleton_append] using hr1.trans hr2, ?_⟩
      rw [show i + ((t, n) :: tys).length = i + 1 + tys.length by simp; omega]; exact inv2

end Prologue

theorem allocs_allIns (tys : List (CSem.Ty × Nat)) (slots : List Nat) :
    ∀ it ∈ List.zipWith allocIns tys slots, ∃ ins, it = .ins ins := by
  induction tys generalizing slots with
  | nil => simp
  | cons t tys ih =>
    cases slots with
    | nil => simp
    | cons sl slots =>
      intro it hit
      simp only [List.zipWith_cons_cons, List.mem_cons] at hit
      rcases hit with h | h
      · exact ⟨_, h⟩
      · exact ih slots it h

theorem bodyCtx_jump (startid : Nat) (f : CSem2.Func) : (Lower2.bodyCtx startid f).jump = none := rfl

theorem emit2_labels_nodup (cs : Bool) (startid : Nat) (f : CSem2.Func) (hnd : noDead f.body = true) :
    ((Lower2.emitFunc cs startid f).blocks.toList.map (·.label)).Nodup := by
  have g := funcstmt_good cs f.body "" "" (Lower2.bodyCtx startid f) (Or.inl rfl) hnd
  obtain ⟨new, _, _, _, hal⟩ := g.slots
  simp only [Lower2.emitFunc, List.toList_toArray]
  rw [assemble_labels]
  have hal' : (Lower2.bodyOut cs startid f).allocs = List.zipWith allocIns (declTys f.body) new := hal
  simp only [Lower2.funcItems, itemLabels_append, itemLabels_allIns _ (spills_allIns _ _), itemLabels,
    List.nil_append, hal', itemLabels_allIns _ (allocs_allIns _ _)]
  have h := ((LabelsIn.single (S := fun j => j = startid + 1) "start" (startid + 1) rfl).append
    (LabelsIn.single (S := fun j => j = startid + 2) "body" (startid + 2) rfl)
    (by intro j h1 h2; omega)).append g.labels (by
      intro j h1 h2
      simp only [Lower2.bodyCtx] at h2
      omega)
  exact h.2

theorem Pos.body (T : Stat) (sid : Nat) (g : CSem2.Func) (pre : List Item) :
    Pos T (Lower2.bodyCtx sid g) g.params.length (pre ++ [.lbl none (bodyLabel sid) []]) := by
  refine ⟨rfl, curOf_lbl _ _ _ _ _, ⟨"body", sid + 2, rfl, Nat.le_refl _⟩, paramSlots_length _, fun i hi => ?_⟩
  show (paramSlots g.params.length).getD i 0 ≤ 2 * g.params.length
  rw [paramSlots_getD hi]; omega

theorem Ext.full {T : Stat} {o : SCtx} (h1 : o.slots = T.σ) (h2 : T.vtys.length ≤ T.σ.length) : Ext T o :=
  ⟨fun i _ => by rw [h1], fun k hk hkv => by rw [h1] at hk; omega⟩

theorem getD_paramSlots_left {n k : Nat} (new : List Nat) (hk : k < n) :
    (paramSlots n ++ new).getD k 0 = 2 * k + 2 := by
  rw [getD_append_left _ _ (by rw [paramSlots_length]; exact hk), paramSlots_getD hk]

theorem getD_paramSlots_right (n : Nat) (new : List Nat) (k : Nat) :
    (paramSlots n ++ new).getD (n + k) 0 = new.getD k 0 := by
  rw [getD_append_right _ _ (by rw [paramSlots_length]; exact Nat.le_add_right _ _), paramSlots_length,
    Nat.add_sub_cancel_left]

theorem slots_increasing {n : Nat} {new : List Nat} (hs : new.Pairwise (· < ·))
    (hlo : ∀ sl ∈ new, 2 * n < sl) {a b : Nat} (hab : a < b) (hb : b < n + new.length) :
    (paramSlots n ++ new).getD a 0 < (paramSlots n ++ new).getD b 0 := by
  by_cases hbp : b < n
  · rw [getD_paramSlots_left new (Nat.lt_trans hab hbp), getD_paramSlots_left new hbp]; omega
  · obtain ⟨kb, rfl⟩ : ∃ kb, b = n + kb := ⟨b - n, by omega⟩
    have hkb : kb < new.length := by omega
    rw [getD_paramSlots_right]
    by_cases hap : a < n
    · rw [getD_paramSlots_left new hap]; have := hlo _ (getD_mem hkb); omega
    · obtain ⟨ka, rfl⟩ : ∃ ka, a = n + ka := ⟨a - n, by omega⟩
      have hka : ka < new.length := by omega
      rw [getD_paramSlots_right]
      have := List.pairwise_iff_getElem.1 hs ka kb hka hkb (by omega)
      simpa [List.getD, List.getElem?_eq_getElem hka, List.getElem?_eq_getElem hkb] using this

theorem WinOK.cells {cs : Bool} {g : CSem2.Func} {ws : List (Option Int)} {ρm : List Int} {M0 : Mem}
    (hwin : WinOK cs g ws ρm M0) {ρ : List Int} (hlen : ρ.length = g.params.length)
    (hpwl : g.pwin.length ≤ g.params.length) {j : Nat} {t : CSem.Ty} {w c0 : Nat}
    (hq : (funcW g)[j]? = some (t, w, c0)) :
    (g.vtys.length + g.extra ≤ c0 ∧ ∃ pv : UInt64, ρm[j]? = some (pv.toNat : Int) ∧
        Window M0 (fun e => (initStore g ρ ws)[c0 + e]?) pv t w) ∧
      ∀ e v', e < w → (initStore g ρ ws)[c0 + e]? = some (some v') → InRange (t.intTy cs) v' := by
  obtain ⟨hq1, rfl⟩ := (funcW_get g).1 hq
  obtain ⟨pv, hpv, hw, hr⟩ := hwin j t w hq1
  have hcell : ∀ e, (initStore g ρ ws)[g.wbase j + e]? = ws[((g.pwin.take j).map (·.2)).sum + e]? :=
    fun e => (congrArg (fun k => (initStore g ρ ws)[k]?) (Nat.add_assoc _ _ _)).trans (initStore_win g ws hlen hpwl _)
  exact ⟨⟨Nat.le_add_right _ _, pv, hpv, hw.mono (Nat.le_refl _) fun e v _ hv => hcell e ▸ hv⟩,
    fun e v' he hv' => hr e v' he (hcell e ▸ hv')⟩

theorem initStore_range {cs : Bool} (g : CSem2.Func) {ρ : List Int} (ws : List (Option Int))
    (henv : EnvOK cs g.params ρ) (hpwl : g.pwin.length ≤ g.params.length) :
    (∀ (i : Nat) (t : CSem.Ty) (v : Int), g.vtys[i]? = some t → (initStore g ρ ws)[i]? = some (some v) →
      InRange (t.intTy cs) v) ∧
    ∀ (k e : Nat) (t : CSem.Ty) (v : Int), g.vtys[k]? = some t → e < g.cnts.getD k 1 →
      (initStore g ρ ws)[ecell k (xbase g.cnts k) e]? = some (some v) → InRange (t.intTy cs) v := by
  have hlen := henv.1
  have hcl : g.cnts.length = g.vtys.length := by simp [CSem2.Func.cnts, CSem2.Func.vtys]
  have hrange : ∀ (i : Nat) (t : CSem.Ty) (v : Int), g.vtys[i]? = some t →
      (initStore g ρ ws)[i]? = some (some v) → InRange (t.intTy cs) v := by
    intro i t v' ht hv'
    have hρ := (initStore_some g ws hlen hpwl (by have := lt_of_get ht; omega) hv').1
    have hi : i < g.params.length := by rw [← hlen]; exact lt_of_get hρ
    have ht' : g.params[i]? = some t := by
      have : (g.params ++ g.locals)[i]? = some t := ht
      rwa [List.getElem?_append_left hi] at this
    exact henv.2 i t v' ht' hρ
  refine ⟨hrange, ?_⟩
  intro k e t v' ht he hv'
  by_cases he0 : e = 0
  · subst he0
    rw [ecell_zero] at hv'
    exact hrange k t v' ht hv'
  · exfalso
    have hkl : k < g.cnts.length := hcl ▸ lt_of_get ht
    have hvl : g.params.length ≤ g.cnts.length := by rw [hcl]; simp [CSem2.Func.vtys]
    rcases ecell_range g.cnts hkl he with ⟨h0, _⟩ | ⟨_, hlo, _⟩
    · exact he0 h0
    · refine initStore_none g ws hlen hpwl (i := ecell k (xbase g.cnts k) e)
        (hlen ▸ Nat.le_trans hvl (Nat.le_trans (Nat.le_add_right _ _) hlo)) ?_ v' hv'
      show _ < g.vtys.length + xcount g.cnts g.cnts.length
      rw [← hcl]
      exact ecell_lt g.cnts hkl he

theorem AInv.enter {M0 : Mem} (hmem : MemInv M0) (htop : M0.sp ≤ stackTop) (hsp : stackLimit + frameCost ≤ M0.sp)
    (cnts σ : List Nat) (vtys : List CSem.Ty) (s : Store) (env : Env) :
    AInv M0 cnts [] σ vtys s 0 env { M0 with sp := M0.sp - frameCost } := by
  have hfc : frameCost = 64 := rfl
  refine ⟨⟨hmem.sorted, fun i hi => Nat.le_trans (Nat.sub_le _ _) (hmem.above i hi), ?_, hmem.small⟩, rfl, ?_,
    Nat.sub_le _ _, htop, rfl, fun k _ => rfl, fun k t hk => absurd hk (Nat.not_lt_zero _),
    fun j t w c0 hq => by cases hq⟩
  · show stackLimit ≤ M0.sp - frameCost
    omega
  · show M0.sp ≤ M0.sp - frameCost + 64 + 32 * 0 + 8 * xcount cnts 0
    omega

/-- A function `g` whose body is in the fragment is simulated with the fuel with which the statements of the
    activations of `P` are (`hsim`): one activation spills the parameters, allocates the locals and runs the body. -/
theorem sim_func (cs : Bool) (g : CSem2.Func) (hwt : CSem2.WT g)
    (P : List CSem2.Func) (p : Prog) (ext : Qbe.Ext) (K d : Nat)
    (hfuncs : ∀ fn g', lookup P fn = some g' →
      ∃ sid', p.funcs[fn]? = some (FuncInfo.of (Lower2.emitFunc cs sid' g')))
    (hP : ∀ fn g', lookup P fn = some g' →
      CSem2.WT g' ∧ callsOK P g'.body = true ∧ g'.vtys.length + g'.extra ≤ K)
    (hfrag : frag P g.cnts (funcW g) g.body = true) (hK : g.vtys.length + g.extra ≤ K)
    (fuel : Nat) (hsim : ∀ T : Stat, T.P = P → T.d = d → SimStmt T fuel) :
    FuncSimOf cs P p ext K (d + 1) g fuel := by
  intro sid ρ ρm ws v M0 rest tr env0 henv hmem hroom htop hρ hlenm hargs hwin hex
  have hret : (FuncInfo.of (Lower2.emitFunc cs sid g)).f.ret = some (.base (cls g.ret)) := rfl
  have hsm : (⟨FuncInfo.of (Lower2.emitFunc cs sid g), M0.stack.size, M0.sp, rest, tr⟩ : Fix).sm =
      M0.stack.size := rfl
  have hspm : (⟨FuncInfo.of (Lower2.emitFunc cs sid g), M0.stack.size, M0.sp, rest, tr⟩ : Fix).spm = M0.sp := rfl
  have hlen := henv.1
  simp only [CSem2.WT, CSem2.Func.wt, Bool.and_eq_true, beq_iff_eq, decide_eq_true_eq] at hwt
  obtain ⟨⟨⟨⟨⟨⟨⟨⟨⟨_, hwt⟩, harrs⟩, hdecls⟩, hextra⟩, hptrs⟩, hpfx⟩, hpwl⟩, hwall⟩, hwtot⟩ := hwt
  obtain ⟨hnd, hcount⟩ := wt_noDead _ _ _ _ _ _ _ hwt
  have hcl : g.cnts.length = g.vtys.length := by simp [CSem2.Func.cnts, CSem2.Func.vtys]
  have hcp : ∀ k, k < g.params.length → g.cnts.getD k 1 = 1 := by
    intro k hk
    simp [CSem2.Func.cnts, List.getD, List.getElem?_append_left, hk]
  have gd := funcstmt_good cs g.body "" "" (Lower2.bodyCtx sid g) (Or.inl rfl) hnd
  obtain ⟨new, hslots, hnewlen, hnewrange, hallocs⟩ := gd.slots
  have hsorted := gd.sorted new hslots
  have hvl : g.vtys.length = g.params.length + g.locals.length := by simp [CSem2.Func.vtys]
  have hdl : (declTys g.body).length = g.locals.length := by omega
  let S : Sit := ⟨cs, p, ext, ⟨FuncInfo.of (Lower2.emitFunc cs sid g), M0.stack.size, M0.sp, rest, tr⟩, M0,
    Lower2.finalJump cs sid g, ⟨startLabel sid, [], #[]⟩, Lower2.funcItems cs sid g, [], [], rfl,
    fun j b hb => labelIdx_of_nodup _ (emit2_labels_nodup cs sid g hnd) hb, ⟨rfl, by intro i t v h; simp at h⟩⟩
  let σ : List Nat := paramSlots g.params.length ++ new
  let T : Stat := ⟨S, σ, g.vtys, g.ret, hret, P, M0, hsm, hspm, g.cnts, funcW g, K, d, hK, hroom, hfuncs, hP⟩
  have hWl : T.W.length = g.pwin.length := funcW_length g
  have hσslots : (Lower2.bodyOut cs sid g).ctx.slots = σ := hslots
  have hσp : ∀ k, k < g.params.length → T.σ.getD k 0 = 2 * k + 2 := fun k hk => getD_paramSlots_left new hk
  have hσl : ∀ k, k < new.length → T.σ.getD (g.params.length + k) 0 = new.getD k 0 := fun k _ =>
    getD_paramSlots_right _ new k
  have hinc : ∀ a b, a < b → b < T.vtys.length → T.σ.getD a 0 < T.σ.getD b 0 := fun a b hab hb =>
    slots_increasing hsorted (fun sl h => (hnewrange sl h).1) hab (by rw [hnewlen, hdl, ← hvl]; exact hb)
  have hvp : ∀ (k : Nat) (t : CSem.Ty), g.params[k]? = some t → T.vtys[k]? = some t := by
    intro k t h
    show (g.params ++ g.locals)[k]? = some t
    rw [List.getElem?_append_left (lt_of_get h)]; exact h
  have hsp' : ∀ (k : Nat) (v : Int), T.W.length ≤ k → ρm[k]? = some v →
      (initStore g ρ ws)[k]? = some (some v) :=
    fun k v hk h => initStore_param g ws ((hρ k (hWl ▸ hk)).symm.trans h) (by rw [← hWl]; exact hk)
  have hsw : ∀ k, k < T.W.length → (initStore g ρ ws)[k]? = some none ∧ g.params[k]? = some .ulong := by
    intro k hk
    rw [hWl] at hk
    refine ⟨initStore_ptr g ρ ws hk, ?_⟩
    have : (g.params.take g.pwin.length)[k]? = some .ulong := by
      rw [hpfx, List.getElem?_replicate]; simp [hk]
    rw [List.getElem?_take] at this
    simpa [hk] using this
  have hsmall' : stackLimit + 128 + 32 * T.vtys.length + 8 * xcount T.cnts T.cnts.length ≤ T.M0.sp ∧
      T.M0.stack.size + T.vtys.length + 1 < 2 ^ 64 := hroom.small hK
  let M0' : Mem := { M0 with sp := M0.sp - frameCost }
  have hpinv0 : PInv2 T g.params ρm (initStore g ρ ws) 0 env0 M0' :=
    ⟨AInv.enter hmem htop (by have := (hroom.small hK).1; have : frameCost = 64 := rfl; omega) _ _ _ _ _, hargs⟩
  have hits0 : T.S.its = [] ++ spills g.params 0 ++ ((Lower2.bodyOut cs sid g).allocs ++
      (.lbl none (bodyLabel sid) [] :: (Lower2.bodyOut cs sid g).items)) := by
    show Lower2.funcItems cs sid g = _
    simp [Lower2.funcItems]
  obtain ⟨n1, env1, M1, hreach1, hpinv1⟩ := run_spills T g.params ρm (initStore g ρ ws) hσp hvp hsp' hsw
    (fun j t w c0 hq => (hwin.cells hlen hpwl hq).1) hlenm hcl hcp hsmall' g.params 0 [] _ env0 M0' (fun k t h => by simpa using h) hits0 hpinv0
  simp only [List.nil_append, Nat.zero_add] at hreach1 hpinv1
  have hits1 : T.S.its = spills g.params 0 ++ List.zipWith allocIns (declTys g.body) new ++
      (.lbl none (bodyLabel sid) [] :: (Lower2.bodyOut cs sid g).items) := by
    have : (Lower2.bodyOut cs sid g).allocs = List.zipWith allocIns (declTys g.body) new := hallocs
    rw [← this]
    show Lower2.funcItems cs sid g = _
    simp [Lower2.funcItems]
  obtain ⟨n2, env2, M2, hreach2, hainv2⟩ := run_allocs T (initStore g ρ ws) hcl hsmall' hinc hextra
    (declTys g.body) new
    g.params.length (spills g.params 0) _ env1 M1 hnewlen
    (wt_declTys _ _ g.cnts _ _ _ _ _ hwt harrs hdecls)
    (fun k hk => hσl k (hnewlen ▸ hk))
    (fun j v hj hj2 => initStore_none g ws hlen hpwl (hlen ▸ hj) hj2 v) hits1
    (by have := hpinv1.a; rwa [List.take_of_length_le (by rw [hWl]; exact hpwl)] at this)
  have hall : g.params.length + (declTys g.body).length = T.vtys.length := hcount.symm
  rw [hall] at hainv2
  have hinv : SInv T.M0 T.S.cs T.cnts T.W T.σ T.vtys (initStore g ρ ws) env2 M2 :=
    ⟨hainv2, hcl, initStore_len g ws hlen hpwl, (initStore_range g ws henv hpwl).1,
      (initStore_range g ws henv hpwl).2,
      fun j e t w c0 v' hq he hv' => (hwin.cells hlen hpwl hq).2 e v' he hv'⟩
  have hitsL : T.S.its = (spills g.params 0 ++ List.zipWith allocIns (declTys g.body) new) ++
      .lbl none (bodyLabel sid) [] :: (Lower2.bodyOut cs sid g).items := hits1
  have hstep := step_fall_item T hitsL env2 M2
  have hpos := Pos.body T sid g (spills g.params 0 ++ List.zipWith allocIns (declTys g.body) new)
  have hext : Ext T (funcstmt T.S.cs "" "" g.body (Lower2.bodyCtx sid g)).ctx :=
    Ext.full hσslots (by show g.vtys.length ≤ (paramSlots g.params.length ++ new).length
                         rw [List.length_append, paramSlots_length]; omega)
  have hitsB : T.S.its = (spills g.params 0 ++ List.zipWith allocIns (declTys g.body) new ++
      [.lbl none (bodyLabel sid) []]) ++
      (funcstmt T.S.cs "" "" g.body (Lower2.bodyCtx sid g)).items ++ [] := by
    rw [hits1]
    simp only [Lower2.bodyOut, List.append_assoc, List.singleton_append, List.append_nil]
    rfl
  obtain ⟨⟨hrg, n3, stf, r, hr3, hsf, hrr⟩, -⟩ := hsim T rfl rfl g.body (initStore g ρ ws) (.ret v) (false, false) "" ""
    (Lower2.bodyCtx sid g) g.params.length g.vtys.length _ [] env2 M2 hex hfrag hwt hpos hext hitsB
    (fun j hj => by
      have h := TermAt.of_end (T := T) (hitsB.trans (List.append_nil _))
      have hft : T.S.ft = j := by
        show Lower2.finalJump cs sid g = j
        unfold Lower2.finalJump
        rw [show (Lower2.bodyOut cs sid g).ctx.jump = some j from hj]; rfl
      exact hft ▸ h)
    ⟨(by intro h; cases h), (by intro h; cases h)⟩ hinv
  exact ⟨_, stf, r, ((hreach1.trans hreach2).trans (Reach.one hstep)).trans hr3, hsf, hrr, hrg⟩

end CprocVerif.LowerMach2
