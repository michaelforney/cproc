import CprocVerif.Model.Types
import CprocVerif.Spec.Conv

/-! Compatibility: `typecompatible` (model) decides the relation `Compat` of `Spec/Conv.lean` (`compat_sound'`,
`compat_complete'`) and is the same function as the specification's executable `compatible` (`spec_compatible_eq`), each by
recursion on the type; symmetry is read off the relation.  The primed names are the lemmas; `Props/C05.lean` states the
same facts as its theorems `compat_refl`, `compat_symm`, `compat_sound`, `compat_complete`. -/

namespace CprocVerif.Types.Lemmas
open CprocVerif.Types CprocVerif.Spec

theorem Basic.kind_ne_enum (b : Basic) : (b.kind != Kind.enum) = true := by cases b <;> rfl

theorem ATy.compat_basic (x y : Basic) : (ATy.basic x).compat (.basic y) = decide (x = y) := by
  simp only [ATy.compat, ATy.enumOver, Bool.or_false, Bool.and_false, Bool.beq_eq_decide_eq, ATy.basic.injEq]

theorem ATy.compat_enum_basic (i : Nat) (x y : Basic) : (ATy.enum i x).compat (.basic y) = decide (x = y) := by
  have h : ((ATy.enum i x).kind != (ATy.basic y).kind) = true := by rw [bne_comm]; exact Basic.kind_ne_enum y
  simp only [ATy.compat, ATy.enumOver, h, Bool.or_false, Bool.true_and, Bool.beq_eq_decide_eq, reduceCtorEq,
    decide_false, Bool.false_or]

theorem ATy.compat_basic_enum (i : Nat) (x y : Basic) : (ATy.basic x).compat (.enum i y) = decide (y = x) := by
  have h : ((ATy.basic x).kind != (ATy.enum i y).kind) = true := Basic.kind_ne_enum x
  simp only [ATy.compat, ATy.enumOver, h, Bool.false_or, Bool.true_and, Bool.beq_eq_decide_eq, reduceCtorEq,
    decide_false]

theorem ATy.compat_enum (i j : Nat) (x y : Basic) :
    (ATy.enum i x).compat (.enum j y) = decide (i = j ∧ x = y) := by
  simp only [ATy.compat, ATy.enumOver, Bool.or_false, Bool.and_false, Bool.beq_eq_decide_eq, ATy.enum.injEq]

theorem ATy.compat_refl (a : ATy) : a.compat a = true := by simp [ATy.compat]

theorem ATy.compat_cases {a b : ATy} (h : a.compat b = true) :
    a = b ∨ (∃ i x, a = .enum i x ∧ b = .basic x) ∨ (∃ i x, a = .basic x ∧ b = .enum i x) := by
  cases a <;> cases b <;>
    simp only [ATy.compat_basic, ATy.compat_enum_basic, ATy.compat_basic_enum, ATy.compat_enum, decide_eq_true_eq] at h
  · exact .inl (h ▸ rfl)
  · exact .inr (.inr ⟨_, _, h ▸ rfl, rfl⟩)
  · exact .inr (.inl ⟨_, _, rfl, h ▸ rfl⟩)
  · exact .inl (h.1 ▸ h.2 ▸ rfl)

theorem ATy.spec_compat_eq (a b : ATy) :
    (decide (a = b) ||
      (match a, b with
       | .enum _ x, .basic y => decide (x = y)
       | .basic x, .enum _ y => decide (x = y)
       | _, _ => false)) = a.compat b := by
  cases a <;> cases b <;>
    simp only [ATy.compat_basic, ATy.compat_enum_basic, ATy.compat_basic_enum, ATy.compat_enum, Bool.or_false,
      reduceCtorEq, decide_false, Bool.false_or, ATy.basic.injEq, ATy.enum.injEq]
  exact decide_eq_decide.2 eq_comm

theorem ArrLen.ok_refl (a : ArrLen) : a.ok a = true := by cases a <;> simp [ArrLen.ok]

theorem lenAgree_eq (a b : ArrLen) : lenAgree a b = a.ok b := by
  cases a <;> cases b <;> simp [lenAgree, ArrLen.ok]

mutual
theorem compat_refl' : ∀ t : Ty, typecompatible t t = true
  | .void | .nullptr | .struct _ | .union _ => by simp [typecompatible]
  | .arith a => by simp [typecompatible, ATy.compat_refl]
  | .ptr q b => by simp [typecompatible, compat_refl' b]
  | .arr q l p b => by simp [typecompatible, compat_refl' b, ArrLen.ok_refl]
  | .func q r ps v => by simp [typecompatible, compat_refl' r, paramscompat_refl ps]
theorem paramscompat_refl : ∀ l : List Ty, paramscompatible l l = true
  | [] => by simp [paramscompatible]
  | a :: as => by simp [paramscompatible, compat_refl' a, paramscompat_refl as]
end

theorem ArrLen.ok_iff {a b : ArrLen} : a.ok b = true ↔ sizesAgree a b := by
  cases a <;> cases b <;> simp [ArrLen.ok, sizesAgree]

mutual
theorem compat_sound' : ∀ a b : Ty, typecompatible a b = true → Compat a b
  | .void, b, h => by cases b <;> simp [typecompatible] at h; exact .void
  | .nullptr, b, h => by cases b <;> simp [typecompatible] at h; exact .nullptr
  | .arith x, b, h => by
    cases b <;> simp [typecompatible] at h
    rcases ATy.compat_cases h with rfl | ⟨i, y, rfl, rfl⟩ | ⟨i, y, rfl, rfl⟩
    · exact .arith _
    · exact .enumL _ _
    · exact .enumR _ _
  | .struct _, b, h => by cases b <;> simp [typecompatible] at h; subst h; exact .struct _
  | .union _, b, h => by cases b <;> simp [typecompatible] at h; subst h; exact .union _
  | .ptr q x, b, h => by
    cases b <;> simp [typecompatible] at h
    obtain ⟨rfl, h2⟩ := h
    exact .ptr _ (compat_sound' _ _ h2)
  | .arr q l p x, b, h => by
    cases b <;> simp [typecompatible] at h
    obtain ⟨h1, rfl, h3⟩ := h
    exact .arr _ _ _ (ArrLen.ok_iff.1 h1) (compat_sound' _ _ h3)
  | .func q r ps v, b, h => by
    cases b <;> simp [typecompatible] at h
    obtain ⟨⟨rfl, h2⟩, rfl, h4⟩ := h
    exact .func _ _ (compat_sound' _ _ h4) (paramscompat_sound _ _ h2)
theorem paramscompat_sound : ∀ a b : List Ty, paramscompatible a b = true → CompatL a b
  | [], b, h => by cases b <;> simp [paramscompatible] at h; exact .nil
  | x :: xs, b, h => by
    cases b <;> simp [paramscompatible] at h
    exact .cons (compat_sound' _ _ h.1) (paramscompat_sound _ _ h.2)
end

mutual
theorem compat_complete' : ∀ {a b : Ty}, Compat a b → typecompatible a b = true
  | _, _, .void | _, _, .nullptr | _, _, .struct _ | _, _, .union _ => by simp [typecompatible]
  | _, _, .arith a => by simp [typecompatible, ATy.compat_refl]
  | _, _, .enumL i b => by rw [typecompatible, ATy.compat_enum_basic]; exact decide_eq_true rfl
  | _, _, .enumR i b => by rw [typecompatible, ATy.compat_basic_enum]; exact decide_eq_true rfl
  | _, _, .ptr q h => by simp [typecompatible, compat_complete' h]
  | _, _, .arr q pa pb hs h => by simp [typecompatible, compat_complete' h, ArrLen.ok_iff.2 hs]
  | _, _, .func q v hr hp => by simp [typecompatible, compat_complete' hr, compatL_complete hp]
theorem compatL_complete : ∀ {a b : List Ty}, CompatL a b → paramscompatible a b = true
  | _, _, .nil => by simp [paramscompatible]
  | _, _, .cons h hs => by simp [paramscompatible, compat_complete' h, compatL_complete hs]
end

theorem sizesAgree_symm {a b : ArrLen} (h : sizesAgree a b) : sizesAgree b a := by
  cases a <;> cases b <;> first | trivial | exact Eq.symm h

mutual
theorem compat_rel_symm : ∀ {a b : Ty}, Compat a b → Compat b a
  | _, _, .void => .void
  | _, _, .nullptr => .nullptr
  | _, _, .arith a => .arith a
  | _, _, .struct i => .struct i
  | _, _, .union i => .union i
  | _, _, .enumL i b => .enumR i b
  | _, _, .enumR i b => .enumL i b
  | _, _, .ptr q h => .ptr q (compat_rel_symm h)
  | _, _, .arr q pa pb hs h => .arr q pb pa (sizesAgree_symm hs) (compat_rel_symm h)
  | _, _, .func q v hr hp => .func q v (compat_rel_symm hr) (compatL_rel_symm hp)
theorem compatL_rel_symm : ∀ {a b : List Ty}, CompatL a b → CompatL b a
  | _, _, .nil => .nil
  | _, _, .cons h hs => .cons (compat_rel_symm h) (compatL_rel_symm hs)
end

theorem compat_symm' (a b : Ty) : typecompatible a b = typecompatible b a :=
  Bool.eq_iff_iff.2 ⟨fun h => compat_complete' (compat_rel_symm (compat_sound' a b h)),
    fun h => compat_complete' (compat_rel_symm (compat_sound' b a h))⟩

theorem paramscompat_symm : ∀ a b : List Ty, paramscompatible a b = paramscompatible b a := fun a b =>
  Bool.eq_iff_iff.2 ⟨fun h => compatL_complete (compatL_rel_symm (paramscompat_sound a b h)),
    fun h => compatL_complete (compatL_rel_symm (paramscompat_sound b a h))⟩

mutual
theorem spec_compatible_eq : ∀ a b : Ty, compatible a b = typecompatible a b
  | .void, b | .nullptr, b => by cases b <;> simp [compatible, typecompatible]
  | .arith x, b => by
    cases b <;> simp only [compatible, typecompatible]
    exact ATy.spec_compat_eq _ _
  | .struct _, b | .union _, b => by cases b <;> simp [compatible, typecompatible, Bool.beq_eq_decide_eq]
  | .ptr q x, b => by
    cases b <;> simp only [compatible, typecompatible]
    rw [spec_compatible_eq x _, Bool.beq_eq_decide_eq]
  | .arr q l p x, b => by
    cases b <;> simp only [compatible, typecompatible]
    rw [spec_compatible_eq x _, lenAgree_eq, Bool.beq_eq_decide_eq]; simp only [Bool.and_comm, Bool.and_left_comm, Bool.and_assoc]
  | .func q r ps v, b => by
    cases b <;> simp only [compatible, typecompatible]
    rw [spec_compatible_eq r _, spec_compatibleL_eq ps _, Bool.beq_eq_decide_eq, Bool.beq_eq_decide_eq]; simp only [Bool.and_comm, Bool.and_left_comm, Bool.and_assoc]
theorem spec_compatibleL_eq : ∀ a b : List Ty, compatibleL a b = paramscompatible a b
  | [], b => by cases b <;> simp [compatibleL, paramscompatible]
  | x :: xs, b => by
    cases b <;> simp only [compatibleL, paramscompatible]
    rw [spec_compatible_eq x _, spec_compatibleL_eq xs _]
end

theorem compatible_iff (a b : Ty) : compatible a b = true ↔ Compat a b := by
  rw [spec_compatible_eq]
  exact ⟨compat_sound' a b, compat_complete'⟩

theorem compat_isFunc (a b : Ty) (h : typecompatible a b = true) : a.isFunc = b.isFunc := by
  cases a <;> cases b <;> first | rfl | cases h

end CprocVerif.Types.Lemmas
