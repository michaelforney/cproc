import CprocVerif.Lemmas.PPFnRawnext

/-! # What a stored argument is to the reference (`ArgRel`), `argnext` on a good state, the class
of argument texts (`FnArgs`) and `collect` on them, one token at a time -/

namespace CprocVerif.PP
open CprocVerif.Gen.TokenKinds
open CprocVerif.Spec.MacroRef (HTok Item PTok MacroDef RErr Flag expandH hsadd union pendItems lookup)
open CprocVerif.Spec

/-- what every token that `collect` consumes satisfies -/
structure FnTok (ms0 : List Macro) (t : Tok) : Prop where
  nl : t.kind ≠ .TNEWLINE
  hash : t.kind ≠ .THASH
  scanned : t.kind ≠ .TNONE
  eof : t.kind ≠ .TEOF
  paint : NoPaint ms0 t

/-- the token is visible to the reference: it survives `absRawP` -/
theorem FnTok.vis {ms0 : List Macro} {t : Tok} (h : FnTok ms0 t) : t.kind ≠ .TNEWLINE ∧ t.kind ≠ .TEOF := ⟨h.nl, h.eof⟩

/-- a token inside the parentheses of an invocation that starts no invocation -/
structure FnArgTok (ms0 : List Macro) (t : Tok) : Prop extends FnTok ms0 t where
  notFun : ¬ IsFunName ms0 t

theorem FnArgTok.flatP {ms0 : List Macro} {t : Tok} (h : FnArgTok ms0 t) : FlatP ms0 t := ⟨h.nl, h.eof, h.notFun⟩

def iP (ms0 : List Macro) (t : Tok) : Item := .tok (mkHp ms0 [] t)

/-- the stored argument `a` is the complete macro replacement of the tokens `raw` (when the
parameter is used outside `#`), and it is not empty; its string is the spelling of `raw` (when the
parameter is used with `#`) -/
def ArgRel (ms0 : List Macro) (p : Param) (raw : List Tok) (a : Arg) : Prop :=
  (p.ftok = true → LinkE (tblF ms0) (raw.map (iP ms0)) (a.toks.map (mkHp ms0 [])) [] ∧ a.toks ≠ [] ∧
    ∀ x ∈ a.toks, FlatP ms0 x) ∧
  (p.fstr = true → a.str = strTok (stringizeAll raw))

/-- the flags as far as the stored argument answers for them: the string built for a parameter that is also
macro-replaced is not examined (a replacement inside the argument swallows tokens `stringize` never sees) -/
def Param.eff (p : Param) : Param := { p with fstr := p.fstr && !p.ftok }

theorem getD_map_eff (ps : List Param) (i : Nat) : (ps.map Param.eff).getD i default = (ps.getD i default).eff := by
  simp only [List.getD_eq_getElem?_getD, List.getElem?_map]
  cases ps[i]? <;> rfl

inductive ArgsRel (ms0 : List Macro) : List Param → List (List Tok) → List Arg → Prop where
  | nil (ps : List Param) : ArgsRel ms0 ps [] []
  | cons {p : Param} {ps : List Param} {r : List Tok} {rs : List (List Tok)} {a : Arg} {as : List Arg}
      (h : ArgRel ms0 p r a) (t : ArgsRel ms0 ps rs as) : ArgsRel ms0 (p :: ps) (r :: rs) (a :: as)

theorem ArgsRel.snoc {ms0 : List Macro} : ∀ {ps : List Param} {rs : List (List Tok)} {as : List Arg} (r : List Tok) (a : Arg),
    ArgsRel ms0 ps rs as → rs.length < ps.length → ArgRel ms0 (ps.getD rs.length default) r a →
    ArgsRel ms0 ps (rs ++ [r]) (as ++ [a])
  | [], _, _, _, _, _, hl, _ => by simp at hl
  | p :: ps, [], _, r, a, h, _, hr => by
    cases h
    exact .cons hr (.nil ps)
  | p :: ps, r0 :: rs, _, r, a, h, hl, hr => by
    cases h with
    | cons h0 t0 =>
      exact .cons h0 (ArgsRel.snoc r a t0 (Nat.lt_of_succ_lt_succ hl) hr)

theorem ArgsRel.length {ms0 : List Macro} {ps : List Param} {rs : List (List Tok)} {as : List Arg}
    (h : ArgsRel ms0 ps rs as) : as.length = rs.length := by
  induction h with
  | nil => rfl
  | cons _ _ ih => simp [ih]

theorem ArgsRel.get {ms0 : List Macro} : ∀ {ps : List Param} {rs : List (List Tok)} {as : List Arg},
    ArgsRel ms0 ps rs as → ∀ i, i < rs.length → ArgRel ms0 (ps.getD i default) (rs.getD i []) (as.getD i default)
  | _, _, _, .nil _, i, hi => by simp at hi
  | _, _, _, .cons h t, 0, _ => h
  | _, _, _, .cons h t, i + 1, hi => ArgsRel.get t i (Nat.lt_of_succ_lt_succ hi)

/-- the ghost events `expandfunc` records after a replacement inside an argument -/
def pushEv (e : EF) (st sx : St) : St :=
  let depth := if decide (st.depth ≤ e.depth) = true then st.depth else e.depth
  let s1 := if sx.rb = true ∧ sx.depth ≤ depth then sx.ev .depthConf else sx
  if s1.rb = true ∧ (e.m.params.getD e.i default).fstr = true then s1.ev .strNested else s1

theorem ite_sameBut {c : Prop} [Decidable c] {a b s : St} (ha : SameBut a s) (hb : SameBut b s) :
    SameBut (if c then a else b) s := by
  split <;> assumption

theorem pushEv_same (e : EF) (st sx : St) : SameBut (pushEv e st sx) sx := by
  unfold pushEv
  exact ite_sameBut ((SameBut.ev _ _).trans (ite_sameBut (SameBut.ev _ _) (SameBut.refl _)))
    (ite_sameBut (SameBut.ev _ _) (SameBut.refl _))

theorem RawP.sameBut {ms0 : List Macro} {st a b : St} (h : RawP ms0 st a) : SameBut b a → b.rt = a.rt → RawP ms0 st b
  | ⟨_, _, _, _, hs⟩, hrt => by
    subst hs
    cases hrt
    exact match h with
      | .ctx c1 c2 c3 c4 c5 => .ctx c1 c2 c3 c4 c5
      | .raw c1 c2 c3 => .raw c1 c2 c3
      | .eof c1 c2 c3 c4 c5 => .eof c1 c2 c3 c4 c5

theorem efLoop_go (rec : Call → St → Res) (e : EF) (st : St) (hne : e.t.kind ≠ .TEOF) (hnb : ¬ (st.depth ≤ e.depth ∧ breakCond e))
    (hp : (e.m.params.getD e.i default).ftok = true) (sx st2 : St)
    (hx : rec (.expand e.t) st = .ok sx) (ha : rec (.argLoop false) (pushEv e st sx) = .ok st2) :
    efLoopBody rec e st =
      rec (.efLoop { e with depth := if st.depth ≤ e.depth then st.depth else e.depth,
                            paren := if st.depth ≤ e.depth then nextParen e else e.paren,
                            str := if st.depth ≤ e.depth ∧ (e.m.params.getD e.i default).fstr = true then stringize e.str e.t else e.str,
                            cur := if sx.rb = true then e.cur else sx.rt :: e.cur,
                            t := st2.rt }) st2 := by
  unfold efLoopBody
  unfold breakCond at hnb
  unfold pushEv at ha
  simp only [hne, ↓reduceIte, hp, hx]
  by_cases hl : st.depth ≤ e.depth
  · simp only [hl, decide_true, true_and, ↓reduceIte] at hnb ha ⊢
    simp only [hnb, ↓reduceIte, ha, nextParen]
  · simp only [hl, decide_false, Bool.false_eq_true, false_and, ↓reduceIte] at ha ⊢
    simp only [ha]

/-- what makes `argnext` one `rawnext` (`argLoop_fnState`): the text starts with a token that is no new-line (no second
round of `argnext`), no `#` and no scanner diagnostic (`nextinto` runs no directive and does not fail) -/
def HeadOK (L : List Tok) : Prop := ∃ t r, L = t :: r ∧ t.kind ≠ .TNEWLINE ∧ t.kind ≠ .THASH ∧ t.kind ≠ .TNONE

theorem HeadOK.ne_nil {L : List Tok} (h : HeadOK L) : L ≠ [] := by
  obtain ⟨t, r, rfl, _⟩ := h
  exact List.cons_ne_nil _ _

theorem HeadOK.head {L : List Tok} {t : Tok} {r : List Tok} (h : HeadOK L) (hL : L = t :: r) :
    t.kind ≠ .TNEWLINE ∧ t.kind ≠ .THASH ∧ t.kind ≠ .TNONE := by
  obtain ⟨t', r', rfl, hk⟩ := h
  cases hL
  exact hk

theorem argLoop_fnState (ms0 : List Macro) (st : St) (g : FnState ms0 st) (hhead : HeadOK st.raw) :
    ∃ st2, exec (ctxSize st.ctx + 4) (.argLoop false) st = .ok st2 ∧ FnState ms0 st2 ∧ (Live st → Live st2) ∧ RawP ms0 st st2 := by
  obtain ⟨s1, hr, g1, hl1, hR⟩ := rawnext_fnState ms0 st g (fun t r hh => ⟨(hhead.head hh).2.2, (hhead.head hh).2.1⟩)
  show ∃ st2, argLoopBody (exec (ctxSize st.ctx + 3)) false st = .ok st2 ∧ _
  unfold argLoopBody
  rw [hr]
  simp only
  have hsb : SameBut (if s1.raw.length + 1 < st.raw.length then s1.ev .dirInArgs else s1) s1 :=
    ite_sameBut (SameBut.ev _ _) (SameBut.refl _)
  have hrt : (if s1.raw.length + 1 < st.raw.length then s1.ev .dirInArgs else s1).rt = s1.rt := by split <;> rfl
  have hnl : s1.rt.kind ≠ .TNEWLINE := by
    cases hR with
    | ctx c1 c2 c3 c4 c5 => exact c2.1
    | raw c1 c2 c3 => exact (hhead.head c1).1
    | eof c1 c2 c3 c4 c5 => rw [c1]; decide
  simp only [hrt, hnl, ↓reduceIte, Bool.false_eq_true]
  exact ⟨_, rfl, g1.sameBut hsb, fun hl => (hl1 hl).sameBut hsb, hR.sameBut hsb hrt⟩

/-- what `FnText.call` and `FnArgs.call` say of the invocation itself -/
structure IsCall (ms0 : List Macro) (T lp : Tok) (r' : List Tok) (F : Macro) (args : List (List Tok)) (rest : List Tok) :
    Prop where
  ident : T.kind = .TIDENT
  nohide : T.hide = false
  get : macroget ms0 (T.lit.getD []) = some F
  func : F.func = true
  lparen : lp.kind = .TLPAREN
  col : collect F.params 0 0 [] [] r' = .ok (args, rest)
  nonempty : ∀ a ∈ args, a ≠ []

/-- `FnArgs ms0 L rest`: `L = consumed ++ rest` where `consumed` is a sequence of tokens that start no invocation
and of complete invocations of function-like macros, themselves of this form.  What the argument texts of `TextOK`
and of `TextP` share. -/
inductive FnArgs (ms0 : List Macro) : List Tok → List Tok → Prop where
  | done (rest : List Tok) : FnArgs ms0 rest rest
  | tok (t : Tok) (L rest : List Tok) (h : FnArgTok ms0 t) (hs : HasStr ms0 → Spellable t) (more : FnArgs ms0 L rest) :
      FnArgs ms0 (t :: L) rest
  | call {G lp : Tok} {r'' : List Tok} {FG : Macro} {argsG : List (List Tok)} {rest'' rest : List Tok}
      (hc : IsCall ms0 G lp r'' FG argsG rest'') (h7 : FnArgs ms0 r'' rest'')
      (hs : HasStr ms0 → Spellable G ∧ Spellable lp) (more : FnArgs ms0 rest'' rest) : FnArgs ms0 (G :: lp :: r'') rest

theorem fnTok_of_kind {ms0 : List Macro} {t : Tok} {k : Kind} (hk : t.kind = k) (hh : NoPaint ms0 t)
    (h : k ≠ .TNEWLINE ∧ k ≠ .THASH ∧ k ≠ .TNONE ∧ k ≠ .TEOF) : FnTok ms0 t := by
  subst hk; exact ⟨h.1, h.2.1, h.2.2.1, h.2.2.2, hh⟩

theorem FnArgs.consumed {ms0 : List Macro} {a b : List Tok} (h : FnArgs ms0 a b) :
    ∃ pre, a = pre ++ b ∧ ∀ x ∈ pre, FnTok ms0 x ∧ (HasStr ms0 → Spellable x) := by
  induction h with
  | done _ => exact ⟨[], rfl, fun x hx => by cases hx⟩
  | tok t L rest ht hs _ ih =>
    obtain ⟨pre, rfl, hp⟩ := ih
    refine ⟨t :: pre, rfl, fun x hx => ?_⟩
    rcases List.mem_cons.mp hx with rfl | hx
    · exact ⟨ht.toFnTok, hs⟩
    · exact hp x hx
  | @call G lp _ _ _ _ _ hc _ hs _ ih1 ih2 =>
    obtain ⟨p2, rfl, hp2⟩ := ih2
    obtain ⟨p1, rfl, hp1⟩ := ih1
    refine ⟨G :: lp :: (p1 ++ p2), by simp, fun x hx => ?_⟩
    simp only [List.mem_cons, List.mem_append] at hx
    rcases hx with rfl | rfl | hx | hx
    · exact ⟨fnTok_of_kind hc.ident (.of_hide hc.nohide) (by decide), fun h => (hs h).1⟩
    · exact ⟨fnTok_of_kind hc.lparen (.of_kind (by rw [hc.lparen]; decide)) (by decide), fun h => (hs h).2⟩
    · exact hp1 x hx
    · exact hp2 x hx

theorem headOK_append {r rest : List Tok} (hr : ∀ x ∈ r, FnTok ms0 x) (h : r = [] → HeadOK rest) : HeadOK (r ++ rest) := by
  cases r with
  | nil => exact h rfl
  | cons a r' =>
    have := hr a (List.mem_cons_self ..)
    exact ⟨a, r' ++ rest, rfl, this.nl, this.hash, this.scanned⟩

theorem fnArgs_headOK {ms0 : List Macro} {L rest : List Tok} (h : FnArgs ms0 L rest) {ps : List Param} {i p : Nat}
    {cur : List Tok} {done args : List (List Tok)} (hcol : collect ps i p cur done L = .ok (args, rest)) :
    HeadOK L := by
  have hl := collect_rest_lt _ _ _ _ _ _ _ _ hcol
  obtain ⟨pre, rfl, hp⟩ := h.consumed
  have hne : pre ≠ [] := fun h0 => by rw [h0] at hl; simp at hl
  exact headOK_append (fun x hx => (hp x hx).1) fun h0 => absurd h0 hne

theorem collect_consumed (ps : List Param) (ts : List Tok) (i paren : Nat) (cur : List Tok)
    (done args : List (List Tok)) (rest : List Tok) (h : collect ps i paren cur done ts = .ok (args, rest)) :
    ∃ pre, ts = pre ++ rest ∧ (∀ d ∈ done, d ∈ args) ∧
      ∀ a ∈ args, ∀ x ∈ a, x ∈ pre ∨ x ∈ cur ∨ ∃ d ∈ done, x ∈ d :=
  let ⟨pre, _, h⟩ := (collected_of_ok h).consumed; ⟨pre, h⟩

theorem collect_args_mem {ps : List Param} {i paren : Nat} {pre rest : List Tok} {args : List (List Tok)}
    (h : collect ps i paren [] [] (pre ++ rest) = .ok (args, rest)) : ∀ a ∈ args, ∀ x ∈ a, x ∈ pre := by
  intro a ha x hx
  obtain ⟨pre', hpe, _, hm⟩ := collect_consumed ps _ i paren [] [] args rest h
  cases List.append_cancel_right hpe
  rcases hm a ha x hx with h' | h' | ⟨d, hd, _⟩
  · exact h'
  · cases h'
  · cases hd

theorem parenAfter_add {t : Tok} {p pG : Nat} (h : ¬ (pG = 0 ∧ t.kind = .TRPAREN)) :
    parenAfter t (p + 1 + pG) = p + 1 + parenAfter t pG := by
  unfold parenAfter
  by_cases hl : t.kind = .TLPAREN
  · simp [hl]; omega
  · by_cases hr : t.kind = .TRPAREN
    · have : pG ≠ 0 := fun h0 => h ⟨h0, hr⟩
      simp [hr]; omega
    · simp [hl, hr]

/-- `collect` for parameter `i` passes over the tokens `pre` without ending the argument, and
takes the parenthesis count from `p` to `q` -/
inductive Passes (ps : List Param) (i : Nat) : Nat → List Tok → Nat → Prop where
  | nil (p : Nat) : Passes ps i p [] p
  | cons {p q : Nat} {t : Tok} {r : List Tok} (h : ¬ EndArg ps i p t) (more : Passes ps i (parenAfter t p) r q) :
      Passes ps i p (t :: r) q

theorem Passes.collect {ps : List Param} {i p q : Nat} {pre : List Tok} (h : Passes ps i p pre q) (cur : List Tok)
    (done : List (List Tok)) (R : List Tok) :
    collect ps i p cur done (pre ++ R) = collect ps i q (pre.reverse ++ cur) done R := by
  induction h generalizing cur with
  | nil p => rfl
  | cons hc _ ih => rw [List.cons_append, collect_go hc, ih]; simp

theorem passes_of_collect (psG psF : List Param) (i : Nat) (rest' : List Tok) (argsG : List (List Tok)) :
    ∀ (pre : List Tok) (iG pG : Nat) (curG : List Tok) (doneG : List (List Tok)),
    collect psG iG pG curG doneG (pre ++ rest') = .ok (argsG, rest') → ∀ p, Passes psF i (p + 1 + pG) pre p := by
  intro pre
  induction pre with
  | nil =>
    intro iG pG curG doneG h
    have := collect_rest_lt psG _ _ _ _ _ _ _ h
    simp at this
  | cons t r ih =>
    intro iG pG curG doneG h p
    rw [List.cons_append] at h
    refine .cons (fun hh => by omega) ?_
    rcases collect_cons_ok h with ⟨hc, h2, _, _, hr⟩ | ⟨hc, hf, h⟩ | ⟨hc, h⟩
    · cases List.append_left_eq_self.mp hr.symm
      rw [show parenAfter t (p + 1 + pG) = p by simp [parenAfter, hc.1, h2]]
      exact .nil p
    · have hcomma : t.kind = .TCOMMA := (hc.2.resolve_left fun hk => hf (.inl hk)).1
      rw [show parenAfter t (p + 1 + pG) = p + 1 + 0 by simp [parenAfter, hcomma, hc.1]]
      exact ih _ _ _ _ h p
    · rw [parenAfter_add (fun hh => hc ⟨hh.1, .inl hh.2⟩)]
      exact ih _ _ _ _ h p

theorem collect_indep (ps : List Param) : ∀ (ts : List Tok) (i paren : Nat) (cur : List Tok)
    (done args : List (List Tok)) (rest : List Tok),
    collect ps i paren cur done ts = .ok (args, rest) →
    ∀ (cur' : List Tok) (done' : List (List Tok)), ∃ args', collect ps i paren cur' done' ts = .ok (args', rest) := by
  intro ts
  induction ts with
  | nil => intro i paren cur done args rest h; simp [collect] at h
  | cons t r ih =>
    intro i paren cur done args rest h cur' done'
    rcases collect_cons_ok h with ⟨hc, h2, h1, _, rfl⟩ | ⟨hc, hf, h⟩ | ⟨hc, h⟩
    · exact ⟨_, collect_fin hc h2 h1⟩
    · rw [collect_next hc hf]; exact ih _ _ _ _ _ _ h _ _
    · rw [collect_go hc]; exact ih _ _ _ _ _ _ h _ _

end CprocVerif.PP
