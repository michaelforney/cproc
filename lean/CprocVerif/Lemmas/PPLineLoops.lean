import CprocVerif.Lemmas.PPLineInv

/-! What is claimed of a scanner routine's result (`Outcome`, `ErrLine`: a diagnostic names the line
the reader has reached), and the one place where scan.c moves the reader other than by `nextchar`:
the push-back of `..x` (`pushbackDot_later`).  That everything else keeps the location invariant
is `adv_after` (`PPLineInv`) applied to what `Scan.Arm` says a call of `scankind` does. -/

namespace CprocVerif.PPLine
open CprocVerif.Scan CprocVerif.Gen.TokenKinds

def Outcome {ε α : Type} (E : ε → Prop) (P : α → Prop) : Except ε α → Prop
  | .error e => E e
  | .ok a => P a

theorem Outcome.ite {ε α : Type} {E : ε → Prop} {P : α → Prop} {c : Prop} [Decidable c]
    {x y : Except ε α} (hx : c → Outcome E P x) (hy : ¬ c → Outcome E P y) :
    Outcome E P (if c then x else y) := ite_intro hx hy

theorem Outcome.mono {ε α : Type} {E E' : ε → Prop} {P P' : α → Prop} {x : Except ε α}
    (h : Outcome E P x) (hE : ∀ e, E e → E' e) (hP : ∀ a, P a → P' a) : Outcome E' P' x := by
  cases x with
  | error e => exact hE e h
  | ok a => exact hP a h

variable {text : List UInt8} {δ : Int}

/-- the line of a scanner diagnostic is the line (shifted by `δ`) of some byte at or behind `o`,
as `nextchar` counts it: the line of that byte, or the next line when the byte is a new-line -/
def ErrLine (text : List UInt8) (δ : Int) (o : Nat) (e : Err) : Prop :=
  ∃ o', o ≤ o' ∧ o' ≤ text.length ∧ (e.loc.line : Int) = (locAt text o').line + δ

theorem errLine_of_inv {o : Nat} {s : S} (h : Inv text δ s) (k : ErrKind) (ho : o ≤ off s) :
    ErrLine text δ o ⟨s.loc, k⟩ := ⟨off s, ho, h.off_le, h.loc.1⟩

theorem ErrLine.mono {o o' : Nat} {e : Err} (h : ErrLine text δ o e) (hle : o' ≤ o) :
    ErrLine text δ o' e := by
  obtain ⟨x, a, b, c⟩ := h
  exact ⟨x, Nat.le_trans hle a, b, c⟩

abbrev Good (text : List UInt8) (δ : Int) (o : Nat) {α : Type} (P : α → Prop) :
    Except Err α → Prop := Outcome (ErrLine text δ o) P

theorem nextchar_eof_line {s : S} (h : Inv text δ s) (hn : s.inp = []) :
    s.nextchar.loc.line = s.loc.line := by
  have ht : s.inp.tail = [] := by rw [hn]; rfl
  obtain ⟨b, e⟩ := nextchar_readHead s
  obtain ⟨_, _, _, _, a5⟩ := readHead_nil { s with inp := s.inp.tail, buf := b } ht
  rw [e]
  have hsk := (h.eof hn).2
  have htr : s.trail = 0 := by
    have := h.raw
    rw [ht, (h.eof hn).1] at this
    simp [group] at this
    exact this.symm
  rw [a5, hsk, htr]
  simp [advSplice]

/-- a correct state strictly behind offset `o`, possibly with a pending push-back -/
structure Later (text : List UInt8) (δ : Int) (o : Nat) (s' : S) : Prop where
  inv : Inv text δ s'
  lt : o < off s'

theorem After.later {o : Nat} {s : S} (h : After text δ o s) : Later text δ o s := ⟨h.inv, h.lt⟩

theorem Later.of_core {o : Nat} {s s' : S} (h : Later text δ o s)
    (hc : core s' = core s) : Later text δ o s' :=
  ⟨h.inv.of_core hc, by rw [off_of_core hc]; exact h.lt⟩

theorem advSplice_line (l : Loc) (k : Nat) : (advSplice l k).line = l.line + k := by
  unfold advSplice
  split <;> simp [*]

/-- what `pushbackDot` computes as `skipped`: the line breaks of the `k` splices read past -/
theorem skipped_line (l : Loc) (k : Nat) (x : UInt8) :
    (advChar (advSplice (advSplice l 0) k) x).line - l.line - (if x = c! '\n' then 1 else 0) = k := by
  rw [advChar]
  split <;> simp only [advSplice_line] <;> omega

/-- the state the push-back of `..x` builds, described by its fields -/
theorem later_push {o : Nat} {s1 : S} (h1 : After text δ o s1) (hc1 : s1.chr = some (c! '.'))
    (p : S) (tl : List (Nat × UInt8)) (k : Nat)
    (e1 : p.inp = (0, c! '.') :: tl) (e2 : p.skipped = k) (e4 : p.loc = s1.loc)
    (hraw : group (text.drop p.pos) 0 = (tl, p.trail)) (hpos : p.pos = s1.pos + 2 * k)
    (hle : p.pos ≤ text.length)
    (hphys : physAt text (s1.pos + 2 * k) = advSplice (physAt text s1.pos) k) :
    Later text δ o p := by
  have hne := inp_ne_of_chr hc1
  have hah : LocRel δ s1.loc (physAt text s1.pos) := by
    have := h1.inv.ahead hne
    rwa [h1.sk] at this
  have hpne : p.inp ≠ [] := by rw [e1]; simp
  have ho : off p = off s1 := by
    unfold off
    rw [if_neg hpne, if_neg hne, e2, hpos, h1.sk]; omega
  have hcur : 2 * k + 1 ≤ s1.pos + 2 * k := by have := h1.inv.cur hne; omega
  refine ⟨{
    raw := e1 ▸ hraw
    pos_le := hle
    eof := fun hn => absurd hn hpne
    cur := fun _ => by rw [e2, hpos]; exact hcur
    head := fun k' c' r' hr => ?_
    loc := by rw [ho, e4]; exact h1.inv.loc
    ahead := fun _ => by rw [e4, e2, hpos, hphys]; exact hah.advSplice _
    dot := fun _ => by simp [S.chr, e1] }, by rw [ho]; exact h1.lt⟩
  rw [e1] at hr
  cases hr
  rw [ho]
  exact h1.inv.get.trans hc1

/-- `s1` stands on the second `.`; the third character is read and pushed back -/
theorem pushbackDot_later {o : Nat} {s1 : S} (h1 : After text δ o s1)
    (hc1 : s1.chr = some (c! '.')) :
    Later text δ o (pushbackDot s1.nextchar s1.loc) := by
  have hne := inp_ne_of_chr hc1
  have hsk := h1.sk
  have hcur := h1.inv.cur hne
  obtain ⟨b, e⟩ := nextchar_readHead s1
  rw [e]
  generalize hs2 : S.readHead { s1 with inp := s1.inp.tail, buf := b } = s2
  cases ht : s1.inp.tail with
  | nil =>
    obtain ⟨a1, a2, a3, a4, a5⟩ := hs2 ▸ readHead_nil { s1 with inp := s1.inp.tail, buf := b } ht
    dsimp only at a2 a4 a5
    obtain ⟨hlen, hphys⟩ := group_drop_nil (ht ▸ h1.inv.raw) h1.inv.pos_le
    have hline : s2.loc.line - s1.loc.line = s1.trail := by
      rw [a5, hsk]
      simp only [advSplice_line, Nat.add_zero, Nat.add_sub_cancel_left]
    unfold pushbackDot
    rw [a1]
    simp only []
    refine later_push h1 hc1 _ [] s1.trail rfl hline rfl ?_ ?_ ?_ ?_
    · show group (text.drop s2.pos) 0 = ([], s2.trail)
      rw [a4, hlen, a2]; simp [group]
    · exact a4
    · show s2.pos ≤ text.length
      rw [a4, hlen]; exact Nat.le_refl _
    · rw [hlen]; exact hphys
  | cons e r =>
    obtain ⟨k, x⟩ := e
    obtain ⟨a1, a2, a3, a4, a5⟩ := hs2 ▸ readHead_cons { s1 with inp := s1.inp.tail, buf := b } k x r ht
    dsimp only at a2 a4 a5
    obtain ⟨d1, d3, hg, hg2, hphys⟩ := group_drop_cons (ht ▸ h1.inv.raw)
    have hline : s2.loc.line - s1.loc.line - (if x = c! '\n' then 1 else 0) = k := by
      rw [a5, hsk]; exact skipped_line ..
    have hpos : s2.pos - 1 = s1.pos + 2 * k := by rw [a4, Nat.add_sub_cancel]
    unfold pushbackDot
    rw [a1]
    simp only []
    refine later_push h1 hc1 _ ((0, x) :: r) k rfl hline rfl ?_ hpos ?_ hphys
    · show group (text.drop (s2.pos - 1)) 0 = ((0, x) :: r, s2.trail)
      rw [hpos, a2]; exact hg2
    · show s2.pos - 1 ≤ text.length
      rw [hpos]; exact Nat.le_of_succ_le d3

end CprocVerif.PPLine
