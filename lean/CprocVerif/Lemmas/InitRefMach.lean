import CprocVerif.Lemmas.InitRefR

/-!
# The cursor machine of `parseinit` in the vocabulary of the reference

A slot of the `obj[]` stack is the object at a `Place` of the reference (`Lvl`, `SP`); `t->size` of the array of unknown
size is the reference's `top` (`Sz`, `gtop`).
-/

namespace CprocVerif.InitSim
open CprocVerif.Init CprocVerif.Image CprocVerif.InitRef

/-- `top` (`t->size` of the array of unknown size) is a whole number of elements of size `es`, at least `pos`
of them, and none before the first item: `advance` compares with `==`, `focus` overwrites -/
def Whole (es top pos : Nat) : Prop := ∃ q, top = q * es ∧ pos ≤ q ∧ (pos = 0 → q = 0)

theorem Whole.zero (es : Nat) : Whole es 0 0 := ⟨0, (Nat.zero_mul es).symm, Nat.le_refl 0, fun _ => rfl⟩

theorem Whole.top0 {es top : Nat} (h : Whole es top 0) : top = 0 := by
  obtain ⟨q, rfl, _, h0⟩ := h
  rw [h0 rfl, Nat.zero_mul]

theorem Whole.grow {es top pos : Nat} (h : Whole es top pos) (k : Nat) : Whole es (max top ((k + 1) * es)) (k + 1) := by
  obtain ⟨q, rfl, _, _⟩ := h
  rcases Nat.le_total q (k + 1) with hq | hq
  · exact ⟨k + 1, Nat.max_eq_right (Nat.mul_le_mul_right es hq), Nat.le_refl _, fun h => absurd h (Nat.succ_ne_zero k)⟩
  · exact ⟨q, Nat.max_eq_left (Nat.mul_le_mul_right es hq), hq, fun h => absurd h (Nat.succ_ne_zero k)⟩

theorem Whole.adv {es top p : Nat} (hes : 0 < es) (h : Whole es top (p + 1)) :
    (if (p + 1) * es = top then top + es else top) = max top ((p + 1 + 1) * es) := by
  obtain ⟨q, rfl, hq, _⟩ := h
  by_cases heq : p + 1 = q
  · subst heq
    rw [if_pos rfl, Nat.add_mul (p + 1) 1 es, Nat.one_mul]
    exact (Nat.max_eq_right (Nat.le_add_right _ _)).symm
  · rw [if_neg (fun h' => heq (Nat.eq_of_mul_eq_mul_right hes h'))]
    exact (Nat.max_eq_left (Nat.mul_le_mul_right es (Nat.lt_of_le_of_ne hq heq))).symm

theorem Whole.desig {es top pos : Nat} (hes : 0 < es) (h : Whole es top pos) (k : Nat) :
    (if k * es ≥ top then k * es + es else top) = max top ((k + 1) * es) := by
  obtain ⟨q, rfl, _, _⟩ := h
  rw [← Nat.add_one_mul]
  by_cases hqk : q ≤ k
  · rw [if_pos (Nat.mul_le_mul_right es hqk)]
    exact (Nat.max_eq_right (Nat.mul_le_mul_right es (Nat.le_succ_of_le hqk))).symm
  · rw [if_neg (Nat.not_le.2 (Nat.mul_lt_mul_of_pos_right (Nat.lt_of_not_le hqk) hes))]
    exact (Nat.max_eq_left (Nat.mul_le_mul_right es (Nat.lt_of_not_le hqk))).symm

/-- slot `k` is not an array of unknown size that is being completed -/
structure Flat (st : St) (k : Nat) : Prop where
  tinc : st.tinc k = false
  tsize : st.tsize k = (st.obj k).ty.size

theorem flat_pos (st : St) {k : Nat} (hk : 0 < k) : Flat st k := by
  have hk0 : k ≠ 0 := by omega
  refine ⟨?_, ?_⟩
  · unfold St.tinc; simp [hk0]
  · unfold St.tsize; rw [if_neg hk0]

theorem tinc_zero {st : St} (hs : st.sub = 0) (hinc : st.inc = true) : st.tinc st.sub = true := by
  unfold St.tinc; simp [hs, hinc]

/-- `cur` is marked `iscur` and no slot strictly between `cur` and `sub` is (`cur = sub` is allowed;
the mark of slot `sub` itself is otherwise not constrained) -/
def CurOK (st : St) : Prop :=
  match st.cur with
  | some c => c ≤ st.sub ∧ (st.obj c).iscur = true ∧ ∀ j, c < j → j < st.sub → (st.obj j).iscur = false
  | none => ∀ j, j < st.sub → (st.obj j).iscur = false

/-- `u` of a slot of type `ty` stands at sub-object `pos` -/
def UAt (u : U) (ty : Ty) (pos : Nat) : Prop :=
  match ty with
  | .array _ e => u = .idx (pos * e.size)
  | .agg _ _ _ ms => u = .mem (Members.drop ms pos)
  | .scalar _ _ => False

/-- slot `k` is the object at `pl`, its cursor stands at sub-object `pos`, the place `ch` -/
structure Lvl (st : St) (k : Nat) (pl : Place) (pos : Nat) (ch : Place) : Prop where
  ty : (st.obj k).ty = pl.ty
  off : (st.obj k).offset = pl.off
  child : childAt pl pos false = some ch
  u : UAt (st.obj k).u pl.ty pos

/-- slot `m` is the object at `pl` (with the bits of the member it was reached through) -/
structure SP (st : St) (m : Nat) (pl : Place) : Prop where
  ty : (st.obj m).ty = pl.ty
  off : (st.obj m).offset = pl.off
  bits : curBits { st with sub := m } = .ok (pl.before, pl.after)

/-- what a step leaves alone -/
structure Frame (m : Nat) (st st' : St) : Prop where
  cur : st'.cur = st.cur
  top : st'.top = st.top
  inc : st'.inc = st.inc
  low : ∀ j, j < m → st'.obj j = st.obj j

theorem Frame.refl (m : Nat) (st : St) : Frame m st st := ⟨rfl, rfl, rfl, fun _ _ => rfl⟩

theorem Frame.trans {m m' : Nat} {a b c : St} (h : Frame m a b) (h' : Frame m' b c) (hm : m ≤ m') :
    Frame m a c :=
  ⟨h'.cur.trans h.cur, h'.top.trans h.top, h'.inc.trans h.inc,
    fun j hj => (h'.low j (by omega)).trans (h.low j hj)⟩

theorem Frame.mono {m m' : Nat} {a b : St} (h : Frame m' a b) (hm : m ≤ m') : Frame m a b :=
  ⟨h.cur, h.top, h.inc, fun j hj => h.low j (by omega)⟩

/-- what initialising the object at slot `m` leaves alone -/
structure Same (m : Nat) (st st' : St) : Prop where
  frame : Frame m st st'
  ty : (st'.obj m).ty = (st.obj m).ty
  off : (st'.obj m).offset = (st.obj m).offset

theorem Same.refl (m : Nat) (st : St) : Same m st st := ⟨Frame.refl _ _, rfl, rfl⟩

theorem Same.trans {m : Nat} {a b c : St} (h : Same m a b) (h' : Same m b c) : Same m a c :=
  ⟨h.frame.trans h'.frame (Nat.le_refl _), h'.ty.trans h.ty, h'.off.trans h.off⟩

theorem Frame.same {m k : Nat} {a b : St} (h : Frame m a b) (hk : k < m) : Same k a b :=
  ⟨h.mono (Nat.le_of_lt hk), by rw [h.low k hk], by rw [h.low k hk]⟩

theorem Flat.frame {m : Nat} {st st' : St} (h : Flat st m) (hf : Frame m st st')
    (hty : (st'.obj m).ty = (st.obj m).ty) : Flat st' m := by
  refine ⟨?_, ?_⟩
  · have := h.tinc
    unfold St.tinc at this ⊢
    rw [hf.inc]; exact this
  · have := h.tsize
    unfold St.tsize at this ⊢
    rw [hf.top, hty]; exact this

/-- `Frame` without `top`: what a move of the cursor leaves alone also at the array of unknown size -/
structure Step (m : Nat) (st st' : St) : Prop where
  cur : st'.cur = st.cur
  inc : st'.inc = st.inc
  low : ∀ j, j < m → st'.obj j = st.obj j

theorem frame_iff {m : Nat} {st st' : St} : Frame m st st' ↔ Step m st st' ∧ st'.top = st.top :=
  ⟨fun h => ⟨⟨h.cur, h.inc, h.low⟩, h.top⟩, fun h => ⟨h.1.cur, h.2, h.1.inc, h.1.low⟩⟩

theorem Frame.step {m : Nat} {st st' : St} (h : Frame m st st') : Step m st st' := (frame_iff.1 h).1

theorem Step.trans {m m' : Nat} {a b c : St} (h : Step m a b) (h' : Step m' b c) (hm : m ≤ m') : Step m a c :=
  ⟨h'.cur.trans h.cur, h'.inc.trans h.inc, fun j hj => (h'.low j (Nat.lt_of_lt_of_le hj hm)).trans (h.low j hj)⟩

/-- `t->size` of the outermost type after the cursor of the object at `pl` went to sub-object `pos`: what
`grow` records for the reference -/
def gtop (pl : Place) (pos top : Nat) : Nat := (grow { top := top } pl pos).top

theorem grow_top (rst : RSt) (pl : Place) (pos : Nat) : (grow rst pl pos).top = gtop pl pos rst.top := by
  unfold gtop grow
  split
  · split <;> rfl
  · rfl

theorem gtop_known {pl : Place} (h : pl.unb = false) (pos top : Nat) : gtop pl pos top = top :=
  grow_top_fixed (st := { top := top }) h pos

theorem gtop_unb {pl : Place} {n : Nat} {el : Ty} (h : PlWfU pl n el) (pos top : Nat) :
    gtop pl pos top = max top ((pos + 1) * el.size) := by
  unfold gtop grow
  rw [h.ty]
  simp [h.unb]

theorem gtop_nonarray {pl : Place} (h : ∀ n e, pl.ty ≠ .array n e) (pos top : Nat) : gtop pl pos top = top := by
  unfold gtop grow
  split
  · rename_i n e heq; exact absurd heq (h n e)
  · rfl

/-- how `t->size`/`t->incomplete` of slot `k`, the object at `pl`, are kept: plain (`Flat`) for a known size; for the
array of unknown size (slot 0, `inc` still set) a whole number of elements.  `pos` is not where the cursor stands but
one more: `0` before the first item, `q + 1` with the cursor at sub-object `q` (`Sz.next`; `Sz st k pl (pos + 1)` goes
with `Lvl st k pl pos ch`), as in `loopB`, whose `pos` is the sub-object to come -/
inductive Sz (st : St) (k : Nat) (pl : Place) (pos : Nat) : Prop
  | known : pl.unb = false → Flat st k → Sz st k pl pos
  | unb {n : Nat} {el : Ty} : PlWfU pl n el → k = 0 → st.inc = true → Whole el.size st.top pos → Sz st k pl pos

theorem Sz.frame {st st' : St} {k pos : Nat} {pl : Place} (h : Sz st k pl pos) (hf : Frame k st st')
    (hty : (st'.obj k).ty = (st.obj k).ty) : Sz st' k pl pos := by
  cases h with
  | known hu hfl => exact .known hu (hfl.frame hf hty)
  | unb hU hk hinc hw => exact .unb hU hk (hf.inc.trans hinc) (hf.top ▸ hw)

theorem Sz.next {st st' : St} {k p q : Nat} {pl : Place} (h : Sz st k pl p) (hs : Step k st st')
    (ht : st'.top = gtop pl q st.top) (hty : (st'.obj k).ty = (st.obj k).ty) : Sz st' k pl (q + 1) := by
  cases h with
  | known hu hfl => exact .known hu (hfl.frame (frame_iff.2 ⟨hs, ht.trans (gtop_known hu _ _)⟩) hty)
  | unb hU hk hinc hw => exact .unb hU hk (hs.inc.trans hinc) (by rw [ht, gtop_unb hU]; exact hw.grow q)

theorem Lvl.of_obj {st st' : St} {k : Nat} {pl ch : Place} {pos : Nat} (h : Lvl st k pl pos ch)
    (ho : st'.obj k = st.obj k) : Lvl st' k pl pos ch :=
  ⟨by rw [ho]; exact h.ty, by rw [ho]; exact h.off, h.child, by rw [ho]; exact h.u⟩

theorem Lvl.frame {st st' : St} {k m : Nat} {pl ch : Place} {pos : Nat} (h : Lvl st k pl pos ch)
    (hf : Frame m st st') (hk : k < m) : Lvl st' k pl pos ch := h.of_obj (hf.low k hk)

/-- from `st` to `st'` the cursor has moved to the sub-object `pos` of slot `k` -/
structure AtChild (st st' : St) (k : Nat) (pl : Place) (pos : Nat) (ch : Place) : Prop where
  sub : st'.sub = k + 1
  lvl : Lvl st' k pl pos ch
  sp : SP st' (k + 1) ch
  step : Step k st st'
  top : st'.top = gtop pl pos st.top
  log : st'.log = st.log
  iscur : (st'.obj k).iscur = (st.obj k).iscur
  fresh : (st'.obj (k + 1)).iscur = false

theorem AtChild.frame {st st' : St} {k pos : Nat} {pl ch : Place} (h : AtChild st st' k pl pos ch) (hu : pl.unb = false) :
    Frame k st st' := frame_iff.2 ⟨h.step, h.top.trans (gtop_known hu _ _)⟩

/-- `designator()` and `advance` first set `sub` (and the list cursor): the description does not depend on them -/
theorem AtChild.of_sub {st st' : St} {s k pos : Nat} {il : IList} {pl ch : Place}
    (h : AtChild { st with il := il, sub := s } st' k pl pos ch) : AtChild st st' k pl pos ch :=
  ⟨h.sub, h.lvl, h.sp, ⟨h.step.cur, h.step.inc, h.step.low⟩, h.top, h.log, h.iscur, h.fresh⟩

theorem sp_child {st : St} {k : Nat} {pl ch : Place} {pos : Nat} (h : Lvl st k pl pos ch)
    (hty : (st.obj (k + 1)).ty = ch.ty) (hoff : (st.obj (k + 1)).offset = ch.off) : SP st (k + 1) ch := by
  refine ⟨hty, hoff, ?_⟩
  unfold curBits
  simp only [Nat.add_one_ne_zero, if_false, Nat.add_sub_cancel]
  rcases childAt_inv h.child with ⟨n, e, hpt, _, rfl⟩ | ⟨u, tag, size, ms, n, t, o, b, a, nx, hpt, _, hd, rfl⟩
  · rw [h.ty, hpt]
  · have hu := h.u
    unfold UAt at hu
    rw [hpt] at hu
    simp only [] at hu
    rw [h.ty, hpt, hu, hd]

theorem curBits_congr {st st' : St} (hs : st'.sub = st.sub) (h : st.sub ≠ 0 → st'.obj (st.sub - 1) = st.obj (st.sub - 1)) :
    curBits st' = curBits st := by
  unfold curBits
  rw [hs]
  split
  · rfl
  · rename_i h0; rw [h h0]

theorem SP.congr {st st' : St} (ho : st'.obj = st.obj) {m : Nat} {pl : Place} (h : SP st m pl) : SP st' m pl := by
  refine ⟨by rw [ho]; exact h.ty, by rw [ho]; exact h.off, ?_⟩
  rw [← h.bits]
  exact curBits_congr (st := { st with sub := m }) (st' := { st' with sub := m }) rfl (fun _ => by
    show st'.obj _ = st.obj _
    rw [ho])

theorem CurOK.of_cur {st : St} {c : Nat} (h : CurOK st) (hc : st.cur = some c) :
    c ≤ st.sub ∧ (st.obj c).iscur = true ∧ ∀ j, c < j → j < st.sub → (st.obj j).iscur = false := by
  unfold CurOK at h; rw [hc] at h; exact h

theorem curOK_step {st st' : St} {c k : Nat} (h : CurOK st) (hc : st.cur = some c) (hck : c ≤ k) (hk : k ≤ st.sub)
    (hf : Step k st st') (hi : (st'.obj k).iscur = (st.obj k).iscur) (hs : st'.sub = k + 1)
    (hfresh : c < k → (st.obj k).iscur = false) : CurOK st' := by
  unfold CurOK at h ⊢
  rw [hf.cur, hc]
  rw [hc] at h
  simp only [] at h ⊢
  refine ⟨by omega, ?_, ?_⟩
  · by_cases hck' : c = k
    · subst hck'; rw [hi]; exact h.2.1
    · rw [hf.low c (by omega)]; exact h.2.1
  · intro j h1 h2
    by_cases hjk : j = k
    · subst hjk; rw [hi]; exact hfresh h1
    · rw [hf.low j (by omega)]; exact h.2.2 j h1 (by omega)

theorem curOK_frame {st st' : St} {m : Nat} (h : CurOK st) (hf : Frame m st st') (hs : st.sub = m) (hs' : st'.sub = m)
    (hlt : ∀ c, st.cur = some c → c < m) : CurOK st' := by
  unfold CurOK at h ⊢
  rw [hf.cur]
  cases hc : st.cur with
  | none =>
    rw [hc] at h
    intro j hj
    rw [hf.low j (by omega)]; exact h j (by omega)
  | some c =>
    rw [hc] at h
    simp only [] at h ⊢
    have := hlt c hc
    refine ⟨by omega, by rw [hf.low c this]; exact h.2.1, ?_⟩
    intro j h1 h2
    rw [hf.low j (by omega)]; exact h.2.2 j h1 (by omega)

theorem prevCur_eq (st : St) (o : Option Nat) : ∀ s,
    (match o with
      | some c => c < s ∧ (st.obj c).iscur = true ∧ ∀ j, c < j → j < s → (st.obj j).iscur = false
      | none => ∀ j, j < s → (st.obj j).iscur = false) → prevCur st s = o := by
  intro s
  induction s with
  | zero =>
    cases o with
    | none => intro _; rfl
    | some c => intro h; exact absurd h.1 (Nat.not_lt_zero _)
  | succ s ih =>
    intro h
    rw [prevCur]
    cases o with
    | none =>
      rw [h s (Nat.lt_succ_self s)]
      exact ih (fun j hj => h j (Nat.lt_succ_of_lt hj))
    | some c =>
      by_cases hcs : c = s
      · subst hcs; rw [h.2.1]; rfl
      · rw [h.2.2 s (by omega) (Nat.lt_succ_self s)]
        exact ih ⟨by omega, h.2.1, fun j h1 h2 => h.2.2 j h1 (by omega)⟩

end CprocVerif.InitSim
