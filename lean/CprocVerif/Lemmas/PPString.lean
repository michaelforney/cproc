import CprocVerif.Model.PP
import CprocVerif.Spec.MacroRef

/-! # `stringize` spells an argument as 6.10.3.2p2 prescribes

`stringizeAll_eq`: folding `stringize` over tokens as the scanner delivers them (`Spellable`) gives the reference's
`stringizeRef`. -/

namespace CprocVerif.PP
open CprocVerif.Gen.TokenKinds
open CprocVerif.Spec

/-- the model's token as a preprocessing token of the reference -/
def toP (t : Tok) : MacroRef.PTok := ⟨t.kind, t.lit, t.space⟩

theorem spell_eq (t : Tok) : spell t = MacroRef.spellOf (toP t) := by
  unfold spell MacroRef.spellOf toP Scan.tokstr
  cases t.lit <;> rfl

theorem escLit_cons (c : UInt8) (r : List UInt8) :
    escLit (c :: r) = (if c = c! '\\' ∨ c = c! '"' then [c! '\\', c] else [c]) ++ escLit r := by
  rw [escLit]; split <;> rfl

theorem escLit_eq (l : List UInt8) : escLit l = MacroRef.escape l := by
  unfold MacroRef.escape
  induction l with
  | nil => rfl
  | cons c r ih => rw [escLit_cons, List.flatMap_cons, ih]; simp only [or_comm]

/-- what `stringize` appends for a token, apart from the separating blank -/
def piece (t : Tok) : List UInt8 :=
  if t.kind = .TSTRINGLIT ∨ t.kind = .TCHARCONST then escLit (spell t) else spell t

theorem piece_eq (t : Tok) : piece t = MacroRef.spellArg (toP t) := by
  unfold piece MacroRef.spellArg MacroRef.isLiteral
  rw [escLit_eq, spell_eq]
  by_cases h : t.kind = .TSTRINGLIT ∨ t.kind = .TCHARCONST
  · have : (decide ((toP t).kind = Kind.TSTRINGLIT) || decide ((toP t).kind = Kind.TCHARCONST)) = true := by
      rcases h with h | h <;> simp [toP, h]
    simp [h, this]
  · have : (decide ((toP t).kind = Kind.TSTRINGLIT) || decide ((toP t).kind = Kind.TCHARCONST)) = false := by
      have ⟨a, b⟩ := not_or.mp h
      simp [toP, a, b]
    simp [h, this]

theorem getLast?_append_ne {a b : List UInt8} (hb : b ≠ []) : (a ++ b).getLast? = b.getLast? := by
  rw [List.getLast?_append, List.getLast?_eq_some_getLast hb, Option.some_or]

theorem escLit_ne_nil {l : List UInt8} (h : l ≠ []) : escLit l ≠ [] := by
  cases l with
  | nil => exact absurd rfl h
  | cons c r => rw [escLit_cons]; split <;> simp

theorem escLit_getLast? : ∀ l : List UInt8, (escLit l).getLast? = l.getLast?
  | [] => rfl
  | [c] => by rw [escLit_cons]; split <;> rfl
  | c :: d :: r => by
    rw [escLit_cons, getLast?_append_ne (escLit_ne_nil (List.cons_ne_nil d r)), escLit_getLast? (d :: r),
      List.getLast?_cons_cons]

/-- holds of tokens as the scanner delivers them; new-line tokens are removed by `argnext` -/
def Spellable (t : Tok) : Prop :=
  spell t ≠ [] ∧ (spell t).getLast? ≠ some (c! ' ') ∧ t.kind ≠ .TNEWLINE

instance (t : Tok) : Decidable (Spellable t) := by unfold Spellable; infer_instance

theorem piece_ok {t : Tok} (h : Spellable t) : piece t ≠ [] ∧ (piece t).getLast? ≠ some (c! ' ') := by
  unfold piece
  split
  · exact ⟨escLit_ne_nil h.1, by rw [escLit_getLast?]; exact h.2.1⟩
  · exact ⟨h.1, h.2.1⟩

theorem stringize_next (buf : List UInt8) (t : Tok) (hl : buf.length > 1) (hb : buf.getLast? ≠ some (c! ' '))
    (ht : Spellable t) :
    stringize buf t = buf ++ ((if t.space then [c! ' '] else []) ++ piece t) := by
  unfold stringize piece
  have hk : (t.kind = Kind.TNEWLINE) = False := by simp [ht.2.2]
  have h1 : decide (buf.length > 1) = true := by simp [hl]
  have h2 : (buf.getLast? != some (c! ' ')) = true := by simp [bne, hb]
  simp only [hk, decide_false, Bool.or_false, h1, h2, Bool.and_true]
  cases t.space <;> split <;> simp

theorem foldl_stringize (ts : List Tok) : ∀ (buf : List UInt8), buf.length > 1 → buf.getLast? ≠ some (c! ' ') →
    (∀ t ∈ ts, Spellable t) →
    ts.foldl stringize buf = buf ++ ts.flatMap (fun u => (if u.space then [c! ' '] else []) ++ piece u) := by
  induction ts with
  | nil => intro buf _ _ _; simp
  | cons t r ih =>
    intro buf hl hb hs
    have ht := hs t (List.mem_cons_self ..)
    have hp := piece_ok ht
    rw [List.foldl_cons, stringize_next buf t hl hb ht]
    have hne : (if t.space then [c! ' '] else []) ++ piece t ≠ [] := by
      intro h; exact hp.1 (List.append_eq_nil_iff.mp h).2
    rw [ih _ (by simp only [List.length_append]; omega)
          (by rw [getLast?_append_ne hne, getLast?_append_ne hp.1]; exact hp.2)
          (fun x hx => hs x (List.mem_cons_of_mem _ hx))]
    simp [List.flatMap_cons]

/-- the string `expandfunc` builds for the tokens `ts` of an argument -/
def stringizeAll (ts : List Tok) : List UInt8 := ts.foldl stringize [c! '"'] ++ [c! '"']

theorem stringizeAll_eq (ts : List Tok) (hs : ∀ t ∈ ts, Spellable t) :
    some (stringizeAll ts) = (MacroRef.stringizeRef (ts.map toP)).lit := by
  unfold stringizeAll MacroRef.stringizeRef
  simp only [Option.some.injEq]
  cases ts with
  | nil => simp [MacroRef.spellAll]
  | cons t r =>
    have ht := hs t (List.mem_cons_self ..)
    have hp := piece_ok ht
    have first : stringize [c! '"'] t = [c! '"'] ++ piece t := by
      unfold stringize piece
      have : decide ([c! '"'].length > 1) = false := by decide
      simp only [this, Bool.and_false, Bool.false_and, Bool.false_eq_true, ↓reduceIte]
      split <;> rfl
    rw [List.foldl_cons, first,
      foldl_stringize r _ (by simp only [List.length_append, List.length_cons, List.length_nil]
                              have := List.length_pos_iff.mpr hp.1; omega)
        (by rw [getLast?_append_ne hp.1]; exact hp.2) (fun x hx => hs x (List.mem_cons_of_mem _ hx))]
    simp only [List.map_cons, MacroRef.spellAll, piece_eq, List.flatMap_map]
    simp only [toP, List.append_assoc, List.cons_append, List.nil_append]
    rfl

end CprocVerif.PP
