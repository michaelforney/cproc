/-
  C01, fragment 𝔽₂ — `a; b`: the second statement starts where the first one ended (`PosS.after`); when the first
  ends in `return`/`break`/`continue`, the second begins with the label item that carries that jump (`seq_term`;
  `PosS`: a position where a jump may be set on the open block).  `seq_cont` is the step from the outcome of `a` on,
  which the `switch` body reuses with a first statement reached by a jump.
-/
import CprocVerif.Lemmas.Lower2Leaf

set_option linter.unusedSimpArgs false

namespace CprocVerif.LowerMach2
open CprocVerif.Qbe CprocVerif.Lower CprocVerif.Lower2 CprocVerif.CSem CprocVerif.CSem2 CprocVerif.CInt
open CprocVerif.LowerArith CprocVerif.LowerMach CprocVerif.LowerMem

theorem Ext.first {T : Stat} {c1 : SCtx} {st : Stmt} {o : SOut} (h : Ext T o.ctx) (g : SGood st c1 o) :
    Ext T c1 := by
  obtain ⟨new, h1, _, h3, _⟩ := g.slots
  exact h.before h1 (fun sl hsl => (h3 sl hsl).1) g.lastid

theorem startsLabel_items (cs : Bool) (st : Stmt) : ∀ (brk cont : String) (c : SCtx),
    st.startsLabel = true → ∃ l rest, (funcstmt cs brk cont st c).items = labelItem c l :: rest := by
  induction st with
  | seq a b iha _ =>
    intro brk cont c h
    obtain ⟨l, rest, h1⟩ := iha brk cont c (by simpa [Stmt.startsLabel] using h)
    exact ⟨l, rest ++ (funcstmt cs brk cont b (funcstmt cs brk cont a c).ctx).items, by
      simp only [funcstmt, h1, List.cons_append]⟩
  | case_ u => intro brk cont c _; exact ⟨_, [], rfl⟩
  | default_ => intro brk cont c _; exact ⟨_, [], rfl⟩
  | _ => intro brk cont c h; simp [Stmt.startsLabel] at h

/-- `Pos` without the requirement that no jump is set (a statement that begins with a label may
    start in a block already closed by a jump). -/
structure PosS (T : Stat) (c : SCtx) (nd : Nat) (pre : List Item) : Prop where
  cur : curOf T.S.o0 pre = c.cur
  curOK : CurOK c.ctx
  nslots : c.slots.length = nd
  le : ∀ i, i < nd → c.slots.getD i 0 ≤ c.lastid

theorem Pos.toS {T : Stat} {c : SCtx} {nd : Nat} {pre : List Item} (h : Pos T c nd pre) : PosS T c nd pre :=
  ⟨h.cur, h.curOK, h.nslots, h.le⟩

theorem PosS.toPos {T : Stat} {c : SCtx} {nd : Nat} {pre : List Item} (h : PosS T c nd pre)
    (hj : c.jump = none) : Pos T c nd pre := ⟨hj, h.cur, h.curOK, h.nslots, h.le⟩

theorem PosS.after {T : Stat} {c : SCtx} {nd nd' : Nat} {pre : List Item} (hp : PosS T c nd pre)
    {st : Stmt} {o : SOut} (g : SGood st c o)
    (hnd : nd' = nd + (declTys st).length) : PosS T o.ctx nd' (pre ++ o.items) := by
  obtain ⟨new, h1, h2, h3, _⟩ := g.slots
  refine ⟨g.cur _ _ hp.cur, g.curOK hp.curOK, by rw [h1, List.length_append, hp.nslots, h2, hnd], ?_⟩
  intro i hi
  rw [h1]
  by_cases hin : i < nd
  · rw [getD_append_left _ _ (by rw [hp.nslots]; exact hin)]
    have := hp.le i hin; have := g.lastid; omega
  · rw [getD_append_right _ _ (by rw [hp.nslots]; omega)]
    have hm : new.getD (i - c.slots.length) 0 ∈ new := getD_mem (by rw [hp.nslots, h2]; omega)
    exact (h3 _ hm).2

theorem Pos.after {T : Stat} {c : SCtx} {nd nd' : Nat} {pre : List Item} (hp : Pos T c nd pre)
    {st : Stmt} {o : SOut} (g : SGood st c o) (hj : o.ctx.jump = none)
    (hnd : nd' = nd + (declTys st).length) : Pos T o.ctx nd' (pre ++ o.items) :=
  (hp.toS.after g hnd).toPos hj

def seqRes (cs : Bool) (P : List CSem2.Func) (n : Nat) (b : Stmt) : CSem2.Outcome → Option CSem2.Outcome
  | .normal s' => exec cs P n s' b
  | o => some o

section
variable (T : Stat)

theorem seq_parts {a b : Stmt} {lp : Bool × Bool} {brk cont : String} {c : SCtx} {nd nd' : Nat}
    {pre post : List Item}
    (hwt : Stmt.wt T.vtys T.ret lp.1 lp.2 nd (.seq a b) = some nd')
    (hjs : c.jump = none ∨ a.startsLabel = true)
    (hext : Ext T (funcstmt T.S.cs brk cont (.seq a b) c).ctx)
    (hits : T.S.its = pre ++ (funcstmt T.S.cs brk cont (.seq a b) c).items ++ post) :
    ∃ n1, Stmt.wt T.vtys T.ret lp.1 lp.2 nd a = some n1 ∧ Stmt.wt T.vtys T.ret lp.1 lp.2 n1 b = some nd' ∧
      n1 = nd + (declTys a).length ∧ SGood a c (funcstmt T.S.cs brk cont a c) ∧
      (a.endsJump = false ∨ b.startsLabel = true) ∧ Ext T (funcstmt T.S.cs brk cont a c).ctx ∧
      T.S.its = pre ++ (funcstmt T.S.cs brk cont a c).items ++
        ((funcstmt T.S.cs brk cont b (funcstmt T.S.cs brk cont a c).ctx).items ++ post) := by
  simp only [Stmt.wt] at hwt
  split at hwt
  · cases hwt
  · rename_i hej
    simp only [Option.bind_eq_some_iff] at hwt
    obtain ⟨n1, hwa, hwb⟩ := hwt
    obtain ⟨hna, hca⟩ := wt_noDead _ _ a _ _ _ _ hwa
    obtain ⟨hnb, _⟩ := wt_noDead _ _ b _ _ _ _ hwb
    have ga := funcstmt_good T.S.cs a brk cont c hjs hna
    have hdis : a.endsJump = false ∨ b.startsLabel = true := by
      cases ha : a.endsJump <;> cases hb : b.startsLabel <;> simp [ha, hb] at hej ⊢
    have gb := funcstmt_good T.S.cs b brk cont (funcstmt T.S.cs brk cont a c).ctx (hdis.imp ga.jump id) hnb
    refine ⟨n1, hwa, hwb, hca, ga, hdis, Ext.first (o := funcstmt T.S.cs brk cont b _) hext gb, ?_⟩
    rw [hits]; simp only [funcstmt, List.append_assoc]

theorem seq_cont (n : Nat) (ih : SimStmt T n) (a b : Stmt) {out oa : CSem2.Outcome}
    {lp : Bool × Bool} {brk cont : String} {c : SCtx} {nd nd' : Nat} {pre post : List Item} {st0 : State}
    (hfrb : frag T.P T.cnts T.W b = true)
    (hwt : Stmt.wt T.vtys T.ret lp.1 lp.2 nd (.seq a b) = some nd') (hp : PosS T c nd pre)
    (hjs : c.jump = none ∨ a.startsLabel = true)
    (hext : Ext T (funcstmt T.S.cs brk cont (.seq a b) c).ctx)
    (hits : T.S.its = pre ++ (funcstmt T.S.cs brk cont (.seq a b) c).items ++ post)
    (hterm : ∀ j, (funcstmt T.S.cs brk cont (.seq a b) c).ctx.jump = some j →
      TermAt T (pre ++ (funcstmt T.S.cs brk cont (.seq a b) c).items) j)
    (hlp : (lp.1 = true → CanJump T.S brk) ∧ (lp.2 = true → CanJump T.S cont))
    (pa : Post T brk cont st0 (pre ++ (funcstmt T.S.cs brk cont a c).items)
      (funcstmt T.S.cs brk cont a c).ctx oa)
    (hres : seqRes T.S.cs T.P n b oa = some out) :
    Post T brk cont st0 (pre ++ (funcstmt T.S.cs brk cont (.seq a b) c).items)
      (funcstmt T.S.cs brk cont (.seq a b) c).ctx out := by
  obtain ⟨n1, -, hwb, hca, ga, hdis, -, hitsa⟩ := seq_parts T hwt hjs hext hits
  simp only [funcstmt] at hext hits hterm ⊢
  cases oa with
  | normal s' =>
    simp only [seqRes] at hres
    obtain ⟨⟨k, env', M', hreach, inv'⟩, hja⟩ := pa
    have hpb : Pos T (funcstmt T.S.cs brk cont a c).ctx n1 (pre ++ (funcstmt T.S.cs brk cont a c).items) :=
      (hp.after ga hca).toPos (hja s' rfl)
    have hitsb : T.S.its = (pre ++ (funcstmt T.S.cs brk cont a c).items) ++
        (funcstmt T.S.cs brk cont b (funcstmt T.S.cs brk cont a c).ctx).items ++ post := by
      rw [hits]; simp only [List.append_assoc]
    have pb := ih b s' out lp brk cont _ n1 nd' _ post env' M' hres hfrb hwb hpb hext hitsb
      (by simpa only [List.append_assoc] using hterm) hlp inv'
    rw [← List.append_assoc]
    exact pb.prepend hreach
  | brk s' => cases hres; exact pa.abnormal (by intro s'' h; cases h)
  | cont s' => cases hres; exact pa.abnormal (by intro s'' h; cases h)
  | ret v => cases hres; exact pa.abnormal (by intro s'' h; cases h)

theorem seq_term {a b : Stmt} {brk cont : String} {c : SCtx} {pre post : List Item}
    (ga : SGood a c (funcstmt T.S.cs brk cont a c)) (hdis : a.endsJump = false ∨ b.startsLabel = true)
    (hitsa : T.S.its = pre ++ (funcstmt T.S.cs brk cont a c).items ++
      ((funcstmt T.S.cs brk cont b (funcstmt T.S.cs brk cont a c).ctx).items ++ post)) :
    ∀ j, (funcstmt T.S.cs brk cont a c).ctx.jump = some j →
      TermAt T (pre ++ (funcstmt T.S.cs brk cont a c).items) j := by
  intro j hj
  rcases hdis with h | h
  · rw [ga.jump h] at hj; cases hj
  · obtain ⟨l, rest, hl⟩ := startsLabel_items T.S.cs b brk cont (funcstmt T.S.cs brk cont a c).ctx h
    rw [hl, labelItem, hj] at hitsa
    exact TermAt.of_item hitsa

theorem sim_seq (n : Nat) (ih : SimStmt T n) (a b : Stmt) : SimOf T (n + 1) (.seq a b) := by
  intro s out lp brk cont c nd nd' pre post env M hex hfr hwt hp hext hits hterm hlp inv
  simp only [frag, Bool.and_eq_true] at hfr
  obtain ⟨n1, hwa, -, -, ga, hdis, hexta, hitsa⟩ := seq_parts T hwt (Or.inl hp.jump) hext hits
  simp only [exec] at hex
  cases hea : exec T.S.cs T.P n s a with
  | none => rw [hea] at hex; cases hex
  | some oa =>
    rw [hea] at hex
    have pa := ih a s oa lp brk cont c nd n1 pre _ env M hea hfr.1 hwa hp hexta hitsa
      (seq_term T ga hdis hitsa) hlp inv
    have hres : seqRes T.S.cs T.P n b oa = some out := by
      cases oa <;> simpa [seqRes] using hex
    exact seq_cont T n ih a b hfr.2 hwt hp.toS (Or.inl hp.jump) hext hits hterm hlp pa hres

end

end CprocVerif.LowerMach2
