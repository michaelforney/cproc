import CprocVerif.Lemmas.PPFnTable
import CprocVerif.Lemmas.PPFnState

/-! # `rawnext`, and `expand` on a token that starts no invocation, on a state of the function-like development (`FnState`)

Both calls complete on a good state, and the lemmas say so (`rawnext_fnState`, `expand_flatP`): a
statement about a result that is merely assumed follows from them because a call has one result
whatever the fuel (`exec_det`).  `expandObj_simP` sets what `expand` did against one step of the reference
(`ExpandP`) and against the potential of the stack (`potW`). -/

namespace CprocVerif.PP
open CprocVerif.Gen.TokenKinds
open CprocVerif.Spec.MacroRef (HTok Item PTok MacroDef RErr Flag expandH hsadd union pendItems lookup
  matchParen splitTop subst elems paramIndex)
open CprocVerif.Spec

theorem ctxWF_push_obj {ms : List Macro} {ctx : List Frame} (m : Macro) (toks : List Tok) (hW : CtxWF ms ctx)
    (hget : macroget ms m.name = some m) (hf : m.func = false) :
    CtxWF (setHide ms m.name true) (⟨toks, some m.name⟩ :: ctx) := by
  intro f hfm m' hb hfun
  rcases List.mem_cons.mp hfm with rfl | hfm
  · simp only [Option.bind_some, macroget_setHide, hget, Option.map_some, ↓reduceIte, Option.some.injEq] at hb
    subst hb
    rw [hf] at hfun; cases hfun
  · exact ctxWF_setHide _ _ hW f hfm m' hb hfun

theorem invC_setArgs {ctx : List Frame} {ms : List Macro} {d : Nat} (n : Name) (a : List Arg) (h : InvC ctx ms d) :
    InvC ctx (setArgs ms n a) d := by
  refine ⟨(map_setArgs (·.name) (fun _ _ => rfl) ms n a).symm ▸ h.names, h.liveNodup, ?_, h.depth⟩
  · intro x hx
    obtain ⟨m, hm, rfl⟩ := List.mem_map.mp hx
    have := h.hideIff m hm
    split <;> exact this

/-- the potential of the context stack: the weights (`W`, against the macros without a live frame at
or below the token) of the tokens it will deliver -/
def potW (ms0 : List Macro) (st : St) : Nat :=
  (flatG (fun L t => W (tblF ms0) L t) st.macros st.ctx).sum

theorem potW_congr (ms0 : List Macro) {a b : St} (h1 : a.ctx = b.ctx) (h2 : a.macros = b.macros) : potW ms0 a = potW ms0 b := by
  simp [potW, h1, h2]

/-- where `rawnext` took its token from -/
inductive RawP (ms0 : List Macro) (st s1 : St) : Prop where
  | ctx (flat : flatG (annHp ms0) st.macros st.ctx = annHp ms0 (liveNames s1.ctx) s1.rt :: flatG (annHp ms0) s1.macros s1.ctx)
      (tok : FlatP ms0 s1.rt) (text : s1.raw = st.raw) (live : Live st → liveNames s1.ctx ≠ [])
      (pot : potW ms0 st = W (tblF ms0) (liveNames s1.ctx) s1.rt + potW ms0 s1)
  | raw (text : st.raw = s1.rt :: s1.raw) (stack : s1.ctx = []) (flat : flatG (annHp ms0) st.macros st.ctx = [])
  | eof (tok : s1.rt = eofTok) (text : st.raw = []) (text' : s1.raw = []) (stack : s1.ctx = [])
      (flat : flatG (annHp ms0) st.macros st.ctx = [])

theorem rawnext_fnState (ms0 : List Macro) (st : St) (g : FnState ms0 st)
    (ht : ∀ t r, st.raw = t :: r → t.kind ≠ .TNONE ∧ t.kind ≠ .THASH) :
    ∃ s1, exec (ctxSize st.ctx + 3) .rawnext st = .ok s1 ∧ FnState ms0 s1 ∧ (Live st → Live s1) ∧ RawP ms0 st s1 := by
  obtain ⟨s1, he, hwf, hpp, hstrip, hinv, hcase⟩ := rawnext_flatG (ctxSize st.ctx + 1) st (.inl (Nat.le_succ _)) g.wf ht
  refine ⟨s1, he, ?_⟩
  have good : (∀ t ∈ flat s1.macros s1.ctx, FlatP ms0 t) → FnState ms0 s1 := fun h1 =>
    ⟨(stat_of_strip hstrip).trans g.stat, hinv g.inv, hwf, h1, by rw [hpp.2, g.prag], by rw [hpp.1, g.ppnl]⟩
  rcases hcase with ⟨_, hraw, hcons⟩ | ⟨hctx, hnil, hraw⟩
  · refine ⟨good (fun t ht => g.flatOk t ?_), (fun hl L hL => hl L (by rw [hcons]; exact List.mem_cons_of_mem _ hL)),
      .ctx (hcons _) (g.flatOk _ ?_) hraw (fun hl => hl _ (by rw [hcons]; exact List.mem_cons_self ..)) ?_⟩
    · rw [flat_eq_flatG, hcons, ← flat_eq_flatG]; exact List.mem_cons_of_mem _ ht
    · rw [flat_eq_flatG, hcons]; exact List.mem_cons_self ..
    · unfold potW; rw [hcons, List.sum_cons]
  · refine ⟨good (by rw [hctx]; exact fun _ h => nomatch h), fun _ => Live.of_nil hctx, ?_⟩
    rcases hraw with h1 | ⟨h1, h2, h3⟩
    · exact .raw h1 hctx (hnil _)
    · exact .eof h1 h2 h3 hctx (hnil _)

theorem isMac_sethide (ms0 : List Macro) (t : Tok) (b : Bool) : isMac ms0 { t with hide := b } = isMac ms0 t := rfl

theorem map_mkHp_nohide (ms0 : List Macro) (hs : List Name) (l : List Tok) (h : ∀ t ∈ l, t.hide = false) :
    l.map (mkHp ms0 hs) = l.map (mkH hs) :=
  List.map_congr_left (fun t ht => mkHp_nohide ms0 hs t (h t ht))

theorem tblF_names (ms : List Macro) : (tblF ms).map (·.name) = ms.map (·.name) := by
  simp [tblF, toDefF, List.map_map, Function.comp_def]

theorem FnState.nonfun {ms0 : List Macro} {st : St} (g : FnState ms0 st) {t : Tok} (ht : FlatP ms0 t) (hk : t.kind = .TIDENT)
    (m : Macro) (hm : macroget st.macros (t.lit.getD []) = some m) : m.func = false := by
  obtain ⟨m0, hm0, hs⟩ := macroget_stat_some g.stat hm
  cases hf : m.func with
  | false => rfl
  | true => exact absurd ⟨hk, m0, hm0, by rw [(stat_eq hs).2.1, hf]⟩ ht.2.2

theorem Live.push {st s2 : St} (h : Live st) {toks : List Tok} {n : Name} (hctx : s2.ctx = ⟨toks, some n⟩ :: st.ctx)
    (hmac : s2.macros = setHide st.macros n true) : Live s2 := by
  intro L hL
  rw [hctx, hmac] at hL
  simp only [flatG, flatG_setHide, frameToks_setHide, liveNames_cons_some ⟨toks, some n⟩ st.ctx n rfl,
    List.mem_append, List.mem_map] at hL
  rcases hL with ⟨_, _, rfl⟩ | hL
  · exact List.cons_ne_nil _ _
  · exact h L hL

theorem FnState.push {ms0 : List Macro} {st s2 : St} (g : FnState ms0 st) {m : Macro} (hm : m ∈ st.macros) (hh : m.hide = false)
    {toks : List Tok} (hctx : s2.ctx = ⟨toks, some m.name⟩ :: st.ctx) (hmac : s2.macros = setHide st.macros m.name true)
    (hdep : s2.depth = st.depth + 1) (hprag : s2.prag = false) (hppnl : s2.ppnl = false)
    (hwf : CtxWF s2.macros s2.ctx) (hfl : ∀ x ∈ frameToks s2.macros ⟨toks, some m.name⟩, FlatP ms0 x) :
    FnState ms0 s2 ∧ (Live st → Live s2) := by
  refine ⟨⟨?_, ?_, hwf, ?_, hprag, hppnl⟩, fun hlive => hlive.push hctx hmac⟩
  · rw [hmac, stat_setHide]; exact g.stat
  · rw [hctx, hmac, hdep]; exact invC_push _ g.inv hm hh
  · intro x hx
    rw [hctx] at hx
    refine (List.mem_append.mp hx).elim (hfl x) fun hx => g.flatOk x ?_
    rwa [hmac, flat_setHide] at hx

theorem InvC.hide_iff_frame {ctx : List Frame} {ms : List Macro} {d : Nat} (h : InvC ctx ms d) {m : Macro} (hm : m ∈ ms) :
    m.hide = true ↔ ∃ f ∈ ctx, f.mac = some m.name := by
  rw [h.hideIff m hm]
  simp only [liveNames, List.mem_filterMap]

theorem FnState.depth_zero {ms0 : List Macro} {st : St} (g : FnState ms0 st) (hctx : st.ctx = []) : st.depth = 0 := by
  rw [g.inv.depth, hctx]; rfl

theorem FnState.nohide {ms0 : List Macro} {st : St} (g : FnState ms0 st) (hctx : st.ctx = []) {m : Macro} (hm : m ∈ st.macros) :
    m.hide = false :=
  Bool.eq_false_iff.mpr fun hh => by
    have := (g.inv.hideIff m hm).mp hh
    rw [hctx] at this; cases this

theorem expand_flatP {ms0 : List Macro} {st : St} (g : FnState ms0 st) {t : Tok} (ht : FlatP ms0 t) (k : Nat) :
    exec (k + 1) (.expand t) st = .ok (expandObj t st) := by
  by_cases hk : t.kind = .TIDENT
  · exact expand_nonfun k t st (g.nonfun ht hk)
  · rw [expand_nonident k t st hk, expandObj, if_pos hk]

theorem isMac_stat {ms ms0 : List Macro} (h : ms.map stat = ms0.map stat) (t : Tok) : isMac ms0 t = isMac ms t := by
  unfold isMac
  rw [← Option.isSome_map (f := stat), ← macroget_stat h, Option.isSome_map]

theorem lookup_tblF_stat {ms ms0 : List Macro} (h : ms.map stat = ms0.map stat) (n : Name) :
    lookup (tblF ms0) n = (macroget ms n).map toDefF := by
  have e : ∀ o : Option Macro, o.map toDefF =
      (o.map stat).map fun x => ⟨x.1, x.2.1, x.2.2.1.map (·.name), false, x.2.2.2.map toP⟩ := fun o => by cases o <;> rfl
  rw [lookup_tblF, e, e, macroget_stat h]

theorem Live.pushed {st : St} (h : Live st) (m : Macro) (t : Tok) : Live (PP.pushed m t st) :=
  h.push rfl rfl

theorem expandObj_live {st : St} (h : Live st) (t : Tok) : Live (expandObj t st) := by
  rw [expandObj]
  split
  · exact h
  · split
    · exact h
    · split
      · exact h
      · exact h.pushed _ _

/-- what `expand` did with a token that starts no invocation, against one step of the reference
for an arbitrary continuation `X` of the source -/
inductive ExpandP (ms0 : List Macro) (t : Tok) (s1 s2 : St) : Prop where
  | push (rb : s2.rb = true) (ne : flat s2.macros s2.ctx ≠ [])
      (pot : potW ms0 s2 + 1 = W (tblF ms0) (liveNames s1.ctx) t + potW ms0 s1)
      (sim : ∀ X K, outE (expandH false (K + 1) (tblF ms0) (.tok (mkHp ms0 (hsOf s1.ctx) t) :: absX ms0 s1 X))
          = outE (expandH false K (tblF ms0) (absX ms0 s2 X)))
  | pass (rb : s2.rb = false) (ctx : s2.ctx = s1.ctx) (macros : s2.macros = s1.macros)
      (kind : s2.rt.kind = t.kind) (lit : s2.rt.lit = t.lit)
      (sim : ∀ X K, outE (expandH false (K + 1) (tblF ms0) (.tok (mkHp ms0 (hsOf s1.ctx) t) :: absX ms0 s1 X))
          = consE (mkHp ms0 [] s2.rt) (outE (expandH false K (tblF ms0) (absX ms0 s1 X))))

/-- `expandObj_ref` for `tblF ms0`: no replacement list is empty, so what the reference puts in front of `X` is
read exactly (`pushFront_ne`) -/
theorem expandObj_simP (ms0 : List Macro) (hT : FnTable ms0) (s1 : St) (t : Tok) (g : FnState ms0 s1) (ht : FlatP ms0 t) :
    FnState ms0 (expandObj t s1) ∧ (expandObj t s1).raw = s1.raw ∧ ExpandP ms0 t s1 (expandObj t s1) := by
  have hmk : ∀ hs x, mkHp ms0 hs x = mkHp s1.macros hs x := fun hs x => by simp only [mkHp, isMac_stat g.stat]
  have h := expandObj_ref (tbl := tblF ms0) (toD := toDefF) (t := t) g.inv (by rw [tblF_names]; exact hT.names)
    (lookup_tblF_stat g.stat _) (fun m hk hm => ⟨g.nonfun ht hk m hm, g.nonfun ht hk m hm, rfl, rfl⟩)
  generalize expandObj t s1 = s2 at h ⊢
  cases h with
  | pass t' hst hkind hlit sim =>
    subst hst
    exact ⟨g.sameBut (.regs ..), rfl, .pass rfl rfl rfl hkind hlit fun X K => by rw [hmk, hmk, sim]⟩
  | push m hst hget hf hth hinv2 hpot sim =>
    subst hst
    obtain ⟨m0, hm0, hs⟩ := macroget_stat_some g.stat hget
    have hbody : m0.body = m.body := (stat_eq hs).2.2.2
    have hmem0 := (macroget_mem hm0).1
    have hbne : m.body ≠ [] := hbody ▸ hT.bodyNe m0 hmem0
    have hfl := fun {β : Type} (g' : List Name → Tok → β) => flatG_push g' (respace m.body t.space) s1.ctx hget hf
    have hin : ∀ x ∈ respace m.body t.space, ∃ b ∈ m0.body, kh x = kh b := fun x hx => hbody ▸ mem_respace_kh hx
    refine ⟨⟨(stat_setHide _ _ _).trans g.stat, hinv2, ctxWF_push_obj m _ g.wf hget hf, fun x hx => ?_, g.prag, g.ppnl⟩,
      rfl, .push rfl ?_ ?_ fun X K => ?_⟩
    · rw [flat_eq_flatG] at hx
      erw [hfl, List.map_id', ← flat_eq_flatG] at hx
      refine (List.mem_append.mp hx).elim (fun hx => ?_) (g.flatOk x)
      obtain ⟨b, hb, hkb⟩ := hin x hx
      have hbo := hT.bodyOk m0 hmem0 b hb
      exact flatP_of_kh hkb ⟨hbo.1.1, hbo.1.2.1, hbo.2⟩
    · rw [flat_eq_flatG]
      erw [hfl]
      cases hb : m.body with
      | nil => exact absurd hb hbne
      | cons a r => simp [respace]
    · unfold potW
      erw [hfl]
      rw [hpot, List.sum_append]
      exact (by omega : ∀ a b : Nat, a + b + 1 = 1 + a + b) _ _
    · rw [mkHp_nohide ms0 _ t hth, sim, pushFront_ne _ _ fun hh => hbne (List.map_eq_nil_iff.mp hh), ← map_mkH_respace]
      refine congrArg (fun l => outE (expandH false K (tblF ms0) l)) ?_
      unfold absX
      erw [hfl]
      have hann : annHp ms0 (m.name :: liveNames s1.ctx) = mkHp ms0 (hsOf s1.ctx ++ [m.name]) := by
        funext x; simp [annHp, hsOf]
      rw [hann, map_mkHp_nohide ms0 _ _ fun x hx => ?_, List.map_append, List.append_assoc]
      obtain ⟨b, hb, hkb⟩ := hin x hx
      exact (congrArg (·.2.2) hkb).trans (hT.bodyOk m0 hmem0 b hb).1.2.2

end CprocVerif.PP
