import CprocVerif.Model.PP

/-! # Every definition `define` accepts is well formed (`Macro.WF`, `define_wf`) -/

namespace CprocVerif.PP
open CprocVerif.Gen.TokenKinds

def isVa (t : Tok) : Prop := t.kind = .TIDENT ∧ t.lit = some vaName

instance (t : Tok) : Decidable (isVa t) := by unfold isVa; infer_instance

def NamedNodup (ps : List Param) : Prop := ((ps.filter (fun p => !p.fvar)).map (·.name)).Nodup

theorem namedNodup_reverse {ps : List Param} (h : NamedNodup ps) : NamedNodup ps.reverse := by
  unfold NamedNodup at *
  rw [List.filter_reverse, List.map_reverse, List.Nodup, List.pairwise_reverse]
  exact List.Pairwise.imp (fun hab => Ne.symm hab) h

theorem mkParam_cons {ps : List Param} {t : Tok} {p : Param} (hnd : NamedNodup ps)
    (h : mkParam ps t = .ok p) : NamedNodup (p :: ps) := by
  unfold mkParam at h
  unfold NamedNodup at *
  split at h
  · cases h; exact hnd
  · split at h
    · split at h
      · cases h
      · rename_i hany
        cases h
        rw [List.filter_cons, if_pos (by rfl), List.map_cons, List.nodup_cons]
        refine ⟨fun hm => hany ?_, hnd⟩
        obtain ⟨q, hq, hqn⟩ := List.mem_map.mp hm
        exact List.any_eq_true.mpr ⟨q, (List.mem_filter.mp hq).1, decide_eq_true hqn⟩
    · cases h

/-- pp.c after `e1e687a`: `define` rejects a duplicate parameter name. -/
theorem paramLoop_nodup (ps : List Param) (raw : List Tok) : ∀ (qs : List Param) (rest : List Tok),
    NamedNodup ps → paramLoop ps raw = .ok (qs, rest) → NamedNodup qs := by
  fun_induction paramLoop ps raw
  all_goals intro qs rest hnd h
  all_goals try (cases h; done)
  case case5 => cases h; exact namedNodup_reverse hnd
  case case7 p hp ih => exact ih qs rest (mkParam_cons hnd hp) h
  case case12 e hp => rw [hp] at h; cases h
  case case13 p hp ih => rw [hp] at h; exact ih qs rest (mkParam_cons hnd hp) h

def endTok (t : Tok) : Prop := t.kind = .TNEWLINE ∨ t.kind = .TEOF
instance (t : Tok) : Decidable (endTok t) := by unfold endTok; infer_instance

def pnames (ps : List Param) : List Name := ps.map (·.name)

def IsParamTok (ns : List Name) (b : Tok) : Prop := b.kind = .TIDENT ∧ ∃ n ∈ ns, b.lit = some n

/-- on a list in reverse order (latest token first): each `#` is followed by a parameter -/
def RevOk (ns : List Name) : List Tok → Prop
  | [] => True
  | [_] => True
  | b :: a :: r => (a.kind = .THASH → IsParamTok ns b) ∧ RevOk ns (a :: r)

/-- what the flag updates of the body loop leave alone -/
def pkeys (ps : List Param) : List (Name × Bool) := ps.map fun p => (p.name, p.fvar)

theorem pkeys_modify {f : Param → Param} (hf : ∀ p, ((f p).name, (f p).fvar) = (p.name, p.fvar)) (ps : List Param) (k : Nat) :
    pkeys (ps.modify k f) = pkeys ps := by
  unfold pkeys
  induction ps generalizing k with
  | nil => simp
  | cons p r ih =>
    cases k with
    | zero => simp [hf]
    | succ k => simp only [List.modify_succ_cons, List.map_cons, ih]

theorem pkeys_setFtok (ps : List Param) (k : Nat) : pkeys (setFtok ps k) = pkeys ps :=
  pkeys_modify (f := fun p => { p with ftok := true }) (fun _ => rfl) ps k

theorem pkeys_setFstr (ps : List Param) (k : Nat) : pkeys (setFstr ps k) = pkeys ps :=
  pkeys_modify (f := fun p => { p with fstr := true }) (fun _ => rfl) ps k

theorem pnames_of_pkeys {ps qs : List Param} (h : pkeys ps = pkeys qs) : pnames ps = pnames qs := by
  have key : ∀ l : List Param, pnames l = (pkeys l).map (·.1) := fun l => by rw [pkeys, List.map_map]; rfl
  rw [key, key, h]

theorem pnames_setFtok (ps : List Param) (k : Nat) : pnames (setFtok ps k) = pnames ps :=
  pnames_of_pkeys (pkeys_setFtok ps k)

theorem pnames_setFstr (ps : List Param) (k : Nat) : pnames (setFstr ps k) = pnames ps :=
  pnames_of_pkeys (pkeys_setFstr ps k)

theorem namedNodup_of_pkeys {ps qs : List Param} (h : pkeys ps = pkeys qs) (hq : NamedNodup qs) : NamedNodup ps := by
  have key : ∀ l : List Param, (l.filter (fun p => !p.fvar)).map (·.name) = ((pkeys l).filter (fun x => !x.2)).map (·.1) := by
    intro l
    rw [pkeys, List.filter_map, List.map_map]
    rfl
  unfold NamedNodup at *
  rw [key, h, ← key]; exact hq

theorem macrovarargs_eq (func : Bool) (ps : List Param) :
    macrovarargs func ps = (func && ((ps.getLast?.map (·.fvar)).getD false)) := by
  unfold macrovarargs
  cases ps.getLast? <;> rfl

theorem macrovarargs_of_pkeys {ps qs : List Param} (func : Bool) (h : pkeys ps = pkeys qs) :
    macrovarargs func ps = macrovarargs func qs := by
  have key : ∀ l : List Param, l.getLast?.map (·.fvar) = (pkeys l).getLast?.map (·.2) := by
    intro l
    simp only [pkeys, List.getLast?_map, Option.map_map]
    rfl
  rw [macrovarargs_eq, macrovarargs_eq, key, key, h]

theorem macroparam_isParam {ps : List Param} {t : Tok} {k : Nat} (h : macroparam ps t = some k) :
    IsParamTok (pnames ps) t := by
  unfold macroparam at h
  split at h
  · rename_i hk
    simp only at h
    split at h
    · rename_i hlt
      refine ⟨hk, ?_⟩
      have := List.findIdx_getElem (w := hlt)
      simp only [decide_eq_true_eq] at this
      exact ⟨_, List.mem_map.mpr ⟨_, List.getElem_mem hlt, rfl⟩, this.symm⟩
    · cases h
  · cases h

/-- `ps1` may already differ from `ps` in flags: a pending index has set one (`bodyStep_ok`) -/
theorem bodyStep_none {ps ps1 : List Param} {prev : Kind} {t : Tok} {r : List Param × Option Nat}
    (hn : pkeys ps1 = pkeys ps) (h : bodyStep true ps1 none prev t = .ok r) :
    pkeys r.1 = pkeys ps ∧ (prev = .THASH → IsParamTok (pnames ps) t) := by
  unfold bodyStep at h
  rw [if_neg (not_not_intro rfl)] at h
  simp only at h
  split at h
  · split at h
    · cases h
    · split at h
      · cases h
      · rename_i k hk
        cases h
        exact ⟨by simp only [pkeys_setFstr, hn], fun _ => pnames_of_pkeys hn ▸ macroparam_isParam hk⟩
  · rename_i hprev
    cases h
    exact ⟨hn, fun hp => absurd hp hprev⟩

theorem bodyStep_ok {func : Bool} {ps : List Param} {i : Option Nat} {prev : Kind} {t : Tok}
    {r : List Param × Option Nat} (h : bodyStep func ps i prev t = .ok r) :
    pkeys r.1 = pkeys ps ∧ (func = true → prev = .THASH → IsParamTok (pnames ps) t) := by
  cases func with
  | false => cases h; exact ⟨rfl, nofun⟩
  | true =>
    -- a pending index only sets a flag first
    suffices hs : pkeys r.1 = pkeys ps ∧ (prev = .THASH → IsParamTok (pnames ps) t) from ⟨hs.1, fun _ => hs.2⟩
    cases i with
    | none => exact bodyStep_none rfl h
    | some k => exact bodyStep_none (pkeys_setFtok ps k) h

theorem bodyLoop_spec (func va : Bool) (ps : List Param) (i : Option Nat) (t : Tok) (acc raw : List Tok) :
    ∀ ps' body e rest, bodyLoop func va ps i t acc raw = .ok (ps', body, e, rest) →
      (∀ x ∈ acc, x.kind ≠ .THASHHASH ∧ (va = false → ¬ isVa x)) →
      (func = true → RevOk (pnames ps) (t :: acc)) →
      (∀ x ∈ body, x.kind ≠ .THASHHASH ∧ (va = false → ¬ isVa x)) ∧ pkeys ps' = pkeys ps ∧ endTok e ∧
        (func = true → RevOk (pnames ps) (e :: body.reverse)) := by
  fun_induction bodyLoop func va ps i t acc raw
  all_goals intro ps' body e rest h hacc hrev
  all_goals try (cases h; done)
  case case1 hend =>
    cases h
    exact ⟨fun x hx => hacc x (List.mem_reverse.mp hx), rfl, hend,
      fun hf => by rw [List.reverse_reverse]; exact hrev hf⟩
  case case5 hne hhh hva r hr =>
    cases h
    have hs := bodyStep_ok hr
    refine ⟨fun x hx => ?_, hs.1, .inr rfl, fun hf => by rw [List.reverse_reverse]; exact ⟨hs.2 hf, hrev hf⟩⟩
    rcases List.mem_cons.mp (List.mem_reverse.mp hx) with rfl | hx
    · exact ⟨hhh, fun hv hx => hva ⟨hx.1, hx.2, by simp [hv]⟩⟩
    · exact hacc x hx
  case case8 hne hhh hva t' r' hn r hr ih =>
    have hs := bodyStep_ok hr
    have := ih ps' body e rest h (fun x hx => ?_) (fun hf => by rw [pnames_of_pkeys hs.1]; exact ⟨hs.2 hf, hrev hf⟩)
    · rwa [pnames_of_pkeys hs.1, hs.1] at this
    · rcases List.mem_cons.mp hx with rfl | hx
      · exact ⟨hhh, fun hv hx => hva ⟨hx.1, hx.2, by simp [hv]⟩⟩
      · exact hacc x hx

theorem revOk_last_not_hash {ns : List Name} {e x : Tok} {r : List Tok} (h : RevOk ns (e :: x :: r))
    (he : endTok e) : x.kind ≠ .THASH := by
  intro hx
  have := (h.1 hx).1
  rcases he with he | he <;> rw [he] at this <;> cases this

/-- what every accepted definition satisfies (6.10.3p5, p6, 6.10.3.2p1; `##` is outside the
implemented subset) -/
structure Macro.WF (m : Macro) : Prop where
  noHashHash : ∀ t ∈ m.body, t.kind ≠ .THASHHASH
  vaOnlyVariadic : macrovarargs m.func m.params = false → ∀ t ∈ m.body, ¬ isVa t
  distinct : NamedNodup m.params
  -- the terminating token `e` stays in the list: it is what rules out a `#` at the very end
  -- (`revOk_last_not_hash`); the forward form without it is `HashFollowed` (`wf_hashFollowed` in `PPSubst`)
  hashParam : m.func = true → ∃ e, endTok e ∧ RevOk (pnames m.params) (e :: m.body.reverse)
  objNoParams : m.func = false → m.params = []

theorem macroget_macroset (ms : List Macro) (m : Macro) : macroget (macroset ms m) m.name = some m := by
  simp [macroget, macroset]

theorem define_wf {st st' : St} (h : define st = .ok st') :
    ∃ m, macroget st'.macros (st.tok.lit.getD []) = some m ∧ m.name = st.tok.lit.getD [] ∧ m.WF ∧ m.hide = false := by
  unfold define at h
  split at h
  · cases h
  · split at h
    · cases h
    · rename_i t st1 hscan
      simp only at h
      split at h
      · cases h
      · rename_i func ps t1 st2 hhd
        split at h
        · cases h
        · rename_i ps' body endt raw hbody
          have hwf : ({ func := func, name := st.tok.lit.getD [], hide := false, params := ps', args := [], body := body } : Macro).WF := by
            have hs := bodyLoop_spec func (macrovarargs func ps) ps (macroparam ps t1) t1 [] st2.raw ps' body endt raw
              hbody (fun _ h => nomatch h) (fun _ => trivial)
            split at hhd
            · split at hhd
              · cases hhd
              · rename_i ps0 raw0 hpl
                split at hhd
                · cases hhd
                · cases hhd
                  exact ⟨fun x hx => (hs.1 x hx).1,
                    fun hv x hx => (hs.1 x hx).2 (by rw [← macrovarargs_of_pkeys true hs.2.1]; exact hv),
                    namedNodup_of_pkeys hs.2.1 (paramLoop_nodup [] _ _ _ List.nodup_nil hpl),
                    fun hf => ⟨endt, hs.2.2.1, by rw [pnames_of_pkeys hs.2.1]; exact hs.2.2.2 hf⟩, nofun⟩
            · cases hhd
              obtain rfl : ps' = [] := List.map_eq_nil_iff.mp hs.2.1
              exact ⟨fun x hx => (hs.1 x hx).1, fun hv x hx => (hs.1 x hx).2 hv, List.nodup_nil, nofun, fun _ => rfl⟩
          split at h
          · split at h
            · cases h
              exact ⟨_, macroget_macroset _ _, rfl, hwf, rfl⟩
            · cases h
          · cases h
            exact ⟨_, macroget_macroset _ _, rfl, hwf, rfl⟩
