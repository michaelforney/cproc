import CprocVerif.Lemmas.InitImage

/-!
# `emitdata`: well-formed initialisers and the cells of their data items

`Wf size i` is what `emitdata` relies on for one initialiser.  Lists of cells are written `cellsOf f o n` throughout the
emitter files (the image is `cellsOf (cellAt l) 0 size`, `image_eq_cellsOf`); `dataitem_cells`: the item of a value
that fills whole bytes lays down `cellsOf (valCell v) 0 n`.
-/

namespace CprocVerif.Image
open CprocVerif.Init

/-- What `parseinit` produces for an object of `size` bytes (and `emitdata` relies on); a bit-field is
an integer in a storage unit of at most 8 bytes. -/
structure Wf (size : Nat) (i : Init) : Prop where
  ne : i.lo < i.hi
  inside : i.stop ≤ size
  shape : match i.val with
    | .int w _ => (i.before = 0 ∧ i.after = 0 → w = i.stop - i.start) ∧
        (i.before ≠ 0 ∨ i.after ≠ 0 → i.stop - i.start ≤ 8)
    | .flt w _ => i.before = 0 ∧ i.after = 0 ∧ w = i.stop - i.start
    | .addr _ _ => i.before = 0 ∧ i.after = 0 ∧ i.stop - i.start = 8
    | .str w _ => i.before = 0 ∧ i.after = 0 ∧ (w = 1 ∨ w = 2 ∨ w = 4) ∧ (i.stop - i.start) % w = 0
    | .other => False

theorem Wf.nonEmpty {size : Nat} {i : Init} (h : Wf size i) : NonEmpty i := h.ne

theorem Wf.byteVal {size : Nat} {i : Init} (h : Wf size i) : ByteVal i := by
  have := h.shape
  unfold ByteVal
  cases hv : i.val <;> rw [hv] at this <;> simp only [] at this ⊢
  all_goals exact ⟨this.1, this.2.1⟩

def cellsOf (f : Nat → Cell) (o n : Nat) : List Cell := (List.range' o n).map f

@[simp] theorem length_cellsOf (f : Nat → Cell) (o n : Nat) : (cellsOf f o n).length = n := by
  simp [cellsOf]

theorem getElem?_cellsOf {f : Nat → Cell} {o n k : Nat} (h : k < n) : (cellsOf f o n)[k]? = some (f (o + k)) := by
  simp [cellsOf, List.getElem?_range' h]

theorem image_eq_cellsOf (size : Nat) (l : List Init) : image size l = cellsOf (cellAt l) 0 size :=
  (eq_image_of_cells (length_cellsOf ..) fun j hj => by rw [getElem?_cellsOf hj, Nat.zero_add]).symm

theorem cellsOf_succ (f : Nat → Cell) (o n : Nat) : cellsOf f o (n + 1) = f o :: cellsOf f (o + 1) n := by
  simp [cellsOf, List.range'_succ]

theorem cellsOf_append (f : Nat → Cell) (o n m : Nat) :
    cellsOf f o n ++ cellsOf f (o + n) m = cellsOf f o (n + m) := by
  simp [cellsOf, ← List.map_append, List.range'_append_1]

theorem cellsOf_zero_append (f : Nat → Cell) {a b : Nat} (h : a ≤ b) :
    cellsOf f 0 a ++ cellsOf f a (b - a) = cellsOf f 0 b := by
  have := cellsOf_append f 0 a (b - a)
  rwa [Nat.zero_add, Nat.add_sub_cancel' h] at this

theorem cellsOf_congr {f g : Nat → Cell} {o n : Nat} (h : ∀ j, o ≤ j → j < o + n → f j = g j) :
    cellsOf f o n = cellsOf g o n :=
  List.map_congr_left fun j hj => h j (List.mem_range'_1.1 hj).1 (List.mem_range'_1.1 hj).2

theorem cellsOf_shift (f : Nat → Cell) (o n : Nat) : cellsOf f o n = cellsOf (fun k => f (o + k)) 0 n := by
  rw [cellsOf, cellsOf, ← Nat.add_zero o, ← List.map_add_range', List.map_map]
  rfl

theorem cellsOf_const (c : Cell) (o n : Nat) : cellsOf (fun _ => c) o n = List.replicate n c := by
  rw [cellsOf, List.map_const', List.length_range']

theorem byte_lt (u m : Nat) : u / 2 ^ (8 * m) % 256 < 256 := Nat.mod_lt _ (by omega)

theorem leBytes_eq (v s n : Nat) :
    leBytes (v / 2 ^ (8 * s)) n = cellsOf (fun k => .byte (v / 2 ^ (8 * k) % 256)) s n := by
  induction n generalizing s with
  | zero => rfl
  | succ n ih =>
    rw [leBytes, cellsOf_succ, ← ih, Nat.div_div_eq_div_mul, show (256 : Nat) = 2 ^ 8 from rfl, ← Nat.pow_add,
      ← Nat.mul_succ]

theorem leBytes_cells (w v n : Nat) : leBytes v n = cellsOf (valCell (.int w v)) 0 n := by
  have := leBytes_eq v 0 n
  rwa [Nat.mul_zero, Nat.pow_zero, Nat.div_one] at this

theorem relCells_eq (sym : String) (a k n : Nat) : relCells sym a k n = cellsOf (Cell.rel sym a) k n := by
  induction n generalizing k with
  | zero => rfl
  | succ n ih => rw [relCells, cellsOf_succ, ih]

theorem bytes_append (l m : List Item) : bytes (l ++ m) = bytes l ++ bytes m := List.flatMap_append

theorem bytes_bitBytes (b n : Nat) : bytes (bitBytes b n).1 = leBytes b n := by
  induction n generalizing b with
  | zero => rfl
  | succ n ih => simp [bitBytes, bytes, Item.cells, leBytes] at ih ⊢; exact ih _

theorem bitBytes_snd (b n : Nat) : (bitBytes b n).2 = b / 2 ^ (8 * n) := by
  induction n generalizing b with
  | zero => simp [bitBytes]
  | succ n ih =>
    rw [bitBytes, ih, Nat.div_div_eq_div_mul, show 8 * (n + 1) = 8 + 8 * n by omega, Nat.pow_add]

theorem str_zero_tail {w : Nat} {cs : List Nat} {k : Nat} (h : cs.length ≤ k / w) : valCell (.str w cs) k = .byte 0 := by
  simp [valCell, List.getD_eq_getElem?_getD, List.getElem?_eq_none h]

theorem flatMap_leBytes {w : Nat} (hw : 0 < w) (cs : List Nat) :
    cs.flatMap (fun c => leBytes c w) = cellsOf (valCell (.str w cs)) 0 (cs.length * w) := by
  induction cs with
  | nil => simp [cellsOf]
  | cons c cs ih =>
    rw [List.flatMap_cons, ih, List.length_cons, Nat.succ_mul, Nat.add_comm, ← cellsOf_append, Nat.zero_add,
      cellsOf_shift _ w, leBytes_cells w]
    congr 1
    · refine cellsOf_congr fun k _ hk => ?_
      simp [valCell, Nat.div_eq_of_lt (Nat.zero_add w ▸ hk), Nat.mod_eq_of_lt (Nat.zero_add w ▸ hk)]
    · exact cellsOf_congr fun k _ _ => by simp [valCell, Nat.add_div_left _ hw]

theorem str_cells {w : Nat} (hw : 0 < w) (cs : List Nat) (pad : Nat) :
    (Item.str w cs pad).cells = cellsOf (valCell (.str w cs)) 0 (cs.length * w + pad) := by
  rw [Item.cells, flatMap_leBytes hw, ← cellsOf_append, ← cellsOf_const (.byte 0) (0 + cs.length * w)]
  congr 1
  refine cellsOf_congr fun k hk _ => (str_zero_tail ?_).symm
  exact (Nat.le_div_iff_mul_le hw).2 (by omega)

theorem valCell_str_take {w : Nat} {cs : List Nat} {m k : Nat} (h : k / w < m ∨ cs.length ≤ m) :
    valCell (.str w (cs.take m)) k = valCell (.str w cs) k := by
  rcases h with h | h
  · simp [valCell, List.getD_eq_getElem?_getD, h]
  · rw [List.take_of_length_le h]

theorem div_round {d w : Nat} (hw : 0 < w) (hm : d % w = 0) : (d + w - 1) / w = d / w ∧ d / w * w = d := by
  refine ⟨?_, Nat.div_mul_cancel (Nat.dvd_of_mod_eq_zero hm)⟩
  obtain ⟨q, rfl⟩ := Nat.dvd_of_mod_eq_zero hm
  rw [Nat.add_sub_assoc hw, Nat.mul_add_div hw, Nat.mul_div_cancel_left _ hw, Nat.div_eq_of_lt (Nat.sub_lt hw Nat.one_pos)]
  rfl

theorem dataitem_cells {size : Nat} {cur : Init} (hw : Wf size cur) (hb : cur.before = 0 ∧ cur.after = 0) :
    ∃ it, dataitem cur.val (cur.stop - cur.start) = some it ∧
      it.cells = cellsOf (valCell cur.val) 0 (cur.stop - cur.start) := by
  have hsh := hw.shape
  cases hv : cur.val with
  | int w u => rw [hv] at hsh; exact ⟨.num w u, rfl, by rw [← hsh.1 hb]; exact leBytes_cells w u w⟩
  | flt w b => rw [hv] at hsh; exact ⟨.flt w b, rfl, by rw [← hsh.2.2]; exact leBytes_cells w b w⟩
  | addr s o => rw [hv] at hsh; exact ⟨.addr s o, rfl, by rw [hsh.2.2]; exact relCells_eq s o 0 8⟩
  | str w cs =>
    rw [hv] at hsh
    obtain ⟨_, _, hw3, hmod⟩ := hsh
    have hwpos : 0 < w := by omega
    obtain ⟨hr1, hr2⟩ := div_round hwpos hmod
    refine ⟨_, rfl, ?_⟩
    rw [hr1]
    generalize cur.stop - cur.start = n at hr2
    generalize hm : min cs.length (n / w) = m
    have hmn : m * w ≤ n := hr2 ▸ Nat.mul_le_mul_right w (hm ▸ Nat.min_le_right _ _)
    rw [str_cells hwpos, List.length_take, Nat.min_eq_left (hm ▸ Nat.min_le_left _ _), Nat.add_sub_cancel' hmn]
    refine cellsOf_congr fun k _ hk => valCell_str_take ?_
    have : k / w < n / w := (Nat.div_lt_iff_lt_mul hwpos).2 (by omega)
    omega
  | other => rw [hv] at hsh; exact hsh.elim

end CprocVerif.Image

namespace CprocVerif.C07
open CprocVerif.Init CprocVerif.Image

theorem applyEv_nil {size : Nat} {evs : List Ev} (hok : EvsOK [] evs) (hw : ∀ i ∈ adds evs, Wf size i) :
    Forest (evs.foldl applyEv []) ∧ (∀ x ∈ evs.foldl applyEv [], Wf size x) ∧
      InitSim.ImgEq (evs.foldl applyEv []) (evs.map evWrite) := by
  obtain ⟨hf, hcell⟩ := foldl_applyEv (l := []) hok List.Pairwise.nil (fun _ h => by cases h) (fun _ h => by cases h)
  exact ⟨hf, fun x hx => (mem_foldl_applyEv hx).elim (fun h => by cases h) (hw x), hcell⟩

end CprocVerif.C07
