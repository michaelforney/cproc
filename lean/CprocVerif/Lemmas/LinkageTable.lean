import CprocVerif.Lemmas.LinkageAbs

/-! Kernel evaluation of `stepCheck` and `finishCheck` on the representatives of the valid abstract states (one evaluation
per scope of the declared form).  Nothing but the definitions is needed, so this runs beside the lemmas of `Linkage.lean`. -/
namespace CprocVerif.Linkage
open CprocVerif.Link

theorem sim_table (sc : Scope) : ∀ lent, simAll lent sc = true := by
  cases sc <;> decide +kernel

theorem fin_table : ∀ lent, finAll lent = true := by decide +kernel

end CprocVerif.Linkage
