import CprocVerif.Lemmas.DriverFail

/-! C18: one pipeline (`runPipe`) and the whole invocation: under fair schedules `runFrom` is given by
equations (`runFrom_cons`, `runFrom_nil`), `run` by the first failing pipeline or the link step.
Last, the descriptors of `spawnphase`: the invariant `FdInv` of the spawn loop (`fdsAfter_inv`). -/

namespace CprocVerif.DriverFailLemmas
open CprocVerif.DriverFail

/-- fair schedule: `wait()` eventually hands back every child that was started -/
def Fair (ps : PipeScript) : Prop := ∀ i ∈ startedOf ps, ∃ r ∈ ps.reaps, r.stage = i

instance (ps : PipeScript) : Decidable (Fair ps) := by unfold Fair; exact inferInstance

/-- some tool of the pipeline cannot be started, or a started tool terminates with a non-zero
status or by a signal -/
def failsB (ps : PipeScript) : Bool :=
  (List.range ps.n).any (fun j => !ps.ok j) ||
  (startedOf ps).any (fun i => firstStatus ps.reaps i == some .fail)

theorem runPipe_eq (ps : PipeScript) :
    runPipe ps = if (reapAll ps.reaps (spawnLoop ps ps.n 0 initP)).npids = 0
      then some (reapAll ps.reaps (spawnLoop ps ps.n 0 initP)) else none :=
  reapLoop_eq _ (spawned_spec ps).1

theorem verdict_eq_not_failsB (ps : PipeScript) : verdict ps.reaps (spawnLoop ps ps.n 0 initP) = !failsB ps := by
  obtain ⟨_, hl, hs⟩ := spawned_spec ps
  rw [verdict, hl, hs, failsB, Bool.not_or, List.all_eq_not_any_not, List.all_eq_not_any_not]
  congr 3
  funext i
  cases firstStatus ps.reaps i with
  | none => rfl
  | some st => cases st <;> rfl

theorem runPipe_spec {ps : PipeScript} {s : PState} (h : runPipe ps = some s) :
    s.live = [] ∧ s.success = !failsB ps := by
  obtain ⟨hw, hv, _⟩ := reapAll_spec ps.reaps (spawned_spec ps).1
  rw [runPipe_eq] at h
  split at h
  · cases h; exact ⟨live_nil hw ‹_›, hv.trans (verdict_eq_not_failsB ps)⟩
  · cases h

theorem runPipe_fair {ps : PipeScript} (hf : Fair ps) :
    ∃ s, runPipe ps = some s ∧ s.live = [] ∧ s.success = !failsB ps := by
  obtain ⟨hw, _, hl⟩ := reapAll_spec ps.reaps (spawned_spec ps).1
  have hl := hl (show Covers _ _ by rw [Covers, (spawned_spec ps).2.1]; exact hf)
  have h := (runPipe_eq ps).trans (if_pos (by rw [hw.count, hl]; rfl))
  exact ⟨_, h, runPipe_spec h⟩

def stepFiles (sc : Script) (q : Nat) (ps : PipeScript) (f : Files) : Files :=
  if sc.link then { f with temps := f.temps ++ [q] }
  else if ps.created then { f with outputs := f.outputs ++ [q] }
  else f

def filesAfter (sc : Script) : Nat → List PipeScript → Files → Files
  | _, [], f => f
  | q, ps :: r, f => filesAfter sc (q + 1) r (stepFiles sc q ps f)

def OkPipe (ps : PipeScript) : Prop := Fair ps ∧ failsB ps = false

def stepOut (q : Nat) (ps : PipeScript) (o : Outcome) : Outcome :=
  match runPipe ps with
  | some s =>
    { o with started := o.started ++ tag q (startedOf ps)
             signalled := o.signalled ++ tag q s.signalled.reverse
             finished := o.finished ++ tag q s.finished.reverse
             live := o.live ++ tag q s.live }
  | none => o

def outAfter : Nat → List PipeScript → Outcome → Outcome
  | _, [], o => o
  | q, ps :: r, o => outAfter (q + 1) r (stepOut q ps o)

theorem stepOut_fair {ps : PipeScript} (hf : Fair ps) (q : Nat) (o : Outcome) :
    (stepOut q ps o).live = o.live ∧ (stepOut q ps o).linkSpawned = o.linkSpawned := by
  obtain ⟨s, hs, hl, _⟩ := runPipe_fair hf
  simp [stepOut, hs, hl, tag]

theorem runFrom_cons (sc : Script) (q : Nat) {ps : PipeScript} (rest : List PipeScript) (f : Files) (o : Outcome)
    (hf : Fair ps) :
    runFrom sc q (ps :: rest) f o =
      if failsB ps then { stepOut q ps o with exit := some 1, files := ⟨[], f.outputs.filter (· != q)⟩ }
      else runFrom sc (q + 1) rest (stepFiles sc q ps f) (stepOut q ps o) := by
  obtain ⟨s, hs, _, hsucc⟩ := runPipe_fair hf
  simp only [runFrom, stepOut, hs, hsucc, stepFiles, cleanup]
  cases failsB ps <;> cases sc.link <;> cases ps.created <;> rfl

theorem runFrom_nil (sc : Script) (q : Nat) (f : Files) (o : Outcome) :
    runFrom sc q [] f o =
      if sc.link then runLink sc q f o else { o with exit := some 0, files := cleanup f } := by
  rw [runFrom]

theorem outAfter_core : ∀ (pre : List PipeScript) (q : Nat) (o : Outcome), (∀ ps ∈ pre, OkPipe ps) →
    (outAfter q pre o).live = o.live ∧ (outAfter q pre o).linkSpawned = o.linkSpawned
  | [], _, _, _ => ⟨rfl, rfl⟩
  | ps :: pre, q, o, h => by
    obtain ⟨a, b⟩ := outAfter_core pre (q + 1) (stepOut q ps o) fun x hx => h x (List.mem_cons_of_mem _ hx)
    obtain ⟨c, d⟩ := stepOut_fair (h ps List.mem_cons_self).1 q o
    exact ⟨a.trans c, b.trans d⟩

theorem outAfter_empty {pre : List PipeScript} (h : ∀ ps ∈ pre, OkPipe ps) :
    (outAfter 0 pre emptyOutcome).live = [] ∧ (outAfter 0 pre emptyOutcome).linkSpawned = false :=
  outAfter_core pre 0 emptyOutcome h

theorem runFrom_prefix (sc : Script) : ∀ (pre : List PipeScript) (q : Nat) (rest : List PipeScript) (f : Files)
    (o : Outcome), (∀ ps ∈ pre, OkPipe ps) →
    runFrom sc q (pre ++ rest) f o =
      runFrom sc (q + pre.length) rest (filesAfter sc q pre f) (outAfter q pre o)
  | [], _, _, _, _, _ => rfl
  | ps :: pre, q, rest, f, o, h => by
    have hps := h ps List.mem_cons_self
    rw [List.cons_append, runFrom_cons sc q _ f o hps.1, hps.2, if_neg Bool.false_ne_true,
      runFrom_prefix sc pre (q + 1) rest _ _ fun x hx => h x (List.mem_cons_of_mem _ hx), List.length_cons,
      Nat.add_right_comm, Nat.add_assoc]
    rfl

theorem run_prefix {sc : Script} {pre rest : List PipeScript} (h : sc.pipes = pre ++ rest)
    (hpre : ∀ ps ∈ pre, OkPipe ps) :
    run sc = runFrom sc pre.length rest (filesAfter sc 0 pre ⟨[], []⟩) (outAfter 0 pre emptyOutcome) := by
  rw [run, h, runFrom_prefix sc pre 0 rest _ _ hpre, Nat.zero_add]

def createdIdx : Nat → List PipeScript → List Nat
  | _, [] => []
  | q, ps :: r => (if ps.created then [q] else []) ++ createdIdx (q + 1) r

theorem filesAfter_eq (sc : Script) : ∀ (pre : List PipeScript) (q : Nat) (f : Files),
    filesAfter sc q pre f =
      ⟨f.temps ++ (if sc.link then List.range' q pre.length else []),
       f.outputs ++ (if sc.link then [] else createdIdx q pre)⟩
  | [], _, _ => by simp [filesAfter, createdIdx]
  | ps :: pre, q, f => by
    rw [filesAfter, filesAfter_eq sc pre]
    unfold stepFiles
    cases sc.link <;> cases hc : ps.created <;> simp [createdIdx, hc, List.range'_succ]

theorem filesAfter_temps (sc : Script) : ∀ (pre : List PipeScript) (q : Nat) (f : Files),
    (filesAfter sc q pre f).temps = f.temps ++ (if sc.link then List.range' q pre.length else []) :=
  fun pre q f => congrArg Files.temps (filesAfter_eq sc pre q f)

theorem run_all_ok (sc : Script) (hok : ∀ ps ∈ sc.pipes, OkPipe ps) :
    (run sc).exit = some (if sc.link && !(sc.linkSpawnOk && sc.linkStatus == .ok) then 1 else 0) ∧
    (run sc).linkSpawned = (sc.link && sc.linkSpawnOk) ∧ (run sc).files.temps = [] ∧ (run sc).live = [] ∧
    (run sc).files.outputs =
      if sc.link then (if sc.linkSpawnOk && sc.linkCreated then [sc.pipes.length] else []) else createdIdx 0 sc.pipes := by
  obtain ⟨hl, hk⟩ := outAfter_empty hok
  have ho := congrArg Files.outputs (filesAfter_eq sc sc.pipes 0 ⟨[], []⟩)
  rw [run_prefix (List.append_nil _).symm hok, runFrom_nil]
  cases hlk : sc.link with
  | false => simp [cleanup, ho, hl, hk, hlk]
  | true =>
    cases h1 : sc.linkSpawnOk <;> cases h2 : sc.linkStatus <;> cases hc : sc.linkCreated <;>
      simp [runLink, hlk, h1, h2, hc, cleanup, ho, hl, hk]

/-- what stage `i` of an `n`-stage pipeline must hold: the read end of the previous pipe as
stdin and the write end of its own pipe as stdout, nothing else -/
def childSpec (n i : Nat) : List (Nat × End) :=
  (if i = 0 then [] else [(i - 1, End.rd)]) ++ (if i + 1 = n then [] else [(i, End.wr)])

/-- what the driver holds after `k` stages of `n`: only the read end it is about to hand to the
next stage -/
def driverSpec (n k : Nat) : List Fd := if k = 0 ∨ n ≤ k then [] else [⟨k - 1, .rd, true⟩]

structure FdInv (n k : Nat) (s : FdState) : Prop where
  driver : s.driver = driverSpec n k
  cur : k < n → s.cur = (if k = 0 then none else some (k - 1))
  children : s.children = (List.range k).map (childSpec n)

/-- Four cases: whether stage `k` is the first (no read end to hand over: driver and `cur` empty)
and whether it is the last (no new pipe); in each the new driver list, the new `cur` and the new
child are computed outright. -/
theorem spawnphaseFd_inv (n k : Nat) (s : FdState) (hk : k < n) (h : FdInv n k s) :
    FdInv n (k + 1) (spawnphaseFd true k (k + 1 == n) s) := by
  obtain ⟨hd, hc, hch⟩ := h
  have hc := hc hk
  rcases k with _ | j
  · simp only [driverSpec, true_or, if_true] at hd hc
    by_cases hl : 0 + 1 = n
    · subst hl
      exact ⟨by simp [spawnphaseFd, hd, hc, closeCur, driverSpec], fun h => by omega,
        by simp [spawnphaseFd, hd, hc, hch, childFds, childSpec]⟩
    · have hl' : (0 + 1 == n) = false := by simpa using hl
      exact ⟨by simp [spawnphaseFd, hl', hd, hc, closeCur, driverSpec]; omega, fun _ => by simp [spawnphaseFd, hl'],
        by simp [spawnphaseFd, hl', hd, hc, hch, childFds, childSpec, hl]⟩
  · have hd' : s.driver = [⟨j, .rd, true⟩] := by rw [hd, driverSpec, if_neg (by omega)]; rfl
    have hc' : s.cur = some j := by simpa using hc
    by_cases hl : j + 1 + 1 = n
    · subst hl
      exact ⟨by simp [spawnphaseFd, hd', hc', closeCur, driverSpec], fun h => by omega,
        by simp [spawnphaseFd, hd', hc', hch, childFds, childSpec, List.range_succ]⟩
    · have hl' : (j + 1 + 1 == n) = false := by simpa using hl
      exact ⟨by simp [spawnphaseFd, hl', hd', hc', closeCur, driverSpec]; omega, fun _ => by simp [spawnphaseFd, hl'],
        by simp [spawnphaseFd, hl', hd', hc', hch, childFds, childSpec, hl, List.range_succ]⟩

theorem spawnAllFd_inv (n : Nat) : ∀ (fuel k : Nat) (s : FdState), k + fuel ≤ n → FdInv n k s →
    FdInv n (k + fuel) (spawnAllFd true n fuel k s) := by
  intro fuel
  induction fuel with
  | zero => intro k s _ h; simpa [spawnAllFd] using h
  | succ fuel ih =>
    intro k s hle h
    simp only [spawnAllFd]
    have := ih (k + 1) _ (by omega) (spawnphaseFd_inv n k s (by omega) h)
    rw [show k + (fuel + 1) = k + 1 + fuel by omega]
    exact this

theorem fdsAfter_inv (n m : Nat) (h : m ≤ n) : FdInv n m (fdsAfter true n m) := by
  have := spawnAllFd_inv n m 0 { driver := [], cur := none, children := [] } (by omega)
    ⟨by simp [driverSpec], by simp, by simp⟩
  simpa [fdsAfter] using this

end CprocVerif.DriverFailLemmas
