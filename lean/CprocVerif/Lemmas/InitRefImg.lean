import CprocVerif.Lemmas.InitImage
import CprocVerif.Spec.InitRef

/-!
# Image-level lemmas for the refinement `parseinit ⊑ InitRef.ref`

The model logs an `initclear` at every nested `{`; the reference writes zeros only when the
sub-object is "dirty".  Both denote the same image: `ImgEq` (cell by cell, for every cell index)
is the relation the simulation carries.
-/

namespace CprocVerif.InitSim
open CprocVerif.Init CprocVerif.Image CprocVerif.InitRef

def ZeroReg (l : List Init) (off size : Nat) : Prop :=
  ∀ j, off ≤ j → j < off + size → cellFold l j (.byte 0) = .byte 0

theorem ZeroReg.sub {l : List Init} {off size off' size' : Nat} (h : ZeroReg l off size)
    (h1 : off ≤ off') (h2 : off' + size' ≤ off + size) : ZeroReg l off' size' :=
  fun j hj1 hj2 => h j (by omega) (by omega)

theorem ZeroReg.congr {a b : List Init} {off size : Nat} (h : ZeroReg a off size) (e : ImgEq a b) :
    ZeroReg b off size := fun j h1 h2 => by rw [← e j]; exact h j h1 h2

theorem ZeroReg.nil (off size : Nat) : ZeroReg [] off size := fun _ _ _ => rfl

/-- the write of zeros the reference uses -/
def zw (off size : Nat) : Init := ⟨off, off + size, 0, 0, .int size 0⟩

theorem zw_eq (off size : Nat) : zw off size = zeroWrite off (off + size) := by
  unfold zw zeroWrite
  rw [Nat.add_sub_cancel_left]

theorem writeCell_zw (off size j : Nat) (c : Cell) :
    writeCell (zw off size) j c = if off ≤ j ∧ j < off + size then .byte 0 else c := by
  rw [zw_eq, writeCell_zeroWrite]

theorem imgEq_zw_noop {l : List Init} {off size off' size' : Nat} (h : ZeroReg l off size)
    (h1 : off ≤ off') (h2 : off' + size' ≤ off + size) : ImgEq (l ++ [zw off' size']) l := by
  intro j
  rw [cellFold_append, cellFold_cons, cellFold_nil, writeCell_zw]
  split
  · rename_i hj; exact (h j (by omega) (by omega)).symm
  · rfl

theorem zeroReg_of_clean {l : List Init} {off size : Nat} (h : l.any (bitOverlap · off size) = false) :
    ZeroReg l off size := by
  intro j h1 h2
  apply cellFold_untouched
  intro x hx
  have := List.any_eq_false.1 h x hx
  unfold bitOverlap at this
  unfold touches
  simp only [Bool.and_eq_true, decide_eq_true_eq, not_and, Nat.not_lt] at this
  omega

/-- the log after `zeroIfDirty` -/
def zlog (l : List Init) (off size : Nat) : List Init :=
  if l.any (bitOverlap · off size) then l ++ [zw off size] else l

theorem zeroIfDirty_facts (st : RSt) (off size depth : Nat) :
    (zeroIfDirty st off size depth).log = zlog st.log off size ∧
      (zeroIfDirty st off size depth).nswitch = st.nswitch ∧ (zeroIfDirty st off size depth).top = st.top := by
  unfold zeroIfDirty zlog
  split <;> exact ⟨rfl, rfl, rfl⟩

/-- `zeroIfDirty` skips the write of zeros only where it would change nothing -/
theorem zlog_imgEq (l : List Init) (off size : Nat) : ImgEq (zlog l off size) (l ++ [zw off size]) := by
  unfold zlog
  split
  · exact .refl _
  · rename_i h
    exact (imgEq_zw_noop (zeroReg_of_clean (by simpa using h)) (Nat.le_refl _) (Nat.le_refl _)).symm

theorem zeroReg_zlog (l : List Init) (off size : Nat) : ZeroReg (zlog l off size) off size :=
  ZeroReg.congr (fun j h1 h2 => by rw [cellFold_append, cellFold_cons, cellFold_nil, writeCell_zw, if_pos ⟨h1, h2⟩])
    (zlog_imgEq l off size).symm

/-- `initclear` in the model against `zeroIfDirty` in the reference -/
theorem imgEq_clear_zlog {m r : List Init} (h : ImgEq m r) (off size : Nat) :
    ImgEq (m ++ [zw off size]) (zlog r off size) :=
  (h.snoc _).trans (zlog_imgEq r off size).symm

theorem imgEq_zlog_noop {l : List Init} {off size off' size' : Nat} (h : ZeroReg l off size)
    (h1 : off ≤ off') (h2 : off' + size' ≤ off + size) : ImgEq (zlog l off' size') l :=
  (zlog_imgEq l off' size').trans (imgEq_zw_noop h h1 h2)

theorem map_evWrite_append (l : List Ev) (e : Ev) : (l ++ [e]).map evWrite = l.map evWrite ++ [evWrite e] := by
  rw [List.map_append]; rfl

theorem evWrite_clear (off size : Nat) : evWrite (.clear off (off + size)) = zw off size := by
  rw [zw_eq]; rfl

end CprocVerif.InitSim
