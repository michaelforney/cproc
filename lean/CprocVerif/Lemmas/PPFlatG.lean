import CprocVerif.Lemmas.PPSubst
import CprocVerif.Lemmas.PPObjSim
import CprocVerif.Lemmas.PPFuel

/-! # `ctxnext` against an annotated view of the context stack

`flatG g` is `flat` with every token annotated by a function of the names of the macros that have a frame at or below
the token's frame (`g (liveNames …)`): with `g` = "make a reference token with this hide set" it is the abstraction of
the stack used in the simulation.  `rawnext_flatG` says what `rawnext` does to `flatG g` for every `g` at once: all
three developments read their `rawnext` off it. -/

namespace CprocVerif.PP
open CprocVerif.Gen.TokenKinds

section
variable {β : Type} (g : List Name → Tok → β)

def flatG (ms : List Macro) : List Frame → List β
  | [] => []
  | f :: rest => (frameToks ms f).map (g (liveNames (f :: rest))) ++ flatG ms rest

theorem flatG_setHide (ms : List Macro) (n : Name) (b : Bool) (ctx : List Frame) :
    flatG g (setHide ms n b) ctx = flatG g ms ctx := by
  induction ctx with
  | nil => rfl
  | cons f r ih => simp only [flatG, frameToks_setHide, ih]

theorem flatG_comp {γ : Type} (φ : β → γ) (ms : List Macro) :
    ∀ ctx : List Frame, flatG (fun L t => φ (g L t)) ms ctx = (flatG g ms ctx).map φ
  | [] => rfl
  | f :: rest => by simp only [flatG, flatG_comp φ ms rest, List.map_append, List.map_map]; rfl

theorem flat_eq_flatG (ms : List Macro) : ∀ ctx : List Frame, flat ms ctx = flatG (fun _ t => t) ms ctx
  | [] => rfl
  | f :: rest => by rw [flat, flatG, List.map_id', flat_eq_flatG ms rest]

theorem flat_setHide (ms : List Macro) (n : Name) (b : Bool) (ctx : List Frame) :
    flat (setHide ms n b) ctx = flat ms ctx := by
  rw [flat_eq_flatG, flat_eq_flatG, flatG_setHide]

theorem flatG_push {ms : List Macro} {m : Macro} (toks : List Tok) (ctx : List Frame)
    (hm : macroget ms m.name = some m) (hf : m.func = false) :
    flatG g (setHide ms m.name true) (⟨toks, some m.name⟩ :: ctx) =
      toks.map (g (m.name :: liveNames ctx)) ++ flatG g ms ctx := by
  have hfr : frameToks ms ⟨toks, some m.name⟩ = toks := by
    simp only [frameToks, Option.bind_some, hm, hf, Bool.false_eq_true, ↓reduceIte]
  simp only [flatG, flatG_setHide, frameToks_setHide, hfr, liveNames_cons_some ⟨toks, some m.name⟩ ctx m.name rfl]

theorem popDone_flatG (ctx : List Frame) (ms : List Macro) (d : Nat) :
    flatG g (popDone ctx ms d).2.1 (popDone ctx ms d).1 = flatG g ms ctx ∧
    ctxSize (popDone ctx ms d).1 = ctxSize ctx ∧
    (CtxWF ms ctx → CtxWF (popDone ctx ms d).2.1 (popDone ctx ms d).1) := by
  have hfl : ∀ ms' f rest, f.toks = [] → flatG g ms' (f :: rest) = flatG g ms' rest := fun ms' f rest he => by
    rw [flatG, frameToks_nil ms' f he]; rfl
  have hsz : ∀ f rest, f.toks = [] → ctxSize (f :: rest) = ctxSize rest := fun f rest he => by
    rw [ctxSize_cons, he]; exact Nat.zero_add _
  refine popDone_rec
    (motive := fun c ms' _ => flatG g ms' c = flatG g ms ctx ∧ ctxSize c = ctxSize ctx ∧ (CtxWF ms ctx → CtxWF ms' c))
    (fun he _ h => ⟨?_, ?_, fun hw => ?_⟩) (fun he _ h => ⟨?_, ?_, fun hw => ?_⟩) ctx ms d ⟨rfl, rfl, id⟩
  · rw [flatG_setHide, ← hfl _ _ _ he, h.1]
  · rw [← hsz _ _ he, h.2.1]
  · exact ctxWF_setHide _ false fun x hx => h.2.2 hw x (List.mem_cons_of_mem _ hx)
  · rw [← hfl _ _ _ he, h.1]
  · rw [← hsz _ _ he, h.2.1]
  · exact fun x hx => h.2.2 hw x (List.mem_cons_of_mem _ hx)

/-- everything of a macro but its `hide` flag -/
def strip (m : Macro) : Name × Bool × List Param × List Arg × List Tok := (m.name, m.func, m.params, m.args, m.body)

theorem strip_setHide (ms : List Macro) (n : Name) (b : Bool) : (setHide ms n b).map strip = ms.map strip :=
  map_setHide strip (fun _ _ => rfl) ms n b

theorem popDone_strip (ctx : List Frame) (ms : List Macro) (d : Nat) : (popDone ctx ms d).2.1.map strip = ms.map strip :=
  popDone_map strip (fun _ _ => rfl) ctx ms d

/-- what `ctxnext` leaves alone, in a form that composes along its `goto again` -/
structure Kept (st s : St) : Prop where
  raw : s.raw = st.raw
  wf : CtxWF s.macros s.ctx
  ppnl : s.ppnl = st.ppnl
  prag : s.prag = st.prag
  strip : s.macros.map strip = st.macros.map strip
  inv : InvC st.ctx st.macros st.depth → InvC s.ctx s.macros s.depth

/-- what one pass of `ctxnext` (from the label `again:`) does to `flatG g` -/
inductive StepSpecG (st : St) : CtxStep → Prop where
  | none (s : St) (hk : Kept st s) (h1 : s.rb = false) (h2 : s.ctx = []) (h3 : flatG g st.macros st.ctx = []) :
      StepSpecG st (.done (.ok s))
  | some (s : St) (hk : Kept st s) (h1 : s.rb = true)
      (h2 : flatG g st.macros st.ctx = g (liveNames s.ctx) s.rt :: flatG g s.macros s.ctx) :
      StepSpecG st (.done (.ok s))
  | again (s : St) (hk : Kept st s) (h1 : flatG g st.macros st.ctx = flatG g s.macros s.ctx)
      (h2 : ctxSize s.ctx < ctxSize st.ctx) (h3 : ¬ ObjOnly st.macros) : StepSpecG st (.again s)

theorem ctxnextStep_specG (st : St) (hW : CtxWF st.macros st.ctx) : StepSpecG g st (ctxnextStep st) := by
  obtain ⟨hfl, hsz, hW'⟩ := popDone_flatG g st.ctx st.macros st.depth
  replace hW' := hW' hW
  have hne := popDone_top st.ctx st.macros st.depth
  have hst := popDone_strip st.ctx st.macros st.depth
  have hin := fun h => (popDone_inv st.ctx st.macros st.depth h).1
  have hob := fun h => popDone_objOnly st.ctx st.macros st.depth h
  unfold ctxnextStep
  generalize popDone st.ctx st.macros st.depth = p at *
  obtain ⟨c', ms', d'⟩ := p
  dsimp only at *
  -- every state a pass can leave
  have kept : ∀ (c : List Frame) (b : Bool) (t : Tok) (ev : List Event), liveNames c = liveNames c' → CtxWF ms' c →
      Kept st { st with ctx := c, macros := ms', depth := d', rb := b, rt := t, events := ev } :=
    fun c b t ev hl hw => ⟨rfl, hw, rfl, rfl, hst, fun hi => invC_of_liveNames (hin hi) hl⟩
  cases c' with
  | nil => exact .none _ (kept [] false st.rt st.events rfl (fun _ h => nomatch h)) rfl rfl (by rw [← hfl]; rfl)
  | cons f rest =>
    dsimp only
    have hlv : ∀ toks', liveNames ({ f with toks := toks' } :: rest) = liveNames (f :: rest) :=
      fun _ => liveNames_settoks f _ rest
    have hlvn : ∀ as toks', liveNames (⟨as, none⟩ :: { f with toks := toks' } :: rest) = liveNames (f :: rest) :=
      fun _ _ => (liveNames_cons_none _ _ rfl).trans (hlv _)
    cases htoks : f.toks with
    | nil => exact absurd htoks (hne f rest rfl)
    | cons t more =>
      have hwf : ∀ toks', (∀ m, f.mac.bind (macroget ms') = some m → m.func = true → HashFollowed m.params toks') →
          CtxWF ms' ({ f with toks := toks' } :: rest) := by
        intro toks' h x hx
        rcases List.mem_cons.mp hx with rfl | hx
        · exact h
        · exact hW' x (List.mem_cons_of_mem _ hx)
      -- on top of it the frame of an argument or of a string
      have hwfn : ∀ as toks', CtxWF ms' ({ f with toks := toks' } :: rest) →
          CtxWF ms' (⟨as, none⟩ :: { f with toks := toks' } :: rest) := by
        intro as toks' h x hx
        rcases List.mem_cons.mp hx with rfl | hx
        · intro m hm; cases hm
        · exact h x hx
      have hflat : flatG g st.macros st.ctx =
          (frameToks ms' f).map (g (liveNames (f :: rest))) ++ flatG g ms' rest := hfl.symm
      have plain : frameToks ms' f = t :: frameToks ms' { f with toks := more } →
          (∀ m, f.mac.bind (macroget ms') = some m → m.func = true → HashFollowed m.params more) →
          StepSpecG g st (.done (.ok { st with ctx := { f with toks := more } :: rest, macros := ms', depth := d',
                                               rb := true, rt := t })) :=
        fun hft hhf => .some _ (kept _ _ _ _ (hlv more) (hwf more hhf)) rfl (by
          rw [hflat, hft]; simp only [flatG, hlv, List.map_cons, List.cons_append])
      cases hm : f.mac.bind (macroget ms') with
      | none => exact plain (by simp only [frameToks, hm, htoks]) (fun m h => by rw [hm] at h; cases h)
      | some m =>
        dsimp only
        by_cases hfun : m.func = true
        · have hHF : HashFollowed m.params (t :: more) := htoks ▸ hW' f (List.mem_cons_self ..) m hm hfun
          have hft : ∀ toks', frameToks ms' { f with toks := toks' } = substBody m toks' :=
            fun _ => by simp only [frameToks, hm, hfun, ↓reduceIte]
          have hft0 : frameToks ms' f = substBody m (t :: more) := by rw [← htoks]; exact hft f.toks
          have hhf : ∀ toks', HashFollowed m.params toks' → ∀ m', f.mac.bind (macroget ms') = some m' →
              m'.func = true → HashFollowed m'.params toks' :=
            fun _ h m' hm' _ => by rw [hm] at hm'; cases hm'; exact h
          rw [if_neg (not_not_intro hfun)]
          by_cases hh : t.kind = .THASH
          · rw [if_pos hh]
            cases more with
            | nil => unfold HashFollowed at hHF; exact absurd hh hHF
            | cons t2 more2 =>
              unfold HashFollowed at hHF
              rw [if_pos hh] at hHF
              dsimp only
              cases hp : macroparam m.params t2 with
              | none => rw [hp] at hHF; cases hHF.1
              | some i =>
                refine .some _ (kept _ _ _ _ (hlvn _ _) (hwfn _ _ (hwf more2 (hhf _ hHF.2)))) rfl ?_
                rw [hflat, hft0, substBody_hash m t t2 more2 i hh hp]
                simp only [flatG, hlvn, hlv, frameToks_none, hft, List.map_nil, List.map_cons, List.nil_append,
                  List.cons_append]
          · rw [if_neg hh]
            have hHFm := hhf more (hashFollowed_tail hHF hh)
            by_cases hk : t.kind = .TIDENT
            · rw [if_pos hk]
              cases hp : macroparam m.params t with
              | none => exact plain (by rw [hft0, hft, substBody_plain m t more hh (fun _ => hp)]) hHFm
              | some i =>
                dsimp only
                have hsub := substBody_param m t more i hk hp
                cases ha : (m.args.getD i default).toks with
                | nil =>
                  dsimp only
                  rw [ha] at hsub
                  have h1 : flatG g st.macros st.ctx = flatG g ms' ({ f with toks := more } :: rest) := by
                    rw [hflat, hft0, hsub]; simp only [respace, List.nil_append, flatG, hlv, hft]
                  have h2 : ctxSize ({ f with toks := more } :: rest) < ctxSize st.ctx := by
                    rw [← hsz, ctxSize_cons, ctxSize_cons, htoks]; exact Nat.add_lt_add_right (Nat.lt_succ_self _) _
                  -- only the empty argument of a function-like macro sends `ctxnext` round again
                  have h3 : ¬ ObjOnly st.macros := fun ho => by
                    have ⟨n, _, hn⟩ := Option.bind_eq_some_iff.mp hm
                    have := hob ho m (macroget_mem hn).1
                    rw [hfun] at this; cases this
                  split <;> exact .again _ (kept _ _ _ _ (hlv more) (hwf more hHFm)) h1 h2 h3
                | cons a as =>
                  dsimp only
                  rw [ha] at hsub
                  refine .some _ (kept _ _ _ _ (hlvn _ _) (hwfn _ _ (hwf more hHFm))) rfl ?_
                  rw [hflat, hft0, hsub]
                  simp only [respace, flatG, hlvn, hlv, frameToks_none, hft, List.map_cons, List.map_append,
                    List.cons_append, List.append_assoc]
            · rw [if_neg hk]
              exact plain (by rw [hft0, hft, substBody_plain m t more hh (fun h => absurd h hk)]) hHFm
        · rw [if_pos hfun]
          exact plain (by simp only [frameToks, hm, hfun, htoks]; rfl)
            (fun m' h hf' => by rw [hm] at h; cases h; exact absurd hf' hfun)

/-- Fuel: a unit for every `goto again`; there are at most as many as tokens on the stack, and none on a table of
object-like macros (only an empty argument causes one) -/
theorem ctxnext_flatG : ∀ (k : Nat) (st : St), (ctxSize st.ctx ≤ k ∨ ObjOnly st.macros) → CtxWF st.macros st.ctx →
    ∃ s, exec (k + 1) .ctxnext st = .ok s ∧ s.raw = st.raw ∧ CtxWF s.macros s.ctx ∧ (s.ppnl = st.ppnl ∧ s.prag = st.prag) ∧
      s.macros.map strip = st.macros.map strip ∧
      (InvC st.ctx st.macros st.depth → InvC s.ctx s.macros s.depth) ∧
      ((s.rb = false ∧ s.ctx = [] ∧ flatG g st.macros st.ctx = []) ∨
       (s.rb = true ∧ flatG g st.macros st.ctx = g (liveNames s.ctx) s.rt :: flatG g s.macros s.ctx)) := by
  intro k
  induction k using Nat.strongRecOn with
  | _ k ih =>
    intro st hk hW
    have hs := ctxnextStep_specG g st hW
    show ∃ s, ctxnextBody (exec k) st = .ok s ∧ _
    unfold ctxnextBody
    generalize ctxnextStep st = cs at hs
    cases hs with
    | none s hk h1 h2 h3 => exact ⟨s, rfl, hk.raw, hk.wf, ⟨hk.ppnl, hk.prag⟩, hk.strip, hk.inv, .inl ⟨h1, h2, h3⟩⟩
    | some s hk h1 h2 => exact ⟨s, rfl, hk.raw, hk.wf, ⟨hk.ppnl, hk.prag⟩, hk.strip, hk.inv, .inr ⟨h1, h2⟩⟩
    | again s hk' h1 h2 h3 =>
      -- the `goto again`: an empty argument was skipped, the stack holds fewer tokens
      match k, hk.resolve_right h3 with
      | 0, hk => omega
      | k + 1, hk =>
        obtain ⟨s', he, hr, hw, hp, hst, hinv, hc⟩ := ih k (Nat.lt_succ_self _) s (.inl (by omega)) hk'.wf
        exact ⟨s', he, hr.trans hk'.raw, hw, ⟨hp.1.trans hk'.ppnl, hp.2.trans hk'.prag⟩, hst.trans hk'.strip,
          fun hi => hinv (hk'.inv hi), h1 ▸ hc⟩

end

theorem ctxnext_flat (k : Nat) (st : St) (hk : ctxSize st.ctx ≤ k) (hW : CtxWF st.macros st.ctx) :
    ∃ s, exec (k + 1) .ctxnext st = .ok s ∧ s.raw = st.raw ∧ CtxWF s.macros s.ctx ∧
      ((s.rb = false ∧ s.ctx = [] ∧ flat st.macros st.ctx = []) ∨
       (s.rb = true ∧ flat st.macros st.ctx = s.rt :: flat s.macros s.ctx)) := by
  obtain ⟨s, he, hr, hw, _, _, _, hc⟩ := ctxnext_flatG (fun _ t => t) k st (.inl hk) hW
  simp only [← flat_eq_flatG] at hc
  exact ⟨s, he, hr, hw, hc⟩

theorem rawnext_flatG (k : Nat) (st : St) (hk : ctxSize st.ctx ≤ k ∨ ObjOnly st.macros) (hwf : CtxWF st.macros st.ctx)
    (ht : ∀ t r, st.raw = t :: r → t.kind ≠ .TNONE ∧ t.kind ≠ .THASH) :
    ∃ s1, exec (k + 2) .rawnext st = .ok s1 ∧
    CtxWF s1.macros s1.ctx ∧ (s1.ppnl = st.ppnl ∧ s1.prag = st.prag) ∧ s1.macros.map strip = st.macros.map strip ∧
    (InvC st.ctx st.macros st.depth → InvC s1.ctx s1.macros s1.depth) ∧
    ((s1.rb = true ∧ s1.raw = st.raw ∧ ∀ {β : Type} (g : List Name → Tok → β),
        flatG g st.macros st.ctx = g (liveNames s1.ctx) s1.rt :: flatG g s1.macros s1.ctx) ∨
     (s1.ctx = [] ∧ (∀ {β : Type} (g : List Name → Tok → β), flatG g st.macros st.ctx = []) ∧
        (st.raw = s1.rt :: s1.raw ∨ (s1.rt = eofTok ∧ st.raw = [] ∧ s1.raw = [])))) := by
  -- `ctxnext` against the stack annotated with pairs: every other annotation is a map of this one
  obtain ⟨sc, hc, hraw, hwf', hpp, hstrip, hinv, hcase⟩ := ctxnext_flatG (fun L t => (L, t)) k st hk hwf
  have all : ∀ {β : Type} (g : List Name → Tok → β) (ms : List Macro) (ctx : List Frame),
      flatG g ms ctx = (flatG (fun L t => (L, t)) ms ctx).map (fun p => g p.1 p.2) :=
    fun g => flatG_comp (fun L t => (L, t)) (fun p => g p.1 p.2)
  show ∃ s1, rawnextBody (exec (k + 1)) st = .ok s1 ∧ _
  unfold rawnextBody
  rw [hc]
  rcases hcase with ⟨hrb, hctx, hfl⟩ | ⟨hrb, hfl⟩
  · simp only [hrb, Bool.false_eq_true, ↓reduceIte]
    have hnil : ∀ {β : Type} (g : List Name → Tok → β), flatG g st.macros st.ctx = [] :=
      fun g => by rw [all g, hfl]; rfl
    cases hr : sc.raw with
    | nil =>
      exact ⟨_, nextinto_eof _ sc hr, hwf', hpp, hstrip, hinv, .inr ⟨hctx, hnil, .inr ⟨rfl, hraw ▸ hr, hr⟩⟩⟩
    | cons t r =>
      have ht' := ht t r (hraw ▸ hr)
      exact ⟨_, nextinto_tok _ sc t r hr ht'.1 ht'.2, hwf', hpp, hstrip, hinv, .inr ⟨hctx, hnil, .inl (hraw ▸ hr)⟩⟩
  · simp only [hrb, ↓reduceIte]
    exact ⟨sc, rfl, hwf', hpp, hstrip, hinv, .inl ⟨hrb, hraw, fun g => by rw [all g, hfl, all g sc.macros]; rfl⟩⟩

end CprocVerif.PP
