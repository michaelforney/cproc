import CprocVerif.Lemmas.LinkageLabel
import CprocVerif.Lemmas.LinkageTable

/-! What a successful check says (`stepCheck_sound`), and the two evaluated tables of `LinkageTable.lean`
as statements about every pair of aggregates and scope entries in the relation `related`. -/
namespace CprocVerif.Linkage
open CprocVerif.Link

theorem stepCheck_sound {a : Agg} {file top : Option Ent} {f : Form} (hr : related a file top = true)
    (h : stepCheck f a (viewOf file top f.scope) file.isNone = true) : StepOK f a file top := by
  unfold stepCheck at h
  refine ⟨fun hj => ?_, fun hm => ?_⟩
  · simp only [hj] at h
    unfold Accepts
    split <;> rename_i hd <;> simp only [hd, if_true, Bool.false_eq_true, if_false] at h
    · exact h
    · cases hdec : declare (viewOf file top f.scope) f with
      | error e => rw [hdec] at h; cases h
      | ok e =>
        rw [hdec] at h
        simp only [Bool.and_eq_true] at h
        obtain ⟨⟨he, hL⟩, h⟩ := h
        refine ⟨e, rfl, ?_⟩
        by_cases hs : f.scope = .file
        · simp only [hs, if_true, Bool.and_eq_true] at h ⊢
          exact ⟨by simp only [related, hL, h.1.1, h.1.2, Bool.and_self], he, h.2⟩
        · simp only [hs, if_false, Bool.and_eq_true] at h ⊢
          obtain ⟨hrel, hemit⟩ := related_frame (d := ⟨f, c11Link f (a.visLink f)⟩)
            (by simp [Decl.atFile, hs]) hr hL h.1.1 h.1.2
          refine ⟨hrel, he, ?_⟩
          have hn := h.2
          unfold emitOK
          split
          · simp [hemit]
          · rename_i hl
            rcases hem : e.emit with _ | p
            · simp [hemit]
            · simp [hem, hl] at hn
  · cases hj : judgeA f a <;> rw [hj] at h hm <;> first | cases hm | simpa [hm] using h

theorem sim_all {a : Agg} {file top : Option Ent} (f : Form) (hr : related a file top = true)
    (hf : localViol f = false) : StepOK f a file top := by
  obtain ⟨hv, ha⟩ := related_elim hr
  have hf0 : localViol f.unl = false := by
    rcases f with ⟨k, sc, fl, s, hd, as⟩
    simp only [localViol, Bool.or_eq_false_iff, decide_eq_false_iff_not] at hf ⊢
    exact ⟨⟨⟨hf.1.1.1, by simp [Form.unl]⟩, hf.1.2⟩, hf.2⟩
  exact sim_label hr hf (stepCheck_sound (f := f.unl) hr (ha ▸ simAll_spec (sim_table _ _) hv hf0 rfl))

theorem fin_all {a : Agg} {file top : Option Ent} (hr : related a file top = true) :
    finishCheck a file = true := by
  obtain ⟨hv, ha⟩ := related_elim hr
  rw [ha]
  exact finAll_spec (fin_table _) hv

end CprocVerif.Linkage
