import CprocVerif.Spec.MacroRef
import CprocVerif.Model.PP

/-! # Object-like macro sets: the reference's side

One unit of fuel of `expandH` on a table of object-like macros (`expandH_step`), and the reference does
not look at white space there (`expandH_erase`). -/

namespace CprocVerif.PP
open CprocVerif.Gen.TokenKinds
open CprocVerif.Spec.MacroRef (HTok Item PTok MacroDef RErr Flag expandH hsadd union pendItems lookup)
open CprocVerif.Spec

def outKeys (o : List HTok × Option RErr × List Flag) : List (Kind × Option Name) × Option RErr :=
  (o.1.map (·.tok.key), o.2.1)

theorem outKeys_flag (c : Bool) (x : Flag) (o : List HTok × Option RErr × List Flag) :
    outKeys (if c = true then (o.1, o.2.1, x :: o.2.2) else o) = outKeys o := by
  split <;> rfl

def consKey (k : Kind × Option Name) (o : List (Kind × Option Name) × Option RErr) :
    List (Kind × Option Name) × Option RErr := (k :: o.1, o.2)

/-- the source after a name with white-space flag `sp` in front of `rest` has been replaced by the replacement list `b`:
the first token of `b` takes the flag, or the first token of `rest` if `b` is empty (every replacing arm of `expandH`) -/
def pushFront (b : List HTok) (sp : Bool) (rest : List Item) : List Item :=
  (MacroRef.respace b sp).1.map .tok ++ pendItems (MacroRef.respace b sp).2 rest

theorem pendItems_false (l : List Item) : pendItems false l = l := by
  unfold pendItems
  split
  · simp [MacroRef.pend]
  · rfl

theorem pushFront_ne {b : List HTok} (sp : Bool) (rest : List Item) (h : b ≠ []) :
    pushFront b sp rest = (MacroRef.respace b sp).1.map .tok ++ rest := by
  cases b with
  | nil => exact absurd rfl h
  | cons t r => exact congrArg (_ ++ ·) (pendItems_false rest)

/-- the source after the name `T` has been replaced by the replacement list of the object-like macro `m` -/
def replaced (m : MacroDef) (T : HTok) (rest : List Item) : List Item :=
  pushFront (hsadd (union T.hs [m.name]) (m.body.map fun t => ⟨t, [], false⟩)) T.tok.space rest

theorem expandH_step (tbl : List MacroDef) (hobj : ∀ m ∈ tbl, m.func = false) (K : Nat) (T : HTok)
    (rest : List Item) :
    outKeys (expandH false (K + 1) tbl (.tok T :: rest)) =
      if T.tok.kind ≠ .TIDENT ∨ T.painted = true then consKey T.tok.key (outKeys (expandH false K tbl rest))
      else match lookup tbl (T.tok.lit.getD []) with
        | none => consKey T.tok.key (outKeys (expandH false K tbl rest))
        | some m =>
          if T.hs.contains m.name then consKey T.tok.key (outKeys (expandH false K tbl rest))
          else outKeys (expandH false K tbl (replaced m T rest)) := by
  rw [expandH]
  by_cases hk : T.tok.kind ≠ .TIDENT ∨ T.painted = true
  · rw [if_pos hk, if_pos hk]; rfl
  · rw [if_neg hk, if_neg hk]
    cases hl : lookup tbl (T.tok.lit.getD []) with
    | none => rfl
    | some m =>
      have hf : m.func = false := hobj m (List.mem_of_find?_eq_some hl)
      simp only [hf, Bool.false_and, Bool.false_eq_true, ↓reduceIte, not_false_eq_true]
      by_cases hc : T.hs.contains m.name = true
      · rw [if_pos hc, if_pos hc]; rfl
      · rw [if_neg hc, if_neg hc]; exact outKeys_flag _ _ _

def eraseT (t : HTok) : HTok := { t with tok := { t.tok with space := false } }

/-- a replacement list `b` put in front of a source of tokens is a source of tokens, `b ++ r` up to white space -/
theorem front_tok (b : List HTok) (sp : Bool) (r : List HTok) :
    ∃ q : List HTok, pushFront b sp (r.map .tok) = q.map .tok ∧ q.map eraseT = b.map eraseT ++ r.map eraseT := by
  have hb : (MacroRef.respace b sp).1.map eraseT = b.map eraseT := by cases b <;> rfl
  cases r with
  | nil => exact ⟨(MacroRef.respace b sp).1, by simp [pushFront, pendItems], by simp [hb]⟩
  | cons t r =>
    refine ⟨(MacroRef.respace b sp).1 ++ MacroRef.pend (MacroRef.respace b sp).2 t :: r, by simp [pushFront, pendItems], ?_⟩
    rw [List.map_append, hb, List.map_cons, List.map_cons]
    unfold MacroRef.pend
    split <;> rfl

/-- white space only reaches the reference's output through `#` -/
theorem expandH_erase (tbl : List MacroDef) (hobj : ∀ m ∈ tbl, m.func = false) :
    ∀ (K : Nat) (l l' : List HTok), l.map eraseT = l'.map eraseT →
      outKeys (expandH false K tbl (l.map .tok)) = outKeys (expandH false K tbl (l'.map .tok)) := by
  intro K
  induction K with
  | zero => intros; rfl
  | succ K ih =>
    intro l l' he
    cases l with
    | nil => cases l' with
      | nil => rfl
      | cons _ _ => cases he
    | cons T r => cases l' with
      | nil => cases he
      | cons T' r' =>
      rw [List.map_cons, List.map_cons, List.cons.injEq] at he
      obtain ⟨hT, hr⟩ := he
      -- `T` and `T'` differ in `space` only, and that is only passed on into the replaced source
      obtain ⟨⟨k, lit, s⟩, hs, p⟩ := T
      obtain ⟨⟨k', lit', s'⟩, hs', p'⟩ := T'
      simp only [eraseT, HTok.mk.injEq, PTok.mk.injEq, and_true] at hT
      obtain ⟨⟨rfl, rfl⟩, rfl, rfl⟩ := hT
      have hrepl (b : List HTok) : outKeys (expandH false K tbl (pushFront b s (r.map .tok))) =
          outKeys (expandH false K tbl (pushFront b s' (r'.map .tok))) := by
        obtain ⟨q, hq, hqe⟩ := front_tok b s r
        obtain ⟨q', hq', hqe'⟩ := front_tok b s' r'
        rw [hq, hq']
        exact ih q q' (by rw [hqe, hqe', hr])
      rw [List.map_cons, List.map_cons, expandH_step tbl hobj, expandH_step tbl hobj, ih r r' hr]
      simp only [replaced, hrepl]
      rfl

end CprocVerif.PP
