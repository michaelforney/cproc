import CprocVerif.Model.Init

/-!
# `initadd`: the sorted list of `init.c`

`Laminar` is the hypothesis on the sequence of initialisers, `Forest` the invariant of the list.  `initaddGo_spec` cuts the
list in three around `new`: from it `forest_initadd` here and the image equation `cellFold_initadd` in `Lemmas/InitImage.lean`.
-/

namespace CprocVerif.Init

def Disj (a b : Init) : Prop := a.hi ≤ b.lo ∨ b.hi ≤ a.lo
def Inside (a b : Init) : Prop := b.lo ≤ a.lo ∧ a.hi ≤ b.hi
def SameRange (a b : Init) : Prop := a.lo = b.lo ∧ a.hi = b.hi

def strW : Val → Option Nat
  | .str w _ => some w
  | _ => none

/-- `b` initialises exactly one element of the string `a` (the only nesting `emitdata` supports:
its two `assert`s and the `switch` on the element size). -/
def PatchOK (a b : Init) : Prop :=
  ∃ w, strW a.val = some w ∧ (w = 1 ∨ w = 2 ∨ w = 4) ∧ (∃ w' u, b.val = .int w' u) ∧
    a.before = 0 ∧ a.after = 0 ∧ b.before = 0 ∧ b.after = 0 ∧ b.stop = b.start + w ∧
    a.start ≤ b.start ∧ b.stop ≤ a.stop ∧ (b.start - a.start) % w = 0

/-- `a` is the earlier initialiser, `b` the later one.  Anything else — partial overlap, a scalar
nested in a scalar — needs sub-members of different union members; it is the case the XXX comment
in `emitdata` talks about. -/
def Lam (a b : Init) : Prop := Disj a b ∨ Inside a b ∨ (Inside b a ∧ PatchOK a b)

def Laminar (l : List Init) : Prop := l.Pairwise Lam

def ListOrd (a b : Init) : Prop :=
  a.lo ≤ b.lo ∧ (a.hi ≤ b.lo ∨ (b.hi ≤ a.hi ∧ ¬ SameRange a b ∧ PatchOK a b))

/-- The invariant of the list that `initadd` maintains. -/
def Forest (l : List Init) : Prop := l.Pairwise ListOrd

def NonEmpty (i : Init) : Prop := i.lo < i.hi

theorem initaddGo_sublist (new : Init) (l : List Init) :
    ((initaddGo new l).1 ++ (initaddGo new l).2).Sublist l := by
  induction l with
  | nil => simp [initaddGo]
  | cons old rest ih =>
    unfold initaddGo
    split
    · simpa using ih.cons_cons old
    · split
      · simp
      · split
        · simp only [List.nil_append]
          exact ((List.dropWhile_sublist _).cons old)
        · simpa using ih.cons_cons old

theorem mem_initadd {new x : Init} {l : List Init} (h : x ∈ initadd l new) : x = new ∨ x ∈ l := by
  unfold initadd at h
  rw [List.mem_append, List.mem_cons] at h
  rcases h with h | h | h
  · exact .inr ((initaddGo_sublist new l).subset (List.mem_append_left _ h))
  · exact .inl h
  · exact .inr ((initaddGo_sublist new l).subset (List.mem_append_right _ h))

/-- The `do … while` loop of `initadd`. -/
theorem dropWhile_after {hi : Nat} {rest : List Init} (hs : rest.Pairwise (fun a b => a.lo ≤ b.lo))
    (hr : ∀ x ∈ rest, x.hi ≤ hi ∨ hi ≤ x.lo) :
    ∀ b ∈ rest.dropWhile (fun o => decide (o.hi ≤ hi)), hi ≤ b.lo := by
  induction rest with
  | nil => simp
  | cons x xs ih =>
    rw [List.pairwise_cons] at hs
    obtain ⟨hrx, hrs⟩ := List.forall_mem_cons.1 hr
    rw [List.dropWhile_cons]
    split
    · exact ih hs.2 hrs
    · rename_i hx
      have hx1 : hi ≤ x.lo := hrx.resolve_left (by simpa using hx)
      exact List.forall_mem_cons.2 ⟨hx1, fun b hb => Nat.le_trans hx1 (hs.1 b hb)⟩

theorem initaddGo_spec {new : Init} {l : List Init} (hf : Forest l)
    (hl : ∀ o ∈ l, Lam o new ∧ NonEmpty o) :
    ∃ rem, l = (initaddGo new l).1 ++ (rem ++ (initaddGo new l).2) ∧
      (∀ a ∈ (initaddGo new l).1, ListOrd a new) ∧ (∀ x ∈ rem, Inside x new) ∧
      ∀ b ∈ (initaddGo new l).2, new.hi ≤ b.lo := by
  induction l with
  | nil => exact ⟨[], rfl, by simp [initaddGo], by simp, by simp [initaddGo]⟩
  | cons old rest ih =>
    have hf' := List.pairwise_cons.1 hf
    obtain ⟨⟨hlam, hne⟩, hlr⟩ := List.forall_mem_cons.1 hl
    obtain ⟨rem, hsplit, hfront, hrem, hback⟩ := ih hf'.2 hlr
    have hfront' : ListOrd old new → ∀ a ∈ old :: (initaddGo new rest).1, ListOrd a new :=
      fun h => List.forall_mem_cons.2 ⟨h, hfront⟩
    unfold NonEmpty at hne
    unfold Lam Disj Inside at hlam
    -- split on the equation for `initaddGo`, not on the goal in which it occurs four times
    generalize hg : initaddGo new (old :: rest) = g
    rw [initaddGo] at hg
    split at hg
    · rename_i h1
      subst hg
      exact ⟨rem, congrArg (old :: ·) hsplit, hfront' ⟨by omega, .inl h1⟩, hrem, hback⟩
    · split at hg
      · rename_i h2
        subst hg
        exact ⟨[], rfl, by simp, by simp,
          List.forall_mem_cons.2 ⟨h2, fun b hb => Nat.le_trans h2 (hf'.1 b hb).1⟩⟩
      · split at hg
        · rename_i h3
          subst hg
          refine ⟨old :: rest.takeWhile (fun o => o.hi ≤ new.hi), ?_, by simp, ?_, ?_⟩
          · simp [List.takeWhile_append_dropWhile]
          · refine List.forall_mem_cons.2 ⟨h3, fun x hx => ?_⟩
            have := (hf'.1 x ((List.takeWhile_sublist _).subset hx)).1
            exact ⟨by omega, by simpa using List.all_eq_true.1 List.all_takeWhile x hx⟩
          · refine dropWhile_after (hf'.2.imp (fun h => h.1)) ?_
            intro x hx
            have hxl := (hlr x hx).1
            have ho := hf'.1 x hx
            unfold Lam Disj Inside at hxl
            unfold ListOrd SameRange at ho
            omega
        · rename_i h1 h2 h3
          subst hg
          refine ⟨rem, congrArg (old :: ·) hsplit, hfront' ⟨by omega, .inr ⟨by omega, ?_, ?_⟩⟩, hrem, hback⟩
          · unfold SameRange; omega
          · rcases hlam with h | h | h
            · omega
            · omega
            · exact h.2

theorem forest_initadd {new : Init} {l : List Init} (hf : Forest l)
    (hl : ∀ o ∈ l, Lam o new ∧ NonEmpty o) (hn : NonEmpty new) : Forest (initadd l new) := by
  obtain ⟨_, _, hfront, _, hback⟩ := initaddGo_spec hf hl
  have hpw : ((initaddGo new l).1 ++ (initaddGo new l).2).Pairwise ListOrd := hf.sublist (initaddGo_sublist new l)
  unfold Forest initadd
  rw [List.pairwise_append] at hpw ⊢
  refine ⟨hpw.1, List.pairwise_cons.2 ⟨?_, hpw.2.1⟩, ?_⟩
  · intro b hb
    have := hback b hb
    unfold NonEmpty at hn
    exact ⟨by omega, .inl this⟩
  · exact fun a ha => List.forall_mem_cons.2 ⟨hfront a ha, hpw.2.2 a ha⟩

theorem initadd_removes_covered {new : Init} {l : List Init} (hf : Forest l)
    (hl : ∀ o ∈ l, Lam o new ∧ NonEmpty o) :
    ∀ x ∈ (initaddGo new l).1 ++ (initaddGo new l).2, ¬ Inside x new := by
  obtain ⟨_, _, hfront, _, hback⟩ := initaddGo_spec hf hl
  intro x hx hs
  have hxn : NonEmpty x := (hl x ((initaddGo_sublist new l).subset hx)).2
  unfold NonEmpty at hxn
  unfold Inside at hs
  rcases List.mem_append.1 hx with h | h
  · have := hfront x h
    unfold ListOrd SameRange at this
    omega
  · have := hback x h; omega

theorem forest_foldl {inits : List Init} (hl : Laminar inits) (hn : ∀ i ∈ inits, NonEmpty i) :
    ∀ {l : List Init}, Forest l → (∀ o ∈ l, NonEmpty o ∧ ∀ i ∈ inits, Lam o i) →
      Forest (inits.foldl initadd l) := by
  induction inits with
  | nil => intro l hf _; exact hf
  | cons new rest ih =>
    intro l hf hlo
    rw [List.foldl_cons]
    have hl' := List.pairwise_cons.1 hl
    refine ih hl'.2 (fun i hi => hn i (List.mem_cons_of_mem _ hi)) ?_ ?_
    · exact forest_initadd hf (fun o ho => ⟨(hlo o ho).2 new List.mem_cons_self, (hlo o ho).1⟩)
        (hn new List.mem_cons_self)
    · intro o ho
      rcases mem_initadd ho with rfl | ho
      · exact ⟨hn _ List.mem_cons_self, hl'.1⟩
      · exact ⟨(hlo o ho).1, fun i hi => (hlo o ho).2 i (List.mem_cons_of_mem _ hi)⟩

theorem initaddGo_skip {new : Init} {pre post : List Init} (h : ∀ o ∈ pre, o.hi ≤ new.lo) :
    initaddGo new (pre ++ post) = (pre ++ (initaddGo new post).1, (initaddGo new post).2) := by
  induction pre with
  | nil => simp
  | cons o os ih =>
    obtain ⟨ho, hos⟩ := List.forall_mem_cons.1 h
    rw [List.cons_append, initaddGo, if_pos ho, ih hos]
    simp

theorem ilist_add_toList {il : IList} {new : Init} (h : ∀ o ∈ il.pre, o.hi ≤ new.lo) :
    (il.add new).toList = initadd il.toList new := by
  unfold IList.add IList.toList initadd
  rw [initaddGo_skip h]
  simp

theorem ilist_reset_toList (il : IList) : il.reset.toList = il.toList := by
  simp [IList.reset, IList.toList]

theorem ilist_clear_toList (il : IList) (a b : Nat) : (il.clear a b).toList = initclear il.toList a b := by
  simp [IList.clear, IList.toList]

end CprocVerif.Init
