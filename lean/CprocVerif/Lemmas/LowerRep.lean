/-
  C01 — the value-representation invariant `Rep` and the per-operator lemmas: each instruction
  chosen by `funcexpr`/`convert`, executed on representations of the operand values, does not trap
  and yields a representation of the value C11 prescribes (`Spec/CInt.bin`, `un`, `conv`); proved at
  a class with the width a variable (`KRep`, `bin_k` .. `neg_k`) and carried to the C types (`binop_exec`).
-/
import CprocVerif.Lemmas.LowerArith

namespace CprocVerif.LowerArith
open CprocVerif.Qbe CprocVerif.CSem CprocVerif.CInt CprocVerif.Lower

/-! ## The invariant

A value `v` of a C type of size 8 sits in a temporary usable at class `l` whose 64 bits are
`v mod 2^64`.  A value of a type of size `s ≤ 4` sits in a temporary usable at class `w`
(kind `w`, or `l` after a narrowing cast — `convert` emits nothing for those — or an integer
literal) whose low `8·s` bits are `v mod 2^(8s)`; the bits above are NOT specified (after
`(char)x` the temporary still holds all of `x`).  -/

def WRep (n : Nat) (v : Int) (r : RVal) : Prop :=
  ∃ x, r.asW = .ok x ∧ (x.toNat : Int) % 2 ^ n = v % 2 ^ n

def LRep (v : Int) (r : RVal) : Prop :=
  ∃ x, r.asL = .ok x ∧ (x.toNat : Int) = v % 2 ^ 64

def Rep (t : CSem.Ty) (v : Int) (r : RVal) : Prop :=
  if t.size = 8 then LRep v r else WRep (8 * t.size) v r

theorem inRange32s (a : Int) : InRange ⟨32, true⟩ a ↔ -2 ^ 31 ≤ a ∧ a ≤ 2 ^ 31 - 1 := by
  simp [InRange, minVal, maxVal]
theorem inRange32u (a : Int) : InRange ⟨32, false⟩ a ↔ 0 ≤ a ∧ a ≤ 2 ^ 32 - 1 := by
  simp [InRange, minVal, maxVal]
theorem inRange64s (a : Int) : InRange ⟨64, true⟩ a ↔ -2 ^ 63 ≤ a ∧ a ≤ 2 ^ 63 - 1 := by
  simp [InRange, minVal, maxVal]
theorem inRange64u (a : Int) : InRange ⟨64, false⟩ a ↔ 0 ≤ a ∧ a ≤ 2 ^ 64 - 1 := by
  simp [InRange, minVal, maxVal]

theorem wrap_mod32 (sg : Bool) (z : Int) : wrap ⟨32, sg⟩ z % 2 ^ 32 = z % 2 ^ 32 :=
  wrap_emod (t := ⟨32, sg⟩) (by decide : 32 ≠ 1) z
theorem wrap_mod64 (sg : Bool) (z : Int) : wrap ⟨64, sg⟩ z % 2 ^ 64 = z % 2 ^ 64 :=
  wrap_emod (t := ⟨64, sg⟩) (by decide : 64 ≠ 1) z

theorem inRange_u {n : Nat} {a : Int} : InRange ⟨n, false⟩ a ↔ 0 ≤ a ∧ a < 2 ^ n := inRange_iff

theorem inRange_s {n : Nat} {a : Int} :
    InRange ⟨n, true⟩ a ↔ -2 ^ (n - 1) ≤ a ∧ a < 2 ^ (n - 1) := inRange_iff

theorem val_of_rep {n : Nat} {sg : Bool} (hv : (⟨n, sg⟩ : IntTy).Arith) {a x : Int} (ha : InRange ⟨n, sg⟩ a)
    (hx : x = a % 2 ^ n) : wrap ⟨n, sg⟩ x = a := by
  rw [wrap_congr (t := ⟨n, sg⟩) hv (a := x) (b := a) (by rw [hx]; exact Int.emod_emod ..)]
  exact wrap_of_inRange (Or.inr hv) ha

def KRep (k : Cls) (v : Int) (r : RVal) : Prop :=
  ∃ x, r.asK k = .ok x ∧ (x.toNat : Int) = v % 2 ^ wbits k

theorem krep_w {v : Int} {r : RVal} : KRep .w v r ↔ WRep 32 v r := by
  constructor
  · rintro ⟨x, hx, h⟩
    exact ⟨x, hx, by rw [h]; exact Int.emod_emod _ _⟩
  · rintro ⟨x, hx, h⟩
    have := asW_lt hx
    exact ⟨x, hx, by show _ = v % 2 ^ 32; omega⟩

theorem krep_mk {k : Cls} (hk : k = .w ∨ k = .l) {z : UInt64} {v : Int}
    (h : (z.toNat : Int) % 2 ^ wbits k = v % 2 ^ wbits k) : KRep k v ⟨k.kind, z⟩ := by
  rcases hk with rfl | rfl <;> simp only [wbits_w, wbits_l] at h
  · exact krep_w.2 ⟨_, rfl, by show ((z &&& mask32).toNat : Int) % 2 ^ 32 = _; rw [toNat_and_mask32]; omega⟩
  · have := z.toNat_lt
    exact ⟨z, rfl, by show _ = v % 2 ^ 64; omega⟩

theorem bin_k (sg : Bool) {k : Cls} (hk : k = .w ∨ k = .l) (op : BinOp)
    (hop : op.isCmp = false ∧ op.isShift = false)
    {a b v : Int} {ra rb : RVal} (M : Mem) (va : Option ByteArray)
    (ha : InRange ⟨wbits k, sg⟩ a) (hb : InRange ⟨wbits k, sg⟩ b)
    (hra : KRep k a ra) (hrb : KRep k b rb) (hv : bin op ⟨wbits k, sg⟩ a b = some v) :
    ∃ r, execOp (binOpSel sg (decide (k = .w)) op) (some k) [ra, rb] M va = .ok (r, M) ∧
      KRep k v r := by
  obtain ⟨x, hx, hxa⟩ := hra
  obtain ⟨y, hy, hyb⟩ := hrb
  have hxl := asK_lt hk hx
  have hyl := asK_lt hk hy
  have hn1 := (wbits_pos hk).2
  have hval := wbits_valid hk sg
  have fin : ∀ {o : Op} {z : UInt64}, IsArith o → arith2 o k x y = .ok z →
      (z.toNat : Int) % 2 ^ wbits k = v % 2 ^ wbits k →
      ∃ r, execOp o (some k) [ra, rb] M va = .ok (r, M) ∧ KRep k v r :=
    fun ho hz hzv => ⟨_, exec_arith ho M va hx hy hz, krep_mk hk hzv⟩
  have hta : toBits ⟨wbits k, sg⟩ a = x.toNat := by
    unfold toBits; rw [← hxa]; exact Int.toNat_natCast _
  have htb : toBits ⟨wbits k, sg⟩ b = y.toNat := by
    unfold toBits; rw [← hyb]; exact Int.toNat_natCast _
  have dm := arith2_divmod hk hxl hyl sg
  rw [val_of_rep (wbits_arith hk sg) ha hxa, val_of_rep (wbits_arith hk sg) hb hyb] at dm
  cases op <;> simp only [BinOp.isCmp, BinOp.isShift, and_self, Bool.true_eq_false, and_false,
    false_and] at hop
  case mul =>
    obtain ⟨z, hz, hzv⟩ := arith2_mul hk hxl hyl
    refine fin (o := .mul) (by simp [IsArith]) hz ?_
    rw [hzv, Int.emod_emod, hxa, hyb, ← Int.mul_emod]
    exact (arith_emod hval hn1 hv).symm
  case add =>
    obtain ⟨z, hz, hzv⟩ := arith2_add hk hxl hyl
    refine fin (o := .add) (by simp [IsArith]) hz ?_
    rw [hzv, Int.emod_emod, hxa, hyb, Int.emod_add_emod, Int.add_emod_emod]
    exact (arith_emod hval hn1 hv).symm
  case sub =>
    obtain ⟨z, hz, hzv⟩ := arith2_sub hk hxl hyl
    refine fin (o := .sub) (by simp [IsArith]) hz ?_
    rw [hzv, Int.emod_emod, hxa, hyb, Int.emod_sub_emod, Int.sub_emod_emod]
    exact (arith_emod hval hn1 hv).symm
  case band =>
    cases hv
    obtain ⟨z, hz, hzn⟩ := (arith2_bitwise hk hxl hyl).1
    refine fin (o := .and) (by simp [IsArith]) hz ?_
    rw [hzn, hta, htb, ofBits, wrap_emod hn1]
  case bor =>
    cases hv
    obtain ⟨z, hz, hzn⟩ := (arith2_bitwise hk hxl hyl).2.1
    refine fin (o := .or) (by simp [IsArith]) hz ?_
    rw [hzn, hta, htb, ofBits, wrap_emod hn1]
  case bxor =>
    cases hv
    obtain ⟨z, hz, hzn⟩ := (arith2_bitwise hk hxl hyl).2.2
    refine fin (o := .xor) (by simp [IsArith]) hz ?_
    rw [hzn, hta, htb, ofBits, wrap_emod hn1]
  case div =>
    obtain ⟨hb0, hv⟩ := div_defined hv
    obtain ⟨z, hz, hzv⟩ := (dm hb0 (fun hs => by subst hs; exact (arith_some hval hv).2.2 rfl)).1
    exact fin (isArith_div sg) hz (hzv.trans (arith_emod hval hn1 hv).symm)
  case mod =>
    obtain ⟨hb0, hr, rfl⟩ := mod_defined hv
    obtain ⟨z, hz, hzv⟩ := (dm hb0 (fun hs => by subst hs; exact hr rfl)).2
    exact fin (isArith_rem sg) hz hzv

/-- The right operand of a shift is read at class `w` whatever its type; a defined count is
    below 64, so nothing is lost. -/
def CountRep (b : Int) (r : RVal) : Prop :=
  ∃ y, r.asW = .ok y ∧ (0 ≤ b → b < 64 → (y.toNat : Int) = b)

theorem shift_k (sg : Bool) {k : Cls} (hk : k = .w ∨ k = .l) (op : BinOp)
    (hop : op = .shl ∨ op = .shr)
    {a b v : Int} {ra rb : RVal} (M : Mem) (va : Option ByteArray)
    (ha : InRange ⟨wbits k, sg⟩ a) (hra : KRep k a ra) (hrb : CountRep b rb)
    (hv : bin op ⟨wbits k, sg⟩ a b = some v) :
    ∃ r, execOp (binOpSel sg (decide (k = .w)) op) (some k) [ra, rb] M va = .ok (r, M) ∧
      KRep k v r := by
  obtain ⟨x, hx, hxa⟩ := hra
  obtain ⟨y, hy, hyb⟩ := hrb
  have hxl := asK_lt hk hx
  have hn1 := (wbits_pos hk).2
  have h64 : wbits k ≤ 64 := by rcases hk with rfl | rfl <;> decide
  have fin : ∀ {o : Op} {z : UInt64}, IsShift o → arith2 o k x y = .ok z →
      (z.toNat : Int) % 2 ^ wbits k = v % 2 ^ wbits k →
      ∃ r, execOp o (some k) [ra, rb] M va = .ok (r, M) ∧ KRep k v r :=
    fun ho hz hzv => ⟨_, exec_shift ho M va hx hy hz, krep_mk hk hzv⟩
  have hcount : ∀ c : Nat, b = c → c < wbits k → y.toNat = c := fun c hc hlt => by
    have := hyb (by omega) (by omega); omega
  rcases hop with rfl | rfl
  · obtain ⟨c, hc, hlt, hv⟩ := shl_defined hv
    obtain ⟨z, hz, hzv⟩ := (arith2_shift hk hxl (y := y) (by rw [hcount c hc hlt]; exact hlt)).1
    refine fin (o := .shl) (by simp [IsShift]) hz ?_
    rw [hzv, hcount c hc hlt, Int.emod_emod, hxa, Int.mul_emod, Int.emod_emod, ← Int.mul_emod]
    exact (arith_emod (wbits_valid hk sg) hn1 hv).symm
  · obtain ⟨c, hc, hlt, rfl⟩ := shr_defined hv
    obtain ⟨z, hz, hzv⟩ := arith2_shr_rd sg hk hxl (y := y) (by rw [hcount c hc hlt]; exact hlt)
    refine fin (isShift_shr sg) hz ?_
    rw [hzv, hcount c hc hlt, val_of_rep (wbits_arith hk sg) ha hxa,
      Int.fdiv_eq_ediv_of_nonneg a (Int.le_of_lt (two_pow_pos c))]

theorem boolBits_toNat (c : Bool) : ((boolBits c &&& mask32).toNat : Int) = b2i c := by
  cases c <;> decide

/-- A comparison result is exactly 0 or 1 (kind `w`). -/
def BoolRes (c : Bool) (r : RVal) : Prop := r = ⟨.w, boolBits c &&& mask32⟩

theorem BoolRes.wrep {c : Bool} {r : RVal} (h : BoolRes c r) : WRep 32 (b2i c) r := by
  subst h
  refine ⟨_, rfl, ?_⟩
  cases c <;> decide

theorem BoolRes.asW {c : Bool} {r : RVal} (h : BoolRes c r) :
    r.asW = .ok (if c then 1 else 0) := by
  subst h
  cases c <;> rfl

theorem cmp_finish_w (c : ICmp) {ra rb : RVal} {x y : UInt64} (M : Mem) (va : Option ByteArray)
    (hx : ra.asW = .ok x) (hy : rb.asW = .ok y) {res : Bool} (h : icmp32 c x y = res) :
    ∃ r, execOp (.cmpw c) (some .w) [ra, rb] M va = .ok (r, M) ∧ BoolRes res r := by
  subst h
  exact ⟨_, by simp only [execOp, needRes, hx, hy, truncTo, bind, Except.bind, pure, Except.pure,
    Cls.kind], rfl⟩

theorem cmp_finish_l (c : ICmp) {ra rb : RVal} {x y : UInt64} (M : Mem) (va : Option ByteArray)
    (hx : ra.asL = .ok x) (hy : rb.asL = .ok y) {res : Bool} (h : icmp64 c x y = res) :
    ∃ r, execOp (.cmpl c) (some .w) [ra, rb] M va = .ok (r, M) ∧ BoolRes res r := by
  subst h
  exact ⟨_, by simp only [execOp, needRes, hx, hy, truncTo, bind, Except.bind, pure, Except.pure,
    Cls.kind], rfl⟩

theorem cmp_finish_k {k : Cls} (hk : k = .w ∨ k = .l) (c : ICmp) {ra rb : RVal} {x y : UInt64} (M : Mem)
    (va : Option ByteArray) (hx : ra.asK k = .ok x) (hy : rb.asK k = .ok y) {res : Bool}
    (h : (if k = .w then icmp32 c x y else icmp64 c x y) = res) :
    ∃ r, execOp (if k = .w then .cmpw c else .cmpl c) (some .w) [ra, rb] M va = .ok (r, M) ∧ BoolRes res r := by
  rcases hk with rfl | rfl
  · exact cmp_finish_w c M va hx hy h
  · exact cmp_finish_l c M va hx hy h

theorem cmp_k (sg : Bool) {k : Cls} (hk : k = .w ∨ k = .l) (op : BinOp) (hop : IsCmpOp op)
    {a b v : Int} {ra rb : RVal} (M : Mem) (va : Option ByteArray)
    (ha : InRange ⟨wbits k, sg⟩ a) (hb : InRange ⟨wbits k, sg⟩ b)
    (hra : KRep k a ra) (hrb : KRep k b rb) (hv : bin op ⟨wbits k, sg⟩ a b = some v) :
    ∃ r c, execOp (binOpSel sg (decide (k = .w)) op) (some .w) [ra, rb] M va = .ok (r, M) ∧
      BoolRes c r ∧ v = b2i c := by
  obtain ⟨x, hx, hxa⟩ := hra
  obtain ⟨y, hy, hyb⟩ := hrb
  obtain ⟨c, hsel, hc⟩ := icmp_rd hk (asK_lt hk hx) (asK_lt hk hy) sg hop
  rw [val_of_rep (wbits_arith hk sg) ha hxa, val_of_rep (wbits_arith hk sg) hb hyb] at hc
  obtain ⟨res, rfl, hres⟩ := bin_cmp hop hv
  obtain ⟨r, h1, h2⟩ := cmp_finish_k hk c M va hx hy (Bool.eq_iff_iff.2 (hc.trans hres.symm))
  exact ⟨r, res, hsel ▸ h1, h2, rfl⟩

theorem neg_k (sg : Bool) {k : Cls} (hk : k = .w ∨ k = .l) {a v : Int} {ra : RVal} (M : Mem)
    (va : Option ByteArray) (hra : KRep k a ra) (hv : un .neg ⟨wbits k, sg⟩ a = some v) :
    ∃ r, execOp .neg (some k) [ra] M va = .ok (r, M) ∧ KRep k v r := by
  obtain ⟨x, hx, hxa⟩ := hra
  obtain ⟨z, hz, hzv⟩ := exec_neg hk M va hx
  refine ⟨_, hz, krep_mk hk ?_⟩
  rw [hzv, Int.emod_emod, hxa, ← Int.zero_sub, Int.sub_emod_emod, Int.zero_sub]
  exact (arith_emod (wbits_valid hk sg) (wbits_pos hk).2 hv).symm

theorem size_cases (t : CSem.Ty) : t.size = 1 ∨ t.size = 2 ∨ t.size = 4 ∨ t.size = 8 := by
  cases t <;> simp [Ty.size]

theorem ty_size_bounds (t : CSem.Ty) : 0 < t.size ∧ t.size ≤ 8 := by cases t <;> decide

theorem promoted_cases (cs : Bool) {t : CSem.Ty} (h : t.promoted = true) :
    (t.size = 4 ∧ t.intTy cs = ⟨32, t.signed cs⟩) ∨ (t.size = 8 ∧ t.intTy cs = ⟨64, t.signed cs⟩) := by
  cases t <;> simp [Ty.promoted] at h <;> simp [Ty.size, Ty.intTy]

theorem intTy_of_ne_bool (cs : Bool) {t : CSem.Ty} (h : t ≠ .bool) :
    t.intTy cs = ⟨8 * t.size, t.signed cs⟩ := by
  simp only [Ty.intTy, if_neg h]

theorem wrap_mod_ty (cs : Bool) {t : CSem.Ty} (h : t ≠ .bool) (z : Int) :
    wrap (t.intTy cs) z % 2 ^ (8 * t.size) = z % 2 ^ (8 * t.size) := by
  rw [intTy_of_ne_bool cs h]
  exact wrap_emod (t := ⟨8 * t.size, _⟩) (by show 8 * t.size ≠ 1; omega) z

/-- Differs from `h` only for `_Bool`, whose `intTy` has 1 bit and which is stored in a byte. -/
theorem range_store (cs : Bool) (t : CSem.Ty) {v : Int} (h : InRange (t.intTy cs) v) :
    InRange ⟨8 * t.size, t.signed cs⟩ v := by
  by_cases hb : t = .bool
  · subst hb
    have h' : (0 : Int) ≤ v ∧ v < 2 ^ 1 := inRange_u.1 h
    exact inRange_u.2 ⟨h'.1, by show v < 2 ^ 8; omega⟩
  · rwa [intTy_of_ne_bool cs hb] at h

theorem emod_pow_of_le (v : Int) {m n : Nat} (h : m ≤ n) : v % 2 ^ n % 2 ^ m = v % 2 ^ m :=
  Int.emod_emod_of_dvd v (two_pow_dvd h)

theorem WRep.of_le {n m : Nat} {v v' : Int} {r : RVal} (h : WRep n v r) (hm : m ≤ n)
    (hv : v' % 2 ^ m = v % 2 ^ m) : WRep m v' r := by
  obtain ⟨x, hx, hxv⟩ := h
  exact ⟨x, hx, by rw [hv, ← emod_pow_of_le _ hm, hxv, emod_pow_of_le _ hm]⟩

theorem LRep.wrep {v : Int} {r : RVal} (h : LRep v r) : WRep 32 v r := by
  obtain ⟨x, hx, hxv⟩ := h
  exact ⟨_, asW_of_asL hx, by rw [toNat_and_mask32]; omega⟩

theorem rep_wrap (cs : Bool) {t : CSem.Ty} (ht : t ≠ .bool) {v : Int} {r : RVal} (h : Rep t v r) :
    Rep t (wrap (t.intTy cs) v) r := by
  have hw := wrap_mod_ty cs ht v
  by_cases h8 : t.size = 8
  · rw [Rep, if_pos h8] at h ⊢
    rw [h8] at hw
    obtain ⟨x, hx, hxv⟩ := h
    exact ⟨x, hx, hxv.trans hw.symm⟩
  · rw [Rep, if_neg h8] at h ⊢
    exact h.of_le (Nat.le_refl _) hw

theorem const_rep (cs : Bool) (t : CSem.Ty) (u : Nat) (hu : u < 2 ^ 64) (hb : t = .bool → u ≤ 1) :
    Rep t (wrap (t.intTy cs) (u : Int)) ⟨.c, UInt64.ofNat u⟩ := by
  have hn : (UInt64.ofNat u).toNat = u := by
    rw [UInt64.toNat_ofNat']; exact Nat.mod_eq_of_lt hu
  have hw : WRep 32 u ⟨.c, UInt64.ofNat u⟩ := ⟨_, rfl, by rw [toNat_and_mask32, hn]; omega⟩
  by_cases htb : t = .bool
  · subst htb
    have := hb rfl
    refine hw.of_le (by decide : 8 * Ty.size .bool ≤ 32) ?_
    show wrap ⟨1, false⟩ u % 2 ^ 8 = (u : Int) % 2 ^ 8
    simp only [wrap, if_true]
    split <;> omega
  · refine rep_wrap cs htb ?_
    unfold Rep
    split
    · exact ⟨_, rfl, by rw [hn]; omega⟩
    · exact hw.of_le (by have := size_cases t; omega) rfl

theorem rep_narrow (cs : Bool) {src dst : CSem.Ty} {v : Int} {r : RVal} (hd : dst ≠ .bool)
    (hle : dst.size ≤ src.size) (h : Rep src v r) : Rep dst (wrap (dst.intTy cs) v) r := by
  refine rep_wrap cs hd ?_
  have hs := size_cases src
  have hd' := size_cases dst
  unfold Rep at h ⊢
  split at h <;> split
  · exact h
  · exact h.wrep.of_le (by omega) rfl
  · omega
  · exact h.of_le (by omega) rfl

theorem tobool_k {k : Cls} (hk : k = .w ∨ k = .l) {v : Int} {r0 : RVal} (M : Mem)
    (va : Option ByteArray) (hr : KRep k v r0) (hv : -2 ^ (wbits k - 1) ≤ v ∧ v < 2 ^ wbits k) :
    ∃ r, execOp (if k = .w then .cmpw .ne else .cmpl .ne) (some .w) [r0, ⟨.c, 0⟩] M va = .ok (r, M) ∧
      BoolRes (decide (v ≠ 0)) r := by
  obtain ⟨x, hx, hxv⟩ := hr
  have hxl := asK_lt hk hx
  have hn1 := (wbits_pos hk).2
  -- `!=` on unsigned operands is `cne`; the unsigned readings are the bits themselves, `x` and 0
  obtain ⟨c, hsel, hc⟩ := icmp_rd hk hxl (y := 0) (Nat.pow_pos (by decide)) false (op := .ne)
    (.inr (.inr (.inr (.inr (.inr rfl)))))
  have hne : binOpSel false (decide (k = .w)) .ne = if k = .w then .cmpw .ne else .cmpl .ne :=
    cmpSel_eq false k .ne .ne
  rw [hne] at hsel
  rw [wrap_unsigned hn1, wrap_unsigned hn1, toNat_emod hxl, hxv] at hc
  have hres : (if k = .w then icmp32 c x 0 else icmp64 c x 0) = decide (v ≠ 0) := by
    refine Bool.eq_iff_iff.2 (hc.trans ?_)
    have h0 : (((0 : UInt64).toNat : Nat) : Int) % 2 ^ wbits k = 0 := Int.zero_emod _
    simp only [cmpRel, h0, decide_eq_true_eq]
    exact emod_ne_zero_iff (wbits_pos hk).1 hv
  obtain ⟨r, h1, h2⟩ := cmp_finish_k hk c M va hx (rb := ⟨.c, 0⟩) (y := 0)
    (by rcases hk with rfl | rfl <;> rfl) hres
  exact ⟨r, hsel ▸ h1, h2⟩

theorem ext_rep {n : Nat} (hn : n = 8 ∨ n = 16 ∨ n = 32) (sg : Bool) (k : Cls)
    (hk : k = .w ∨ k = .l) {v : Int} {r0 : RVal} (M : Mem) (va : Option ByteArray)
    (hr : WRep n v r0) (hv : InRange ⟨n, sg⟩ v) :
    ∃ r, execOp (extOp n sg) (some k) [r0] M va = .ok (r, M) ∧ KRep k v r := by
  obtain ⟨x, hx, hxv⟩ := hr
  obtain ⟨f, hf, hfx⟩ := extFun_rd hn sg
  have ha : (⟨n, sg⟩ : IntTy).Arith := by rcases hn with rfl | rfl | rfl <;> simp [IntTy.Arith]
  have hval : ((f x).toNat : Int) = v % 2 ^ 64 := by
    rw [hfx x (asW_lt hx), wrap_congr ha hxv, wrap_of_inRange (Or.inr ha) hv]
  refine ⟨_, exec_ext hf k hk M va hx, krep_mk hk ?_⟩
  rcases hk with rfl | rfl
  · show ((if Cls.w = .w then f x &&& mask32 else f x).toNat : Int) % 2 ^ 32 = v % 2 ^ 32
    rw [if_pos rfl, toNat_and_mask32, Int.natCast_emod, natCast_two_pow, hval, Int.emod_emod,
      Int.emod_emod_of_dvd v (two_pow_dvd (by decide))]
  · show ((if Cls.l = .w then f x &&& mask32 else f x).toNat : Int) % 2 ^ 64 = v % 2 ^ 64
    rw [if_neg (by decide), hval, Int.emod_emod]

theorem rep_w {t : CSem.Ty} (hs : t.size = 4) {v : Int} {r : RVal} : Rep t v r ↔ WRep 32 v r := by
  simp only [Rep, hs, Nat.reduceEqDiff, if_false, Nat.reduceMul]

theorem rep_l {t : CSem.Ty} (hs : t.size = 8) {v : Int} {r : RVal} : Rep t v r ↔ LRep v r := by
  simp only [Rep, hs, if_true]

theorem cls_w {t : CSem.Ty} (hs : t.size = 4) : cls t = .w := by simp [cls, hs]
theorem cls_l {t : CSem.Ty} (hs : t.size = 8) : cls t = .l := by simp [cls, hs]

theorem int_size : Ty.size .int = 4 := rfl

theorem cls_cases (t : CSem.Ty) : cls t = .w ∨ cls t = .l := by unfold cls; split <;> simp

theorem rep_small {t : CSem.Ty} (h : t.size < 8) {v : Int} {r : RVal} :
    Rep t v r ↔ WRep (8 * t.size) v r := by
  simp only [Rep, Nat.ne_of_lt h, if_false]

theorem rep_krep {t : CSem.Ty} (h4 : 4 ≤ t.size) {v : Int} {r : RVal} (h : Rep t v r) :
    KRep (cls t) v r := by
  rcases size_cases t with hs | hs | hs | hs <;> try omega
  · rw [cls_w hs]; exact krep_w.2 ((rep_w hs).1 h)
  · rw [cls_l hs]; exact (rep_l hs).1 h

theorem krep_rep (cs : Bool) {t : CSem.Ty} (ht : t ≠ .bool) {v : Int} {r : RVal}
    (h : KRep (cls t) v r) : Rep t (wrap (t.intTy cs) v) r := by
  refine rep_wrap cs ht ?_
  have hs := size_cases t
  by_cases h8 : t.size = 8
  · rw [cls_l h8] at h; exact (rep_l h8).2 h
  · rw [show cls t = .w by simp [cls, h8]] at h
    exact (rep_small (by omega)).2 ((krep_w.1 h).of_le (by omega) rfl)

theorem convert_eq (cs : Bool) (c : Ctx) (dst src : CSem.Ty) (l : Val) :
    convert cs c dst src l =
      if dst = .bool then
        if src.size < 4 then
          (funcinst c (extOp (8 * src.size) false) .w [l]).seq
            (funcinst (funcinst c (extOp (8 * src.size) false) .w [l]).ctx (.cmpw .ne) .w
              [(funcinst c (extOp (8 * src.size) false) .w [l]).val, .int 0])
        else funcinst c (if cls src = .w then .cmpw .ne else .cmpl .ne) .w [l, .int 0]
      else if dst.size ≤ src.size then ⟨[], l, c⟩
      else funcinst c (extOp (8 * src.size) (src.signed cs)) (cls dst) [l] := by
  unfold convert
  rcases size_cases src with hs | hs | hs | hs <;> simp only [cls, hs] <;> rfl

theorem promoted_cls (cs : Bool) {t : CSem.Ty} (ht : t.promoted = true) :
    (cls t = .w ∨ cls t = .l) ∧ t.intTy cs = ⟨wbits (cls t), t.signed cs⟩ ∧
      decide (t.size ≤ 4) = decide (cls t = .w) ∧ ∀ v r, Rep t v r ↔ KRep (cls t) v r := by
  rcases promoted_cases cs ht with ⟨hs, hi⟩ | ⟨hs, hi⟩
  · rw [cls_w hs]
    exact ⟨.inl rfl, hi, by simp [hs], fun _ _ => (rep_w hs).trans krep_w.symm⟩
  · rw [cls_l hs]
    exact ⟨.inr rfl, hi, by simp [hs], fun _ _ => rep_l hs⟩

theorem count_rep (cs : Bool) {t : CSem.Ty} (ht : t.promoted = true) {b : Int} {rb : RVal}
    (h : Rep t b rb) : CountRep b rb := by
  rcases promoted_cases cs ht with ⟨hs, _⟩ | ⟨hs, _⟩
  · obtain ⟨y, hy, hyb⟩ := (rep_w hs).1 h
    have := asW_lt hy
    exact ⟨y, hy, fun h0 h1 => by omega⟩
  · obtain ⟨y, hy, hyb⟩ := (rep_l hs).1 h
    refine ⟨_, asW_of_asL hy, fun h0 h1 => ?_⟩
    rw [toNat_and_mask32]
    omega

/-- The typing condition `Expr.wt` imposes on a non-logical binary node of type `t` with operand
    types `tl`, `tr`. -/
def BinTyped (op : BinOp) (t tl tr : CSem.Ty) : Prop :=
  if op.isShift then tl = t ∧ t.promoted = true ∧ tr.promoted = true
  else if op.isCmp then tl = tr ∧ tl.promoted = true ∧ t = .int
  else tl = t ∧ tr = t ∧ t.promoted = true

theorem binop_exec (cs : Bool) (op : BinOp) (hop : isLogic op = false) {t tl tr : CSem.Ty}
    (hty : BinTyped op t tl tr) {a b v : Int} {ra rb : RVal} (M : Mem) (va : Option ByteArray)
    (ha : InRange (tl.intTy cs) a) (hb : InRange (tr.intTy cs) b)
    (hra : Rep tl a ra) (hrb : Rep tr b rb) (hv : bin op (tl.intTy cs) a b = some v) :
    ∃ r, execOp (binOpOf cs op tl) (some (cls t)) [ra, rb] M va = .ok (r, M) ∧ Rep t v r := by
  unfold BinTyped at hty
  -- in all three cases the left operand is promoted and decides class and signedness
  have htl : tl.promoted = true := by
    split at hty
    · exact hty.1 ▸ hty.2.1
    · split at hty
      · exact hty.2.1
      · exact hty.1 ▸ hty.2.2
  obtain ⟨hk, hi, hd, hrep⟩ := promoted_cls cs htl
  rw [hi] at ha hv
  rw [hrep] at hra
  unfold binOpOf
  rw [hd]
  by_cases hsh : op.isShift = true
  · rw [if_pos hsh] at hty
    obtain ⟨rfl, _, htr⟩ := hty
    have hop' : op = .shl ∨ op = .shr := by cases op <;> simp [BinOp.isShift] at hsh <;> simp
    obtain ⟨r, h1, h2⟩ := shift_k (tl.signed cs) hk op hop' M va ha hra (count_rep cs htr hrb) hv
    exact ⟨r, h1, (hrep _ _).2 h2⟩
  · rw [if_neg hsh] at hty
    by_cases hcm : op.isCmp = true
    · rw [if_pos hcm] at hty
      obtain ⟨rfl, _, rfl⟩ := hty
      have hop' : IsCmpOp op := by
        cases op <;> simp [BinOp.isCmp, isLogic] at hcm hop <;> simp [IsCmpOp]
      rw [hi] at hb
      rw [hrep] at hrb
      obtain ⟨r, c, h1, h2, h3⟩ := cmp_k (tl.signed cs) hk op hop' M va ha hb hra hrb hv
      exact ⟨r, h1, (rep_w int_size).2 (h3 ▸ h2.wrep)⟩
    · rw [if_neg hcm] at hty
      obtain ⟨rfl, rfl, _⟩ := hty
      rw [hi] at hb
      rw [hrep] at hrb
      obtain ⟨r, h1, h2⟩ := bin_k (tr.signed cs) hk op ⟨by simpa using hcm, by simpa using hsh⟩ M va
        ha hb hra hrb hv
      exact ⟨r, h1, (hrep _ _).2 h2⟩

theorem neg_exec (cs : Bool) {t : CSem.Ty} (ht : t.promoted = true) {a v : Int} {ra : RVal} (M : Mem)
    (va : Option ByteArray) (hra : Rep t a ra) (hv : un .neg (t.intTy cs) a = some v) :
    ∃ r, execOp .neg (some (cls t)) [ra] M va = .ok (r, M) ∧ Rep t v r := by
  obtain ⟨hk, hi, _, hrep⟩ := promoted_cls cs ht
  rw [hi] at hv
  obtain ⟨r, h1, h2⟩ := neg_k (t.signed cs) hk M va ((hrep _ _).1 hra) hv
  exact ⟨r, h1, (hrep _ _).2 h2⟩

theorem rep_coerce {t : CSem.Ty} {v : Int} {r : RVal} (h : Rep t v r) :
    ∃ r', r.coerce (cls t) = .ok r' ∧ Rep t v r' := by
  by_cases hs : t.size = 8
  · rw [rep_l hs] at h
    obtain ⟨x, hx, hxv⟩ := h
    refine ⟨⟨.l, x⟩, by simp [RVal.coerce, cls, hs, RVal.asK, hx, Cls.kind], (rep_l hs).2 ⟨x, rfl, hxv⟩⟩
  · simp only [Rep, hs, if_false] at h
    obtain ⟨x, hx, hxv⟩ := h
    have hl := asW_lt hx
    refine ⟨⟨.w, x⟩, by simp [RVal.coerce, cls, hs, RVal.asK, hx, Cls.kind], ?_⟩
    simp only [Rep, hs, if_false]
    refine ⟨_, rfl, ?_⟩
    rw [toNat_and_mask32, Nat.mod_eq_of_lt hl]
    exact hxv

theorem ty_valid (cs : Bool) (t : CSem.Ty) : (t.intTy cs).Valid := by
  cases t <;> simp [Ty.intTy, Ty.size, Ty.signed, IntTy.Valid, IntTy.Arith, IntTy.bool]

theorem ty_arith (cs : Bool) {t : CSem.Ty} (h : t.promoted = true) : (t.intTy cs).Arith := by
  cases t <;> simp [Ty.promoted] at h <;> simp [Ty.intTy, Ty.size, IntTy.Arith]

theorem int_intTy (cs : Bool) : Ty.intTy cs .int = IntTy.int := rfl

end CprocVerif.LowerArith
