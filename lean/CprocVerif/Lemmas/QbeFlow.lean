import CprocVerif.Lemmas.QbeClsMach
import CprocVerif.Spec.QbeWf

/-!
  C03, definedness: what the flow certificate checked by `flowOk` says about a function, the invariant
  of machine states built on it (`FrameOkC`: the frame is in a reachable block and every temporary whose
  definition dominates the current point is bound), its preservation by `step`, and that no step from
  such a state ends in one of the four `BadStuck` ends.
-/

namespace CprocVerif.C03
open CprocVerif.Qbe

/-- The ends excluded by well-formedness. -/
def BadStuck : End → Prop
  | .stuck (.undefTemp _) => True
  | .stuck (.unknownLabel _) => True
  | .stuck (.phiNoPred _ _) => True
  | .stuck .fellOffEnd => True
  | _ => False

theorem opErr_not_bad (e : OpErr) : ¬ BadStuck e.toEnd := by
  cases e <;> exact not_false

theorem mem_env_getElem? {env : Env} {t : String} (h : t ∈ env) : env[t]? ≠ none := fun hn => by
  simp [Std.HashMap.mem_iff_isSome_getElem?, hn] at h

def EnvLe (e₁ e₂ : Env) : Prop := ∀ t, t ∈ e₁ → t ∈ e₂

theorem envLe_insert (e : Env) (x : String) (v : RVal) : EnvLe e (e.insert x v) :=
  fun _ h => Std.HashMap.mem_insert.2 (.inr h)

theorem mem_insert_self (e : Env) (x : String) (v : RVal) : x ∈ e.insert x v :=
  Std.HashMap.mem_insert.2 (.inl (beq_self_eq_true x))

theorem mem_insert_or {e : Env} {x y : String} {v : RVal} {l : List String}
    (h : x ∈ e ∨ x ∈ y :: l) : x ∈ e.insert y v ∨ x ∈ l := by
  rcases h with h | h
  · exact .inl (envLe_insert _ _ _ _ h)
  · rcases List.mem_cons.1 h with rfl | h
    · exact .inl (mem_insert_self _ _ _)
    · exact .inr h

theorem mem_bindAll {e : Env} {bs : List (String × RVal)} {x : String}
    (h : x ∈ e ∨ x ∈ bs.map (·.1)) : x ∈ bindAll e bs := by
  induction bs generalizing e with
  | nil => simpa [bindAll] using h
  | cons b bs ih => exact ih (mem_insert_or h)

theorem mem_bindParams {e : Env} {ps : List (Ty × String)} {vs : List RVal}
    (hl : ps.length ≤ vs.length) {x : String} (h : x ∈ e ∨ x ∈ ps.map (·.2)) :
    x ∈ bindParams e ps vs := by
  induction ps generalizing e vs with
  | nil => simpa [bindParams] using h
  | cons q ps ih =>
    cases vs with
    | nil => simp at hl
    | cons v vs => exact ih (Nat.le_of_succ_le_succ hl) (mem_insert_or h)

theorem testBit_bit (i d : Nat) : (bit i).testBit d = decide (i = d) := by
  simp [bit, Nat.one_shiftLeft, Nat.testBit_two_pow]

theorem bsSubset_testBit {a b : Nat} (h : bsSubset a b = true) (d : Nat)
    (hd : a.testBit d = true) : b.testBit d = true := by
  simp only [bsSubset, beq_iff_eq] at h
  have : (a &&& b).testBit d = true := by rw [h]; exact hd
  simp only [Nat.testBit_and, Bool.and_eq_true] at this
  exact this.2

section
variable {f : Func} {c : FnCert} {bi : Nat} {b : Block}

/-- `t` has a definition that (according to the certificate `c`) is executed before control reaches
    instruction `ii` of block `bi`. -/
inductive DefinedAt (f : Func) (c : FnCert) (bi ii : Nat) (t : String) : Prop where
  | param (q : Ty × String) : q ∈ f.params → q.2 = t → DefinedAt f c bi ii t
  | phi (d : Nat) (b : Block) (ph : Phi) : f.blocks[d]? = some b → ph ∈ b.phis → ph.res = t →
      (d = bi ∨ (c.dom.getD bi 0).testBit d = true) → DefinedAt f c bi ii t
  | ins (d : Nat) (b : Block) (j : Nat) (i : Ins) : f.blocks[d]? = some b → b.ins[j]? = some i →
      i.defn = some t →
      ((d = bi ∧ j < ii) ∨ (d ≠ bi ∧ (c.dom.getD bi 0).testBit d = true)) → DefinedAt f c bi ii t

theorem DefinedAt.mono {bi ii ii' : Nat} {t : String}
    (h : DefinedAt f c bi ii t) (hle : ii ≤ ii') : DefinedAt f c bi ii' t := by
  cases h with
  | param q hq ht => exact .param q hq ht
  | phi d b ph hb hph ht hd => exact .phi d b ph hb hph ht hd
  | ins d b j i hb hi ht hd =>
    refine .ins d b j i hb hi ht ?_
    cases hd with
    | inl h => exact Or.inl ⟨h.1, by omega⟩
    | inr h => exact Or.inr h

theorem defBefore_sound {bi ii : Nat} {t : String}
    (h : defBefore f c bi ii t = true) : DefinedAt f c bi ii t := by
  unfold defBefore at h
  split at h
  · cases h
  · obtain ⟨q, hq, ht⟩ := List.any_eq_true.1 h
    exact .param q hq (beq_iff_eq.1 ht)
  · rename_i d _
    split at h
    · rename_i b hb
      simp only [Bool.and_eq_true, List.any_eq_true, beq_iff_eq, Bool.or_eq_true] at h
      obtain ⟨⟨ph, hph, ht⟩, hd⟩ := h
      exact .phi d b ph hb hph ht hd
    · cases h
  · rename_i d j _
    split at h
    · rename_i b hb
      split at h
      · rename_i i hi
        simp only [Bool.and_eq_true, beq_iff_eq, Bool.or_eq_true, decide_eq_true_eq, bne_iff_ne,
          ne_eq] at h
        exact .ins d b j i hb hi h.1 h.2
      · cases h
    · cases h

theorem valDefBefore_sound {bi ii : Nat} {v : Val} {t : String}
    (h : valDefBefore f c bi ii v = true) (hv : v = .tmp t) : DefinedAt f c bi ii t := by
  subst hv
  exact defBefore_sound h

structure FlowFacts (f : Func) (c : FnCert) : Prop where
  reach0 : c.reach.testBit 0 = true
  dom0 : ∀ d, (c.dom.getD 0 0).testBit d = true → d = 0
  phis0 : ∃ b, f.blocks[0]? = some b ∧ b.phis = []
  block : ∀ bi b, f.blocks[bi]? = some b → blockFlowOk f c bi b = true

theorem flowOk_facts (h : flowOk f c = true) : FlowFacts f c := by
  unfold flowOk at h
  simp only [Bool.and_eq_true] at h
  obtain ⟨⟨⟨h1, h2⟩, h3⟩, h4⟩ := h
  refine ⟨h1, ?_, ?_, ?_⟩
  · intro d hd
    rcases (by simpa using h2 : c.dom.getD 0 0 = 0 ∨ c.dom.getD 0 0 = 1) with h | h
    · simp [h] at hd
    · rw [h] at hd
      exact (of_decide_eq_true ((testBit_bit 0 d).symm.trans hd)).symm
  · split at h3
    · rename_i b hb
      exact ⟨b, hb, by simpa [List.isEmpty_iff] using h3⟩
    · cases h3
  · intro bi b hb
    have := List.all_eq_true.1 h4 bi (List.mem_range.2 (Array.getElem?_eq_some_iff.1 hb).1)
    rwa [hb] at this

structure BlockFacts (f : Func) (c : FnCert) (bi : Nat) (b : Block) : Prop where
  insUses : ∀ ii i, b.ins[ii]? = some i → ∀ v ∈ i.operands, valDefBefore f c bi ii v = true
  termUses : ∀ j, b.term = some j → ∀ v ∈ j.operands, valDefBefore f c bi b.ins.size v = true
  edges : ∃ ss, succIdx (FuncInfo.of f) bi b = some ss ∧ ∀ s ∈ ss, edgeOk f c bi b s = true

theorem blockFlowOk_facts (h : blockFlowOk f c bi b = true) (hr : c.reach.testBit bi = true) :
    BlockFacts f c bi b := by
  unfold blockFlowOk at h
  simp only [hr, Bool.not_true, Bool.false_or, Bool.and_eq_true] at h
  obtain ⟨⟨h1, h2⟩, h3⟩ := h
  refine ⟨?_, ?_, ?_⟩
  · intro ii i hi v hv
    have := List.all_eq_true.1 h1 ii (List.mem_range.2 (Array.getElem?_eq_some_iff.1 hi).1)
    rw [hi] at this
    exact List.all_eq_true.1 this v hv
  · intro j hj v hv
    rw [termUsesOk, hj] at h2
    exact List.all_eq_true.1 h2 v hv
  · split at h3
    · cases h3
    · rename_i ss hss
      exact ⟨ss, hss, fun s hs => List.all_eq_true.1 h3 s hs⟩

structure EdgeFacts (f : Func) (c : FnCert) (bi : Nat) (b : Block) (s : Nat) : Prop where
  target : ∃ sb, f.blocks[s]? = some sb ∧
    ∀ ph ∈ sb.phis, ∃ src, ph.srcs.find? (fun x => x.1 == b.label) = some src ∧
      valDefBefore f c bi b.ins.size src.2 = true
  reach : c.reach.testBit s = true
  dom : ∀ d, (c.dom.getD s 0).testBit d = true →
    (c.dom.getD bi 0).testBit d = true ∨ d = bi ∨ d = s

theorem edgeOk_facts {s : Nat}
    (h : edgeOk f c bi b s = true) : EdgeFacts f c bi b s := by
  unfold edgeOk at h
  split at h
  · cases h
  · rename_i sb hsb
    simp only [Bool.and_eq_true] at h
    obtain ⟨⟨h1, h2⟩, h3⟩ := h
    refine ⟨⟨sb, hsb, ?_⟩, h1, ?_⟩
    · intro ph hph
      have := List.all_eq_true.1 h3 ph hph
      split at this
      · cases this
      · rename_i src hsrc
        exact ⟨src, hsrc, this⟩
    · intro d hd
      have := bsSubset_testBit h2 d hd
      simp only [Nat.testBit_or, testBit_bit, Bool.or_eq_true, decide_eq_true_eq] at this
      rcases this with (h | h) | h
      · exact .inl h
      · exact .inr (.inl h.symm)
      · exact .inr (.inr h.symm)

variable {p : Prog} {ext : Ext} {fr : Frame} {rest : List Frame} {mem : Mem} {trace : Array String}

/-- That `c.dom` holds dominator sets in the sense of the graph is never needed, nor proved: `edgeOk`
    (dom s ⊆ dom bi ∪ {bi, s} on every edge `bi → s`) is what makes `defs` survive the edge that is
    actually taken (`DefinedAt.of_succ`). -/
structure FrameOkC (fr : Frame) (c : FnCert) : Prop where
  -- `flowOk` resolves labels with `FuncInfo.of f`, `stepTerm` with `fr.fi.labelIdx`
  fiEq : fr.fi = FuncInfo.of fr.fi.f
  flow : FlowFacts fr.fi.f c
  reach : c.reach.testBit fr.bi = true
  blk : ∃ b, fr.fi.f.blocks[fr.bi]? = some b
  defs : ∀ t, DefinedAt fr.fi.f c fr.bi fr.ii t → t ∈ fr.env

def FrameOk (fr : Frame) : Prop := ∃ c, FrameOkC fr c

def StateOk (s : State) : Prop := ∀ fr ∈ s.frames, FrameOk fr

def ProgOk (p : Prog) : Prop :=
  ∀ (name : String) (fi : FuncInfo), p.funcs[name]? = some fi →
    fi = FuncInfo.of fi.f ∧ ∃ c, flowOk fi.f c = true

def StepOk : Step → Prop
  | .next s' => StateOk s'
  | .done e _ => ¬ BadStuck e

theorem DefinedAt.of_next {ii : Nat} {ins : Ins} {t : String} (hb : f.blocks[bi]? = some b)
    (hi : b.ins[ii]? = some ins) (h : DefinedAt f c bi (ii + 1) t) :
    DefinedAt f c bi ii t ∨ ins.defn = some t := by
  cases h with
  | param q hq hqt => exact .inl (.param q hq hqt)
  | phi d b' ph hb' hph ht hd => exact .inl (.phi d b' ph hb' hph ht hd)
  | ins d b' j i hb' hi' ht hd =>
    rcases hd with ⟨rfl, hj⟩ | hd
    · by_cases hlt : j < ii
      · exact .inl (.ins d b' j i hb' hi' ht (.inl ⟨rfl, hlt⟩))
      · cases hb.symm.trans hb'
        cases (show j = ii by omega)
        cases hi.symm.trans hi'
        exact .inr ht
    · exact .inl (.ins d b' j i hb' hi' ht (.inr hd))

theorem frame_advance (h : FrameOkC fr c) {ins : Ins}
    (hb : fr.fi.f.blocks[fr.bi]? = some b) (hi : b.ins[fr.ii]? = some ins) (env' : Env)
    (henv : EnvLe fr.env env' ∧ ∀ x, ins.defn = some x → x ∈ env') :
    FrameOkC { fr with env := env', ii := fr.ii + 1 } c :=
  ⟨h.fiEq, h.flow, h.reach, h.blk, fun t ht =>
    (DefinedAt.of_next hb hi ht).elim (fun h' => henv.1 t (h.defs t h')) (henv.2 t)⟩

theorem evalPhis_ok {env : Env} {blk pred : String} {phis : List Phi}
    (h : ∀ ph ∈ phis, ∃ src, ph.srcs.find? (fun x => x.1 == pred) = some src ∧
      ∀ t, src.2 = .tmp t → t ∈ env) :
    match evalPhis p env blk pred phis with
    | .ok bs => bs.map (·.1) = phis.map (·.res)
    | .error e => ¬ BadStuck e := by
  induction phis with
  | nil => simp [evalPhis]
  | cons ph rest ih =>
    obtain ⟨src, hsrc, hdef⟩ := h ph (by simp)
    have ih' := ih (fun ph' hph' => h ph' (by simp [hph']))
    simp only [evalPhis, hsrc]
    cases hr : readVal p env src.2 with
    | error r =>
      obtain ⟨t, hv, _, hn⟩ := Cls.readVal_error hr
      exact absurd hn (mem_env_getElem? (hdef t hv))
    | ok v =>
      dsimp only
      cases hc : v.coerce ph.k with
      | error e => exact opErr_not_bad _
      | ok v' =>
        dsimp only
        cases hrs : evalPhis p env blk pred rest with
        | error e => rwa [hrs] at ih'
        | ok rs =>
          rw [hrs] at ih'
          exact congrArg (ph.res :: ·) ih'

theorem DefinedAt.of_succ {bi j : Nat} {t : String}
    (hb : f.blocks[bi]? = some b)
    (hdom : ∀ d, (c.dom.getD j 0).testBit d = true →
      (c.dom.getD bi 0).testBit d = true ∨ d = bi ∨ d = j)
    (h : DefinedAt f c j 0 t) :
    DefinedAt f c bi b.ins.size t ∨
      ∃ sb ph, f.blocks[j]? = some sb ∧ ph ∈ sb.phis ∧ ph.res = t := by
  cases h with
  | param q hq hqt => exact .inl (.param q hq hqt)
  | phi d b' ph hb' hph ht hd =>
    rcases hd with rfl | hd
    · exact .inr ⟨b', ph, hb', hph, ht⟩
    · rcases hdom d hd with h | h | rfl
      · exact .inl (.phi d b' ph hb' hph ht (.inr h))
      · exact .inl (.phi d b' ph hb' hph ht (.inl h))
      · exact .inr ⟨b', ph, hb', hph, ht⟩
  | ins d b' k i hb' hi ht hd =>
    rcases hd with ⟨_, hk⟩ | ⟨hne, hd⟩
    · exact absurd hk (Nat.not_lt_zero k)
    · by_cases hdb : d = bi
      · subst hdb
        cases hb.symm.trans hb'
        exact .inl (.ins d b k i hb hi ht (.inl ⟨rfl, (Array.getElem?_eq_some_iff.1 hi).1⟩))
      · rcases hdom d hd with h | h | h
        · exact .inl (.ins d b' k i hb' hi ht (.inr ⟨hdb, h⟩))
        · exact absurd h hdb
        · exact absurd h hne

theorem gotoBlock_ok {j : Nat} (h : FrameOkC fr c)
    (hb : fr.fi.f.blocks[fr.bi]? = some b) (hsz : b.ins.size ≤ fr.ii)
    (he : EdgeFacts fr.fi.f c fr.bi b j) (hrest : ∀ fr' ∈ rest, FrameOk fr') :
    StepOk (gotoBlock p fr rest mem trace b j) := by
  obtain ⟨⟨sb, hsb, hphis⟩, hreach, hdom⟩ := he
  have hev := evalPhis_ok (p := p) (env := fr.env) (blk := sb.label) (pred := b.label)
    (phis := sb.phis) fun ph hph =>
      have ⟨src, hsrc, hvd⟩ := hphis ph hph
      ⟨src, hsrc, fun t ht => h.defs t ((valDefBefore_sound hvd ht).mono hsz)⟩
  unfold gotoBlock
  simp only [hsb]
  cases hbs : evalPhis p fr.env sb.label b.label sb.phis with
  | error e => rw [hbs] at hev; exact hev
  | ok bs =>
    rw [hbs] at hev
    intro fr' hfr'
    rcases List.mem_cons.1 hfr' with rfl | hr
    · refine ⟨c, h.fiEq, h.flow, hreach, ⟨sb, hsb⟩, fun t ht => mem_bindAll ?_⟩
      rcases DefinedAt.of_succ hb hdom ht with ht | ⟨sb', ph, hsb', hph, rfl⟩
      · exact .inl (h.defs t (ht.mono hsz))
      · cases hsb.symm.trans hsb'
        exact .inr (hev ▸ List.mem_map.2 ⟨ph, hph, rfl⟩)
    · exact hrest fr' hr

theorem bindCallRes_ok {env : Env} {res : Option (String × Ty)} {rv : RetVal} {env' : Env}
    {mem' : Mem} (h : bindCallRes p env mem res rv = .ok (env', mem')) :
    EnvLe env env' ∧ ∀ x, res.map (·.1) = some x → x ∈ env' := by
  rcases Cls.bindCallRes_inv h with ⟨rfl, rfl⟩ | ⟨x, ty, v, rfl, rfl, _⟩
  · exact ⟨fun _ h => h, nofun⟩
  · exact ⟨envLe_insert env x v, fun y hy => Option.some.inj hy ▸ mem_insert_self env x v⟩

theorem enterFunc_ok {fi : FuncInfo} {args : List (Ty × RVal)} {varAt : Option Nat}
    {nf : Frame} {mem' : Mem} (hfi : fi = FuncInfo.of fi.f)
    (hc : flowOk fi.f c = true) (h : enterFunc p fi args varAt mem = .ok (nf, mem')) :
    FrameOk nf := by
  have hf := flowOk_facts hc
  obtain ⟨vals, _, _, hlen, rfl, hbi, hii, henv⟩ := Cls.enterFunc_inv h
  obtain ⟨b0, hb0, hph0⟩ := hf.phis0
  refine ⟨c, hfi, hf, hbi ▸ hf.reach0, ⟨b0, hbi ▸ hb0⟩, ?_⟩
  rw [hbi, hii, henv]
  intro t ht
  -- at the entry only the parameters are defined: block 0 has no phis and only itself above it
  cases ht with
  | param q hq hqt => exact mem_bindParams (by omega) (.inr (List.mem_map.2 ⟨q, hq, hqt⟩))
  | phi d b ph hb hph ht hd =>
    cases hd.elim id (hf.dom0 d)
    rw [hb0] at hb
    cases hb
    rw [hph0] at hph
    cases hph
  | ins d b j i hb hi ht hd =>
    rcases hd with h | h
    · exact absurd h.2 (Nat.not_lt_zero j)
    · exact absurd (hf.dom0 d h.2) h.1

theorem stepRet_ok {v : Option RVal} (hrest : ∀ fr' ∈ rest, FrameOk fr') :
    StepOk (stepRet p fr rest mem trace v) := by
  unfold stepRet
  split
  · exact opErr_not_bad _
  · dsimp only
    split
    · exact not_false
    · rename_i caller rest'
      split
      · rename_i res callee args varAt hcur
        obtain ⟨b, hb, hi⟩ := Cls.curIns_some.1 hcur
        obtain ⟨c, hc⟩ := hrest caller (by simp)
        split
        · exact opErr_not_bad _
        · rename_i env' mem' hbind
          exact List.forall_mem_cons.2 ⟨⟨c, frame_advance hc hb hi env' (bindCallRes_ok hbind)⟩,
            fun fr' hr => hrest fr' (.tail _ hr)⟩
      · exact not_false

theorem readVal_defined (h : FrameOkC fr c) {ii : Nat}
    (hii : ii ≤ fr.ii) {v : Val} (hv : valDefBefore fr.fi.f c fr.bi ii v = true)
    {r : StuckReason} (hr : readVal p fr.env v = .error r) : False := by
  obtain ⟨t, hvt, _, hn⟩ := Cls.readVal_error hr
  exact mem_env_getElem? (h.defs t ((valDefBefore_sound hv hvt).mono hii)) hn

theorem succIdx_target {fi : FuncInfo} {ss : List Nat} {j : Jump}
    (hss : succIdx fi bi b = some ss) (hterm : b.term = some j) {l : String}
    (hl : l ∈ j.targets) : ∃ s ∈ ss, fi.labelIdx[l]? = some s := by
  cases j with
  | jmp l' =>
    simp only [succIdx, hterm] at hss
    cases List.mem_singleton.1 hl
    split at hss <;> cases hss
    exact ⟨_, .head _, ‹_›⟩
  | jnz v a z =>
    simp only [succIdx, hterm] at hss
    split at hss <;> cases hss
    rcases List.mem_cons.1 hl with rfl | hl
    · exact ⟨_, .head _, ‹_›⟩
    · cases List.mem_singleton.1 hl
      exact ⟨_, .tail _ (.head _), ‹_›⟩
  | _ => cases hl

theorem stepTerm_ok (h : FrameOkC fr c)
    (hb : fr.fi.f.blocks[fr.bi]? = some b) (hii : b.ins[fr.ii]? = none)
    (hrest : ∀ fr' ∈ rest, FrameOk fr') :
    StepOk (stepTerm p fr rest mem trace b) := by
  have hbf := blockFlowOk_facts (h.flow.block fr.bi b hb) h.reach
  obtain ⟨ss, hss, hedges⟩ := hbf.edges
  have hsz : b.ins.size ≤ fr.ii := Array.getElem?_eq_none_iff.1 hii
  have goto : ∀ s ∈ ss, StepOk (gotoBlock p fr rest mem trace b s) := fun s hs =>
    gotoBlock_ok h hb hsz (edgeOk_facts (hedges s hs)) hrest
  have jump : ∀ {j : Jump} {l : String}, b.term = some j → l ∈ j.targets →
      ∃ s, fr.fi.labelIdx[l]? = some s ∧ StepOk (gotoBlock p fr rest mem trace b s) :=
    fun hterm hl =>
      have ⟨s, hs, hls⟩ := succIdx_target hss hterm hl
      ⟨s, congrArg FuncInfo.labelIdx h.fiEq ▸ hls, goto s hs⟩
  unfold stepTerm
  split
  · rename_i hterm
    simp only [succIdx, hterm] at hss
    cases hss
    exact goto _ (.head _)
  · rename_i l hterm
    obtain ⟨s, hl, hgo⟩ := jump hterm (.head _)
    rwa [hl]
  · rename_i v a z hterm
    have huse := hbf.termUses _ hterm v (.head _)
    split
    · rename_i r hr
      exact (readVal_defined h hsz huse hr).elim
    · split
      · exact opErr_not_bad _
      · rename_i x _
        obtain ⟨s, hl, hgo⟩ := jump (l := if x != 0 then a else z) hterm (by
          split
          · exact .head _
          · exact .tail _ (.head _))
        dsimp only
        rwa [hl]
  · exact stepRet_ok hrest
  · rename_i v hterm
    split
    · rename_i r hr
      exact (readVal_defined h hsz (hbf.termUses _ hterm v (.head _)) hr).elim
    · exact stepRet_ok hrest
  · exact not_false

theorem readVals_defined (h : FrameOkC fr c) {vs : List Val}
    (hv : ∀ v ∈ vs, valDefBefore fr.fi.f c fr.bi fr.ii v = true)
    {r : StuckReason} (hr : readVals p fr.env vs = .error r) : False := by
  obtain ⟨t, hvt, _, hn⟩ := Cls.readVals_error hr
  exact mem_env_getElem? (h.defs t (valDefBefore_sound (hv _ hvt) rfl)) hn

theorem stepIns_ok {ins : Ins} (hp : ProgOk p)
    (h : FrameOkC fr c) (hb : fr.fi.f.blocks[fr.bi]? = some b) (hi : b.ins[fr.ii]? = some ins)
    (hrest : ∀ fr' ∈ rest, FrameOk fr') :
    StepOk (stepIns p ext fr rest mem trace ins) := by
  have hbf := blockFlowOk_facts (h.flow.block fr.bi b hb) h.reach
  have huses := hbf.insUses fr.ii ins hi
  have hnext : ∀ env' : Env, (EnvLe fr.env env' ∧ ∀ x, ins.defn = some x → x ∈ env') →
      ∀ mem' trace',
        StepOk (.next ⟨{ fr with env := env', ii := fr.ii + 1 } :: rest, mem', trace'⟩) :=
    fun env' henv _ _ =>
      List.forall_mem_cons.2 ⟨⟨c, frame_advance h hb hi env' henv⟩, hrest⟩
  cases ins with
  | op res o args =>
    simp only [stepIns]
    split
    · rename_i r hr
      exact (readVals_defined h huses hr).elim
    · split
      · exact opErr_not_bad _
      · rename_i v mem' _
        cases res with
        | none => exact hnext _ ⟨fun _ h => h, nofun⟩ _ _
        | some r =>
          exact hnext _ ⟨envLe_insert _ _ _, fun x hx => Option.some.inj hx ▸ mem_insert_self _ _ _⟩ _ _
  | call res callee args varAt =>
    simp only [stepIns]
    split
    · rename_i r hr
      exact (readVals_defined h huses hr).elim
    · exact not_false
    · split
      · exact opErr_not_bad _
      · rename_i name _
        split
        · rename_i fi hfi
          obtain ⟨hfiEq, c', hc'⟩ := hp name fi hfi
          split
          · exact opErr_not_bad _
          · rename_i nf mem' henter
            exact List.forall_mem_cons.2 ⟨enterFunc_ok hfiEq hc' henter,
              List.forall_mem_cons.2 ⟨⟨c, h⟩, hrest⟩⟩
        · split
          · exact not_false
          · exact opErr_not_bad _
          · split
            · exact opErr_not_bad _
            · rename_i env' mem' hbind
              exact hnext _ (bindCallRes_ok hbind) _ _

theorem step_ok {s : State} (hp : ProgOk p) (hs : StateOk s) :
    StepOk (step p ext s) := by
  unfold step
  split
  · exact not_false
  · rename_i fr rest mem trace
    obtain ⟨⟨c, hc⟩, hrest⟩ := List.forall_mem_cons.1 hs
    obtain ⟨b, hb⟩ := hc.blk
    rw [hb]
    dsimp only
    split
    · rename_i ins hi
      exact stepIns_ok hp hc hb hi hrest
    · rename_i hi
      exact stepTerm_ok hc hb hi hrest

theorem run_ok (hp : ProgOk p) (fuel : Nat) {s : State} (hs : StateOk s) :
    ¬ BadStuck (run p ext fuel s).end := by
  rcases (Cls.run_inv (Q := fun _ e => ¬ BadStuck e) (fun _ hs => step_ok hp hs) fuel hs).2
    with hf | hq
  · rw [hf]; exact id
  · exact hq

end

end CprocVerif.C03
