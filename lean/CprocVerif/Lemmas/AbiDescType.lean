import CprocVerif.Lemmas.AbiDescPlace

/-! Lemmas for C08: the descriptor of every `good` type is faithful, by induction over the type (`pt`/`pf`). -/

namespace CprocVerif.AbiDesc
open CprocVerif.Layout CprocVerif.Abi CprocVerif.QbeLayout

/-- number of `stripArr t` elements in `t` -/
def cnt : AType → Nat
  | .array e (some n) => n * cnt e
  | .array _ none => 0
  | _ => 1

structure ArrFacts (t : AType) : Prop where
  size : (ti t).size = cnt t * (ti (stripArr t)).size
  align : (ti t).align = (ti (stripArr t)).align
  flat : ∀ mg, flattenC x86_64 mg t = rep (cnt t) (ti (stripArr t)).size (flattenC x86_64 mg (stripArr t))
  cpos : 0 < cnt t
  complete : (ti t).incomplete = false

theorem emittype_strip : ∀ (t : AType), emittype t = emittype (stripArr t)
  | .array e _ => by rw [emittype, stripArr]; exact emittype_strip e
  | .sc _ => rfl
  | .su .. => rfl
  | .blob .. => rfl

theorem arrFacts_base {t : AType} (hs : stripArr t = t) (h1 : cnt t = 1) (hc : (ti t).incomplete = false) :
    ArrFacts t :=
  ⟨by rw [hs, h1, Nat.one_mul], by rw [hs], fun mg => by rw [hs, h1, rep_one], by rw [h1]; decide, hc⟩

theorem arrFacts : ∀ (t : AType), good t = true → ArrFacts t
  | .array e none, h => by simp [good] at h
  | .array e (some n), h => by
    simp only [good, Bool.and_eq_true, decide_eq_true_eq] at h
    obtain ⟨⟨he, hn⟩, _⟩ := h
    have ih := arrFacts e he
    have e1 : ti (.array e (some n)) = { size := (ti e).size * n, align := (ti e).align, isArray := true } := by
      simp only [ti, erase, Abi.tinfo]
    refine ⟨?_, ?_, ?_, ?_, ?_⟩
    · rw [e1]; simp only [stripArr, cnt, ih.size]; ac_rfl
    · rw [e1]; simp only [stripArr]; exact ih.align
    · intro mg
      simp only [flattenC, stripArr, cnt]
      rw [ih.flat mg, ih.size, rep_mul]
    · simp only [cnt]; exact Nat.mul_pos hn ih.cpos
    · rw [e1]
  | .sc s, h => arrFacts_base rfl rfl (good_complete _ h).1
  | .su u p fs, h => arrFacts_base rfl rfl (good_complete _ h).1
  | .blob s a d, h => arrFacts_base rfl rfl (good_complete _ h).1

theorem itCount_eq {it : It} {c s : Nat} (h1 : it.size = c * s) (h2 : it.subSize = s) (hc : 0 < c) (hs : 0 < s) :
    itCount it = c := by
  unfold itCount
  rw [h1, h2]
  by_cases hc1 : c = 1
  · subst hc1; simp
  · have : c * s > s := by
      have : 2 * s ≤ c * s := Nat.mul_le_mul_right s (by omega)
      omega
    rw [if_pos this, Nat.mul_div_cancel _ hs]

/-- what `its` computed for one member-producing field of type `ty` -/
structure FieldOk (ty : AType) (it : It) : Prop where
  size : it.size = (ti ty).size
  subSize : it.subSize = (ti (stripArr ty)).size
  spos : 0 < (ti (stripArr ty)).size
  info : info it.item = ⟨(ti (stripArr ty)).size, (ti (stripArr ty)).align, flattenC x86_64 true (stripArr ty)⟩
  arr : ArrFacts ty
  noflex : (ti ty).flexible = false
  intItem : ∀ s, ty = .sc s → s.isFloat = false → it.item = .base (intBase s.size)

def FOk : AFields → List It → Prop
  | .nil, l => l = []
  | .cons name ty _ w rest, l =>
    if producesMember name w = true then ∃ it l', l = it :: l' ∧ FieldOk ty it ∧ FOk rest l'
    else FOk rest l

theorem isInt_not_float {s : Sc} (h : s.isInt = true) : s.isFloat = false := by
  cases s with
  | ptr => rfl
  | arith a =>
    cases a with
    | basic b => simp only [Sc.isInt, Sc.isFloat, Types.ATy.isInt, Types.ATy.isFloat] at *; simp [h]
    | enum i b => rfl

theorem isInt_sc : ∀ (ty : AType), (ti ty).isInt = true → ∃ s, ty = .sc s ∧ s.isFloat = false
  | .sc s, h => ⟨s, rfl, isInt_not_float (by simpa [ti, erase, Abi.tinfo] using h)⟩
  | .array e none, h => by simp [ti, erase, Abi.tinfo] at h
  | .array e (some n), h => by simp [ti, erase, Abi.tinfo] at h
  | .su u p fs, h => by simp [ti, erase, Abi.tinfo] at h
  | .blob s a d, h => by simp [ti, erase, Abi.tinfo] at h

/-- from the types to the members: `FOk` describes the list `its fs` by the fields' types, `FIt` (what the list-level
lemmas of `AbiDescPlace` take) by the laid-out members; `DeclMem` links the two -/
theorem fields_itok : ∀ (fs : AFields) (l : List It), FOk fs l →
    (Abi.decls x86_64 (eraseF fs)).all declOk = true →
    (∀ d ∈ Abi.decls x86_64 (eraseF fs), d.width.isSome → d.ty.isInt = true) →
    ∀ ms, All2 DeclMem (Abi.decls x86_64 (eraseF fs)) ms → FIt fs ms l
  | .nil, l, hf, _, _, ms, h2 => by
    simp only [FOk] at hf
    subst hf
    simp only [eraseF, Abi.decls] at h2
    cases h2
    exact FIt.nil
  | .cons name ty al w rest, l, hf, hok, hint, ms, h2 => by
    rw [decls_cons] at h2 hok hint
    cases h2 with
    | @cons _ m _ ms' dm hrest =>
    simp only [List.all_cons, Bool.and_eq_true] at hok
    have hprod : producesMember name w = true := declOk_hasMember hok.1
    simp only [FOk, hprod, ↓reduceIte] at hf
    obtain ⟨it, l', rfl, fo, frest⟩ := hf
    have ih := fields_itok rest l' frest hok.2 (fun d hd => hint d (List.mem_cons_of_mem _ hd)) ms' hrest
    have hts : m.tsize = (ti ty).size := dm.tsize
    have hta : m.talign = (ti ty).align := dm.talign
    have hw : m.width = w := dm.width
    have hcnt : itCount it = cnt ty := itCount_eq (by rw [fo.size, fo.arr.size]) fo.subSize fo.arr.cpos fo.spos
    have hpos : 0 < m.tsize := by rw [hts, fo.arr.size]; exact Nat.mul_pos fo.arr.cpos fo.spos
    have halign : (info it.item).align = m.talign := by rw [fo.info, hta, fo.arr.align]
    have htot : itCount it * (info it.item).size = m.tsize := by rw [hcnt, fo.info, hts, fo.arr.size]
    cases w with
    | none =>
      refine FIt.cons hprod ⟨by rw [fo.size, hts], hpos, halign, htot, ?_, (fun h => nomatch h),
        fun hbf => by rw [hw] at hbf; cases hbf⟩ ih
      rintro img ⟨rfl⟩
      exact ⟨hw, by rw [hcnt, fo.info]; exact (fo.arr.flat true).symm⟩
    | some w' =>
      obtain ⟨s, rfl, hnf⟩ := isInt_sc ty (hint _ (List.mem_cons_self ..) rfl)
      refine FIt.cons hprod ⟨by rw [fo.size, hts], hpos, halign, htot, (fun img h => nomatch h), fun _ => ⟨by rw [hw]; rfl,
        hcnt, ?_⟩, fun _ => ⟨?_, by rw [fo.subSize, hts]; rfl⟩⟩ ih
      · rw [fo.info]
        simp only [stripArr, flattenC, scKind, hnf, Bool.false_eq_true, ↓reduceIte, hts, ti, erase, Abi.tinfo]
      · rw [fo.intItem s rfl hnf, hts]; rfl

/-- the induction hypothesis of `pt`.  `emittype` yields a definition that QBE reads as the *element* type `stripArr t`:
an array member is printed `item n`, the count is dealt with at the member (`fields_itok`) -/
structure PT (t : AType) : Prop where
  wf : WfType (erase t)
  spos : 0 < (ti (stripArr t)).size
  complete : (ti (stripArr t)).incomplete = false
  noflex : (ti t).flexible = false
  desc : ∃ q, emittype t = some q ∧
    info q = ⟨(ti (stripArr t)).size, (ti (stripArr t)).align, flattenC x86_64 true (stripArr t)⟩ ∧
    (∀ s, t = .sc s → s.isFloat = false → q = .base (intBase s.size))

structure PF (fs : AFields) : Prop where
  wf : WfFields (eraseF fs)
  its : ∃ l, its fs = some l ∧ FOk fs l

theorem wf_strip : ∀ (t : AType), WfType (erase t) → WfType (erase (stripArr t))
  | .array e none, h => by simp only [erase, WfType] at h; exact wf_strip e h.1
  | .array e (some n), h => by simp only [erase, WfType] at h; exact wf_strip e h.1
  | .sc _, h => h
  | .su .., h => h
  | .blob .., h => h

theorem emittype_sc {s : Sc} (h : s.size = 1 ∨ s.size = 2 ∨ s.size = 4 ∨ s.size = 8) :
    ∃ c, emittype (.sc s) = some (.base c) ∧ baseSize c = s.size ∧ baseKind c = scKind s ∧
      (s.isFloat = false → c = intBase s.size) := by
  have hf : s.isFloat = true → s.size = 4 ∨ s.size = 8 := by
    intro hfl
    cases s with
    | ptr => cases hfl
    | arith a => rcases float_cases hfl with rfl | rfl | rfl <;> first | exact Or.inl rfl | exact Or.inr rfl | simp [Sc.size, Types.ATy.size, Types.Basic.size] at h
  cases hfl : s.isFloat with
  | false =>
    rcases h with h | h | h | h <;>
      simp [emittype, qbetype, h, hfl, baseSize, baseKind, scKind, intBase]
  | true =>
    rcases hf hfl with h | h <;>
      simp [emittype, qbetype, h, hfl, baseSize, baseKind, scKind]

def mkTi (L : Layout) : MTy := { size := L.size, align := L.align, flexible := L.flexible }

theorem pow2_sc {n : Nat} (h : n = 1 ∨ n = 2 ∨ n = 4 ∨ n = 8) : Pow2 n := by
  rcases h with h | h | h | h <;> subst h <;> decide

mutual
  theorem pt : ∀ (t : AType), good t = true → PT t
    | .sc s, h => by
      simp only [good, decide_eq_true_eq] at h
      obtain ⟨c, hc, hs, hk, hi⟩ := emittype_sc h
      have hpos : 0 < s.size := by omega
      refine ⟨by simp only [erase, WfType]; exact pow2_sc h, by simpa [ti, erase, Abi.tinfo, stripArr] using hpos,
        by simp [ti, erase, Abi.tinfo, stripArr], by simp [ti, erase, Abi.tinfo], .base c, hc, ?_, ?_⟩
      · simp only [info, stripArr, ti, erase, Abi.tinfo, flattenC, hs, hk]
      · intro s' hs' hf
        cases hs'
        rw [hi hf]
    | .blob s a dark, h => by
      simp only [good, Bool.and_eq_true, decide_eq_true_eq] at h
      obtain ⟨⟨⟨⟨hd, hs⟩, ha⟩, _⟩, _⟩ := h
      subst ha
      refine ⟨by simp only [erase, WfType]; decide, by simpa [ti, erase, Abi.tinfo, stripArr] using hs,
        by simp [ti, erase, Abi.tinfo, stripArr], by simp [ti, erase, Abi.tinfo], .opaque 8 s, ?_, ?_, ?_⟩
      · simp only [emittype, hd, ↓reduceIte]
      · simp only [info, stripArr, ti, erase, Abi.tinfo, flattenC]
      · intro s' hs'; cases hs'
    | .array e none, h => by simp [good] at h
    | .array e (some n), h => by
      simp only [good, Bool.and_eq_true, decide_eq_true_eq] at h
      obtain ⟨⟨he, hn⟩, hb⟩ := h
      have ih := pt e he
      have af := arrFacts e he
      obtain ⟨q, q1, q2, _⟩ := ih.desc
      refine ⟨?_, by simpa only [stripArr] using ih.spos, by simpa only [stripArr] using ih.complete,
        by simp [ti, erase, Abi.tinfo], q, ?_, ?_, ?_⟩
      · simp only [erase, WfType]
        refine ⟨ih.wf, af.complete, ?_, hb⟩
        have := af.size; have := Nat.mul_pos af.cpos ih.spos
        show (ti e).size ≠ 0
        omega
      · rw [emittype]; exact q1
      · simpa only [stripArr] using q2
      · intro s' hs'; cases hs'
    | .su u p fs, h => by
      obtain ⟨hp, hgf, hwf, hok, _, hchain⟩ := good_su h
      subst hp
      have pfs := pf fs hgf
      obtain ⟨l, hl, hfo⟩ := pfs.its
      have hdecls := decls_ok (eraseF fs) pfs.wf
      have hint : ∀ d ∈ Abi.decls x86_64 (eraseF fs), d.width.isSome → d.ty.isInt = true := by
        intro d hd hw
        obtain ⟨w, hw'⟩ := Option.isSome_iff_exists.1 hw
        exact ((WfDecls.mem hwf.1 d hd).bf hw').1
      have hwft : WfType (erase (.su u false fs)) := by
        simp only [erase, WfType]
        exact ⟨pfs.wf, hwf⟩
      have hstrip : stripArr (.su u false fs) = .su u false fs := rfl
      have hflex := goodF_noflex fs hgf
      have hti : ti (.su u false fs) = mkTi (Abi.layout x86_64 u false (Abi.decls x86_64 (eraseF fs))) := by
        simp only [ti, erase, Abi.tinfo, mkTi]
      have hnf : (ti (.su u false fs)).flexible = false := by
        rw [hti, ← hflex]; exact layout_flexible ..
      suffices h : ∃ q, emittype (.su u false fs) = some q ∧ 0 < (ti (.su u false fs)).size ∧
          info q = ⟨(ti (.su u false fs)).size, (ti (.su u false fs)).align,
            flattenFields x86_64 true (!u) fs (Abi.layout x86_64 u false (Abi.decls x86_64 (eraseF fs))).members none⟩ by
        obtain ⟨q, hq, hpos, hinfo⟩ := h
        exact ⟨hwft, hpos, by rw [hstrip, hti]; rfl, hnf, q, hq, by rw [hinfo]; simp only [stripArr, flattenC, Bool.true_and], fun s' hs' => nomatch hs'⟩
      rw [hti]
      cases u with
      | false =>
        exact ⟨_, by simp only [emittype, hdecls, hl, layout_struct hwf, Bool.false_eq_true, ↓reduceIte],
          struct_desc hwf hok (hchain.resolve_left (fun h => nomatch h)) (fields_itok fs l hfo hok hint)⟩
      | true =>
        exact ⟨_, by simp only [emittype, hdecls, hl, layout_union hwf, ↓reduceIte],
          union_desc hwf hok (fields_itok fs l hfo hok hint)⟩
  theorem pf : ∀ (fs : AFields), goodF fs = true → PF fs
    | .nil, _ => ⟨by simp only [eraseF, WfFields], [], by simp only [its], by simp only [FOk]⟩
    | .cons name ty al w rest, h => by
      simp only [goodF, Bool.and_eq_true] at h
      have pty := pt ty h.1
      have pr := pf rest h.2
      obtain ⟨l, hl, hfo⟩ := pr.its
      obtain ⟨q, q1, q2, q3⟩ := pty.desc
      refine ⟨by simp only [eraseF, WfFields]; exact ⟨pty.wf, pr.wf⟩, ?_⟩
      by_cases hprod : producesMember name w = true
      · refine ⟨⟨q, (ti (stripArr ty)).size, (ti ty).size⟩ :: l, ?_, ?_⟩
        · have e1 := tinfo_ok (erase ty) pty.wf
          have e2 := tinfo_ok (erase (stripArr ty)) (wf_strip ty pty.wf)
          simp only [its, hl, hprod, ↓reduceIte, q1, e1, e2, ti]
        · simp only [FOk, hprod, ↓reduceIte]
          exact ⟨_, _, rfl, ⟨rfl, rfl, pty.spos, q2, arrFacts ty h.1, pty.noflex, q3⟩, hfo⟩
      · refine ⟨l, ?_, ?_⟩
        · simp only [its, hl, hprod, Bool.false_eq_true, ↓reduceIte]
        · simp only [FOk, hprod, Bool.false_eq_true, ↓reduceIte]; exact hfo
end

end CprocVerif.AbiDesc
