import CprocVerif.Spec.CInt

/-!
The values of an integer type form a window of length `2^bits`, and `wrap` picks the representative of a residue class in
it; what a defined `arith`/`bin` says about its operands, and that a defined result is representable (`bin_inRange`).
`wrap_unsigned`, `wrap_signed`, `inRange_either` .. `bits_ne_zero_iff` and `arith_emod` have no user in C04: they serve C01.
-/

namespace CprocVerif.CInt

theorem two_pow_pos (b : Nat) : (0 : Int) < 2 ^ b := Int.pow_pos (by decide)

theorem natCast_two_pow (n : Nat) : ((2 ^ n : Nat) : Int) = 2 ^ n := Int.natCast_pow 2 n

theorem two_pow_dvd {b c : Nat} (h : b ≤ c) : (2 : Int) ^ b ∣ 2 ^ c :=
  ⟨2 ^ (c - b), by rw [← Int.pow_add]; congr; omega⟩

theorem two_pow_le {b c : Nat} (h : b ≤ c) : (2 : Int) ^ b ≤ 2 ^ c :=
  Int.le_of_dvd (two_pow_pos c) (two_pow_dvd h)

theorem two_pow_pred {b : Nat} (h : 0 < b) : (2 : Int) ^ b = 2 * 2 ^ (b - 1) := by
  obtain ⟨k, rfl⟩ : ∃ k, b = k + 1 := ⟨b - 1, by omega⟩
  rw [Int.pow_succ, Int.mul_comm]; rfl

theorem bits_pos {t : IntTy} (h : t.Arith) : 0 < t.bits := by
  rcases h with h | h | h | h <;> omega

theorem bits_le {t : IntTy} (h : t.Arith) : t.bits ≤ 64 := by
  rcases h with h | h | h | h <;> omega

theorem bits_ne_one {t : IntTy} (h : t.Arith) : t.bits ≠ 1 := by
  rcases h with h | h | h | h <;> omega

theorem maxVal_eq {t : IntTy} (h : 0 < t.bits) : maxVal t = minVal t + 2 ^ t.bits - 1 := by
  have := two_pow_pred h
  simp only [maxVal, minVal]; split <;> omega

theorem wrap_eq {t : IntTy} (h : t.bits ≠ 1) (v : Int) :
    wrap t v = (v - minVal t) % 2 ^ t.bits + minVal t := by
  simp only [wrap, minVal, if_neg h]
  split
  · rw [Int.sub_neg]; omega
  · rw [Int.sub_zero, Int.add_zero]

theorem wrap_bool (v : Int) : wrap IntTy.bool v = if v = 0 then 0 else 1 := rfl

theorem inRange_bool {v : Int} : InRange IntTy.bool v ↔ v = 0 ∨ v = 1 := by
  simp only [InRange, minVal, maxVal, IntTy.bool, Bool.false_eq_true, if_false]; omega

theorem inRange_iff {t : IntTy} {v : Int} :
    InRange t v ↔
      if t.signed then -2 ^ (t.bits - 1) ≤ v ∧ v < 2 ^ (t.bits - 1) else 0 ≤ v ∧ v < 2 ^ t.bits := by
  simp only [InRange, minVal, maxVal]; split <;> omega

theorem wrap_inRange {t : IntTy} (h : t.Valid) (v : Int) : InRange t (wrap t v) := by
  rcases h with rfl | h
  · rw [wrap_bool, inRange_bool]; split <;> simp
  · have hp := two_pow_pos t.bits
    have h1 := Int.emod_nonneg (v - minVal t) (Int.ne_of_gt hp)
    have h2 := Int.emod_lt_of_pos (v - minVal t) hp
    rw [wrap_eq (bits_ne_one h), InRange, maxVal_eq (bits_pos h)]
    omega

theorem wrap_of_inRange {t : IntTy} (h : t.Valid) {v : Int} (hv : InRange t v) : wrap t v = v := by
  rcases h with rfl | h
  · rw [wrap_bool]; rcases inRange_bool.1 hv with rfl | rfl <;> rfl
  · rw [InRange, maxVal_eq (bits_pos h)] at hv
    rw [wrap_eq (bits_ne_one h), Int.emod_eq_of_lt (by omega) (by omega)]
    omega

theorem wrap_wrap {t : IntTy} (h : t.Valid) (v : Int) : wrap t (wrap t v) = wrap t v :=
  wrap_of_inRange h (wrap_inRange h v)

theorem wrap_congr {t : IntTy} (h : t.Arith) {a b : Int} (hab : a % 2 ^ t.bits = b % 2 ^ t.bits) :
    wrap t a = wrap t b := by
  rw [wrap_eq (bits_ne_one h), wrap_eq (bits_ne_one h), Int.sub_emod a, Int.sub_emod b, hab]

theorem wrap_emod {t : IntTy} (h : t.bits ≠ 1) (v : Int) : wrap t v % 2 ^ t.bits = v % 2 ^ t.bits := by
  rw [wrap_eq h, Int.emod_add_emod, Int.sub_add_cancel]

theorem wrap_emod_W {t : IntTy} (h : t.Arith) (z : Int) : wrap t (z % 2 ^ 64) = wrap t z :=
  wrap_congr h (Int.emod_emod_of_dvd z (two_pow_dvd (bits_le h)))

theorem wrap_natCast_mod {t : IntTy} (h : t.Arith) (n : Nat) :
    wrap t ((n % 2 ^ t.bits : Nat) : Int) = wrap t (n : Int) :=
  wrap_congr h (by rw [Int.natCast_emod, Int.natCast_pow]; exact Int.emod_emod ..)

theorem wrap_unsigned {n : Nat} (hn : n ≠ 1) (v : Int) : wrap ⟨n, false⟩ v = v % 2 ^ n := by
  simp only [wrap, if_neg hn, Bool.false_eq_true, if_false]

theorem wrap_signed {n : Nat} (h : (⟨n, true⟩ : IntTy).Arith) (v : Int) : wrap ⟨n, true⟩ v = v.bmod (2 ^ n) := by
  have hr : -2 ^ (n - 1) ≤ wrap ⟨n, true⟩ v ∧ wrap ⟨n, true⟩ v < 2 ^ (n - 1) :=
    inRange_iff.1 (wrap_inRange (Or.inr h) v)
  have he : wrap ⟨n, true⟩ v % 2 ^ n = v % 2 ^ n := wrap_emod (t := ⟨n, true⟩) (bits_ne_one h) v
  have h2 : (2 : Int) ^ n = 2 * 2 ^ (n - 1) := two_pow_pred (bits_pos h)
  rw [← Int.emod_bmod, natCast_two_pow, ← he, ← natCast_two_pow, Int.emod_bmod]
  symm
  apply Int.bmod_eq_of_le <;> rw [natCast_two_pow, h2] <;> omega

theorem inRange_64 {t : IntTy} (h : t.Arith) {v : Int} (hv : InRange t v) :
    (t.signed = true → -(2 ^ 63) ≤ v ∧ v < 2 ^ 63) ∧ (t.signed = false → 0 ≤ v ∧ v < 2 ^ 64) := by
  have h1 := two_pow_le (show t.bits - 1 ≤ 63 from by have := bits_le h; omega)
  have h2 := two_pow_le (bits_le h)
  simp only [InRange, minVal, maxVal] at hv
  constructor <;> intro hs <;> simp only [hs, if_true, if_false, Bool.false_eq_true] at hv <;> omega

theorem inRange_either {n : Nat} {sg : Bool} (hn : 0 < n) {v : Int} (hv : InRange ⟨n, sg⟩ v) :
    -2 ^ (n - 1) ≤ v ∧ v < 2 ^ n := by
  have h2 := two_pow_pred hn
  have hp := two_pow_pos (n - 1)
  cases sg
  · have : 0 ≤ v ∧ v < 2 ^ n := inRange_iff.1 hv
    omega
  · have : -2 ^ (n - 1) ≤ v ∧ v < 2 ^ (n - 1) := inRange_iff.1 hv
    omega

/-- `hv` is the union of the signed and the unsigned window at width `n` (`inRange_either`). -/
theorem emod_ne_zero_iff {n : Nat} (hn : 0 < n) {v : Int} (hv : -2 ^ (n - 1) ≤ v ∧ v < 2 ^ n) :
    v % 2 ^ n ≠ 0 ↔ v ≠ 0 := by
  have h2 := two_pow_pred hn
  have hp := two_pow_pos (n - 1)
  by_cases h0 : 0 ≤ v
  · rw [Int.emod_eq_of_lt h0 hv.2]
  · have : v % 2 ^ n = v + 2 ^ n := by
      rw [← Int.add_mul_emod_self_left v (2 ^ n) 1, Int.mul_one, Int.emod_eq_of_lt (by omega) (by omega)]
    rw [this]; omega

theorem bits_ne_zero_iff {n m : Nat} (hn : 0 < n) (hnm : n ≤ m) {v x : Int}
    (hv : -2 ^ (n - 1) ≤ v ∧ v < 2 ^ n) (hx : x = v % 2 ^ m) : x ≠ 0 ↔ v ≠ 0 := by
  have h1 := two_pow_le (show n - 1 ≤ m - 1 by omega)
  have h2 := two_pow_le hnm
  rw [hx]
  exact emod_ne_zero_iff (by omega) ⟨by omega, by omega⟩

theorem inRange_zero (t : IntTy) : InRange t 0 := by
  have h1 := two_pow_pos (t.bits - 1)
  have h2 := two_pow_pos t.bits
  simp only [InRange, minVal, maxVal]; split <;> omega

theorem arith_some {t : IntTy} (h : t.Valid) {z v : Int} (hv : arith t z = some v) :
    InRange t v ∧ wrap t v = wrap t z ∧ (t.signed = true → InRange t z) := by
  simp only [arith] at hv
  split at hv
  · split at hv
    · cases hv; exact ⟨by assumption, rfl, fun _ => by assumption⟩
    · cases hv
  · cases hv; exact ⟨wrap_inRange h z, wrap_wrap h z, fun hs => by contradiction⟩

theorem arith_inRange {t : IntTy} (h : t.Valid) {z v : Int} (hv : arith t z = some v) : InRange t v :=
  (arith_some h hv).1

theorem arith_emod {t : IntTy} (h : t.Valid) (h1 : t.bits ≠ 1) {z v : Int} (hv : arith t z = some v) :
    v % 2 ^ t.bits = z % 2 ^ t.bits := by
  rw [← wrap_emod h1 v, (arith_some h hv).2.1, wrap_emod h1]

theorem div_defined {t : IntTy} {a b v : Int} (h : bin .div t a b = some v) :
    b ≠ 0 ∧ arith t (Int.tdiv a b) = some v := by
  simp only [bin] at h
  split at h
  · cases h
  · exact ⟨‹_›, h⟩

theorem mod_defined {t : IntTy} {a b v : Int} (h : bin .mod t a b = some v) :
    b ≠ 0 ∧ (t.signed = true → InRange t (Int.tdiv a b)) ∧ v = Int.tmod a b := by
  simp only [bin] at h
  split at h
  · cases h
  split at h
  · cases h
  · rename_i hb0 hr
    exact ⟨hb0, fun hs => Classical.byContradiction fun hn => hr ⟨hs, hn⟩, (Option.some.inj h).symm⟩

theorem shl_defined {t : IntTy} {a b v : Int} (h : bin .shl t a b = some v) :
    ∃ n : Nat, b = n ∧ n < t.bits ∧ arith t (a * 2 ^ n) = some v := by
  simp only [bin] at h
  split at h
  · cases h
  refine ⟨b.toNat, by omega, by omega, ?_⟩
  simp only [arith]
  split at h
  · rw [if_pos ‹_›]
    split at h
    · cases h
    · exact h
  · rw [if_neg ‹_›]; exact h

theorem shr_defined {t : IntTy} {a b v : Int} (h : bin .shr t a b = some v) :
    ∃ n : Nat, b = n ∧ n < t.bits ∧ v = Int.fdiv a (2 ^ n) := by
  simp only [bin] at h
  split at h
  · cases h
  · exact ⟨b.toNat, by omega, by omega, (Option.some.inj h).symm⟩

theorem int_arith : IntTy.int.Arith := by decide

theorem binResTy_cmp {op : BinOp} (h : op.isCmp = true) (t : IntTy) : binResTy op t = IntTy.int := by
  simp only [binResTy, h, if_true]

theorem binResTy_ncmp {op : BinOp} (h : op.isCmp = false) (t : IntTy) : binResTy op t = t := by
  simp only [binResTy, h, Bool.false_eq_true, if_false]

theorem inRange_b2i {t : IntTy} (h : t.Arith) (c : Bool) : InRange t (b2i c) := by
  have h1 := (inRange_zero t).1
  have h2 : (2 : Int) ^ 1 ≤ 2 ^ (t.bits - 1) := two_pow_le (by rcases h with h | h | h | h <;> omega)
  have h3 := two_pow_pred (bits_pos h)
  simp only [InRange, maxVal]
  cases c <;> split <;> simp only [b2i, if_true, if_false, Bool.false_eq_true] <;> omega

theorem inRange_b2i_int (c : Bool) : InRange IntTy.int (b2i c) := inRange_b2i int_arith c

theorem bin_inRange {t : IntTy} (ht : t.Arith) (op : BinOp) {a b v : Int}
    (ha : InRange t a) (hb : op.isShift = false → InRange t b) (h : bin op t a b = some v) :
    InRange (binResTy op t) v := by
  have hv := Or.inr ht (a := t = IntTy.bool)
  cases op
  case shl =>
    obtain ⟨n, -, -, hl⟩ := shl_defined h
    exact arith_inRange hv hl
  case shr =>
    -- `a >> n` lies between `a` and 0
    obtain ⟨n, -, -, rfl⟩ := shr_defined h
    rw [Int.fdiv_eq_ediv_of_nonneg _ (Int.le_of_lt (two_pow_pos _))]
    have h1 := Int.natAbs_ediv_le_natAbs a (2 ^ n)
    have h2 := Int.ediv_nonneg_iff_of_pos (a := a) (two_pow_pos n)
    have h0 := inRange_zero t
    rw [binResTy_ncmp rfl]
    simp only [InRange] at ha h0 ⊢
    omega
  case div => exact arith_inRange hv (div_defined h).2
  case mod =>
    -- `|a % b| < |b|` and `a % b` has the sign of `a`
    obtain ⟨hb0, -, rfl⟩ := mod_defined h
    have h1 := Int.natAbs_tmod a b
    have h2 := Nat.mod_lt a.natAbs (Int.natAbs_pos.2 hb0)
    have h3 : 0 ≤ a → 0 ≤ Int.tmod a b := Int.tmod_nonneg b
    have hm : minVal t = 0 ∨ minVal t = -(maxVal t + 1) := by
      simp only [minVal, maxVal]; split <;> omega
    have hb := hb rfl
    rw [binResTy_ncmp rfl]
    simp only [InRange] at ha hb ⊢
    omega
  all_goals simp only [bin] at h
  case add | sub | mul => exact arith_inRange hv h
  case band | bor | bxor => cases h; exact wrap_inRange hv _
  all_goals (cases h; exact inRange_b2i_int _)

theorem lorSC_landSC {op : BinOp} (hop : op = .lor ∨ op = .land) (a : Int) (x : Option Int) :
    (if op = .lor then lorSC a x else landSC a x)
      = if decide (a ≠ 0) = (op == .lor) then some (b2i (op == .lor))
        else x.map fun b => b2i (decide (b ≠ 0)) := by
  rcases hop with rfl | rfl <;> by_cases h : a = 0 <;> simp [lorSC, landSC, b2i, h]

end CprocVerif.CInt
